import IcyVerif.Props.C20
import IcyVerif.Lemmas.IgsCanvas
import IcyVerif.Lemmas.RipCanvas
/-!
# C20, IGS DrawExecutor part — argument validation, the executor invariant, the exposed picture (and the driver's picture fold, for
IGS and RIP), totality of `set_pixel`, `fill_rect`, `draw_line`, the poly-lines, `flood_fill`, `blit_screen_to_screen`

Property sentences addressed here: "yields an action or an error for every character … truncated or over-long
parameter lists" (every command of `execute_command` rejects a parameter list of the wrong length with `Err`, the
poly-line / poly-fill commands exactly the lists that are not `points * 2 + 1` long), "never panics" (`set_pixel`,
`fill_rect`: no index out of range, no i32 overflow), "time bounded by the canvas size" (`fill_rect`: at most
width x height cells whatever the corners), and "the exposed pixel canvas is always a complete width x height image"
(`get_picture_data` indexes the 16 pens with every screen cell: the invariant `Good` — screen of exactly width x height
cells, every cell and every saved cell a pen number — holds initially and is kept by EVERY command with EVERY
parameter list, along every stream and every loop).

The model is of the REPAIRED executor (fix commits: line type 7, polymarker table cursor, i64 in `fill_poly` /
`fill_ellipse` / `draw_ellipse`, `blit_memory_to_screen` range).  `draw_line` (for end points within ±2^20,
`igs_draw_line_terminates_partial`) and `flood_fill` (`igs_flood_fill_terminates`) are shown to end within their fuel (the
model makes running out of fuel the explicit outcome `stall`).  Not covered by a theorem (correspondence + oracle only):
the same for the ellipse and circle loops, and i32 overflow inside the loops for coordinates beyond the stated bounds.
-/
namespace IcyVerif.C20
open IcyVerif

/-- the argument-count table regenerated from `execute_command`: 27 commands start with `if parameters.len() != N` -/
theorem igs_arg_table : Gen.IgsPaint.argCount.length = 27 ∧ (Gen.IgsPaint.argCount.map (·.2)).all (fun n => decide (1 ≤ n ∧ n ≤ 6)) = true := by
  decide

/-- EVERY command of that table answers `Err` — it does not panic and does not touch the executor — for EVERY parameter
list whose length is not the declared one (shorter, longer, empty), whatever the values. -/
theorem igs_arg_count_validated (p : IgsPaint.Paint) (name name' : String) (n : Nat) (ps : List Int)
    (ht : Gen.IgsPaint.argCount.find? (fun e => e.1 == name) = some (name', n)) (hl : ps.length ≠ n) :
    IgsPaint.exec p name ps = .err p := by
  unfold IgsPaint.exec
  simp only [ht, hl, ne_eq, not_false_eq_true, if_true]

/-- non-vacuity: `DrawLine` with three parameters -/
example : (match IgsPaint.exec IgsPaint.Paint.new "DrawLine" [1, 2, 3] with | .err _ => true | _ => false) = true := by
  rw [igs_arg_count_validated IgsPaint.Paint.new "DrawLine" "DrawLine" 4 [1, 2, 3] (by decide) (by decide)]

/-- PolyFill / PolyLine: a parameter list is painted ONLY when it is exactly `points * 2 + 1` long with `points >= 1`
(so the coordinate list handed to `fill_poly` / `draw_poly` / `draw_polyline` has an even, non-zero length); every other
list — empty, too short, too long by an odd or an even number of entries — is answered with `Err` and leaves the
executor untouched.  (`points` below 2^30: beyond that `points * 2 + 1` overflows i32, the model's explicit panic.) -/
theorem igs_poly_validation (p : IgsPaint.Paint) (name : String) (hn : name = "PolyFill" ∨ name = "PolyLine") (ps : List Int)
    (hsmall : ∀ v, ps.head? = some v → v < 1073741824) :
    (ps = [] ∨ (∃ v, ps.head? = some v ∧ (v < 1 ∨ v * 2 + 1 ≠ (ps.length : Int)))) → IgsPaint.exec p name ps = .err p := by
  intro hbad
  have hrej : IgsPaint.polyReject ps = some true := by
    cases ps with
    | nil => rfl
    | cons v t =>
      rw [IgsPaint.polyReject_cons v t (hsmall v rfl)]
      rcases hbad with h | ⟨w, hw, hb⟩
      · cases h
      · cases hw
        simp only [Option.some.injEq, decide_eq_true_eq]
        exact hb
  rcases hn with h | h <;> subst h <;> unfold IgsPaint.exec <;> simp [Gen.IgsPaint.argCount, hrej]

/-- a closed instance with the fill border on: `f>1,5,5,7` (one point announced, three coordinates carried) is an error, not a
painted polygon whose border line would index past the list -/
example : (match IgsPaint.exec { IgsPaint.Paint.new with drawBorder := true } "PolyFill" [1, 5, 5, 7] with | .err _ => true | _ => false) = true := by
  rw [igs_poly_validation _ "PolyFill" (Or.inl rfl) [1, 5, 5, 7] (by intro v hv; simp at hv; omega) (Or.inr ⟨1, rfl, Or.inr (by decide)⟩)]

/-- The invariant holds in the initial executor and is kept by `execute_command` for EVERY command name, EVERY parameter
list (any length, any values) — whether the command answers `Ok` or `Err`.  (Pen / colour index guards of ColorSet,
SetPenColor, VTColor; every painting primitive writes pen numbers only and keeps the length of the screen;
SetResolution / Initialize / ScreenClear size the screen to the resolution.) -/
theorem igs_exec_keeps_invariant (p p' : IgsPaint.Paint) (name : String) (ps : List Int) (hg : IgsPaint.Good p)
    (h : (IgsPaint.exec p name ps).state? = some p') : IgsPaint.Good p' := (IgsPaint.exec_post hg).good.of_state h

example : IgsPaint.Good IgsPaint.Paint.new := IgsCanvas.paint_new_good

/-- `get_picture_data` in a state satisfying the invariant: no index panic (`pen_colors[cell]`), and exactly
width x height x 4 bytes. -/
theorem igs_picture_complete (p : IgsPaint.Paint) (hg : IgsPaint.Good p) :
    ∃ d, IgsPaint.pictureData p = some d ∧ d.length = (IgsPaint.resW p * IgsPaint.resH p).toNat * 4 := by
  rw [IgsPaint.pictureData_eq]
  obtain ⟨d, hd, hl⟩ := IgsPaint.picList_some p.pens p.screen.toList (fun v hv => by rw [hg.pens]; exact hg.pix v hv)
  refine ⟨d, hd, ?_⟩
  rw [hl, Array.length_toList, hg.size]

/-- a whole stream through lexer + executor with the loop steps a terminal takes after every character (`k` per
character); `none` = a panic, a stall or a command outside the model (text output) -/
def igsCanvasRun (k : Nat) : IgsCanvas.St → List Nat → Option IgsCanvas.St
  | s, [] => some s
  | s, ch :: rest =>
    match IgsCanvas.step s ch with
    | .ok s1 _ =>
      match IgsCanvas.drain k s1 with
      | .ok s2 _ => igsCanvasRun k s2 rest
      | _ => none
    | _ => none

/-- Along EVERY character stream (any mixture of commands with any parameter lists, loops, text), with any number of
loop steps taken between the characters: as long as the model run continues, the executor invariant holds, and so the
exposed picture is a complete width x height image. -/
theorem igs_stream_picture_complete (k : Nat) (cs : List Nat) : ∀ (s s' : IgsCanvas.St), IgsPaint.Good s.paint →
    igsCanvasRun k s cs = some s' →
    ∃ d, IgsPaint.pictureData s'.paint = some d ∧ d.length = (IgsPaint.resW s'.paint * IgsPaint.resH s'.paint).toNat * 4 := by
  induction cs with
  | nil =>
    intro s s' hg h
    simp [igsCanvasRun] at h
    subst h
    exact igs_picture_complete _ hg
  | cons ch rest ih =>
    intro s s' hg h
    unfold igsCanvasRun at h
    split at h
    · rename_i s1 o1 h1
      split at h
      · rename_i s2 o2 h2
        exact ih s2 s' (IgsCanvas.drain_good _ _ _ _ (IgsCanvas.step_good hg h1) h2) h
      · cases h
    · cases h

/-- non-vacuity: "G#C>2,5:" sets the fill colour to pen 5; "G#C>2,40:" is rejected -/
example : ((igsCanvasRun 24 IgsCanvas.St.init ("G#C>2,5:".toList.map Char.toNat)).map fun s => s.paint.fillColor) = some 5 := by
  decide +kernel
example : ((igsCanvasRun 24 IgsCanvas.St.init ("G#C>2,40:".toList.map Char.toNat)).map fun s => s.paint.fillColor) = some 0 := by
  decide +kernel

/-- `set_pixel` for all coordinates within ±2^20 (every value of the property's quantifier, -50..=99999, and everything
the loop arithmetic makes of it): no i32 overflow in `y * width + x`, no index out of range; only that cell changes
hands and the screen keeps its length. -/
theorem igs_set_pixel_total (p : IgsPaint.Paint) (hr : p.res < 3) (x y : Int) (c : Nat) (hc : c < 16)
    (hx : -1048576 ≤ x ∧ x ≤ 1048576) (hy : -1048576 ≤ y ∧ y ≤ 1048576) :
    ∃ p', IgsPaint.setPixel p x y c = .ok p' ∧ p'.screen.size = p.screen.size := by
  obtain ⟨p', h⟩ := (IgsPaint.setPixel_paints p x y fun _ _ => hc).total hr (by omega)
  exact ⟨p', h, (IgsPaint.setPixel_step p' h).1.2⟩

/-- `fill_rect` for ALL corner coordinates (also i32 extremes): it returns — no overflow, no index out of range — and
visits at most width x height cells: the rectangle is clipped to the screen before the loops start. -/
theorem igs_fill_rect_total (p : IgsPaint.Paint) (hg : IgsPaint.Good p) (hpat : p.fillPattern.length ≠ 0) (x0 y0 x1 y1 : Int) :
    (∃ p', IgsPaint.fillRect p x0 y0 x1 y1 = .ok p' ∧ IgsPaint.Good p') ∧
      IgsPaint.fillRectCost p x0 y0 x1 y1 ≤ (IgsPaint.resH p).toNat * (IgsPaint.resW p).toNat :=
  ⟨(IgsPaint.fillRect_paints ..).good hg hpat, IgsPaint.fillRectCost_le p x0 y0 x1 y1⟩

example : IgsPaint.Paint.new.fillPattern.length ≠ 0 := by decide


/-- what the correspondence driver hashes — a fold over the screen that never builds the byte list — IS the fold over
the bytes of `pictureData` (RIP and IGS): the printed length and hash are those of the modelled picture -/
theorem picture_fold_eq {β : Type} (f : β → Nat → β) (init : β) :
    (∀ s : Bgi.Bgi, Bgi.picFold f init s = (Bgi.pictureData s).foldl f init) ∧
    (∀ p : IgsPaint.Paint, IgsPaint.picFold f init p = (IgsPaint.pictureData p).map fun d => d.foldl f init) :=
  ⟨fun s => Bgi.picFold_eq f init s, fun p => IgsPaint.picFold_eq f init p⟩


/-- FULL statement wanted: `draw_line` returns for all end points with a cost bounded by the canvas size.  The code that
exists does not clip a line to the screen: it walks every point of the line.  Proved: for end points within ±2^20
(every value of the property's parameter range and everything the loop arithmetic makes of it) `draw_line` returns —
no i32 overflow (`-3*dy <= 2*err <= 3*dx` along the walk), no index out of range, and the Bresenham loop ENDS: the fuel
`|x0 - x1| + |y0 - y1| + 1` the model starts it with is never used up (no x step once x has arrived, no y step once y
has arrived, at least one step per iteration) — and the executor invariant is kept.  Missing for the full statement: a
bound independent of the coordinates (the cost is linear in the coordinate distance: at most 200 099 iterations for the
property's parameter range -50..=99999, about three times the 64000 cells of the low-resolution canvas). -/
theorem igs_draw_line_terminates_partial (p : IgsPaint.Paint) (hg : IgsPaint.Good p) (x0 y0 x1 y1 : Int) (color mask : Nat) (hc : color < 16)
    (hx0 : IgsPaint.Bd x0) (hy0 : IgsPaint.Bd y0) (hx1 : IgsPaint.Bd x1) (hy1 : IgsPaint.Bd y1) :
    ∃ p', IgsPaint.drawLine p x0 y0 x1 y1 color mask = .ok p' ∧ IgsPaint.Good p' :=
  (IgsPaint.drawLine_paints p x0 y0 x1 y1 mask fun _ => hc).good hg ⟨hx0, hy0, hx1, hy1⟩

example : ∃ p', IgsPaint.drawLine IgsPaint.Paint.new 0 0 99999 (-50) 3 0 = .ok p' ∧ IgsPaint.Good p' :=
  igs_draw_line_terminates_partial _ IgsCanvas.paint_new_good 0 0 99999 (-50) 3 0 (by decide)
    (by unfold IgsPaint.Bd; omega) (by unfold IgsPaint.Bd; omega) (by unfold IgsPaint.Bd; omega) (by unfold IgsPaint.Bd; omega)

/-- The coordinate list a validated PolyLine / PolyFill command hands on (`points * 2` coordinates, `points >= 1`, see
`igs_poly_validation`) is drawn by `draw_polyline` and by `draw_poly` (the polygon border) without any index panic —
`parameters[i + 1]` exists for every segment — without overflow, and every segment ends (coordinates within ±2^20). -/
theorem igs_poly_lines_total (p : IgsPaint.Paint) (hg : IgsPaint.Good p) (points : Nat) (hp : 1 ≤ points) (cs : List Int)
    (hl : cs.length = 2 * points) (hb : ∀ v, v ∈ cs → IgsPaint.Bd v) :
    (∃ p', IgsPaint.drawPolyline p cs = .ok p' ∧ IgsPaint.Good p') ∧ (∃ p', IgsPaint.drawPoly p cs = .ok p' ∧ IgsPaint.Good p') := by
  have ok : IgsPaint.PolyOk cs := ⟨⟨points - 1, by omega⟩, hb⟩
  exact ⟨(IgsPaint.drawPolyline_paints p cs).good hg ok, (IgsPaint.drawPoly_paints p cs).good hg ok⟩

example : ∃ p', IgsPaint.drawPoly IgsPaint.Paint.new [5, 5] = .ok p' ∧ IgsPaint.Good p' :=
  (igs_poly_lines_total _ IgsCanvas.paint_new_good 1 (by decide) [5, 5] rfl
    (by intro v hv; simp at hv; unfold IgsPaint.Bd; omega)).2


/-- IGS `flood_fill` for EVERY seed (all of ℤ × ℤ) in every state satisfying the invariant: it returns — no overflow,
no index out of range — and its stack loop ends; the invariant is kept.  (The bound is in the model, not in this statement:
`Model/IgsPaint.lean` runs the loop with the fuel `4 * width * height + 2` and answers `stall` when it is used up, so the
answer `.ok` means the loop ended within that many pops — 4 x the cells still holding the old colour + the stack size drops
with every pop.) -/
theorem igs_flood_fill_terminates (p : IgsPaint.Paint) (hg : IgsPaint.Good p) (x0 y0 : Int) :
    ∃ p', IgsPaint.floodFill p x0 y0 = .ok p' ∧ IgsPaint.Good p' :=
  (IgsPaint.floodFill_paints p x0 y0).good hg hg.size

example : ∃ p', IgsPaint.floodFill { IgsPaint.Paint.new with fillColor := 5 } 10 10 = .ok p' ∧ IgsPaint.Good p' :=
  igs_flood_fill_terminates _ (IgsCanvas.paint_new_good.setFill 5 (by omega)) 10 10

/-- `blit_screen_to_screen` (GrabScreen mode 0) for corner coordinates within ±2^20: it returns — no overflow, no
index out of range — copies at most width x height cells (the source rectangle is clipped to the resolution), and keeps
the invariant. -/
theorem igs_blit_screen_total (p : IgsPaint.Paint) (hg : IgsPaint.Good p) (fx fy tx ty dx dy : Int)
    (hfx : IgsPaint.Bd fx) (hfy : IgsPaint.Bd fy) (htx : IgsPaint.Bd tx) (hty : IgsPaint.Bd ty) (hdx : IgsPaint.Bd dx) (hdy : IgsPaint.Bd dy) :
    (∃ p', IgsPaint.blitScreenToScreen p fx fy tx ty dx dy = .ok p' ∧ IgsPaint.Good p') ∧
      IgsPaint.blitCost p fx fy tx ty ≤ (IgsPaint.resW p).toNat * (IgsPaint.resH p).toNat :=
  ⟨(IgsPaint.blitScreenToScreen_paints ..).good hg ⟨hfx, hfy, htx, hty, hdx, hdy⟩, IgsPaint.blitCost_le p fx fy tx ty⟩

end IcyVerif.C20
