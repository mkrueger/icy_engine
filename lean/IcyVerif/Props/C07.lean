import IcyVerif.Lemmas.IcyDrawDoc
/-! # C07 — the native IcyDraw format is lossless

The property theorems, the domain of the document round trip (`WfDoc`, `CodecsOk`) and its proof `doc_rt`, non-vacuity
examples.  Model: `Model/IcyDraw.lean` (the repaired writer, which stores every invisible cell as the bare INVISIBLE
marker; the writer of the pinned tree is `encodeCellPinned` below, with the failing witness).

FULL-strength statement (the property as given):
  `∀ l, decodeLayer (encodeLayer l) = ok l' ∧ l' ≈doc l`, lifted to every document.
What is proved is that statement for every layer/document satisfying the DECIDABLE predicates `WfLayer` /
`WfDoc`, which say no more than the property's quantifier plus what a Rust value can hold:
  * title bytes are bytes; role Normal; mode one of the three variants; colour components / transparency are `u8`;
    offsets are `i32`; sizes are non-negative `i32`; default font page and cell font pages fit the `u16` of the format
    (quantifier: ≤ 300); `ch` is a Unicode scalar value; colours are `u32`; `attr` is a `u16`;
  * the layer fits one chunk: `title + 45 + 16·w·h ≤ 3 000 000` (quantifier: ≤ 200 x 120 — `quantifier_fits`);
  * a VISIBLE cell does not carry the bit `attribute::SHORT_DATA`, which `text_attribute.rs` declares "a special
    attribute … for loading & saving only": it is the short/long marker of the format itself, not an attribute
    flag of a document (`short_marker_is_not_an_attribute` shows what the code does with it).
Invisible cells may carry any other attribute bits (what the pinned tree gets wrong: `pinned_writer_breaks`).
Parameters with recorded assumptions (`CodecsOk`): the PALETTE / FONT_n / SAUCE payload codecs (C16, C17, C11).  The model
starts at the list of (keyword, payload) chunks: the PNG container, zTXt, base64, the preview image and the keyword
`format!`/`parse` are outside it. -/
namespace IcyVerif.C07
open IcyVerif.IcyDraw IcyVerif.Gen.Icy

/-- one visible cell: the reader, positioned at the record the writer emitted for a well-formed visible cell, does
    `set_char` with exactly that cell (short and long form) and continues behind the record -/
theorem cell_rt (w : Nat) (c : Cell) (rest : Bytes) (hw : c.wf = true) (hv : c.visible = true) :
    readRow (w + 1) (encodeCell c ++ rest) = consRow (some c) (readRow w rest) :=
  readRow_visible w c rest hw hv

/-- one invisible cell — whatever other attribute bits it carries — is skipped by the reader -/
theorem invisible_cell_rt (w : Nat) (c : Cell) (rest : Bytes) (hv : c.visible = false) :
    readRow (w + 1) (encodeCell c ++ rest) = consRow none (readRow w rest) := by
  rw [encodeCell_invisible c hv]; exact readRow_invisible w rest

/-- one row of `w` cells, for every mixture of short / long / invisible cells and every visible length relative to
    the width (terminator present iff the row is not full): the reader returns the writer's cells up to the last
    visible one and stops exactly behind the row -/
theorem row_rt (w : Nat) (cells : List Cell) (hlen : cells.length = w) (hwf : ∀ c ∈ cells, c.wf = true) (rest : Bytes) :
    readRow w (encodeRow w cells ++ rest) = .ok ((stripInv cells).map optCell, rest) :=
  readRow_encodeRow w cells hlen hwf rest

/-- split arithmetic: a well-formed layer is never split into continuation chunks -/
theorem no_split (l : Layer) (h : WfLayer l) : ∃ c, encodeLayer l = some [c] := by
  have w := Layer.facts l h
  exact ⟨_, encodeLayer_wf l w.role w.fits⟩

/-- every layer size of the property's quantifier fits one chunk (titles up to 2.6 MB) -/
theorem quantifier_fits (l : Layer) (hw : l.width ≤ 200) (hh : l.height ≤ 120) (ht : l.title.length ≤ 2600000) :
    l.fits = true := by
  simp only [Layer.fits, decide_eq_true_eq]
  have : maxChunk = 3000000 := rfl
  have : l.width * l.height ≤ 200 * 120 := Nat.mul_le_mul hw hh
  rw [Nat.mul_assoc]
  omega

/-- **layer round trip**, for ALL well-formed layers: every listed field equal; cells equal where visible,
    invisible where invisible -/
theorem layer_rt (l : Layer) (h : WfLayer l) :
    ∃ cs l', encodeLayer l = some cs ∧ decodeLayer cs = .ok l' ∧ l' ≈doc l := by
  have w := Layer.facts l h
  obtain ⟨l', hd, he⟩ := decodeLayerMain_encode l h
  exact ⟨_, l', encodeLayer_wf l w.role w.fits, by simp only [decodeLayer, hd, decodeConts], he⟩

/-- the five layer flags survive for all 32 combinations -/
theorem flags_rt (a l : Layer) :
    (decodeFlags a (encodeFlags l)).isVisible = l.isVisible ∧ (decodeFlags a (encodeFlags l)).isLocked = l.isLocked ∧
    (decodeFlags a (encodeFlags l)).isPosLocked = l.isPosLocked ∧ (decodeFlags a (encodeFlags l)).hasAlpha = l.hasAlpha ∧
    (decodeFlags a (encodeFlags l)).isAlphaLocked = l.isAlphaLocked := by
  rw [decodeFlags_encodeFlags]; exact ⟨rfl, rfl, rfl, rfl, rfl⟩

/-- the four header-mode enums of src/buffers.rs, over the `to_byte` / `from_byte` tables regenerated from the source:
    the byte written for a variant is read back as that variant, for EVERY variant of `BufferType` (through `as u16` /
    `as u8`), `IceMode`, `PaletteMode`, `FontMode` (the quantifier is the finite variant table) -/
theorem mode_tables_rt :
    (∀ v, v < bufferTypeVariants.length → bufferTypeOfByte (bufferTypeByte v % 65536 % 256) = v) ∧
    (∀ v, v < iceModeVariants.length → iceModeOfByte (iceModeByte v % 256) = v) ∧
    (∀ v, v < paletteModeVariants.length → paletteModeOfByte (paletteModeByte v % 256) = v) ∧
    (∀ v, v < fontModeVariants.length → fontModeOfByte (fontModeByte v % 256) = v) :=
  ⟨bufferType_table_rt, iceMode_table_rt, paletteMode_table_rt, fontMode_table_rt⟩

/-- `from_byte` is total on bytes: every byte value is read as one of the enum's variants (the `_` arm), so a loaded
    header is always a `WfHeader` as far as the modes go -/
theorem mode_tables_total : ∀ b, b < 256 →
    bufferTypeOfByte b < bufferTypeVariants.length ∧ iceModeOfByte b < iceModeVariants.length ∧
    paletteModeOfByte b < paletteModeVariants.length ∧ fontModeOfByte b < fontModeVariants.length := by
  decide +kernel

/-- **header round trip**: buffer type, ice / palette / font mode (every variant) and the buffer size -/
theorem header_rt (h : Header) (hw : WfHeader h) : decodeHeader (encodeHeader h) = .ok h := by
  have hw : h.wf = true := hw
  obtain ⟨bt, ice, pal, font, w, ht⟩ := h
  simp only [Header.wf, Bool.and_eq_true, decide_eq_true_eq] at hw
  obtain ⟨⟨⟨⟨⟨h1, h2⟩, h3⟩, h4⟩, h5⟩, h6⟩ := hw
  unfold decodeHeader encodeHeader
  rw [if_neg (by simp [leBytes_length, icedHeaderSize])]
  simp only [List.append_assoc]
  rw [← List.append_assoc, List.drop_left' (by simp [leBytes_length]), ← List.append_nil (leBytes 4 ht)]
  simp only [List.cons_append, List.nil_append, rdLE_leBytes, rdU8]
  have hp4 : (256 : Nat) ^ 4 = 4294967296 := by decide
  have hp2 : (256 : Nat) ^ 2 = 65536 := by decide
  rw [hp4, hp2, if_neg (by omega)]
  have e5 : w % 4294967296 = w := by omega
  have e6 : ht % 4294967296 = ht := by omega
  rw [bufferType_table_rt bt h1, iceMode_table_rt ice h2, paletteMode_table_rt pal h3, fontMode_table_rt font h4, e5, e6]

/-- well-formed documents: any number of well-formed layers (the quantifier's 1..=6 included), a font table with
    distinct slots (it is a hash map) that contains slot 0 (`Buffer::new` puts it there; saving panics without it) -/
structure WfDoc {F S : Type} (d : Doc F S) : Prop where
  hdr : WfHeader d.hdr
  layers : ∀ l ∈ d.layers, WfLayer l
  fontKeys : (d.fonts.map (·.1)).Nodup
  font0 : (d.fonts.lookup 0).isSome = true

/-- recorded assumptions about the payload codecs that are parameters of the model -/
structure CodecsOk {F S : Type} (cd : Codecs F S) (sauceEqv : S → S → Prop) (d : Doc F S) : Prop where
  pal : cd.palDec (cd.palEnc d.palette) = .ok d.palette
  font : ∀ kf ∈ d.fonts, (cd.fontName kf.2).length < 4294967296 ∧ cd.fontDec (cd.fontName kf.2) (cd.fontData kf.2) = .ok kf.2
  sauce : ∀ s b, d.sauce = some (s, b) → ∃ s', cd.sauceDec b = .ok (some s') ∧ sauceEqv s' s

/-- **document round trip**: header (size and the four modes), palette, every font slot, SAUCE (up to the codec's
    equivalence) and every layer in order -/
theorem doc_rt {F S : Type} (cd : Codecs F S) (sauceEqv : S → S → Prop) (d : Doc F S) (hw : WfDoc d)
    (hc : CodecsOk cd sauceEqv d) :
    ∃ cs st, encodeDoc cd d = some cs ∧ decodeDoc cd cs = .ok st ∧
      st.hdr = d.hdr ∧ st.palette = d.palette ∧ (∀ k, st.fontAt k = d.fonts.lookup k) ∧
      (match d.sauce, st.sauce with
       | none, none => True
       | some (s, _), some s' => sauceEqv s' s
       | _, _ => False) ∧
      layersEq st.layers d.layers := by
  let st1 : Loaded F S := { initLoaded cd with hdr := d.hdr }
  have s1 : Seg cd (initLoaded cd) [(Key.iced, encodeHeader d.hdr)] st1 :=
    Seg.one (by simp) (by simp [stepChunk, header_rt d.hdr hw.hdr, st1])
  obtain ⟨sa, s2, hsome, hnone⟩ := seg_sauce cd sauceEqv d st1 hc.sauce
  have s3 := seg_palette cd d { st1 with sauce := sa } rfl hc.pal
  have s4 := seg_fonts cd d.fonts { st1 with sauce := sa, palette := d.palette } hc.font
  obtain ⟨css, ls', hcss, s5, hleq⟩ := seg_layers cd d.layers hw.layers 0
    { st1 with sauce := sa, palette := d.palette, fontAt := fontsApply st1.fontAt d.fonts }
  refine ⟨assemble cd d css, _, by simp [encodeDoc, hcss], ((((s1.append s2).append s3).append s4).append s5).run [], rfl, rfl,
    fun k => ?_, ?_, by simpa [st1, initLoaded] using hleq⟩
  · simp only [st1, initLoaded]
    rw [fontsApply_lookup d.fonts _ hw.fontKeys k]
    cases hl : d.fonts.lookup k with
    | some f => rfl
    | none =>
      by_cases hk : k = 0
      · subst hk; have := hw.font0; rw [hl] at this; cases this
      · simp [hk]
  · cases hsa : d.sauce with
    | none => cases (hnone hsa : sa = none); trivial
    | some sb =>
      obtain ⟨s', rfl, he⟩ := hsome sb.1 sb.2 hsa
      exact he

/-- translator-level facts the model relies on: the writer's row loop of the continuation chunks is textually the
    loop of the first chunk, with the same short/long thresholds (the model uses one `encodeRow` for both) -/
theorem writer_loops_agree : cellLoopsIdentical = true ∧ shortMaxCont = shortMax ∧ writerKeywords = readerKeywords :=
  ⟨rfl, rfl, rfl⟩

/-- a 3 x 3 layer: short cell, long cell (ch 0x2588, colour 300, page 256), an invisible cell carrying BOLD followed by
    a visible one, a full row, an empty row, a transparent colour; negative offset; all but one flag set -/
def exLayer : Layer :=
  { title := [0xE5, 0xB1, 0x82, 0x20, 0x31], role := 0, mode := 2, color := some (1, 2, 3),
    isVisible := false, isLocked := true, isPosLocked := true, hasAlpha := true, isAlphaLocked := true,
    transparency := 200, offX := -50, offY := 50, width := 3, height := 3, defaultPage := 300,
    lines := [[⟨65, 7, 0, 0, 1⟩, ⟨0x2588, 300, transparentColor, 256, 0x3FF⟩],
              [⟨32, 7, 0, 0, attrInvisible ||| 1⟩, ⟨66, 255, 255, 255, 0⟩, ⟨67, 1, 2, 3, 512⟩],
              []] }

example : WfLayer exLayer := by decide
example : ∃ cs l', encodeLayer exLayer = some cs ∧ decodeLayer cs = .ok l' ∧ l' ≈doc exLayer := layer_rt exLayer (by decide)
/-- the payload is 45 + 5 title bytes + (6 + 16 + 2) + (2 + 6 + 6) + 2 bytes -/
example : (encodeLayer exLayer).map (·.map List.length) = some [90] := by decide
example : (decodeLayer ((encodeLayer exLayer).getD [])).bind (fun l => Res.ok (visAt l 1 1)) = .ok (some ⟨66, 255, 255, 255, 0⟩) := by
  decide

/-- Viewdata / Ice / Free16 / FixedSize: the last variant of every enum -/
example : WfHeader ⟨4, 2, 3, 3, 200, 120⟩ := by decide
example : (bufferTypeVariants.getD 4 "", iceModeVariants.getD 2 "", paletteModeVariants.getD 3 "", fontModeVariants.getD 3 "") =
    ("Viewdata", "Ice", "Free16", "FixedSize") := by decide
example : initialHeader = ⟨1, 0, 1, 1, 80, 25⟩ := by decide
example : decodeHeader (encodeHeader ⟨4, 2, 3, 3, 200, 120⟩) = .ok ⟨4, 2, 3, 3, 200, 120⟩ := header_rt _ (by decide)

/-- a document with two layers, a non-default palette, two font slots (0 and 300) and SAUCE, over transparent
    example codecs: the hypotheses of `doc_rt` are satisfiable -/
def exCodecs : Codecs (Bytes × Bytes) Bytes :=
  { palEnc := fun p => p.flatMap fun c => [c.1, c.2.1, c.2.2]
    palDec := fun b => .ok ((List.range (b.length / 3)).map fun i => (b.getD (3 * i) 0, b.getD (3 * i + 1) 0, b.getD (3 * i + 2) 0))
    fontName := fun f => f.1, fontData := fun f => f.2, fontDec := fun n d => .ok (n, d)
    sauceDec := fun b => .ok (some b), defaultFont := ([], []) }

def exDoc : Doc (Bytes × Bytes) Bytes :=
  { hdr := ⟨1, 2, 0, 3, 80, 25⟩, sauce := some ([83, 65], [83, 65]), palette := [(1, 2, 3), (4, 5, 6)],
    fonts := [(300, ([70], [1, 2, 3])), (0, ([], [9]))], layers := [exLayer, { exLayer with width := 0, lines := [] }] }

example : WfDoc exDoc := ⟨by decide, by decide, by decide, by decide⟩
example : CodecsOk exCodecs (· = ·) exDoc :=
  ⟨by decide, by decide, by intro s b h; cases h; exact ⟨_, rfl, rfl⟩⟩

/-- why `Cell.wf` excludes the SHORT_DATA marker on visible cells: the writer emits the long form for
    `ch = 0x100` with the marker still set in `attr`, the reader takes the marker for "short form" and builds a
    different cell (no error) — the marker is the format's own flag, not a document attribute -/
theorem short_marker_is_not_an_attribute :
    let l : Layer := { exLayer with width := 1, height := 1, lines := [[⟨0x100, 7, 0, 0, attrShortData⟩]] }
    (decodeLayer ((encodeLayer l).getD [])).bind (fun l' => Res.ok (visAt l' 0 0)) = .ok (some ⟨0, 1, 0, 0, 0⟩) := by
  decide

/-- the writer of the PINNED tree (before the repair): an invisible cell was written as its raw attribute -/
def encodeCellPinned (c : Cell) : Bytes := if c.visible then encodeCell c else leBytes 2 c.attr

/-- the defect of the pinned tree, as a witness: `invisible() | BOLD` followed by a visible cell in a row of width
    3 — the reader takes the invisible cell for a long cell, swallows the next records and fails -/
theorem pinned_writer_breaks :
    readRow 3 (encodeCellPinned ⟨32, 7, 0, 0, attrInvisible ||| 1⟩ ++ encodeCell ⟨65, 7, 0, 0, 0⟩ ++
      leBytes 2 attrInvisibleShort) = .fail .errOob := by
  decide

end IcyVerif.C07
