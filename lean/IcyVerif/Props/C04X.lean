import IcyVerif.Props.C04
/-! # C04 — the whole ANSI writer: `ansi_rt`

`writeAnsiX` (Model/ArtAnsiX.lean) is `Ansi::to_bytes` with everything `SaveOptions` offers the ANSI format except
`modern_terminal_output` (excluded by the property), sixels and uploaded fonts: in addition to the option lattice of
`ansi_rt_partial₄` it has

* `output_line_length = Some(n)` for EVERY `n` (incl. 0): `push_result` puts `ESC [ s  CR LF  ESC [ u` in front of pieces of
  output.  `split_invisible`: whatever pieces get a split, the reader ends with the same rendition, palette and caret, and
  with rows that SHOW the same (the line feed only appends empty rows to a file buffer).  The pieces are whole control
  sequences / characters (`chunk_ok`), so a split never falls inside an escape sequence or between a character and its
  `CSI n b`.  `push_no_underflow`: the `usize` subtraction in `push_result` cannot panic.
* `skip_lines` (with longer-terminal positioning): the rows that are written come back; the theorem says nothing about the
  rows the caller asked to leave out.
* font pages: cells in any font slots whose fonts are ANSI fonts (`FontsOk`: `font_map` sends every cell's page below
  `ANSI_FONTS`); the font switches `ESC [ 0 ; n SP D` and the RLE scan that stops at a font change are in the writer model.
  The conclusion is about character code, colours and blink; that the LOADED cell carries font page `font_map[page]` is not
  in the reader model (no font page in its cells) — the display oracle compares glyph bitmaps on the real code.
* the guard of `to_bytes` against output that starts with `EF BB BF` (`bomGuard`): `ansi_rt` has no hypothesis
  `bomPrefixed … = false`.

`ansi_rt` — FULL STATEMENT, proved: for every picture (width 80, or 1..=132 with SAUCE; up to 10^6 rows, 999 with
longer-terminal positioning), every palette and colour index, every `AnsiOpts`, every `output_line_length`, every
`skip_lines`, every font assignment with `FontsOk`, all three ice modes: `to_bytes` does not panic and the file loads back
to a picture that shows every cell of every row that was not skipped (`ShowsEqXS`). -/
namespace IcyVerif.C04
open IcyVerif.ArtIO IcyVerif.Gen.Art

/-- **the pieces handed to `push_result` are whole**: every chunk of the writer's events takes the parser from its ground
    state to its ground state (unless the reader left the modelled sub-language, on both sides alike) and keeps a reader
    that saw split sequences in step with one that saw none -/
theorem chunk_ok (o : AnsiOpts) (skip : Option (List Nat)) (frows : List (List Nat)) (p : Pic) (hw : 0 < p.w)
    (hd : ∀ r ∈ p.rows, ∀ c ∈ r, EncDom o c.ch) : ∀ k ∈ chunksOf (ansiEvs o (skipFn skip) frows p) [], ChunkOk k :=
  (ansi_chunks o (skipFn skip) frows p hw hd).1

/-- **`push_result` cannot panic**: whatever the line-length limit, `output.len() + result.len() - last_line_break` does not
    underflow on the writer's events -/
theorem push_no_underflow (o : AnsiOpts) (skip : Option (List Nat)) (frows : List (List Nat)) (p : Pic) (hw : 0 < p.w)
    (hd : ∀ r ∈ p.rows, ∀ c ∈ r, EncDom o c.ch) (max : Option Nat) :
    (WSt.run max {} (ansiEvs o (skipFn skip) frows p)).underflow = false :=
  (ansi_chunks o (skipFn skip) frows p hw hd).2.2 max

/-- **line splitting is invisible**: a reader that reads chunks with `ESC [ s CR LF ESC [ u` in front of ANY of them ends,
    compared with a reader of the bare chunks, with the same parser state, rendition, palette, caret and geometry, and with
    rows that show the same in every cell -/
theorem split_invisible (ks : List (List Nat)) (hk : ∀ k ∈ ks, ChunkOk k) (marks : List Bool) (p : AnsiP) (c : Core)
    (hg : p.st = .ground) (hin : c.scr.cx < c.scr.w) :
    SimR (ansiRun p c (joinMarked marks ks)).1 (ansiRun p c (joinMarked marks ks)).2 (ansiRun p c ks.flatten).1 (ansiRun p c ks.flatten).2 :=
  split_elim ks hk marks p p c c ⟨rfl, rfl, ⟨⟨rfl, rfl, rfl, rfl, LinesEq.refl _, hin⟩, rfl, rfl, rfl, rfl, rfl, rfl⟩⟩ (fun _ => hg)

/-- **C04, the whole writer** (`ansi_rt`): see the header.  `to_bytes` returns (no panic in `font_map`, no underflow in
    `push_result`) and the file loads back to a picture that shows every cell of every row that was written. -/
theorem ansi_rt (o : AnsiOpts) (max : Option Nat) (skip : Option (List Nat)) (fi : FontInfo) (p : Pic) (sauce : Option Sauce)
    (hs : SauceFits sauce p) (hlh : o.longerTerminalOutput = true → p.rows.length ≤ 999) (hrows : p.rows.length ≤ 1000000)
    (hpal : PalBytes p.pal) (hfull : Pic.Full p) (hdom : p.AllCells (CellDomX o (decide (p.ice = .ice)))) (hf : FontsOk fi) :
    ∃ bytes, writeAnsiX o max skip fi p = .ok bytes ∧ ShowsEqXS (load .ansi sauce bytes) p (effSkip o skip) := by
  obtain ⟨H, i1, i2, i3, i4, i5, i6, hw1, hw2⟩ := initial_ansi sauce p hs
  have henc : ∀ r ∈ p.rows, ∀ c ∈ r, EncDom o c.ch := fun r hr c hc => (hdom r hr c hc).2
  obtain ⟨frows, hfr, hflt⟩ := fontRows_some fi hf
    (genCellsS o (skipFn skip) p.pal p.ice p.w (p.rows.map fun r => r ++ List.replicate (p.w - r.length) defaultCell) 0 ansiState0) 0
  obtain ⟨hck, hflat, hun⟩ := ansi_chunks o (skipFn skip) frows p (by omega) henc
  obtain ⟨marks, hout⟩ := run_out max (ansiEvs o (skipFn skip) frows p) {}
  have hwrite : writeAnsiX o max skip fi p = .ok (bomGuard (joinMarked marks (chunksOf (ansiEvs o (skipFn skip) frows p) []))) := by
    unfold writeAnsiX
    simp only [hfr]
    unfold runEvs
    simp only [hun max, Bool.false_eq_true, if_false]
    rw [hout]; rfl
  refine ⟨_, hwrite, ?_⟩
  -- the reader: no BOM, the guard's reset is a no-op, the splits are invisible
  have hload : load .ansi sauce (bomGuard (joinMarked marks (chunksOf (ansiEvs o (skipFn skip) frows p) []))) =
      finish .ansi (run .ansi (initial .ansi sauce) (joinMarked marks (chunksOf (ansiEvs o (skipFn skip) frows p) []))) := by
    unfold load; rw [if_neg (by decide), convertText_of_noBom (bomGuard_noBom _)]; simp only []; rw [run_bomGuard]
  rw [hload]
  have hin : (initial .ansi sauce).core.scr.cx < (initial .ansi sauce).core.scr.w := by rw [i1]; show 0 < p.w; omega
  have S := split_invisible _ hck marks (initial .ansi sauce).ansi (initial .ansi sauce).core i3 hin
  obtain ⟨irows, Pf, c0, e0, R1, hdp, hlen, U1, U2, U3, U4⟩ := ansi_unsplit o skip frows p sauce hs hlh hfull hdom
    (row_readF o p.pal hpal p.ice _ rfl p.w (by omega) (by omega)) (fun _ _ _ _ hq h => h.mono hq) (relX_initial _)
    (fun _ _ _ hl hq => itemsOk_rowSkips hl hq) hflt
  rw [hflat, e0] at S
  have hbig := pf_small hw2 hrows hlen
  have hc : CoreEq (run .ansi (initial .ansi sauce) (joinMarked marks (chunksOf (ansiEvs o (skipFn skip) frows p) []))).core c0 := by
    rw [run_ansi_eq]; exact S.core
  exact shows_of_items o p (effSkip o skip) _ irows Pf hw1 hfull R1 hdp hbig (hc.stuck.trans U1) (hc.pal.trans U2) (hc.scr.w.trans U3)
    (fun x y => (hc.scr.lines x y).trans (U4 x y))

/-! ### non-vacuity: `FontsOk` from a finite check, and a picture with all features on which the hypotheses of `ansi_rt` hold -/

/-- `FontsOk` from a finite check: page 0 (cells without an entry) and every page that occurs -/
theorem fontsOk_of_all (fi : FontInfo) (h : ∀ pg ∈ 0 :: fi.pages.flatten, ∃ n, fontMap fi.slots pg = some n ∧ n < ansiFonts) : FontsOk fi := by
  intro y x
  apply h
  rw [List.getD_eq_getElem?_getD]
  cases hx : (fi.pages.getD y [])[x]? with
  | none => exact List.mem_cons_self
  | some v =>
    refine List.mem_cons_of_mem _ (List.mem_flatten.2 ⟨fi.pages.getD y [], ?_, List.mem_of_getElem? hx⟩)
    rw [List.getD_eq_getElem?_getD]
    cases hy : fi.pages[y]? with
    | none => rw [List.getD_eq_getElem?_getD, hy] at hx; simp at hx
    | some r => exact List.mem_of_getElem? hy

/-- fonts for `xPic`: slot 0 holds ANSI font 0, slot 1 a font equal to ANSI font 5, slot 2 a font that is no ANSI font
    (it is written as its slot number); the cells of the row use pages 0, 1, 1, 2, 2, 0, 0, … -/
def xFonts : FontInfo := { slots := [(0, some 0), (1, some 5), (2, none)], pages := [[0, 1, 1, 2, 2]] }

/-- three rows of `xRow` (custom base palette, xterm-256 and RGB colours, blink on a bright background); the examples below
    write it with a line length of 10 bytes, longer-terminal positioning, row 1 left out, and three font pages -/
def xPic2 : Pic := { xPic with rows := [xRow, xRow, xRow] }

example : SauceFits none xPic2 ∧ (({ longerTerminalOutput := true } : AnsiOpts).longerTerminalOutput = true → xPic2.rows.length ≤ 999) ∧
    xPic2.rows.length ≤ 1000000 ∧ PalBytes xPic2.pal ∧ Pic.Full xPic2 ∧
    xPic2.AllCells (CellDomX { longerTerminalOutput := true } (decide (xPic2.ice = .ice))) ∧ FontsOk xFonts ∧
    effSkip { longerTerminalOutput := true } (some [1]) 1 = true ∧ effSkip { longerTerminalOutput := true } (some [1]) 2 = false := by
  refine ⟨Or.inl ⟨rfl, rfl⟩, fun _ => by decide, by decide, ?_, ?_, ?_, ?_, rfl, rfl⟩
  · unfold PalBytes; decide +kernel
  · unfold Pic.Full; decide +kernel
  · simp only [Pic.AllCells, CellDomX, AttrX, EncDom, AnsiPrintable]; decide +kernel
  · apply fontsOk_of_all; decide +kernel

/-- what the model writes for it with `output_line_length = Some(10)`: the first push (`ESC[0m ESC[1H`, 8 bytes) fits,
    the second gets the split sequence in front (bytes 8..16); the font switch `ESC[0;5 D` appears, row 1 is absent
    (`ESC[2H` does not occur), and the file loads back to the colours of rows 0 and 2 -/
def xBytes : List Nat :=
  match writeAnsiX { longerTerminalOutput := true } (some 10) (some [1]) xFonts xPic2 with
  | .ok b => b
  | _ => []

example : writeAnsiX { longerTerminalOutput := true } (some 10) (some [1]) xFonts xPic2 = .ok xBytes ∧
    xBytes.take 8 = [27, 91, 48, 109, 27, 91, 49, 72] ∧
    (xBytes.drop 8).take 8 = [27, 91, 115, 13, 10, 27, 91, 117] ∧
    ([27, 91, 48, 59, 53, 32, 68] : List Nat) <:+: xBytes ∧ ¬ (([27, 91, 50, 72] : List Nat) <:+: xBytes) ∧
    ([27, 91, 51, 72] : List Nat) <:+: xBytes ∧
    getRgb (load .ansi none xBytes).pal (dispFg ((load .ansi none xBytes).cellAt 3 2).attr) = (1, 2, 3) ∧
    ((load .ansi none xBytes).cellAt 2 0).attr.fl.blink = true := by
  decide +kernel

/-- a font page without a font in the buffer makes `generate_cells` panic (`unwrap` on `None`): explicit outcome -/
example : writeAnsiX {} none none { slots := [(0, some 0)], pages := [[0, 3]] } xPic = .panic := by decide +kernel

/-- the guard: `bomPic` (Props/C04.lean) is written with a rendition reset in front and comes back intact -/
example : writeAnsiX {} none none {} bomPic = .ok ([27, 91, 48, 109, 239, 187, 191]) ∧
    (load .ansi none [27, 91, 48, 109, 239, 187, 191]).cellAt 0 0 = ⟨239, defaultAttr⟩ ∧
    (load .ansi none [27, 91, 48, 109, 239, 187, 191]).cellAt 2 0 = ⟨191, defaultAttr⟩ := by
  decide +kernel

/-- `split_invisible` / `chunk_ok` / `push_no_underflow` are applicable: the chunks of `xPic2`'s events, a reader in its
    ground state with the caret inside the row -/
example : (0 < xPic2.w) ∧ (∀ r ∈ xPic2.rows, ∀ c ∈ r, EncDom ({} : AnsiOpts) c.ch) ∧
    (chunksOf (ansiEvs {} (skipFn none) [] xPic2) []).length = 30 ∧
    (initial .ansi none).ansi.st = .ground ∧ (initial .ansi none).core.scr.cx < (initial .ansi none).core.scr.w := by
  refine ⟨by decide, ?_, ?_, rfl, by decide⟩
  · simp only [EncDom, AnsiPrintable]; decide +kernel
  · decide +kernel

/-- the constants the model takes from the source are the ones the proofs speak about -/
example : splitSeq = [27, 91, 115, 13, 10, 27, 91, 117] ∧ ansiBomBytes = loaderBomBytes ∧ ansiBomGuard = csi [0] 109 ∧
    ansiFontUploadMin = 100 ∧ fontSeq 5 = [27, 91, 48, 59, 53, 32, 68] := by
  refine ⟨?_, ?_, ?_, ?_, ?_⟩ <;> decide

end IcyVerif.C04
