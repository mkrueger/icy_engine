import IcyVerif.Lemmas.UnicodeSites
/-! # C10 — stored text is always valid Unicode

Safe Rust cannot create an invalid `char` or `String`; the only places that can are the unchecked conversions.
`Gen/Unsafe.lean` (regenerated from the source on every run) lists every one of them outside `#[cfg(test)]`.
For each listed site there is a theorem about the model of the value flowing into it (`site_*`); for each place
where an unchecked conversion was REPLACED by a checked one (`fix:` commits) there is a theorem about the model of the
replacement code (`*_scalar`, `lossy_*`), and the correspondence run ties these models to the implementation.
`all_sites_covered` fails as soon as a conversion is added, moved into another function, or its argument changes. -/
namespace IcyVerif.C10
open IcyVerif.Uni IcyVerif.Font IcyVerif.Gen.Unsafe

/-! ## the two unchecked conversions that exist in the (repaired) tree -/

/-- `parse_hex_macro_sequence`: `char::from_u32_unchecked((first * 16 + second) as u32)` where `first`, `second`
    are positions in the regenerated `HEX_TABLE`: always a byte value, hence a scalar value. -/
theorem site_parse_hex_macro_sequence_0 (x y first second : Nat)
    (h1 : position x hexTable = some first) (h2 : position y hexTable = some second) :
    first * 16 + second < 256 ∧ isScalar (first * 16 + second) = true := by
  have a := position_lt _ _ _ h1
  have b := position_lt _ _ _ h2
  have hl : hexTable.length ≤ 16 := by decide
  have : first * 16 + second < 256 := by omega
  exact ⟨this, lt256_scalar _ this⟩

/-- for ALL macro bodies (any characters, repeats, errors): every character of the stored macro is a byte value -/
theorem hex_macro_body_bytes (body m : List Nat) (h : hexMacro hexTable body = some m) :
    ∀ c ∈ m, c < 256 ∧ isScalar c = true := by
  intro c hc
  have := hexMacro_lt hexTable (by decide) body m h c hc
  exact ⟨this, lt256_scalar _ this⟩

/-- the macro space the model's `push_repeated` uses is the one in the source -/
theorem maxMacroLen_synced : IcyVerif.Gen.Unsafe.maxMacroLen = IcyVerif.Uni.maxMacroLen := by decide

/-- XBin `read_data_compressed`: `transmute::<u8, Compression>(b & mask)`: for every byte the masked value is one of the
    enum's declared discriminants (mask and discriminants regenerated) -/
theorem site_read_data_compressed_0 :
    xbinCompressionMasks ≠ [] ∧
    ∀ m ∈ xbinCompressionMasks, ∀ b, b < 256 → xbinTag m b ∈ xbinCompressionDiscriminants := by
  refine ⟨by decide, ?_⟩
  have h : (xbinCompressionMasks.all fun m => (List.range 256).all fun b =>
      xbinCompressionDiscriminants.contains (xbinTag m b)) = true := by decide +kernel
  intro m hm b hb
  have := List.all_eq_true.mp (List.all_eq_true.mp h m hm) b (List.mem_range.mpr hb)
  simpa using this

/-- the inventory the proofs above answer: (file, fn, kind, argument text) -/
def provenSites : List (String × String × String × String) := [
  ("src/parsers/ansi/dcs.rs", "parse_hex_macro_sequence", "from_u32_unchecked", "(first * 16 + second) as u32"),
  ("src/formats/xbinary.rs", "read_data_compressed", "transmute", "xbin_compression & 0b_1100_0000")]

/-- every unchecked conversion in the source is one of the proven sites, and there is no other `unsafe` block -/
theorem all_sites_covered :
    (unsafeSites.all fun s => provenSites.contains s) = true ∧ otherUnsafe = [] := by
  have e : unsafeSites = provenSites.reverse := rfl
  rw [e]
  exact ⟨List.all_eq_true.mpr fun s hs => List.contains_iff_mem.mpr (List.mem_reverse.mp hs), rfl⟩

/-! ## the repaired flows (checked conversions) -/

/-- `fill_rectangular_area`: for every parameter (any integer; streams reach 0..=2147483599) the fill character is
    either rejected or the scalar value with that number; exactly the non-scalar numbers are rejected -/
theorem fill_rect_scalar (pn1 : Int) :
    (∀ c, fillChar pn1 = some c → isScalar c = true ∧ c = asU32 pn1) ∧
    (fillChar pn1 = none ↔ isScalar (asU32 pn1) = false) := by
  constructor
  · intro c h; exact charFromU32_scalar _ _ h
  · unfold fillChar charFromU32; split <;> simp_all

/-- why the generator's block family is complete for this parameter (harness/src/unibounds.rs): over the whole parameter
    space 0..=2^31-1 the accept/reject decision for `v` is the decision for the first member of its 0x800-aligned block,
    and everything from 0x200000 on is rejected — so one member of each of the 1024 blocks below 0x200000 decides the
    correct answer for all of them, and an implementation that answers differently anywhere in a block (a hand-written
    range test with a wrong constant opens or closes whole blocks or their edges) is seen at the block's first, last or
    sampled member -/
theorem fill_rect_block_decides (v : Nat) (h : v < 2147483648) :
    (fillChar (v : Int) = none ↔ fillChar ((v / 2048 * 2048 : Nat) : Int) = none) ∧
    (2097152 ≤ v → fillChar (v : Int) = none) := by
  have hb : v / 2048 * 2048 < 4294967296 := by omega
  have e1 := asU32_nat v (by omega)
  have e2 := asU32_nat (v / 2048 * 2048) hb
  unfold fillChar charFromU32
  rw [e1, e2, ← scalar_block_constant v]
  constructor
  · cases isScalar v <;> simp
  · intro hv
    simp [isScalar_of_ge v (by omega)]

/-- the same block structure for the 32-bit character fields of IcyDraw cells -/
theorem icy_char_block_decides (v : Nat) :
    (icyChar false v = none ↔ icyChar false (v / 2048 * 2048) = none) ∧ (2097152 ≤ v → icyChar false v = none) := by
  unfold icyChar charFromU32
  simp only [Bool.false_eq_true, if_false]
  rw [← scalar_block_constant v]
  constructor
  · cases isScalar v <;> simp
  · intro hv
    simp [isScalar_of_ge v (by omega)]

/-- `Layer::from_clipboard_data`: every 16-bit character field yields a scalar value -/
theorem clipboard_cell_scalar (lo hi : Nat) : isScalar (clipChar lo hi) = true := clipChar_scalar lo hi

/-- … and so does every cell of every layer the function returns, for all clipboard byte strings -/
theorem clipboard_layer_scalar (data : List Nat) (w h : Nat) (cs : List Nat)
    (hr : fromClipboard data = .ok w h cs) : ∀ c ∈ cs, isScalar c = true := by
  obtain ⟨n, cells, hcs⟩ := fromClipboard_cells hr
  exact clipCells_scalar n cells cs hcs

/-- IcyDraw `load_buffer` (both decoders): every 32-bit character field is rejected or is that scalar value;
    8-bit cells are byte values -/
theorem icy_char_scalar (short : Bool) (v c : Nat) (h : icyChar short v = some c) : isScalar c = true := by
  unfold icyChar at h
  split at h
  · injection h with h; subst h; exact lt256_scalar _ (Nat.mod_lt _ (by decide))
  · exact (charFromU32_scalar _ _ h).1

/-- `String::from_utf8_lossy` (IcyDraw titles and font names, TDF font names): for ALL byte strings the result is the
    UTF-8 encoding of scalar values -/
theorem lossy_valid_utf8 (bs : List Nat) : ValidUtf8 (lossyBytes bs) :=
  ⟨lossy bs, lossyAux_scalar _ _, rfl⟩

/-- … and valid input is returned unchanged (the repair does not alter behaviour on valid files) -/
theorem lossy_id_on_valid (bs : List Nat) (h : ValidUtf8 bs) : lossyBytes bs = bs :=
  lossyBytes_of_valid bs h

/-- the executable validator (= `std::str::from_utf8(..).is_ok()`, tied by the correspondence run) decides validity -/
theorem valid_utf8_decidable (bs : List Nat) : validUtf8 bs = true ↔ ValidUtf8 bs := validUtf8_iff bs

/-- fonts: whatever bytes `BitFont::from_bytes` is given (PSF1, PSF2, raw; any glyph count), every key of the glyph
    table is a scalar value -/
theorem font_keys_scalar (data : List Nat) (f : BitFont) (h : fromBytes data = .ok f) : KeysScalar f :=
  (fromBytes_fromU8 h).keys

/-- `create_8` / `from_basic` (XBin, ADF, IDF loaders) likewise -/
theorem font_basic_keys_scalar (w h : Nat) (data : List Nat) : KeysScalar (fromBasic w h data) :=
  FromU8.keys ⟨h, data, rfl⟩

/-- the loops `for ch in 0..length` of `calculate_checksum`, `convert_to_u8_data`, `to_psf2_bytes` only ever read the
    table at indices `0..length`, and find a glyph only where the table has one: with scalar keys they never need a
    non-scalar `char` (the repaired code skips those indices), for every `length` -/
theorem font_loops_scalar (f : BitFont) (hk : KeysScalar f) (i : Nat) (g : Glyph)
    (h : f.loop[i]? = some (some g)) : isScalar i = true ∧ f.get i = some g := by
  have hg := lookups_some _ _ _ h
  have : f.get i = some g := by unfold BitFont.get; rw [hg]; rfl
  exact ⟨hk i g this, this⟩

example : fillChar 65 = some 65 := by decide
example : fillChar 55296 = none := by decide
example : fillChar 1114112 = none := by decide
example : fillChar 2147483599 = none := by decide
example : fillChar 1169408 = none ∧ fillChar (1169408 / 2048 * 2048 : Nat) = none ∧ fillChar 1171455 = none := by decide
example : fillChar 0xE7FF = some 0xE7FF ∧ fillChar (0xE7FF / 2048 * 2048 : Nat) = some 0xE000 := by decide
example : icyChar false 0x11D800 = none ∧ icyChar false 0x10FFFF = some 0x10FFFF := by decide
example : clipChar 0x00 0xD8 = 0xFFFD := by decide
example : clipChar 0x41 0x00 = 0x41 := by decide
example : fromClipboard ([0, 0,0,0,0, 0,0,0,0, 1,0,0,0, 1,0,0,0] ++ [0x00, 0xDC, 0,0, 0,0, 0,0,0,0, 7,0,0,0]) = .ok 1 1 [0xFFFD] := by decide
example : icyChar false 0xDFFF = none := by decide
example : icyChar false 0x1F600 = some 0x1F600 := by decide
example : lossyBytes [0x41, 0xED, 0xA0, 0x80, 0xC3, 0xA9] = [0x41, 0xEF, 0xBF, 0xBD, 0xEF, 0xBF, 0xBD, 0xEF, 0xBF, 0xBD, 0xC3, 0xA9] := by decide
example : validUtf8 [0xF0, 0x9F, 0x98, 0x80] = true ∧ validUtf8 [0xF4, 0x90, 0x80, 0x80] = false := by decide
example : hexMacro hexTable [52, 49, 33, 50, 59, 52, 50, 59] = some [0x41, 0x42, 0x42] := by decide
example : hexMacro hexTable [102, 102] = none ∧ hexMacro hexTable [70, 102] = some [255] := by decide
example : unsafeSites.length = 2 := by decide

end IcyVerif.C10
