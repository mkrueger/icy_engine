import IcyVerif.Lemmas.LoaderCostDispatch
/-! # C03 — binary loader cost: "declared image sizes" (DESIGN §4 C03: `loader_cost fmt d <= R(|d|)`)

The cost-instrumented loader models of `Model/LoaderCost.lean` count, for every byte string and on every outcome (a loader
that fails late has still done the work):
`work` = loop iterations of all loader loops, `rows` = rows `Layer::set_char` allocates (each `layer width` cells wide),
`extra` = bytes copied into font / palette / title objects and palette comparisons.  Forgetting the counters gives back the
C02 loader models exactly (`loader_cost_refines_c02`), so the counters ride on the trajectory C02's correspondence run pins.

Proved for ALL byte strings (and all SAUCE sizes the dispatch can hand over):
* XBin (raw and compressed): `work <= 65 |d|`, `rows * width <= 64 |d| + width` — no row is allocated before the bytes that
  fill it were read, whatever height the header declares; palette / font bytes copied `<= |d|`.
* BIN: `work <= |d| + width + 1`, `rows * width <= |d| + width`.   ADF: `work <= |d| + 81`, `rows * 80 <= |d| + 80`.
* IDF: `work <= 10923 |d|` (a 6-byte RLE record repeats a cell up to 65535 times — the format's own 16-bit count), rows
  `<= 65536` (the loader's 16-bit row guard; the start row `y1` of the header is a declared position).
* Tundra: `work <= |d|`, rows `<= 65535 + |d|` (position records jump to row 65534 at most), palette comparisons `<= |d|^2`.
* TheDraw fonts: `work <= (94 |d| + 202) |d| + 1` (glyph offsets may overlap: quadratic, not more).
* IcyDraw LAYER chunks: `work <= 2 |d| + 2`, new rows `<= |d| / 2 + 1`, bytes copied `<= |d|` per chunk — proved FROM the
  regenerated flag `icyNoColumnsGuard` (the repair); without it the row loop runs once per DECLARED row
  (`icy_rows_unbounded_without_guard`).  PARTIAL: a row is `declared layer width` cells wide, so cells = rows x declared
  width is not bounded by the chunk (recorded finding `file:icy:runaway`, the same defect as C02's `icyc:abort-alloc`).
What stays outside: wall-clock time and allocator behaviour (oracle: per-case time, cells allocated, address-space cap). -/
namespace IcyVerif.C03
open IcyVerif.Bytes IcyVerif.Loaders IcyVerif.LoaderCost IcyVerif.Gen

/-- every loop of the loader functions in the translator's inventory (fingerprint of `file::fn::header [bound]`) -/
def knownLoaderLoopIds : List Nat := [
  188519920663492,   -- formats/xbinary.rs::read_data_compressed::while o < bytes.len() && pos.y < result.get_height()
  214578823012315,   -- formats/xbinary.rs::read_data_compressed::for _ in 0..repeat_counter [repeat_counter = (xbin_compression & 0b_0011_1111) + 1]
  18346930755952,   -- formats/xbinary.rs::read_data_compressed::for _ in 0..repeat_counter [repeat_counter = (xbin_compression & 0b_0011_1111) + 1] #2
  60051792712636,   -- formats/xbinary.rs::read_data_compressed::for _ in 0..repeat_counter
  138100984469372,   -- formats/xbinary.rs::read_data_compressed::for _ in 0..repeat_counter #2
  187422942327176,   -- formats/xbinary.rs::read_data_uncompressed::while o < bytes.len() && pos.y < result.get_height()
  262508432757940,   -- formats/bin.rs::load_buffer::loop
  235887604653891,   -- formats/bin.rs::load_buffer::for _ in 0..result.get_width()
  229719283161809,   -- formats/artworx.rs::load_buffer::loop
  260903170376157,   -- formats/artworx.rs::load_buffer::for _ in 0..result.get_width()
  255857849585927,   -- formats/artworx.rs::from_ega_data::for i in EGA_COLOR_OFFSETS
  173753340326466,   -- formats/ice_draw.rs::load_buffer::while o + 1 < data_size
  52272709047846,   -- formats/ice_draw.rs::load_buffer::while rle_count > 0
  265589647646636,   -- formats/tundra.rs::load_buffer::while o < data.len()
  174778050890394,   -- formats/icy_draw.rs::load_buffer::while is_running
  149580413782906,   -- formats/icy_draw.rs::load_buffer::for i in last_info..info.compressed_latin1_text.len()
  265580705166537,   -- formats/icy_draw.rs::load_buffer::for y in layer.get_line_count()..layer.get_height()
  254158443483404,   -- formats/icy_draw.rs::load_buffer::for x in 0..layer.get_width()
  8072159096204,   -- formats/icy_draw.rs::load_buffer::for y in 0..height [height = u32::from_le_bytes(bytes[o..(o + 4)].try_into().unwrap()) as i32]
  29216207942307,   -- formats/icy_draw.rs::load_buffer::for x in 0..width
  137704767272206,   -- tdf_font/mod.rs::from_tdf_bytes::while o < bytes.len()
  41398940123355,   -- tdf_font/mod.rs::from_tdf_bytes::for i in 0..font_name_len [font_name_len = bytes[o] as usize]
  136668118877408,   -- tdf_font/mod.rs::from_tdf_bytes::for _ in 0..CHAR_TABLE_SIZE
  10760717352924,   -- tdf_font/mod.rs::from_tdf_bytes::for char_offset in char_lookup_table
  204947922580343,   -- tdf_font/mod.rs::from_tdf_bytes::loop
  119378617598507,   -- sixel_mod.rs::parse_from::for ch in data.chars()
  228795855860539,   -- sixel_mod.rs::parse_from::for y in 0..self.height()
  205467245108975,   -- sixel_mod.rs::parse_char::for _ in 0..*i
  105813383564065,   -- sixel_mod.rs::translate_sixel_to_pixel::for i in 0..6
  252489462947686   -- formats/mod.rs::crop_loaded_file::while result.layers[0].lines.len() > 1 && result.layers[0].lines.last().unwrap().chars.is_empty()
]

/-- the translator's inventory of the loader loops in the current source contains no loop outside the table -/
theorem loader_loops_known : LoaderLoops.loopIds.all (fun l => knownLoaderLoopIds.contains l) = true := by decide +kernel
theorem loader_loop_inventory_complete : LoaderLoops.loopIds.length = LoaderLoops.loops.length := by decide +kernel

/-- `Layer::set_char` fills the rows it adds with full-width lines (what makes `rows * layer width` the cell count), and the
    repairs the budgets rely on are in the source -/
theorem loader_guards_present :
    LoaderLoops.setCharRowFill = true ∧ LoaderLoops.icyNoColumnsGuard = true ∧ LoaderLoops.fileRowCap = 65535 := by decide

/-- forgetting the counters gives back the C02 loader models, for every input -/
theorem loader_cost_refines_c02 (d : Bytes) (sauce : Option (Nat × Nat)) :
    (loadXbC d sauce).res = loadXb d sauce ∧ (loadBinC d sauce).res = loadBin d sauce ∧ (loadAdfC d sauce).res = loadAdf d sauce ∧
    (loadIdfC d sauce).res = loadIdf d sauce ∧ (loadTndC d sauce).res = loadTnd d sauce ∧ (loadTdfC d).res = loadTdf d ∧
    (∀ st, (icyNewLayerC d st).res = icyNewLayer d st) ∧ (∀ st n, (icyContinueC d st n).res = icyContinue d st n) ∧
    (∀ chunks, (loadIcyC chunks).res = loadIcy chunks) :=
  ⟨loadXbC_res d sauce, loadBinC_res d sauce, loadAdfC_res d sauce, loadIdfC_res d sauce, loadTndC_res d sauce, loadTdfC_res d,
   icyNewLayerC_res d, icyContinueC_res d, loadIcyC_res⟩

/-- XBin, raw and compressed, whatever width / height / font size / flags the header declares -/
theorem xb_loader_cost (d : List Nat) (sauce : Option (Nat × Nat)) :
    (loadXbC d.toArray sauce).work ≤ 65 * d.length ∧
    (loadXbC d.toArray sauce).rows * xbWidth d.toArray ≤ 64 * d.length + xbWidth d.toArray ∧
    (loadXbC d.toArray sauce).extra ≤ d.length := by
  have h := (loadXbC_pot d.toArray sauce).bound
  simp only [List.size_toArray] at h
  exact ⟨h.1, rows_mul_le h.2.1, h.2.2⟩

/-- BIN: the row width is 160 or what a SAUCE record says (1..=1000) -/
theorem bin_loader_cost (d : List Nat) (sauce : Option (Nat × Nat)) :
    (loadBinC d.toArray sauce).work ≤ d.length + binWidth sauce + 1 ∧
    (loadBinC d.toArray sauce).rows * binWidth sauce ≤ d.length + binWidth sauce ∧
    (loadBinC d.toArray sauce).extra = 0 ∧ 1 ≤ binWidth sauce ∧ binWidth sauce ≤ 1000 := by
  have h := (loadBinC_pot d.toArray sauce).bound
  simp only [List.size_toArray] at h
  exact ⟨h.1, rows_mul_le h.2.1, Nat.le_zero.mp h.2.2, binWidth_range sauce⟩

/-- ADF: rows of 80 cells behind 4289 bytes of header, palette and font -/
theorem adf_loader_cost (d : List Nat) (sauce : Option (Nat × Nat)) :
    (loadAdfC d.toArray sauce).work ≤ d.length + 81 ∧ (loadAdfC d.toArray sauce).rows * 80 ≤ d.length + 80 ∧
    (loadAdfC d.toArray sauce).extra ≤ 4288 := by
  have h := (loadAdfC_pot d.toArray sauce).bound
  simp only [List.size_toArray] at h
  exact ⟨h.1, rows_mul_le h.2.1, h.2.2⟩

/-- IDF: the RLE count is 16 bit (at most 10923 iterations per byte), the row guard is 16 bit (at most 65536 rows) — whatever
    `x1, y1, x2` the header declares -/
theorem idf_loader_cost (d : List Nat) (sauce : Option (Nat × Nat)) :
    (loadIdfC d.toArray sauce).work ≤ 10923 * d.length ∧ (loadIdfC d.toArray sauce).rows ≤ 65536 ∧
    (loadIdfC d.toArray sauce).extra ≤ 4144 := by
  have h := (loadIdfC_pot d.toArray sauce).bound
  simp only [List.size_toArray] at h
  exact h

/-- Tundra: one iteration per byte; a position record jumps to row 65534 at most, after that one row per cell at most -/
theorem tnd_loader_cost (d : List Nat) (sauce : Option (Nat × Nat)) :
    (loadTndC d.toArray sauce).work ≤ d.length ∧ (loadTndC d.toArray sauce).rows ≤ 65535 + d.length ∧
    (loadTndC d.toArray sauce).extra ≤ d.length * d.length := by
  have h := (loadTndC_pot d.toArray sauce).bound
  simp only [List.size_toArray] at h
  exact h

/-- TheDraw font bundle: quadratic (every glyph of every font record may run to the end of the file), no rows -/
theorem tdf_loader_cost (d : List Nat) :
    (loadTdfC d.toArray).work ≤ (94 * d.length + 202) * d.length + 1 ∧ (loadTdfC d.toArray).rows = 0 ∧ (loadTdfC d.toArray).extra = 0 := by
  have h := (loadTdfC_pot d.toArray).bound
  simp only [List.size_toArray, tdfFontBudget] at h
  exact ⟨h.1, Nat.le_zero.mp h.2.1, Nat.le_zero.mp h.2.2⟩

/-- the guard of the repaired IcyDraw row loops is in the source (regenerated flag) -/
theorem icy_guard_present : LoaderLoops.icyNoColumnsGuard = true := by decide

/-- IcyDraw `LAYER_n` and `LAYER_n~k` chunk payloads: iterations, new rows and copied bytes are bounded by the chunk, whatever
    width, height, data length the layer header declares.  PARTIAL: a new row is `declared width` cells wide — the number of
    CELLS allocated (rows x declared width) is not bounded by the chunk (finding `file:icy:runaway`). -/
theorem icy_layer_cost_partial (d : List Nat) (st : IcySt) (n : Nat) :
    ((icyNewLayerC d.toArray st).work ≤ 2 * d.length + 2 ∧ (icyNewLayerC d.toArray st).rows ≤ d.length / 2 + 1 ∧
      (icyNewLayerC d.toArray st).extra ≤ d.length) ∧
    ((icyContinueC d.toArray st n).work ≤ 2 * d.length + 2 ∧ (icyContinueC d.toArray st n).rows ≤ d.length / 2 + 1 ∧
      (icyContinueC d.toArray st n).extra ≤ d.length) := by
  have h1 := (icyNewLayerC_pot d.toArray st).bound
  have h2 := (icyContinueC_pot d.toArray st n).bound
  simp only [List.size_toArray, idleRows_guard icy_guard_present, Nat.add_zero] at h1 h2
  exact ⟨h1, h2⟩

/-- "a header declaring a huge height with no data": without the guard, a layer without columns makes the row loop run once
    per DECLARED row (up to 2^31 - 1) however short the chunk is -/
theorem icy_rows_unbounded_without_guard (hg : LoaderLoops.icyNoColumnsGuard = false) (d : List Nat) (l : Lay) (hw : l.w ≤ 0)
    (o : Nat) (ho : o < d.length) (height : Nat) : (icyRowsC d.toArray height 0 o l).work = height :=
  icyRowsC_work_without_guard hg d.toArray l hw o (by simpa using ho) height 0

/-- the dispatch `Buffer::from_bytes` for every extension: one polynomial for all binary art formats -/
theorem loader_cost (d : List Nat) (ext : String) (dateOk : Bool) :
    (fromBytesC d.toArray ext dateOk).res = fromBytes d.toArray ext dateOk ∧
    (fromBytesC d.toArray ext dateOk).work ≤ 10923 * d.length + 1001 ∧
    (fromBytesC d.toArray ext dateOk).rows ≤ 64 * d.length + 65536 ∧
    (fromBytesC d.toArray ext dateOk).extra ≤ d.length * d.length + d.length + 4288 :=
  by simpa using And.intro (fromBytesC_res d.toArray ext dateOk) (fromBytesC_pot d.toArray ext dateOk).bound

end IcyVerif.C03
