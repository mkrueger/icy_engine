import IcyVerif.Lemmas.RipStep
import IcyVerif.Lemmas.BgiLine
import IcyVerif.Lemmas.BgiFillCmd
import IcyVerif.Lemmas.Igs
/-!
# C20 — RIPscrip and IGS command streams never crash or stall the engine

Full statement (properties.jsonl): feeding any character stream to the RIPscrip or the IGS graphics emulation yields
an action or an error for every character; it never panics or aborts, every command finishes in time bounded by
the canvas size rather than by its coordinate values, and the exposed pixel canvas is always a complete
width x height image.

This file: the RIP lexer, the BGI core and the IGS lexer.  `Props/C20Canvas.lean` adds the RIP canvas (flood fill,
the exposed picture, totality of every modelled command), `Props/C20Igs.lean` the IGS DrawExecutor (argument
validation, the executor invariant, picture, lines, flood fill, blits), `Props/C20IgsTotal.lean` executor-level totality,
`Props/C20IgsCost.lean` the cost of the block operations, `Props/C20Text.lean` the RIP text path.  Proved here, for ALL inputs, about the models:
 * the RIP lexer over the regenerated command table (`rip_lex_total`, `rip_step_total`, `base36_bounded`,
   `rip_table_wellformed`),
 * the BGI core (`put_pixel_in_bounds`, `put_pixel_keeps_canvas`, `bar_rect_cost`, `bar_rect_cost_in_window`,
   `bar_no_panic`, `fill_span_cost`, `canvas_complete`; `line_cost`: at most (shorter coordinate delta + 1) spans of
   `put_pixel` calls, each bounded by the viewport — a bound that grows with the coordinates, not one by the canvas size;
   the iterations of the run-slice loop itself are not counted),
 * the IGS lexer and loop arithmetic (`igs_lex_total`, `igs_lex_total_partial`, `igs_loop_delay_zero`,
   `igs_loop_terminates`, `igs_loop_terminates_nonneg`, `igs_numbers_nonneg`, `igs_loop_counter_safe`,
   `igs_next_action_total_partial`).
NOT covered by any theorem (exploration-supported only: the harness runs the real code with the panic / time /
picture-size oracle): RIP arcs, ellipses, Béziers in f64, filled polygon, stroked fonts, buttons, icons; IGS text
output; the ANSI fallback.

`_partial` statements: `igs_lex_total_partial` — the IGS lexer has one reachable panic (`self.i += self.step`
overflowing i32 for a loop step near 2^31); the statement names it as the only one, `igs_lex_total` excludes it by
bounding the numbers (every value of the property's quantifier, <= 99999, is inside the bound);
`igs_next_action_total_partial` is the same for `get_next_action` (the loop stepping between characters).
`igs_loop_terminates` is an equivalence; a loop with step 0 is not running, so its excluded case is a negative step,
which the lexer cannot produce (`igs_loop_terminates_nonneg`).
-/
namespace IcyVerif.C20
open IcyVerif

/-- The regenerated command table satisfies the conditions under which the generic parameter interpreter cannot
panic: `parse_base_36` is checked, no arm unwraps, vector arms start at an even state, the polygon bound reads a
two-digit field. -/
theorem rip_table_wellformed : Rip.tableOk Rip.genTable = true := by decide

/-- `parse_base_36` (as repaired): never panics; an accepted digit gives `n * 36 + d <= i32::MAX`, and a value that
had at most `k` digits has at most `k + 1` afterwards. -/
theorem base36_bounded (n : Int) (c : Nat) :
    (∀ site, Rip.parseBase36 true n c ≠ .panic site) ∧
    (∀ v k, 0 ≤ n → n < 36 ^ k → Rip.parseBase36 true n c = .ok v → 0 ≤ v ∧ v < 36 ^ (k + 1) ∧ v ≤ Rip.i32Max) := by
  refine ⟨fun site => Rip.parseBase36_checked_no_panic n c site, ?_⟩
  intro v k h0 hk hv
  obtain ⟨d, hd, hv', hmax⟩ := Rip.parseBase36_ok hv
  have hd36 := Rip.digit36_lt hd
  have hp : (36 : Int) ^ (k + 1) = 36 ^ k * 36 := Int.pow_succ 36 k
  refine ⟨by omega, ?_, hmax⟩
  rw [hp, hv']
  omega

example : Rip.parseBase36 true 35 90 = .ok 1295 := by rfl
example : Rip.parseBase36 true 2147483647 90 = .err := by rfl

/-- One character: in every state satisfying the invariant, for every character and every class of the ANSI
fallback state, `print_char` answers (an action, an error, the result of a command run or of the fallback) — it is
never stuck and never panics — and the invariant is kept.  (`pstate < i32::MAX`: the parameter counter is an i32
that grows by at most one per character.) -/
theorem rip_step_total (s : Rip.Lex) (ch : Nat) (fb : Rip.Fb) (hg : Rip.Good Rip.genTable s) (hp : s.pstate < Rip.i32Max) :
    ∃ s' o, Rip.step Rip.genTable s ch fb = .ok s' o ∧ Rip.Good Rip.genTable s' ∧ s'.pstate ≤ s.pstate + 1 :=
  Rip.step_good Rip.genTable rip_table_wellformed s ch fb hg hp

/-- Every stream shorter than 2^31 - 1 characters, with any behaviour of the ANSI fallback, is consumed completely:
no character makes the RIP lexer panic or get stuck. -/
theorem rip_lex_total (cs : List (Nat × Rip.Fb)) (hlen : (cs.length : Int) < Rip.i32Max) :
    ∃ s o, Rip.run Rip.genTable Rip.Lex.init cs = .ok s o ∧ Rip.Good Rip.genTable s := by
  apply Rip.run_good Rip.genTable rip_table_wellformed cs Rip.Lex.init (Rip.good_init _)
  simp only [Rip.Lex.init]
  omega

/-- final lexer state of a stream whose fallback is always in its default state -/
def ripFinal (cs : List Nat) : Option Rip.Lex :=
  match Rip.run Rip.genTable Rip.Lex.init (cs.map (·, Rip.Fb.dflt)) with
  | .ok s _ => some s
  | .panic _ => none

/-- non-vacuity: "!|c0F|" runs one command (Color) and waits for the next command letter -/
example : (ripFinal [33, 124, 99, 48, 70, 124]).map (fun s => (s.counter, s.st)) = some (1, .readCommand 0) := by decide

/-- `put_pixel` for ALL `x y` and every viewport a stream can set (coordinates within ±2^19; RIP viewports lie in
0..=1295 with sizes in -1295..=1295): no arithmetic overflow, no index out of range, and the screen keeps its length. -/
theorem put_pixel_in_bounds (s : Bgi.Bgi) (hvp : Bgi.VpSane s.vp) (hw : 0 ≤ s.winW ∧ s.winW ≤ 1024) (x y : Int) (c : Nat) :
    ∃ s', Bgi.putPixel s x y c = some s' ∧ s'.screen.size = s.screen.size := by
  obtain ⟨s', h⟩ := Bgi.putPixel_total s hvp hw x y c
  exact ⟨s', h, (Bgi.putPixel_framed h).2⟩

/-- whatever the viewport: if `put_pixel` returns at all, the screen has the same length -/
theorem put_pixel_keeps_canvas (s s' : Bgi.Bgi) (x y : Int) (c : Nat) (h : Bgi.putPixel s x y c = some s') :
    s'.screen.size = s.screen.size := (Bgi.putPixel_framed h).2

example : Bgi.VpSane Bgi.Bgi.new.vp := by unfold Bgi.VpSane; decide

/-- `bar_rect`: the number of loop iterations (rows and cells) is bounded by the viewport alone — it does not depend
on the coordinates of the rectangle — and the screen keeps its length. -/
theorem bar_rect_cost (s s' : Bgi.Bgi) (r : Bgi.Rect) (n : Nat) (h : Bgi.barRectCost s r = some (s', n)) :
    n ≤ s.vp.h.toNat * (s.vp.w.toNat + 1) ∧ s'.screen.size = s.screen.size :=
  ⟨(Bgi.barRectCost_spec h).2, (Bgi.barRectCost_spec h).1.size⟩

/-- with the viewport inside the 640x350 window the work is at most one pass over the canvas (350 rows of 640 cells
plus one bookkeeping step per row) -/
theorem bar_rect_cost_in_window (s s' : Bgi.Bgi) (r : Bgi.Rect) (n : Nat) (h : Bgi.barRectCost s r = some (s', n))
    (hw : s.vp.w ≤ 640) (hh : s.vp.h ≤ 350) : n ≤ 350 * 641 := by
  have h1 := (bar_rect_cost s s' r n h).1
  have a : s.vp.h.toNat ≤ 350 := by omega
  have b : s.vp.w.toNat + 1 ≤ 641 := by omega
  exact Nat.le_trans h1 (Nat.mul_le_mul a b)

/-- `bar` cannot panic in any state a RIP stream can produce (viewport start 0..=1295, sizes -1295..=1295, 8-row
user pattern, one of the 13 fill styles), for all corner coordinates within ±2^20: no i32 overflow, no negative
shift, no pattern / screen index out of range. -/
theorem bar_no_panic (s : Bgi.Bgi) (hs : Bgi.StreamState s) (l t r b : Int)
    (hl : -1048576 ≤ l ∧ l ≤ 1048576) (ht : -1048576 ≤ t ∧ t ≤ 1048576)
    (hr : -1048576 ≤ r ∧ r ≤ 1048576) (hb : -1048576 ≤ b ∧ b ≤ 1048576) :
    ∃ s', Bgi.bar s l t r b = some s' := Bgi.bar_total s hs l t r b hl ht hr hb

/-- non-vacuity: the fresh state is a stream state -/
example : Bgi.StreamState Bgi.Bgi.new := Bgi.streamState_new

/-- One span of `line` (`fill_x` / `fill_y`): whatever the start, the count (huge coordinate loops!), the pattern
offset and the thickness, the number of `put_pixel` calls is at most the viewport area — the span is clipped to
columns 0..right-1 and rows 0..bottom-1 before the loops start. -/
theorem fill_span_cost (s s' : Bgi.Bgi) (a start count offset off' : Int) (n : Nat) :
    (Bgi.fillX s a start count offset = some (s', off', n) → n ≤ Bgi.vpArea s ∧ s'.screen.size = s.screen.size) ∧
    (Bgi.fillY s a start count offset = some (s', off', n) → n ≤ Bgi.vpArea s ∧ s'.screen.size = s.screen.size) :=
  ⟨fun h => ⟨((Bgi.fillX_draws ..).post _ h).2, ((Bgi.fillX_draws ..).frame h).size⟩,
    fun h => ⟨((Bgi.fillY_draws ..).post _ h).2, ((Bgi.fillY_draws ..).frame h).size⟩⟩

/-- `line`: the number of `put_pixel` calls is at most (shorter coordinate delta + 1) spans, each bounded by the viewport
area — a bound that depends on the coordinates; the iterations of the run-slice loop itself (shorter delta − 1 of them) are not
counted.  The screen keeps its length. -/
theorem line_cost (s s' : Bgi.Bgi) (x1 y1 x2 y2 : Int) (n : Nat) (h : Bgi.lineCost s x1 y1 x2 y2 = some (s', n)) :
    n ≤ (min (x2 - x1).natAbs (y2 - y1).natAbs + 1) * Bgi.vpArea s ∧ s'.screen.size = s.screen.size :=
  ⟨((Bgi.lineCost_draws ..).post _ h).2, ((Bgi.lineCost_draws ..).frame h).size⟩

/-- the exposed picture is width x height: 640 x 350 cells.  (The same proposition as `Bgi.Canvas` of `Lemmas/BgiFillCmd.lean`,
under the name the property uses: the lemmas about `Canvas` apply to it by unfolding.) -/
def Complete (s : Bgi.Bgi) : Prop := s.winW = 640 ∧ s.winH = 350 ∧ s.screen.size = 640 * 350

theorem complete_new : Complete Bgi.Bgi.new := Bgi.drawState_new.canvas

theorem applyOp_complete (s s' : Bgi.Bgi) (op : Bgi.Op) (hc : Complete s) (h : Bgi.applyOp s op = some s') : Complete s' :=
  Bgi.Canvas.of_geom hc (Bgi.applyOp_geom h)

/-- After ANY sequence of calls of the modelled BGI primitives (pixels, bars, lines, viewport, palette, colours,
styles, `graph_defaults`) on a fresh `Bgi`, with any arguments, the canvas is still a complete 640 x 350 image. -/
theorem canvas_complete (ops : List Bgi.Op) : ∀ (s s' : Bgi.Bgi), Complete s → Bgi.applyOps s ops = some s' → Complete s' :=
  fun _ _ hc h => Bgi.Canvas.of_geom hc (Bgi.applyOps_geom ops h)

/-- non-vacuity: the fresh canvas is complete, and a pixel can be put on it (hypotheses of `put_pixel_in_bounds`
hold for `Bgi::new`) -/
example : Complete Bgi.Bgi.new := complete_new
example : ∃ s', Bgi.putPixel Bgi.Bgi.new 12 12 5 = some s' ∧ s'.screen.size = 640 * 350 := by
  obtain ⟨s', h, hs⟩ := put_pixel_in_bounds Bgi.Bgi.new (by unfold Bgi.VpSane; decide) (by decide) 12 12 5
  exact ⟨s', h, by rw [hs]; exact complete_new.2.2⟩

/-- FULL statement wanted: `∀ s ch, IGood s → ∃ s' o, step s ch = .ok s' o`.  It is false on the code that exists:
`self.i += self.step` can overflow i32 (recorded finding, parameter beyond the property's range).  Proved: that is
the ONLY panic — in every state satisfying the invariant every character is answered (`ok`, invariant kept) or the
outcome is exactly that overflow.  (`parsed_numbers[4]`, `last_mut().unwrap()`, `% parameters.len()` cannot fail.) -/
theorem igs_lex_total_partial (s : Igs.Igs) (ch : Nat) (hg : Igs.IGood s) :
    (∃ s' o, Igs.step s ch = .ok s' o ∧ Igs.IGood s') ∨
    (Igs.step s ch = .panic Igs.overflowSite ∧ ∃ c, (Igs.mkLoop s c).advance = none) := by
  open Igs in
  · have hcur := hg.2
    -- an answer in a lexer state other than ReadCommand(LoopCommand), the running loop untouched
    have other : ∀ (s' : Igs) (o : Out), s'.cur = s.cur → s'.st ≠ .readCommand Gen.Igs.idxLoopCommand →
        (∃ s'' o', StepRes.ok s' o = .ok s'' o' ∧ IGood s'') ∨ Overflows s (StepRes.ok s' o) :=
      fun s' o hc hst => .inl ⟨s', o, rfl, igood_of_not_loop hst (hc ▸ hcur)⟩
    -- the loop command before its fourth number: the loop sub-machine has not started
    have early : ∀ c, s.st = .readCommand c → ¬ (c = Gen.Igs.idxLoopCommand ∧ s.nums.length ≥ 4) →
        IState.readCommand c = .readCommand Gen.Igs.idxLoopCommand → s.nums.length < 4 ∧ s.loopSt = .start := by
      intro c hst hlp h
      have hc : c = Gen.Igs.idxLoopCommand := IState.readCommand.inj h
      have hl4 : s.nums.length < 4 := by
        have : ¬ s.nums.length ≥ 4 := fun h4 => hlp ⟨hc, h4⟩
        omega
      exact ⟨hl4, (hg.1 (by rw [hst, hc])).1 hl4⟩
    fun_cases step s ch
    -- ReadCommand(WriteText) with its three numbers: the text
    · exact other _ _ rfl nofun
    · exact other _ _ rfl nofun
    · rename_i c hst hw _ _
      exact other _ _ rfl (by show s.st ≠ _; rw [hst, hw.1]; exact fun h => loop_ne_writeText (IState.readCommand.inj h).symm)
    -- ReadCommand(LoopCommand) from the fourth number on
    · rename_i c hst _ hlp
      exact loopChar_good s ch (by rw [hst, hlp.1]) hlp.2 hg
    -- plain number handling; for the loop command this is the phase before the fourth number, where `loop_state` is `Start`
    · exact .inl ⟨s, _, rfl, hg⟩
    · exact .inl ⟨_, _, rfl, fun h => hg.1 h, hcur⟩
    · refine .inl ⟨_, _, rfl, ?_⟩
      split
      · exact igood_of_not_loop nofun hcur
      · exact hg
    · rename_i c hst _ hlp _ _ _ _ _
      refine .inl ⟨_, _, rfl, fun h => ?_, hcur⟩
      obtain ⟨hl4, hstart⟩ := early c hst hlp (hst.symm.trans h)
      have hlen' : (s.nums.dropLast ++ [parseNextNumber (s.nums.getLast?.getD 0) ch]).length < 4 := by
        simp [List.length_dropLast]; omega
      exact ⟨fun _ => hstart, fun h4 => absurd (show 4 ≤ (s.nums.dropLast ++ [parseNextNumber (s.nums.getLast?.getD 0) ch]).length from h4) (by omega), fun h => by rw [show _ = s.loopSt from rfl, hstart] at h; simp at h,
        fun h => by rw [show _ = s.loopSt from rfl, hstart] at h; simp at h⟩
    · rename_i c hst _ hlp _ _ _ _ _
      refine .inl ⟨_, _, rfl, fun h => ?_, hcur⟩
      obtain ⟨hl4, hstart⟩ := early c hst hlp (hst.symm.trans h)
      refine ⟨fun _ => hstart, fun h4 => ?_, fun h => by rw [show _ = s.loopSt from rfl, hstart] at h; simp at h,
        fun h => by rw [show _ = s.loopSt from rfl, hstart] at h; simp at h⟩
      have h4' : 4 ≤ (s.nums ++ [0]).length := h4
      rw [List.length_append, List.length_singleton] at h4'
      have : s.nums.length = 3 := by omega
      show (s.nums ++ [0])[3]? = some 0
      rw [List.getElem?_append_right (by omega)]
      simp [this]
    · exact other _ _ rfl nofun
    · exact other _ _ rfl nofun
    -- ReadCommandStart
    · rename_i hst _ _
      exact other _ _ rfl (by show s.st ≠ _; rw [hst]; nofun)
    · exact other _ _ rfl nofun
    · exact .inl ⟨_, _, rfl, fun _ => ⟨fun _ => rfl, fun h => absurd (show 4 ≤ 0 from h) (by decide), fun h => h.elim nofun nofun, nofun⟩, hcur⟩
    · rename_i c hf
      exact other _ _ rfl (fun h => fromChar_ne_loop ch c hf (IState.readCommand.inj h))
    · exact other _ _ rfl nofun
    -- GotIgsStart, SkipNewLine, Default
    · exact other _ _ rfl nofun
    · exact other _ _ rfl nofun
    · exact other _ _ rfl nofun
    · exact other _ _ rfl nofun
    · exact other _ _ rfl nofun
    · exact other _ _ rfl nofun
    · rename_i hst _
      exact other _ _ rfl (by rw [hst]; nofun)

/-- the same for `get_next_action` (one loop step) -/
theorem igs_next_action_total_partial (s : Igs.Igs) (hg : Igs.IGood s) :
    (∃ s' o, Igs.nextAction s = .ok s' o ∧ Igs.IGood s') ∨ Igs.nextAction s = .panic Igs.overflowSite := by
  open Igs in
  · unfold nextAction
    cases hc : s.cur with
    | none => left; exact ⟨_, _, rfl, hg⟩
    | some l =>
      simp only []
      split
      · cases ha : l.advance with
        | none => right; rfl
        | some l' =>
          left
          simp only []
          refine ⟨_, _, rfl, ?_, ?_⟩
          · intro h; exact hg.1 h
          · intro l2 hl2
            simp at hl2
            subst hl2
            rw [advance_some ha]
            exact hg.2 l hc
      · left
        refine ⟨_, _, rfl, ?_, ?_⟩
        · intro h; exact hg.1 h
        · intro l2 hl2; simp at hl2

/-- The loop counter cannot overflow when the loop's numbers are below 2^30 — in particular for every parameter value
the property quantifies over (<= 99999). -/
theorem igs_loop_counter_safe (l : Igs.Loop) (h1 : -1073741823 ≤ l.i ∧ l.i ≤ 1073741823)
    (h2 : -1073741823 ≤ l.step ∧ l.step ≤ 1073741823) : ∃ l', l.advance = some l' := by
  unfold Igs.Loop.advance
  have : Igs.i32Min ≤ l.nextI ∧ l.nextI ≤ Igs.i32Max := by
    unfold Igs.Loop.nextI
    simp only [Igs.i32Min, Igs.i32Max]
    split <;> omega
  simp [this]

/-- One character is answered by the IGS lexer, and the invariant kept, in a state whose pending numbers are small (the
loop, if one starts here, is built from them: its counter cannot overflow).  A statement about one step; that the numbers
stay small along a stream is not shown here. -/
theorem igs_lex_total (s : Igs.Igs) (ch : Nat) (hg : Igs.IGood s)
    (hsmall : ∀ i, -1073741823 ≤ s.nums.getD i 0 ∧ s.nums.getD i 0 ≤ 1073741823) :
    ∃ s' o, Igs.step s ch = .ok s' o ∧ Igs.IGood s' := by
  rcases igs_lex_total_partial s ch hg with h | ⟨_, c, hc⟩
  · exact h
  · exfalso
    obtain ⟨l', hl'⟩ := igs_loop_counter_safe (Igs.mkLoop s c) (hsmall 0) (hsmall 2)
    rw [hc] at hl'; cases hl'

/-- `thread::sleep(200 ms * delay)`: every loop the lexer ever creates has delay 0 (the digits of the delay parameter
are skipped by the loop sub-machine), so the sleep is `sleep(0)`.  Part of the invariant. -/
theorem igs_loop_delay_zero (s : Igs.Igs) (hg : Igs.IGood s) (l : Igs.Loop) (h : s.cur = some l) : l.delay = 0 :=
  hg.2 l h

/-- The loop command terminates (get_next_action eventually returns None) IF AND ONLY IF it is not running at all
or its step is positive.  A loop with step 0 is not running (the step-0 guard of `Loop::running`), so the excluded case
is a negative step, which the lexer cannot produce (numbers are digit strings without sign). -/
theorem igs_loop_terminates (l : Igs.Loop) : l.Terminates ↔ (l.running = false ∨ 0 < l.step) := by
  constructor
  · intro ⟨n, hn⟩
    by_cases hr : l.running = true
    · by_cases hs : 0 < l.step
      · exact Or.inr hs
      · have := Igs.iter_runs_forever n l (by omega) hr
        rw [this] at hn; cases hn
    · left; simpa using hr
  · intro h
    rcases h with h | h
    · exact ⟨0, h⟩
    · refine ⟨(if l.from_ < l.to then l.to - l.i else l.i - l.to).toNat, ?_⟩
      apply Igs.iter_stops _ l h
      · intro hf; simp only [hf, if_true]; omega
      · intro hf; simp only [hf, if_false]; omega

/-- Every loop with a non-negative step terminates — in particular every loop the lexer can create (its numbers are
accumulated from decimal digits: `parse_next_number` of a non-negative value and a digit is non-negative). -/
theorem igs_loop_terminates_nonneg (l : Igs.Loop) (h : 0 ≤ l.step) : l.Terminates := by
  rw [igs_loop_terminates]
  by_cases h0 : l.step = 0
  · left
    unfold Igs.Loop.running
    simp [h0]
  · right; omega

/-- `parse_next_number` keeps numbers non-negative -/
theorem igs_numbers_nonneg (x : Int) (ch : Nat) (hx : 0 ≤ x) (hd : 48 ≤ ch) : 0 ≤ Igs.parseNextNumber x ch := by
  unfold Igs.parseNextNumber
  have h1 := Igs.sat_nonneg (x * 10) (by omega)
  have h2 := Igs.sat_nonneg (Igs.sat (x * 10) + (ch : Int)) (by omega)
  -- the last step subtracts 48 from a value that is at least 48 (or saturated at i32::MAX)
  have h3 : 48 ≤ Igs.sat (Igs.sat (x * 10) + (ch : Int)) := by
    rcases Igs.le_sat (Igs.sat (x * 10) + (ch : Int)) with h | h
    · omega
    · rw [h]; simp only [Igs.i32Max]; omega
  exact Igs.sat_nonneg _ (by omega)

/-- state of the IGS lexer after a stream (`none` = panic) -/
def igsFinal (cs : List Nat) : Option Igs.Igs :=
  cs.foldl (fun (st : Option Igs.Igs) ch => st.bind fun s => match Igs.step s ch with | .ok s' _ => some s' | .panic _ => none)
    (some Igs.Igs.init)

/-- non-vacuity: the stream "G#&1,,,,O,,:" (step 0, from != to) leaves NO running loop; with step 1
("G#&3,,1,,O,,:") a loop counting down from 3 is running -/
example : ((igsFinal ("G#&1,,,,O,,:".toList.map Char.toNat)).map (·.cur.isSome)) = some false := by decide
example : ((igsFinal ("G#&3,,1,,O,,:".toList.map Char.toNat)).bind (·.cur)).map (fun l => (l.step, l.running, l.from_, l.to)) = some (1, true, 3, 0) := by
  decide

end IcyVerif.C20
