import IcyVerif.Lemmas.UniMacro
import IcyVerif.Lemmas.Unicode
/-! # C10 — macro bodies are valid UTF-8 and are what the definition says

"… every string it builds (layer titles, font names, SAUCE fields, **macro bodies**) is valid UTF-8, whatever bytes
arrived from a terminal stream …"

`Model/UniMacro.lean` follows the characters of a stream from `ESC P` through the DCS recorder, the number loop and
dispatch of `execute_dcs` and `parse_macro` into `Parser::macros`.  The theorems are about EVERY history of DCS
sequences and resets, every character a Rust `char` can be, text and hex macros; the correspondence run compares the
bytes of the stored `String`s (hook `verif_dcs_view`) with `storedBytes`. -/
namespace IcyVerif.C10
open IcyVerif.Uni IcyVerif.UniMacro IcyVerif.Gen.UniMacro IcyVerif.Gen.Unsafe

/-- the DCS recorder hands `execute_dcs` only characters that arrived (plus the ESC it held back): scalar values in,
    scalar values out -/
theorem dcs_record_scalar (chars s rest : List Nat) (hc : Scalars chars) (h : record false [] chars = .done s rest) :
    Scalars s :=
  (record_scalars false [] chars scalars_nil hc s rest h).1

/-- MAIN: after every history of DCS sequences (any characters: numbers, introducers, text and hex bodies, repeat
    groups, errors, clear requests) and resets, every body in the macro table is a sequence of scalar values, and the
    bytes of the stored `String` are well-formed UTF-8 -/
theorem macro_table_valid_utf8 (ops : List Op) (ho : ∀ op ∈ ops, OpScalars op) :
    ∀ e ∈ (run [] ops).1, Scalars e.2 ∧ ValidUtf8 (storedBytes e.2) := by
  intro e he
  have hs := run_scalars [] ops tableScalars_nil ho e he
  exact ⟨hs, e.2, hs, rfl⟩

/-- … in terms of the executable validator (`std::str::from_utf8(..).is_ok()`), which is what the oracle evaluates -/
theorem macro_table_validator (ops : List Op) (ho : ∀ op ∈ ops, OpScalars op) :
    ∀ e ∈ (run [] ops).1, validUtf8 (storedBytes e.2) = true :=
  fun e he => (validUtf8_iff _).mpr (macro_table_valid_utf8 ops ho e he).2

/-- a text macro (`Penc = 0`) is stored verbatim: whatever the table held, after `DCS <numbers> !z body ST` whose
    numbers read `Pid ; Pdt ; 0 …`, slot `Pid` holds exactly `body` — no character dropped, none altered -/
theorem text_macro_stored_verbatim (tbl : Table) (pre body : List Nat) (pid pdt : Int) (more : List Int)
    (hp : NumChars pre) (hn : (takeNums [] pre).1 = pid :: pdt :: encText :: more) :
    (executeDcs tbl (pre ++ (macroIntro ++ body))).2 = .ok ∧
    tblGet pid.toNat (executeDcs tbl (pre ++ (macroIntro ++ body))).1 = some body := by
  have hne : pre ≠ [] := by
    intro h; subst h; simp [takeNums] at hn
  have hfont : fontPrefix.isPrefixOf (pre ++ (macroIntro ++ body)) = false := by
    cases pre with
    | nil => exact absurd rfl hne
    | cons a t =>
      have ha := hp a (by simp)
      have : (67 == a) = false := by
        rcases ha with ha | ha
        · simp [isDigit] at ha; simp; omega
        · subst ha; decide
      simp [fontPrefix, List.isPrefixOf, this]
  have htn : takeNums [] (pre ++ (macroIntro ++ body)) = ((takeNums [] pre).1, macroIntro ++ body) := by
    apply takeNums_append _ _ _ hp
    intro c hc
    simp [macroIntro] at hc
    subst hc
    decide
  have hpre : macroIntro.isPrefixOf (macroIntro ++ body) = true := by simp [macroIntro, List.isPrefixOf]
  have hdrop : (macroIntro ++ body).drop macroIntro.length = body := by simp
  unfold executeDcs
  simp only [hfont, htn, hn, hpre, hdrop, if_true, Bool.false_eq_true, if_false]
  unfold parseMacro
  simp [tblGet_insert]

/-- a hex macro (`Penc = 1`) stores exactly the characters its hex digits name (`hexMacro`, all of them byte values) or
    nothing at all -/
theorem hex_macro_stored (tbl : Table) (nums : List Int) (pid pdt : Int) (more : List Int) (body : List Nat)
    (hn : nums = pid :: pdt :: encHex :: more) :
    (∀ m, hexMacro hexTable body = some m →
        tblGet pid.toNat (parseMacro tbl nums body).1 = some m ∧ (∀ c ∈ m, c < 256)) ∧
    (hexMacro hexTable body = none → (parseMacro tbl nums body).2 = .err ∧
        (parseMacro tbl nums body).1 = if pdt = pdtClear then [] else tbl) := by
  subst hn
  constructor
  · intro m hm
    refine ⟨?_, fun c hc => hexMacro_lt hexTable (by decide) body m hm c hc⟩
    unfold parseMacro
    simp [hm, tblGet_insert, encHex, encText]
  · intro hm
    unfold parseMacro
    simp [hm, encHex, encText]

/-- `ESC c` empties the table; a definition with `Pdt = 1` leaves only itself -/
theorem macro_clear (tbl : Table) (pid : Int) (more : List Int) (body : List Nat) :
    (step tbl .ris).1 = [] ∧
    (parseMacro tbl (pid :: pdtClear :: encText :: more) body).1 = [(pid.toNat, body)] := by
  constructor
  · rfl
  · unfold parseMacro
    simp [tblInsert, encText, pdtClear]

/-- the places of `src/parsers/ansi` that mention the macro table, as the model was written from them (regenerated
    inventory): three writers (`parse_macro` clears, the two `insert`s take the body as built), RIS, three readers, the
    hook.  A new writer or a step between building and storing a body changes the list. -/
def knownMacroTableSites : List (String × String × String) := [
  ("src/parsers/ansi/dcs.rs", "parse_macro", "self.macros.clear();"),
  ("src/parsers/ansi/dcs.rs", "parse_macro_sequence", "self.macros.insert(id, self.parse_string[start_index..].to_string());"),
  ("src/parsers/ansi/dcs.rs", "parse_hex_macro_sequence", "self.macros.insert(id, marco_rec);"),
  ("src/parsers/ansi/mod.rs", "get_baud_rate", "pub(crate) macros: HashMap<usize, String>,"),
  ("src/parsers/ansi/mod.rs", "default", "macros: HashMap::new(),"),
  ("src/parsers/ansi/mod.rs", "print_char", "self.macros.clear();"),
  ("src/parsers/ansi/mod.rs", "print_char", "if let Some(m) = self.macros.get(&i) {"),
  ("src/parsers/ansi/mod.rs", "verif_dcs_view", "let mut macros: Vec<(usize, String)> = self.macros.iter().map(|(k, v)| (*k, v.clone())).collect();"),
  ("src/parsers/ansi/mod.rs", "verif_dcs_view", "macros.sort();"),
  ("src/parsers/ansi/mod.rs", "verif_dcs_view", "(format!(\"{:?}\", self.state), self.parsed_numbers.clone(), macros)"),
  ("src/parsers/ansi/mod.rs", "invoke_macro_by_id", "let m = if let Some(m) = self.macros.get(&(id as usize)) {")]

theorem macro_table_sites_known :
    (macroTableSites.all fun s => knownMacroTableSites.contains s) = true ∧
    (knownMacroTableSites.all fun s => macroTableSites.contains s) = true := by
  have e : macroTableSites = knownMacroTableSites := rfl
  have hself : (knownMacroTableSites.all fun s => knownMacroTableSites.contains s) = true :=
    List.all_eq_true.mpr fun _ h => List.contains_iff_mem.mpr h
  rw [e]
  exact ⟨hself, hself⟩

-- `DCS 5;0;0!zAÜ ST` then `DCS 7;0;1!z41DC ST`: both bodies are A, U+00DC; the stored bytes end in C3 9C
example : (run [] [.dcs [53,59,48,59,48,33,122,65,0xDC,27,92], .dcs [55,59,48,59,49,33,122,52,49,68,67,27,92]]).1
    = [(5, [65, 0xDC]), (7, [65, 0xDC])] := by decide
example : storedBytes [65, 0xDC] = [0x41, 0xC3, 0x9C] := by decide
example : validUtf8 (storedBytes [65, 0xDC]) = true ∧ validUtf8 [0x41, 0xC3] = false := by decide
-- an ESC pair inside the body is kept; `Pdt = 1` clears; a bad hex digit stores nothing
example : (run [] [.dcs [49,59,48,59,48,33,122,27,65,27,92]]).1 = [(1, [27, 65])] := by decide
example : (run [(3, [66])] [.dcs [49,59,49,59,49,33,122,52,71,27,92]]) = ([], [.err]) := by decide
example : (run [(3, [66])] [.ris]) = ([], [.ok]) := by decide
example : (takeNums [] [53,59,48,59,48]).1 = [5, 0, encText] ∧ NumChars [53,59,48,59,48] := by
  refine ⟨by decide, ?_⟩
  unfold NumChars
  decide
example : OpScalars (.dcs [53,59,48,59,48,33,122,65,0xDC,27,92]) := by
  unfold OpScalars Scalars
  decide
example : macroTableSites.length = 11 := by decide

end IcyVerif.C10
