import IcyVerif.Props.C07
import IcyVerif.Model.IcyDrawFont
import IcyVerif.Lemmas.FontRt
import IcyVerif.Gen.IcyFont
/-! # C07 — "every font slot": the `FONT_n` chunk with its real codec

`Props/C07.lean` proves the document round trip over parameter codecs (`CodecsOk`).  Here the FONT part of that
hypothesis is DISCHARGED for the code that exists: name as an IcyDraw string field + `to_psf2_bytes`, read back by
`read_utf8_encoded_string` + `BitFont::from_bytes` (`Model/IcyDrawFont.lean` on top of `Model/Font.lean`).  A font slot is
observed as (name, width, height, length, glyph table) — so "reproduced" includes the font's SIZE, for every width a
`BitFont` can hold (a glyph row is one byte: 1..=8), not only the 8 of the built-in fonts.

FULL-strength statement: every font slot of every document comes back equal.  What is proved is that statement for every
`SlotFont` satisfying `WfSlotFont` (valid UTF-8 name; width 1..=8; height 1..=255 — the heights 1..=32 of the quantifier
included; complete glyph table of `length` ≤ 55296 glyphs of `height` rows), and `font_width_domain_exact` shows the
width bound is EXACT: with any other width the same font is written without complaint and refused by the reader (a
`BitFont` of width 0 or > 8 has no meaning — its glyph rows are single bytes — and is not a document of the quantifier). -/
namespace IcyVerif.C07
open IcyVerif.IcyDraw IcyVerif.Font IcyVerif.Uni IcyVerif.Gen.IcyFont

/-- what C07 asks of a font slot -/
structure WfSlotFont (f : SlotFont) : Prop where
  utf8 : ValidUtf8 f.name
  short : f.name.length < 4294967296
  font : ∃ h, WfFontW f.font h

/-- translator-level facts the font model relies on (regenerated from src/fonts.rs on every run): magic and version bound;
    `to_psf2_bytes` writes magic, version 0, header size 32, flags 0, `length`, `height` (as charsize), `height`, `width`;
    `load_psf2` reads version / headersize / length / charsize / height / width from those byte ranges, makes
    `size = (width, height)`, cuts the glyph data behind `headersize` into glyphs of `height` rows;
    `create_8` keeps the width it is given -/
theorem psf2_source_shape :
    psf2MagicSrc = psf2Magic ∧ psf2MaxVersionSrc = 0 ∧ psf2MinLength = 32 ∧
    psf2WriterFields = ["BitFont::PSF2_MAGIC", "0", "8 * 4", "0", "self.length as u32", "self.size.height as u32",
      "self.size.height as u32", "self.size.width as u32"] ∧
    psf2LoaderFields = [("version", 4, 8, ""), ("headersize", 8, 12, "as usize"), ("length", 16, 20, "as i32"),
      ("charsize", 20, 24, "as i32"), ("height", 24, 28, "as usize"), ("width", 28, 32, "as usize")] ∧
    psf2Expected = "i64::from(length) * i64::from(charsize) + headersize as i64" ∧
    psf2Guard = "length < 0 || charsize <= 0 || expected != data.len() as i64 || charsize as u64 != height as u64 * ((width as u64 + 7) / 8)" ∧
    psf2LoaderSize = ("width", "height") ∧ psf2LoaderGlyphs = ("height", "headersize") ∧
    create8Shape = ["width", "height", "256", "height"] :=
  ⟨rfl, rfl, rfl, rfl, rfl, rfl, rfl, rfl, rfl, rfl⟩

/-- the chunk the writer emits for a font with a complete table, and what the reader makes of it: the name as a string field,
    `from_bytes` on the rest -/
theorem fontChunk_eq (f : SlotFont) (h : Nat) (hlen : f.font.length = f.font.glyphs.length) (rows : AllRows h f.font.glyphs)
    (hs : f.name.length < 4294967296) :
    ∃ p, encodeFontChunk f = some p ∧ decodeFontChunk p = psf2FontDec f.name (psf2Header f.font ++ flat f.font.glyphs) := by
  refine ⟨leBytes 4 f.name.length ++ f.name ++ (psf2Header f.font ++ flat f.font.glyphs), ?_, ?_⟩
  · unfold encodeFontChunk; rw [toPsf2_eq f.font h hlen rows]
  · unfold decodeFontChunk
    rw [List.append_assoc, rdString_enc _ _ hs]

/-- **font slot round trip**: the `FONT_n` payload the writer emits for a well-formed slot font is read back as that very
    font — name, WIDTH, HEIGHT, length and every glyph row (structural equality of the whole `SlotFont`) -/
theorem font_slot_rt (f : SlotFont) (wf : WfSlotFont f) :
    ∃ p, encodeFontChunk f = some p ∧ decodeFontChunk p = .ok f := by
  obtain ⟨h, hwf⟩ := wf.font
  obtain ⟨p, h1, h2⟩ := fontChunk_eq f h hwf.len hwf.rows wf.short
  refine ⟨p, h1, ?_⟩
  rw [h2, psf2FontDec, psf2_roundtrip f.font h hwf, lossyBytes_of_valid f.name wf.utf8]

/-- the size in particular (what `Buffer::get_font_dimensions` and the renderer use) -/
theorem font_size_rt (f g : SlotFont) (wf : WfSlotFont f) (p : Bytes) (he : encodeFontChunk f = some p)
    (hd : decodeFontChunk p = .ok g) : g.font.w = f.font.w ∧ g.font.h = f.font.h ∧ g.font.length = f.font.length ∧ g.name = f.name := by
  obtain ⟨p', h1, h2⟩ := font_slot_rt f wf
  rw [h1] at he; cases he
  rw [h2] at hd; cases hd
  exact ⟨rfl, rfl, rfl, rfl⟩

/-- the width bound of `WfSlotFont` is exact: for any other width (everything else well-formed) the writer emits the font
    and the reader refuses it (`LengthMismatch`: charsize = height ≠ height * ((width + 7) / 8)) -/
theorem font_width_domain_exact (f : SlotFont) (h : Nat) (hh : f.font.h = h) (h1 : 1 ≤ h) (h255 : h ≤ 255)
    (hn : f.font.glyphs.length ≤ 55296) (hlen : f.font.length = f.font.glyphs.length) (rows : AllRows h f.font.glyphs)
    (hs : f.name.length < 4294967296) (hi : -2147483648 ≤ f.font.w ∧ f.font.w < 2147483648)
    (hw : f.font.w < 1 ∨ 8 < f.font.w) :
    ∃ p, encodeFontChunk f = some p ∧ decodeFontChunk p = .fail .errCodec := by
  obtain ⟨p, he, hd⟩ := fontChunk_eq f h hlen rows hs
  refine ⟨p, he, ?_⟩
  rw [hd, psf2FontDec, (psf2_width_out_of_range f.font h hh h1 h255 hn hlen rows hi hw).2]

/-- the FONT clause of `CodecsOk` holds for the real codec -/
theorem psf2_codec_ok {S : Type} (palEnc : List RGB → Bytes) (palDec : Bytes → IcyDraw.Res (List RGB))
    (sauceDec : Bytes → IcyDraw.Res (Option S)) (dflt : SlotFont) (f : SlotFont) (wf : WfSlotFont f) :
    let cd := psf2Codecs palEnc palDec sauceDec dflt
    (cd.fontName f).length < 4294967296 ∧ cd.fontDec (cd.fontName f) (cd.fontData f) = .ok f := by
  obtain ⟨h, hwf⟩ := wf.font
  exact font_codec_ok _ SlotFont.mk f f.name f.font rfl rfl rfl (fun _ => rfl) wf.utf8 wf.short h hwf

/-- **document round trip with the real `FONT_n` codec**: as `doc_rt`, with the font hypothesis discharged — every font
    slot of every well-formed document (any number of slots 0..=300 and beyond, widths 1..=8, heights 1..=255, 256 / 512 /
    any complete glyph table, UTF-8 names) is read back as the font that was saved, with its size, whatever header,
    palette, SAUCE record and layers are next to it.  Palette and SAUCE codecs stay parameters (C16 / C11). -/
theorem doc_rt_psf2 {S : Type} (palEnc : List RGB → Bytes) (palDec : Bytes → IcyDraw.Res (List RGB))
    (sauceDec : Bytes → IcyDraw.Res (Option S)) (dflt : SlotFont) (sauceEqv : S → S → Prop)
    (d : Doc SlotFont S) (hw : WfDoc d) (hfonts : ∀ kf ∈ d.fonts, WfSlotFont kf.2)
    (hpal : palDec (palEnc d.palette) = .ok d.palette)
    (hsauce : ∀ s b, d.sauce = some (s, b) → ∃ s', sauceDec b = .ok (some s') ∧ sauceEqv s' s) :
    ∃ cs st, encodeDoc (psf2Codecs palEnc palDec sauceDec dflt) d = some cs ∧
      decodeDoc (psf2Codecs palEnc palDec sauceDec dflt) cs = .ok st ∧
      st.hdr = d.hdr ∧ st.palette = d.palette ∧
      (∀ k, st.fontAt k = d.fonts.lookup k) ∧
      (∀ k f, d.fonts.lookup k = some f → ∃ g, st.fontAt k = some g ∧ g.name = f.name ∧ g.font.w = f.font.w ∧
        g.font.h = f.font.h ∧ g.font.length = f.font.length ∧ g.font.glyphs = f.font.glyphs) ∧
      layersEq st.layers d.layers := by
  obtain ⟨cs, st, h1, h2, h3, h4, h5, _, h7⟩ := doc_rt (psf2Codecs palEnc palDec sauceDec dflt) sauceEqv d hw
    ⟨hpal, fun kf hkf => psf2_codec_ok palEnc palDec sauceDec dflt kf.2 (hfonts kf hkf), hsauce⟩
  refine ⟨cs, st, h1, h2, h3, h4, h5, ?_, h7⟩
  intro k f hk
  exact ⟨f, by rw [h5 k, hk], rfl, rfl, rfl, rfl, rfl⟩


/-- a 6 x 3 font of 256 glyphs (glyph `g` = rows `g`, `255 - g`, `g`), named "ü6" -/
def exFont6 : SlotFont :=
  ⟨[0xC3, 0xBC, 0x36], { w := 6, h := 3, length := 256, glyphs := (List.range 256).map fun g => some [g, 255 - g, g] }⟩

theorem exFont6_rows : AllRows 3 exFont6.font.glyphs := by
  intro g hg
  simp only [exFont6, List.mem_map, List.mem_range] at hg
  obtain ⟨a, _, rfl⟩ := hg
  exact ⟨_, rfl, rfl⟩

theorem exFont6_wf : WfSlotFont exFont6 :=
  ⟨⟨[0xFC, 0x36], by decide, by decide⟩, by decide, 3,
    ⟨by decide, by decide, rfl, by decide, by decide, by simp [exFont6], by simp [exFont6], exFont6_rows⟩⟩

example : WfSlotFont exFont6 := exFont6_wf

/-- the payload is 4 + 3 name bytes, the 32-byte header (… length 256, charsize 3, height 3, width 6) and 768 glyph bytes -/
example : (encodeFontChunk exFont6).map (fun p => (p.length, p.take 7, (p.drop 23).take 16)) =
    some (807, [3, 0, 0, 0, 0xC3, 0xBC, 0x36], [0, 1, 0, 0, 3, 0, 0, 0, 3, 0, 0, 0, 6, 0, 0, 0]) := by decide +kernel
example : (match encodeFontChunk exFont6 with | some p => decide (decodeFontChunk p = .ok exFont6) | none => false) = true := by
  obtain ⟨p, h1, h2⟩ := font_slot_rt exFont6 exFont6_wf
  simp only [h1, h2, decide_true]

/-- the excluded widths are real: the same font declared 9 (or 0) pixels wide is written and then refused -/
theorem font_width_9_refused :
    (match encodeFontChunk ⟨exFont6.name, { exFont6.font with w := 9 }⟩ with
     | some p => decide (decodeFontChunk p = .fail .errCodec) | none => false) = true ∧
    (match encodeFontChunk ⟨exFont6.name, { exFont6.font with w := 0 }⟩ with
     | some p => decide (decodeFontChunk p = .fail .errCodec) | none => false) = true := by
  have key : ∀ w : Int, -2147483648 ≤ w ∧ w < 2147483648 → w < 1 ∨ 8 < w →
      (match encodeFontChunk ⟨exFont6.name, { exFont6.font with w := w }⟩ with
       | some p => decide (decodeFontChunk p = .fail .errCodec) | none => false) = true := by
    intro w hi hw
    obtain ⟨p, h1, h2⟩ := font_width_domain_exact ⟨exFont6.name, { exFont6.font with w := w }⟩ 3 rfl (by decide) (by decide)
      (by simp [exFont6]) (by simp [exFont6]) exFont6_rows (show exFont6.name.length < 4294967296 by decide) hi hw
    simp only [h1, h2, decide_true]
  exact ⟨key 9 (by decide) (by decide), key 0 (by decide) (by decide)⟩

end IcyVerif.C07
