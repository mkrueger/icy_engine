import IcyVerif.Props.C08Calls
/-! # C08 — undo restores the document and redo the edit, for every edit history

*Document state* = `Doc.obs`: buffer size; font table (slot → font), font / palette / ice mode, palette, SAUCE record;
per layer, in stack order: size, properties (title, role, visible, locked, position-locked, alpha, alpha-locked, offset)
and every stored cell INCLUDING rows/cells hidden beyond the layer size — but not the representation of the row storage,
and not caret / selection / selection mask / current layer (the property does not list them).

*Full statement* (DESIGN §4 C08): for every history of successful edits over ALL public operations, with undo/redo
steps interleaved, undo/redo never fail, undoing what the history added restores the initial document, redoing restores
the final one, a new edit empties the redo stack, atomic groups nest.
*Proved here*: exactly that (`stack_discipline`, `stack_discipline_fresh`, `new_edit_clears_redo`,
`atomic_group_folds`, `atomic_group_undoable`) for every history whose records satisfy the per-record inverse law
`InverseAt` / `Undoable`; the inverse law itself, at every document, for every record type the model has (`inverse_*` in
`Props/C08Laws`; seven of them under a hypothesis saying that the record's payload is what the operation puts there, see
the head of that file); that every step list of `Call` is good (`call_steps_good` in `Props/C08Calls`, where those
hypotheses are discharged); and, putting all together, `api_history_discipline`: the full statement for every history over the 66 operations of `Call` — cells, layer
stack, sizes, crop, rows/columns, selection and selection mask, every `UndoLayerChange`-based area operation (flip,
justify, center, erase, scroll, make transparent, stamp down), rotate, merge / anchor, paste / floating layer, layer
properties, fonts, ice mode, palette, SAUCE, caret records, `push_reverse_undo`, atomic groups, undo/redo — whose step
lists are what the driver executes in the correspondence run.  Not in the model: `set_palette_mode`'s colour matching,
flip tables, `Shape::Lines` selections in the mask, `default_font_page` (see `tools/propsd/C08.py`). -/
namespace IcyVerif.C08
open IcyVerif.Undo

/-- **Stack discipline, for every history.**  Start from any editor state whose two stacks are chains of linked records
    (`WF`; e.g. the state reached by any earlier good history) with no atomic guard open.  Run ANY history `h` of
    primitive steps — edits recorded with `push_plain_undo`, edits performed by `push_undo_action`, changes outside
    the document state, `begin_atomic_undo`/guard drop (nested as you like), and undo/redo steps interleaved anywhere
    (undo steps do not go below the stack the history started on) — such that every record the history pushes satisfies
    the inverse law (`Step.Good`).  Then
    * no undo and no redo step of the history fails or panics;
    * if all edits succeed, undoing exactly the entries the history added succeeds and restores the initial document
      (observationally) and the initial undo stack, and redoing them succeeds and restores the final document. -/
theorem stack_discipline (ed0 : Ed) (bs cs : List DObs) (hwf : ed0.WF bs cs) (hg0 : ed0.guards = [])
    (h : List Step) (hgood : ∀ s ∈ h, s.Good) :
    (∀ e, ed0.run ed0.undoStack.length h ≠ .error (.undoFailed e)) ∧
    (∀ e, ed0.run ed0.undoStack.length h ≠ .error (.redoFailed e)) ∧
    ∀ ed1, ed0.run ed0.undoStack.length h = .ok ed1 →
      ed0.undoStack.length ≤ ed1.undoStack.length ∧
      ∃ ed2, ed1.undoN (ed1.undoStack.length - ed0.undoStack.length) = .ok ed2 ∧
        ed2.doc.obs = ed0.doc.obs ∧ ed2.undoStack = ed0.undoStack ∧
        ∃ ed3, ed2.redoN (ed1.undoStack.length - ed0.undoStack.length) = .ok ed3 ∧
          ed3.doc.obs = ed1.doc.obs ∧ ed3.undoStack.length = ed1.undoStack.length := by
  have hinv := Ed.Inv.init hwf hg0
  obtain ⟨r1, r2, r3⟩ := (Ed.Inv.run_safe h hinv hgood).elim
  refine ⟨r1, r2, ?_⟩
  intro ed1 hrun
  have h1 := r3 ed1 hrun
  exact ⟨h1.above, h1.undo_all⟩

/-- the same for a freshly opened document (both stacks empty): here the `undo` steps of the history are exactly
    `UndoState::undo` (a no-op on the empty stack) and "what the history added" is the whole undo stack -/
theorem stack_discipline_fresh (d0 : Doc) (h : List Step) (hgood : ∀ s ∈ h, s.Good) :
    let ed0 : Ed := ⟨d0, [], [], []⟩
    (∀ e, ed0.run 0 h ≠ .error (.undoFailed e)) ∧ (∀ e, ed0.run 0 h ≠ .error (.redoFailed e)) ∧
    ∀ ed1, ed0.run 0 h = .ok ed1 →
      ∃ ed2, ed1.undoN ed1.undoStack.length = .ok ed2 ∧ ed2.doc.obs = d0.obs ∧ ed2.undoStack = [] ∧
        ∃ ed3, ed2.redoN ed1.undoStack.length = .ok ed3 ∧ ed3.doc.obs = ed1.doc.obs ∧
          ed3.undoStack.length = ed1.undoStack.length := by
  intro ed0
  have hwf : ed0.WF [] [] := ⟨.nil _, .nil _⟩
  obtain ⟨r1, r2, r3⟩ := stack_discipline ed0 [] [] hwf rfl h hgood
  refine ⟨r1, r2, ?_⟩
  intro ed1 hrun
  obtain ⟨_, ed2, h1, h2, h3, ed3, h4, h5, h6⟩ := r3 ed1 hrun
  have e0 : ed1.undoStack.length - ed0.undoStack.length = ed1.undoStack.length := by show ed1.undoStack.length - 0 = _; omega
  rw [e0] at h1 h4
  exact ⟨ed2, h1, h2, h3, ed3, h4, h5, h6⟩

/-- **End to end.**  For EVERY history of calls to the 66 operations of `Call` (set_char with and without mirror mode,
    swap_char, add/remove/raise/lower/duplicate/clear/merge/anchor/rotate/stamp layer, toggle visibility, move, resize,
    update properties, paste, add_floating_layer, resize_buffer (with and without layers), crop, crop_rect, delete/insert
    row and column, set/clear/deselect selection, add_selection_to_mask, inverse_selection, erase_selection, erase_row /
    column (+ to start / end), flip_x/y, justify_left/right, center, the three line variants, scroll_area_up/down/left/
    right, make_layer_transparent, switch_to_font_page, set/add fonts, replace_font_usage, change_font_slot, remove_font,
    set_ice_mode, switch_to_palette, update_sauce_data, undo_caret_position, push_reverse_undo, caret/current-layer/mirror
    changes, atomic groups and undo/redo steps) — any parameters (out-of-range indices, negative sizes and caret positions
    included), any interleaving — on EVERY document (hidden rows, unmaterialised rows, locked/hidden/alpha-locked layers,
    offsets, any font table): undo and redo never fail; when all edits succeed, undoing the whole undo stack restores the
    initial document, redoing it restores the final one.
    `Call.steps` is what the driver executes in the correspondence run, so this is a statement about the tied model. -/
theorem api_history_discipline (d0 : Doc) (calls : List Call) :
    let ed0 : Ed := ⟨d0, [], [], []⟩
    let h := calls.flatMap Call.steps
    (∀ e, ed0.run 0 h ≠ .error (.undoFailed e)) ∧ (∀ e, ed0.run 0 h ≠ .error (.redoFailed e)) ∧
    ∀ ed1, ed0.run 0 h = .ok ed1 →
      ∃ ed2, ed1.undoN ed1.undoStack.length = .ok ed2 ∧ ed2.doc.obs = d0.obs ∧ ed2.undoStack = [] ∧
        ∃ ed3, ed2.redoN ed1.undoStack.length = .ok ed3 ∧ ed3.doc.obs = ed1.doc.obs ∧
          ed3.undoStack.length = ed1.undoStack.length := by
  intro ed0 h
  apply stack_discipline_fresh d0 h
  intro s hs
  obtain ⟨c, _, hc⟩ := List.mem_flatMap.mp hs
  exact call_steps_good c s hc

/-- the per-record inverse law in the shape of DESIGN §4: what `Undoable` gives for the very documents of the edit -/
theorem inverse_law (op op' : UndoOp) (d d' : Doc) (hinv : InverseAt op d) (hr : op.redo d = .ok (op', d')) :
    ∃ op'' d₂, op'.undo d' = .ok (op'', d₂) ∧ d₂.obs = d.obs ∧ ∃ op''' d₃, op''.redo d₂ = .ok (op''', d₃) ∧ d₃.obs = d'.obs :=
  (hinv op' d' hr).inverse

/-- a new edit (either mechanism) after any number of undos leaves the redo stack empty — unless the operation
    returned `Ok(())` without doing anything, in which case the editor state is untouched -/
theorem new_edit_clears_redo (floor : Nat) (ed ed' : Ed) (s : Step)
    (hs : (∃ f, s = .edit f) ∨ (∃ mk, s = .act mk)) (hrun : ed.step floor s = .ok ed') :
    ed' = ed ∨ (ed'.redoStack = [] ∧ ed'.undoStack.length = ed.undoStack.length + 1) := by
  rcases hs with ⟨f, rfl⟩ | ⟨mk, rfl⟩
  · simp only [Ed.step] at hrun
    cases hf : f ed.doc with
    | error e => rw [hf] at hrun; cases hrun
    | ok p =>
      rw [hf] at hrun
      cases p with
      | none => cases hrun; exact Or.inl rfl
      | some q => cases hrun; exact Or.inr ⟨rfl, rfl⟩
  · simp only [Ed.step] at hrun
    cases hm : mk ed.doc with
    | error e => rw [hm] at hrun; cases hrun
    | ok q =>
      rw [hm] at hrun
      cases q with
      | none => cases hrun; exact Or.inl rfl
      | some op =>
        simp only [Ed.pushUndoAction] at hrun
        cases hr : op.redo ed.doc with
        | error e => rw [hr] at hrun; cases hrun
        | ok p => rw [hr] at hrun; cases hrun; exact Or.inr ⟨rfl, rfl⟩

/-- and so does opening an atomic group (`begin_atomic_undo` clears the redo stack) -/
theorem begin_atomic_clears_redo (ed : Ed) : ed.beginAtomic.redoStack = [] := rfl

/-- **Atomic groups fold.**  Whatever was pushed (in this order: `ops`, at least one record) since a guard was opened
    becomes ONE stack entry `atomic ops` when the guard is dropped; the entries below are untouched.  A member of `ops`
    may itself be an `atomic` (an inner guard closed earlier): groups nest. -/
theorem atomic_group_folds (stack : List UndoOp) (guards : List Nat) (doc : Doc) (redo : List UndoOp) (ops : List UndoOp)
    (hne : ops ≠ []) :
    (⟨doc, ops.reverse ++ stack, redo, stack.length :: guards⟩ : Ed).endAtomic = ⟨doc, .atomic ops :: stack, redo, guards⟩ := by
  have hlen : 0 < ops.length := List.length_pos_iff.mpr hne
  have hr : ops.length = ops.reverse.length := List.length_reverse.symm
  unfold Ed.endAtomic
  simp only [List.length_append, List.length_reverse]
  rw [if_neg (by omega), show ops.length + stack.length - stack.length = ops.length by omega, hr,
    List.take_left' rfl, List.drop_left' rfl, List.reverse_reverse]

/-- a guard under which nothing was recorded leaves no entry -/
theorem atomic_group_empty (stack : List UndoOp) (guards : List Nat) (doc : Doc) (redo : List UndoOp) :
    (⟨doc, stack, redo, stack.length :: guards⟩ : Ed).endAtomic = ⟨doc, stack, redo, guards⟩ := by
  simp [Ed.endAtomic]

/-- the folded group obeys the inverse law whenever its members (atomic or not) do, link by link -/
theorem atomic_group_undoable (ops : List UndoOp) (a c : DObs) (h : UChain ops a c) : Undoable (.atomic ops) a c :=
  undoable_atomic h

def demoLayer : LayerM := ⟨3, 2, defaultProps, [[⟨65, 0, 7, 0, 0⟩, ⟨66, 0, 7, 0, 0⟩, ⟨67, 0, 7, 0, 0⟩], [⟨68, 0, 7, 0, 0⟩]]⟩
def demoDoc : Doc := ⟨3, 2, [demoLayer], none, 0, 0, 0, false, ⟨[(0, 0)], 2, [0, 170], 1, 0, none⟩, ⟨3, 2, []⟩, 0⟩

/-- `stack_discipline_fresh` applies to a non-trivial history: set_layer_size, an atomic group of two set_chars (one of
    them on a row that is not materialised), undo, redo, undo — every step `Good` by the per-record laws -/
example : ∀ s ∈ ([.act (fun _ => .ok (some (.setLayerSize 0 0 0 2 1))), .beginAtomic,
      .act (fun d => .ok (some (.setChar 1 0 0 ((d.layers.getD 0 demoLayer).getChar 1 0) ⟨70, 0, 1, 2, 0⟩))),
      .touch (fun d => { d with caretX := 1 }), .endAtomic, .undo, .redo, .undo] : List Step), s.Good := by
  intro s hs
  simp only [List.mem_cons, List.mem_nil_iff, or_false] at hs
  rcases hs with rfl | rfl | rfl | rfl | rfl | rfl | rfl | rfl
  · intro d op hop; simp at hop; subst hop; exact inverse_setLayerSize d 0 0 0 2 1
  · trivial
  · intro d op hop
    simp at hop; subst hop
    refine inverse_setChar d 0 1 0 _ _ ?_
    intro l hl; simp [hl]
  · intro d; rfl
  · trivial
  · trivial
  · trivial
  · trivial

/-- the history above really runs (all edits succeed) and ends with one entry on each stack -/
example : ∃ ed1, (⟨demoDoc, [], [], []⟩ : Ed).run 0 [.act (fun _ => .ok (some (.setLayerSize 0 0 0 2 1))), .beginAtomic,
      .act (fun d => .ok (some (.setChar 1 0 0 ((d.layers.getD 0 demoLayer).getChar 1 0) ⟨70, 0, 1, 2, 0⟩))),
      .touch (fun d => { d with caretX := 1 }), .endAtomic, .undo, .redo, .undo] = .ok ed1 ∧
      ed1.undoStack.length = 1 ∧ ed1.redoStack.length = 1 := ⟨_, rfl, rfl, rfl⟩

/-- `api_history_discipline` on a concrete history: shrink the layer (hiding a row), flip it inside a user group together
    with a font being added, scroll the row left, undo, undo, redo: all edits succeed -/
example : (match (⟨demoDoc, [], [], []⟩ : Ed).run 0 (([.setLayerSize 0 3 1, .beginAtomic, .flipX,
      .addFont (some 7) (some 3), .endAtomic, .scrollLeft, .undo, .undo, .redo] : List Call).flatMap Call.steps) with
      | .ok ed1 => (ed1.undoStack.length, ed1.redoStack.length)
      | .error _ => (0, 0)) = (2, 1) := by decide +kernel

/-- the repaired `UndoLayerChange` on the situation of the former finding `UndoLayerChange(area):undo-mismatch:hidden`: a
    whole-layer snapshot of a layer with a hidden second row is stamped back and the hidden row is still there -/
example :
    let l : LayerM := ⟨1, 1, defaultProps, [[⟨65, 0, 7, 0, 0⟩], [⟨66, 0, 7, 0, 0⟩]]⟩
    ∃ snap, fromLayer l ⟨0, 0, 1, 1⟩ = .ok snap ∧
      rowsGet (layerChangeApply l 0 0 snap).lines 0 1 = rowsGet l.lines 0 1 :=
  ⟨_, rfl, by decide⟩

/-- and `UndoSetChar` on an alpha-locked layer (former finding `UndoSetChar:undo-mismatch:alphalocked`): the erased cell
    comes back -/
example :
    let l : LayerM := ⟨1, 1, { defaultProps with hasAlpha := true, alphaLocked := true }, [[⟨65, 0, 7, 0, 0⟩]]⟩
    let d : Doc := { demoDoc with w := 1, h := 1, layers := [l] }
    ∃ op' d' op'' d₂, (UndoOp.setChar 0 0 0 (l.getChar 0 0) Cell.invisible).redo d = .ok (op', d') ∧
      op'.undo d' = .ok (op'', d₂) ∧ (d₂.layers.getD 0 l).getChar 0 0 = l.getChar 0 0 :=
  ⟨_, _, _, _, rfl, rfl, by decide⟩

end IcyVerif.C08
