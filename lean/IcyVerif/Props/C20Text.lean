import IcyVerif.Lemmas.RipText
/-!
# C20, RIP text part — no table lookup of the text path leaves its table

C20, "never panics", for the INTEGER part of the RIP text path — the interaction of `|Y` (font style: state set by
one command) with every text-drawing command (`|T`, `|@`, button labels: state used by another): for EVERY font number,
direction and size `|Y` can carry (and any i32 beyond) and EVERY text, no lookup of `out_text_xy` / `get_text_size` /
`draw_character` / `Character::draw` / `get_width` leaves its table — `FONTS[..]`, `SCALE_UP[size]`, `SCALE_DOWN[size]`
(never a zero divisor), `characters[code]`.  Tables, clamp bounds, `FontType::from` and the `.CHR` character counts
are regenerated from the source.  Not covered: what the strokes draw (`Bgi::line`, oracle only) and the f32 widths. -/
namespace IcyVerif.C20
open IcyVerif

/-- the clamp of `set_text_style` keeps the size inside both scale tables (regenerated bounds and table lengths) -/
theorem rip_text_size_in_tables (font dir : Nat) (size : Int) :
    0 ≤ (RipText.setTextStyle font dir size).size ∧
      (RipText.setTextStyle font dir size).size < Gen.RipText.scaleUp.length ∧
      (RipText.setTextStyle font dir size).size < Gen.RipText.scaleDown.length := by
  obtain ⟨h1, h2, h3, h4, h5, h6⟩ := RipText.clamp_bounds_ok
  have hc := RipText.clamp_range size Gen.RipText.sizeLo Gen.RipText.sizeHi h4
  have e : (RipText.setTextStyle font dir size).size = RipText.clamp size Gen.RipText.sizeLo Gen.RipText.sizeHi := rfl
  rw [e]
  omega

/-- NO INDEX PANIC for every font number, size and character: after `|Y` with ANY parameters, drawing or measuring ANY
text performs only in-range lookups. -/
theorem rip_text_total (font dir : Nat) (size : Int) (text : List Nat) :
    RipText.textLookups (RipText.setTextStyle font dir size) text = some () := by
  unfold RipText.textLookups
  split
  · rfl
  · split
    · rfl
    · have hf : (RipText.setTextStyle font dir size).font < 12 := RipText.fontFrom_lt font
      have hs := RipText.fontChars_some ⟨_, hf⟩
      obtain ⟨chars, hch⟩ := Option.isSome_iff_exists.mp hs
      have hsc := RipText.scaleAt_clamped size
      obtain ⟨r, hr⟩ := hsc
      simp only [hch]
      show (match RipText.scaleAt (RipText.clamp size Gen.RipText.sizeLo Gen.RipText.sizeHi) with
        | none => none
        | some _ => _) = some ()
      rw [hr]
      exact RipText.fold_some chars _ ⟨r, hr⟩ text

/-- non-vacuity: a stroke font at the largest size really reaches the lookups (size ZZ is clamped to 10, font 10) -/
example : (RipText.setTextStyle 10 1 1295) = ⟨10, 1, 10⟩ := by decide
example : RipText.scaleAt 10 = some (4, 1) := by decide
/-- and the model does show the panic one step beyond the clamp (what an off-by-one clamp would reach) -/
example : RipText.textLookups ⟨10, 0, 11⟩ [65] = none := by decide

end IcyVerif.C20
