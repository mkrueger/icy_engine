import IcyVerif.Lemmas.TermCost
import IcyVerif.Gen.Loops
import IcyVerif.Lemmas.RectCost
import IcyVerif.Lemmas.FontLoad
import IcyVerif.Lemmas.PalCost
import IcyVerif.Gen.TermResize
/-! # C03 — work per input is bounded by screen size, not by numbers in the input
What is proved (about the TermGeo model of the repaired code, for every parameter value):
* every parameter-driven loop count of the ANSI parser is bounded by the screen (`*_le` theorems); the table
  `knownLoopIds` lists every loop of the terminal-stream code with its bound expression as found in the source, and
  `all_loops_known` fails as soon as the source contains a loop (or a bound expression) that is not in the table;
* a numeric parameter never exceeds `i32::MAX` however many digits it has;
* a hex macro body is never expanded beyond the macro space (`pushRepeated_len`, `pushRepeated_chars`), whatever its repeat counts;
* macro replay is bounded: one input character executes at most 1 + 65536 parser steps whatever the macros are
  (`macro_expansion_bounded`, by a potential argument over nesting depth and expansion budget).
What the model cannot exhibit (labelled partial): wall-clock time, allocator behaviour, stack size — the oracle run
of `harness/src/c03.rs` measures those on the real code (time and row growth per token, address-space cap).
The binary art-file loaders are in `Props/C03Loaders.lean` (cost-instrumented loader models), the sixel decoder in
`Props/C03Sixel.lean`.  The screen-relative bounds below are absolute: `term_size_bounded` shows that the terminal size
stays within the resize command's own clamps along every stream ("regenerated" here and below: a constant of
`Gen/*`, written by the translator from the Rust source on every run).
Loaders and rectangle commands:
* bitmap fonts (`BitFont::from_bytes`, also behind the `CTerm:Font:` DCS): the glyph loop runs at most once per byte of the
  file and the checksum loop at most max(512, file length) times, whatever height / length / charsize the header declares
  (`font_loader_cost`); this is proved FROM the zero-height guard found in the source (`font_zero_guard_present`) and fails
  without it (`font_loop_diverges_without_guard`);
* palette importers: at most one colour per byte of the file, whatever its count line announces (`palette_colours_le_bytes`);
* DECRQCRA visits at most width x height cells, DECFRA / DECERA / DECSERA at most width x max(rows present, height),
  for every parameter list (`rqcra_count_le`, `rect_count_le`); the guard text of the unclamped DECRQCRA loops is part of
  the loop inventory. -/
namespace IcyVerif.C03
open IcyVerif.Term

/-- every loop of the terminal-stream code that the model accounts for, as the 48-bit fingerprint of
    `file::fn::header [bound definition]` (the text is in the comment and in `Gen.Loops.loops`) -/
def knownLoopIds : List Nat := [
  203388126284514,   -- parsers/mod.rs::lf::while self.pos.y >= buf.layers[current_layer].lines.len() as i32
  126428441180987,   -- parsers/mod.rs::erase_charcter::for _ in 0..number [number = min(buf.terminal_state.get_width() - i, number)]
  133008129596596,   -- parsers/mod.rs::check_scrolling_on_caret_up::for _ in 0..steps [steps = (last.saturating_sub(self.pos.y)).min(buf.terminal_state.get_height())]
  12170991282525,   -- parsers/mod.rs::scroll_up::for x in start_column..=end_column [end_column = self.get_last_editable_column()]
  136316870764071,   -- parsers/mod.rs::scroll_up::(start_line..end_line).for_each [end_line = self.get_last_editable_line()]
  262002697356077,   -- parsers/mod.rs::scroll_down::for x in start_column..=end_column [end_column = self.get_last_editable_column()]
  231668604003529,   -- parsers/mod.rs::scroll_down::((start_line + 1)..=end_line).rev().for_each
  644990332521,   -- parsers/mod.rs::scroll_left::for i in start_line..=end_line [end_line = self.get_last_editable_line()]
  57877638774789,   -- parsers/mod.rs::scroll_right::for i in start_line..=end_line [end_line = self.get_last_editable_line()]
  162053793021590,   -- parsers/mod.rs::clear_buffer_down::for y in pos.y..self.get_last_visible_line()
  38803051704411,   -- parsers/mod.rs::clear_buffer_down::for x in 0..self.get_width()
  206571873139361,   -- parsers/mod.rs::clear_buffer_up::for y in self.get_first_visible_line()..pos.y
  82977877469592,   -- parsers/mod.rs::clear_buffer_up::for x in 0..self.get_width()
  266017184782112,   -- parsers/mod.rs::clear_line::for x in 0..self.get_width()
  216967187617199,   -- parsers/mod.rs::clear_line_end::for x in pos.x..self.get_width()
  261608968411101,   -- parsers/mod.rs::clear_line_start::for x in 0..pos.x
  172126641446036,   -- parsers/ansi/mod.rs::print_char::for i in 0..64
  37880302352809,   -- parsers/ansi/mod.rs::print_char::for b in m.as_bytes()
  246226998937849,   -- parsers/ansi/mod.rs::print_char::(0..buf.terminal_state.tab_count()).for_each
  278013456062273,   -- parsers/ansi/mod.rs::print_char::for _ in 0..number [number = min(*number, buf.terminal_state.get_width())]
  1660322948762,   -- parsers/ansi/mod.rs::print_char::for _ in 0..number [number = *number]
  108485408676630,   -- parsers/ansi/mod.rs::print_char::for _ in 0..min(*number, line_len)
  158796941833254,   -- parsers/ansi/mod.rs::print_char::for _ in 0..number [number = min(*number, buf.terminal_state.get_height())]
  271081030219619,   -- parsers/ansi/mod.rs::print_char::(0..num).for_each [num = min(num, buf.terminal_state.get_height())]
  111648938138143,   -- parsers/ansi/mod.rs::print_char::(0..num).for_each [num = min(num, buf.terminal_state.get_height())] #2
  224846332406421,   -- parsers/ansi/mod.rs::print_char::(0..num).for_each [num = min(num, buf.terminal_state.get_width().saturating_mul(buf.terminal_state.get_height()))]
  190528600599645,   -- parsers/ansi/mod.rs::print_char::(0..num).for_each [num = min(num, buf.terminal_state.tab_count() as i32 + 1)]
  51481091594342,   -- parsers/ansi/mod.rs::print_char::(0..num).for_each [num = min(num, buf.terminal_state.tab_count() as i32 + 1)] #2
  281022136991837,   -- parsers/ansi/mod.rs::invoke_macro_by_id::for ch in m.chars()
  237650164376874,   -- parsers/ansi/ansi_commands.rs::select_graphic_rendition::while i < self.parsed_numbers.len()
  41279561738007,   -- parsers/ansi/ansi_commands.rs::scroll_left::(0..num).for_each [num = num.min(buf.terminal_state.get_width())]
  171599094478279,   -- parsers/ansi/ansi_commands.rs::scroll_right::(0..num).for_each [num = num.min(buf.terminal_state.get_width())]
  158480357843142,   -- parsers/ansi/ansi_commands.rs::request_checksum_of_rectangular_area::for y in pt..pb [pb = self.parsed_numbers[4]] {guard: pt > pb || pl > pr || pr > buf.terminal_state.get_width() || pb > buf.terminal_state.get_height() || pl < 0 || pt < 0}
  38502396119993,   -- parsers/ansi/ansi_commands.rs::request_checksum_of_rectangular_area::for x in pl..pr [pr = self.parsed_numbers[5]] {guard: pt > pb || pl > pr || pr > buf.terminal_state.get_width() || pb > buf.terminal_state.get_height() || pl < 0 || pt < 0}
  114006608205224,   -- parsers/ansi/ansi_commands.rs::request_checksum_of_rectangular_area::for b in ch.attribute.attr.to_be_bytes()
  102835665758988,   -- parsers/ansi/ansi_commands.rs::request_checksum_of_rectangular_area::for b in ch.attribute.get_foreground().to_be_bytes()
  161869610143512,   -- parsers/ansi/ansi_commands.rs::request_checksum_of_rectangular_area::for b in ch.attribute.get_background().to_be_bytes()
  13263546534553,   -- parsers/ansi/ansi_commands.rs::fill_rectangular_area::for y in top_line..=bottom_line
  220635219371798,   -- parsers/ansi/ansi_commands.rs::fill_rectangular_area::for x in left_column..=right_column
  125396497144964,   -- parsers/ansi/ansi_commands.rs::erase_rectangular_area::for y in top_line..=bottom_line [bottom_line = self.parsed_numbers[offset + 2] .max(1) .min(buf.get_line_count().max(buf.terminal_state.get_height())) - 1]
  151209778952350,   -- parsers/ansi/ansi_commands.rs::erase_rectangular_area::for x in left_column..=right_column [right_column = self.parsed_numbers[offset + 3].max(1).min(buf.terminal_state.get_width()) - 1]
  242409457850471,   -- parsers/ansi/ansi_commands.rs::selective_erase_rectangular_area::for y in top_line..=bottom_line
  117568493873481,   -- parsers/ansi/ansi_commands.rs::selective_erase_rectangular_area::for x in left_column..=right_column
  104258745445048,   -- parsers/ansi/dcs.rs::push_repeated::for _ in 0..(n.max(0) as usize).min(room)
  267807463554554,   -- parsers/ansi/dcs.rs::execute_dcs::for ch in self.parse_string.chars()
  263942261828500,   -- parsers/ansi/dcs.rs::parse_hex_macro_sequence::for ch in self.parse_string[start_index..].chars()
  208965802564451,   -- parsers/ansi/osc.rs::parse_osc::for ch in self.parse_string.chars()
  59333638231237,   -- parsers/ansi/osc.rs::parse_osc::for a in OSC_PALETTE.captures_iter(&self.parse_string)
  25240594281441,   -- parsers/avatar/mod.rs::print_char::for _ in 0..repeat_count [repeat_count = (ch as usize).min(255)]
  279804614731691,   -- terminal_state.rs::reset_tabs::while i < self.get_width()
  151007286748451,   -- terminal_state.rs::next_tab_stop::while i < self.tab_stops.len() && self.tab_stops[i] <= x
  216312728822047,   -- terminal_state.rs::prev_tab_stop::while i >= 0 && self.tab_stops[i as usize] >= x
  88451286985492,   -- fonts.rs::fmt::for (y, b) in self.data.iter().enumerate()
  254679739834868,   -- fonts.rs::fmt::for i in 0..8
  154166043607708,   -- fonts.rs::calculate_checksum::for ch in 0..self.length
  117889436246693,   -- fonts.rs::calculate_checksum::for b in &glyph.data
  241381941161933,   -- fonts.rs::convert_to_u8_data::for ch in 0..self.length
  75843190773516,   -- fonts.rs::to_psf2_bytes::for i in 0..self.length
  161708487264824,   -- fonts.rs::glyphs_from_u8_data::while data.len() >= font_height
  207816280897166,   -- palette_handling.rs::load_palette::for (_, [r, g, b]) in HEX_REGEX.captures_iter(&data).map(|c| c.extract())
  2280331911125,   -- palette_handling.rs::load_palette::for (i, line) in data.lines().enumerate()
  147256833648363,   -- palette_handling.rs::load_palette::for (_, [r, g, b]) in PAL_REGEX.captures_iter(line).map(|c| c.extract())
  223769207628979,   -- palette_handling.rs::load_palette::for (i, line) in data.lines().enumerate() #2
  267398573337281,   -- palette_handling.rs::load_palette::for (i, line) in data.lines().enumerate() #3
  168223969727977,   -- palette_handling.rs::load_palette::for line in data.lines()
  160584003017280,   -- palette_handling.rs::export_lines::for c in &self.colors
  167572473013707,   -- palette_handling.rs::export_lines::for c in &self.colors #2
  64920024687084,   -- palette_handling.rs::export_lines::for c in &self.colors #3
  141981017646683,   -- palette_handling.rs::export_lines::for c in &self.colors #4
  163872262874269,   -- palette_handling.rs::export_lines::for c in &self.colors #5
  47975782806930,   -- palette_handling.rs::fill_to_16::(self.colors.len()..DOS_DEFAULT_PALETTE.len()).for_each
  133357773259086,   -- palette_handling.rs::is_default::for i in 0..DOS_DEFAULT_PALETTE.len()
  51230467820574,   -- palette_handling.rs::insert_color::for i in 0..self.colors.len()
  84286395416824,   -- palette_handling.rs::from::while o < pal.len()
  117082274575601,   -- palette_handling.rs::as_vec::for col in &self.colors
  88909030956191,   -- palette_handling.rs::from_63::while o < pal.len()
  78149143990703,   -- palette_handling.rs::as_vec_63::for col in &self.colors
  213368740633849   -- palette_handling.rs::get_checksum::for i in self.old_checksum..self.colors.len()
]

/-- the translator's inventory of the current source contains no loop outside the table -/
theorem all_loops_known : IcyVerif.Gen.Loops.loopIds.all (fun l => knownLoopIds.contains l) = true := by decide +kernel
theorem loop_inventory_complete : IcyVerif.Gen.Loops.loopIds.length = IcyVerif.Gen.Loops.loops.length := by decide +kernel

/-- the lower bound of the saturating cast `Term.sat` (upper bound: `Term.sat_le`); `RectCost.sat_ge` says the same of the
    rectangle driver's own copy `RectCost.sat`.  No theorem of this file uses it. -/
theorem sat_ge (v : Int) : -2147483648 ≤ sat v := by unfold sat; omega

/-- a parameter is at most `i32::MAX`, whatever digit string produced it -/
theorem parse_number_bounded (x : Int) (ch : Char) : parseNextNumber x ch ≤ 2147483647 := sat_le _

/-- REP prints at most one screenful, for every parameter -/
theorem rep_count_le (nums : List Int) (s : Scr) (h : ScrOk s) : repCount nums s ≤ 7920 := by
  have := h.tw1; have := h.tw2; have := h.th1; have := h.th2
  have hm : satMul s.tw s.th ≤ 7920 := by
    unfold satMul sat
    have : s.tw * s.th ≤ 132 * 60 := Int.mul_le_mul (by omega) (by omega) (by omega) (by omega)
    omega
  exact count_le _ _ 7920 hm

/-- cursor tabulation searches at most (number of tab stops + 1) times -/
theorem tab_count_le (nums : List Int) (s : Scr) : tabCount nums s ≤ s.tabs.length + 1 := count_le _ _ _ (Int.le_refl _)

theorem ich_count_le (nums : List Int) (s : Scr) (h : ScrOk s) : ichCount nums s ≤ 132 := count_le _ _ 132 h.tw2
theorem il_count_le (nums : List Int) (s : Scr) (h : ScrOk s) : ilCount nums s ≤ 60 := count_le _ _ 60 h.th2
theorem scroll_count_le (nums : List Int) (s : Scr) (h : ScrOk s) : scrollCount nums s ≤ 60 := count_le _ _ 60 h.th2
theorem scroll_lr_count_le (nums : List Int) (s : Scr) (h : ScrOk s) : scrollLRCount nums s ≤ 132 := count_le _ _ 132 h.tw2
theorem up_scroll_count_le (y : Int) (s : Scr) (h : ScrOk s) : upScrollCount y s ≤ 60 := count_le _ _ 60 h.th2
/-- DCH and DL are bounded by what is there: the characters of the row, the rows below -/
theorem dch_count_le (nums : List Int) (rowChars : Int) : (dchCount nums rowChars : Int) ≤ max rowChars 0 := count_le_max _ _
theorem dl_count_le (nums : List Int) (rowsBelow : Int) : (dlCount nums rowsBelow : Int) ≤ max rowsBelow 0 := count_le_max _ _

/-- appending a repeat group never grows a macro beyond the macro space (unless it already was longer);
    sizes are `String::len`, i.e. UTF-8 bytes, as in `push_repeated` -/
theorem pushRepeated_len (dst r : List Char) (n : Int) :
    strLen (pushRepeated dst r n) ≤ max (strLen dst) MAX_MACRO_LEN := by
  unfold pushRepeated
  split
  · omega
  · simp only [strLen_append, strLen_replicate]
    have h1 : min n.toNat ((MAX_MACRO_LEN - strLen dst) / strLen r) * strLen r ≤ MAX_MACRO_LEN - strLen dst := by
      calc min n.toNat ((MAX_MACRO_LEN - strLen dst) / strLen r) * strLen r
          ≤ ((MAX_MACRO_LEN - strLen dst) / strLen r) * strLen r := Nat.mul_le_mul_right _ (Nat.min_le_right _ _)
        _ ≤ MAX_MACRO_LEN - strLen dst := Nat.div_mul_le_self _ _
    omega

/-- … and so is the number of characters a later invocation replays -/
theorem pushRepeated_chars (dst r : List Char) (n : Int) :
    (pushRepeated dst r n).length ≤ max (strLen dst) MAX_MACRO_LEN :=
  Nat.le_trans (length_le_strLen _) (pushRepeated_len dst r n)

/-- the end of the expansion budget: with no budget left `replay` does nothing (that each replayed character pays one
    unit is `Term.replay_pot`, and the bound it gives is `macro_expansion_bounded`) -/
theorem replay_budget (stepf : St → Char → R) (body : List Char) (st : St) (h : st.p.budget = 0) :
    replay stepf body st = .ok st := by
  cases body with
  | nil => rfl
  | cons c rest => unfold replay; simp [h]

/-- macro nesting clause: whatever macros are defined (self-invoking, mutually recursive, fan-out), one input
    character makes the parser execute at most 1 + 65536 character steps (`tick` counts outer and replayed steps) -/
theorem macro_expansion_bounded (cfg : Cfg) (o : Nat → Orc) (st st' : St) (ch : Char) (out : Out)
    (h : step cfg o st ch = .ok (st', out)) : st'.p.tick ≤ st.p.tick + 1 + 65536 :=
  macro_steps_bounded cfg o st st' ch out h

/-- and a whole stream of n characters at most n * 65537 steps -/
theorem stream_steps_bounded (cfg : Cfg) (o : Nat → Orc) : ∀ (cs : List Char) (st st' : St),
    run cfg o st cs = .ok st' → st'.p.tick ≤ st.p.tick + cs.length * 65537 := by
  intro cs
  induction cs with
  | nil => intro st st' h; simp only [run] at h; cases h; simp
  | cons c rest ih =>
    intro st st' h
    unfold run at h
    have h1 := fun st1 out => macro_steps_bounded cfg o st st1 c out
    generalize step cfg o st c = x at h h1
    rcases x with e | ⟨st1, out⟩
    · cases h
    · have h1 := h1 st1 out rfl
      have h2 := ih st1 st' h
      simp only [List.length_cons, MAX_MACRO_EXPANSION] at *
      have : (rest.length + 1) * 65537 = rest.length * 65537 + 65537 := by omega
      omega

/-- the zero-height guard of `glyphs_from_u8_data` is in the source (regenerated flag); the same statement as
    `C02.glyph_guard_present` -/
theorem font_zero_guard_present : IcyVerif.Gen.FontPal.glyphZeroGuard = true := by decide

/-- font loaders: whatever the header declares (PSF1 character height 0..255 and mode, PSF2 headersize / length /
    charsize / height / width up to 2^32 - 1), loading `d` runs the glyph loop at most `|d|` times and the checksum loop at
    most `max 512 |d|` times — and never panics or diverges on the way (`.ok` / `.err` are the only outcomes) -/
theorem font_loader_cost (d : List Nat) :
    (∀ s, IcyVerif.FontLoad.fontFromBytes d.toArray ≠ .panic s) ∧
    ∀ f, IcyVerif.FontLoad.fontFromBytes d.toArray = .ok f → f.iters ≤ d.length ∧ f.cksum ≤ max 512 d.length := by
  have h := IcyVerif.FontLoad.fontFromBytes_sat font_zero_guard_present d.toArray
  refine ⟨h.noPanic, ?_⟩
  intro f hf
  rw [hf] at h
  have h2 : f.iters ≤ d.toArray.size ∧ f.cksum ≤ max 512 d.toArray.size := h
  simpa using h2

/-- "a PSF1 font header with character height 0 never consumes its data": without the guard the loop does not end -/
theorem font_loop_diverges_without_guard (hg : IcyVerif.Gen.FontPal.glyphZeroGuard = false) (d : List Nat) :
    IcyVerif.FontLoad.glyphsFrom 0 d.toArray 0 = .panic IcyVerif.FontLoad.sDiverge :=
  IcyVerif.FontLoad.glyphsFrom_needs_guard hg d.toArray 0 (Nat.zero_le _)

/-- palette importers: a file of n bytes yields at most n colours in every format — colours are pushed one per regex match
    (each match consumes at least one character of a line); the JASC / GIMP / ICE / Paint.NET COUNT LINE is never used as
    a size, whatever number stands there -/
theorem palette_colours_le_bytes (f : IcyVerif.Palette.Fmt) (d : List Nat) (cs : List IcyVerif.Palette.Rgb)
    (h : IcyVerif.PalLoad.palLoad f d = .ok cs) : cs.length ≤ d.length := by
  have h1 := IcyVerif.PalLoad.palLoad_length f d
  rw [h] at h1
  exact h1

/-- DECRQCRA (`CSI Pid;Pp;Pt;Pl;Pb;Pr * y`): the checksum loops visit at most width x height cells for every parameter list -/
theorem rqcra_count_le (nums : List Int) (tw th : Int) : IcyVerif.RectCost.rqcraCount nums tw th ≤ tw.toNat * th.toNat := by
  unfold IcyVerif.RectCost.rqcraCount
  split
  · rename_i h
    have hb := IcyVerif.RectCost.rqcraOk_bounds h
    rw [Nat.mul_comm tw.toNat th.toNat]
    exact Nat.mul_le_mul (by omega) (by omega)
  · exact Nat.zero_le _

/-- DECFRA (`off` = 1), DECERA, DECSERA (`off` = 0): at most width x max(rows present, height) cells for every parameter list -/
theorem rect_count_le (nums : List Int) (off : Nat) (lines tw th : Int) (h1 : 1 ≤ tw) (h2 : 1 ≤ th) :
    IcyVerif.RectCost.rectCount nums off lines tw th ≤ tw.toNat * (max lines th).toNat := by
  unfold IcyVerif.RectCost.rectCount
  split
  · exact IcyVerif.RectCost.areaCount_le nums off lines tw th h1 h2
  · exact Nat.zero_le _

/-- a rectangle parameter is at most `i32::MAX` however many digits it has (own copy of the number model for the
    rectangle driver) -/
theorem rect_param_bounded (ds : List Nat) : IcyVerif.RectCost.paramOf ds ≤ 2147483647 :=
  IcyVerif.RectCost.foldl_parse_le ds 0 (by omega)

/-- the clamps of the text-area resize `CSI 8 ; rows ; cols t` as found in the source (regenerated) -/
theorem resize_clamps_from_source :
    IcyVerif.Gen.TermResize.minW = 1 ∧ IcyVerif.Gen.TermResize.maxW = 132 ∧
    IcyVerif.Gen.TermResize.minH = 1 ∧ IcyVerif.Gen.TermResize.maxH = 60 ∧ IcyVerif.Gen.TermResize.sizeSetters = 2 := by decide

/-- the terminal size stays within the resize command's own clamps along EVERY stream — resizes, resets, macros included:
    this is what turns the per-command bounds above (stated for a screen satisfying `ScrOk`) into absolute bounds -/
theorem term_size_bounded (w h : Int) (hw1 : 1 ≤ w) (hw2 : w ≤ 132) (hh1 : 1 ≤ h) (hh2 : h ≤ 60)
    (cfg : Cfg) (o : Nat → Orc) (bytes : List Char) (st : St) (hrun : run cfg o (initSt w h) bytes = .ok st) :
    IcyVerif.Gen.TermResize.minW ≤ st.s.tw ∧ st.s.tw ≤ IcyVerif.Gen.TermResize.maxW ∧
    IcyVerif.Gen.TermResize.minH ≤ st.s.th ∧ st.s.th ≤ IcyVerif.Gen.TermResize.maxH ∧ ScrOk st.s := by
  have hk : ScrOk st.s := (run_reach w h hw1 hw2 hh1 hh2 cfg o bytes st hrun).scr
  exact ⟨hk.tw1, hk.tw2, hk.th1, hk.th2, hk⟩

/-- … so after ANY stream (for instance one that asked for 2^31 - 1 rows) a repeat-style command runs at most a screenful of
    the largest screen: REP <= 7920 characters, scrolls / line inserts <= 60, column inserts <= 132 -/
theorem repeat_counts_absolute (w h : Int) (hw1 : 1 ≤ w) (hw2 : w ≤ 132) (hh1 : 1 ≤ h) (hh2 : h ≤ 60)
    (cfg : Cfg) (o : Nat → Orc) (bytes : List Char) (st : St) (hrun : run cfg o (initSt w h) bytes = .ok st) (nums : List Int) :
    repCount nums st.s ≤ 7920 ∧ scrollCount nums st.s ≤ 60 ∧ ilCount nums st.s ≤ 60 ∧ ichCount nums st.s ≤ 132 ∧
    scrollLRCount nums st.s ≤ 132 ∧ ∀ y, upScrollCount y st.s ≤ 60 := by
  have hk := (run_reach w h hw1 hw2 hh1 hh2 cfg o bytes st hrun).scr
  exact ⟨rep_count_le nums st.s hk, scroll_count_le nums st.s hk, il_count_le nums st.s hk, ich_count_le nums st.s hk,
    scroll_lr_count_le nums st.s hk, fun y => up_scroll_count_le y st.s hk⟩

/-- the terminal size after a stream (0 x 0 when the model reports an arithmetic overflow) -/
def sizeAfter (bytes : String) : Int × Int :=
  match run { musicOpt := 0, bsCtrl := false } (fun _ => default) (initSt 80 25) bytes.toList with
  | .ok st => (st.s.tw, st.s.th)
  | .error _ => (0, 0)

/-- the model's resize clamps ARE the regenerated ones: asking for 2^31 - 1 (0) rows and columns yields exactly the maximum
    (minimum) found in the source — fails when either the source constants or the model literals change -/
theorem resize_clamps_attained :
    sizeAfter "\x1b[8;2147483647;2147483647t" = (IcyVerif.Gen.TermResize.maxW, IcyVerif.Gen.TermResize.maxH) ∧
    sizeAfter "\x1b[8;0;0t" = (IcyVerif.Gen.TermResize.minW, IcyVerif.Gen.TermResize.minH) ∧
    sizeAfter "\x1b[8;61;133t\x1b[2147483647S" = (132, 60) := by decide +kernel

/-- non-vacuity: the table is not empty and the clamps are attained (2147483599 is the largest value
    `parse_next_number` yields) -/
example : knownLoopIds.length = 78 := by decide
example : repCount [2147483599] (initScr 132 60) = 7920 := by decide +kernel
example : tabCount [2147483599] (initScr 80 25) = 11 := by decide +kernel
example : IcyVerif.RectCost.rqcraCount [1, 1, 0, 0, 25, 80] 80 25 = 2000 := by decide
example : IcyVerif.RectCost.rqcraCount [1, 1, 0, 0, 2147483599, 80] 80 25 = 0 := by decide
example : IcyVerif.RectCost.rectCount [2147483599, 0, 2147483599, 2147483599] 0 30 80 25 = 80 := by decide
example : IcyVerif.RectCost.rectCount [0, 0, 2147483599, 2147483599] 0 30 80 25 = 2400 := by decide
example : IcyVerif.RectCost.paramOf ("99999999999".toList.map Char.toNat) = 2147483599 := by decide +kernel
/-- (`BitFont::from_bytes` rejects a PSF1 header with character size 0; the glyph loop itself returns at once for
    height 0: `glyphsFrom`) -/
example : IcyVerif.FontLoad.fontFromBytes #[0x36, 0x04, 0, 0, 1, 2, 3] = .err := by decide
example : IcyVerif.FontLoad.glyphsFrom 0 #[0x36, 0x04, 0, 0, 1, 2, 3] 4 = .ok 0 := by decide

end IcyVerif.C03
