import IcyVerif.Lemmas.IgsCost
/-!
# C20, IGS cost part — the cost of the block operations of the DrawExecutor is bounded by the canvas size

C20, "every command finishes in time bounded by the canvas size rather than by its coordinate values", for the
two-dimensional block operations of the IGS `DrawExecutor`: the cost (loop rounds, pixel accesses) is a function in
the model (`Model/IgsCost.lean`: every loop repeated with counters), and for ALL corner coordinates it is at most
`K * width * height` of the current resolution.

 * `igs_blit_screen_cost`  — `blit_screen_to_screen` (GrabScreen mode 0): counters erased = the model function; rounds
   = `blitCost` ≤ width x height; two pixel accesses per round.
 * `igs_grab_screen_cost`  — `blit_screen_to_memory` (GrabScreen mode 1): the same with one access per round.
 * `igs_fill_rect_cost`    — `fill_rect` (FilledRectangle, Box): rounds = `fillCost` ≤ width x height, pixel writes ≤ rounds.
NOT proved (cost function in the model, tied by correspondence with the hook counter and bounded by the oracle only):
`blit_memory_to_screen` (GrabScreen modes 2 / 3; rounds ≤ (width + 1) x (height + 1) for a destination on the screen —
the loops leave at the screen edge). -/
namespace IcyVerif.C20
open IcyVerif

/-- `blit_screen_to_screen` for ALL coordinates: the instrumented function is the model function plus counters, the
rounds are `blitCost` (both extents clamped to the resolution) — at most width x height — and the pixel accesses are
two per round. -/
theorem igs_blit_screen_cost (p : IgsPaint.Paint) (fx fy tx ty dx dy : Int) :
    IgsPaint.blitScreenToScreenC p fx fy tx ty dx dy
        = (IgsPaint.blitScreenToScreen p fx fy tx ty dx dy).bind
            (fun p' => .ok (p', (IgsPaint.blitCost p fx fy tx ty, 2 * IgsPaint.blitCost p fx fy tx ty))) ∧
      IgsPaint.blitCost p fx fy tx ty ≤ (IgsPaint.resW p).toNat * (IgsPaint.resH p).toNat :=
  ⟨IgsPaint.blitScreenToScreenC_eq p fx fy tx ty dx dy, IgsPaint.blitCost_le p fx fy tx ty⟩

/-- non-vacuity: both extents huge on the fresh 320x200 canvas cost exactly one canvas -/
example : IgsPaint.blitCost IgsPaint.Paint.new 0 0 99999 99999 = 320 * 200 := by decide

/-- `blit_screen_to_memory` for ALL coordinates: the same with one `get_pixel` per round. -/
theorem igs_grab_screen_cost (p : IgsPaint.Paint) (fx fy tx ty : Int) :
    IgsPaint.blitScreenToMemoryC p fx fy tx ty
        = (IgsPaint.blitScreenToMemory p fx fy tx ty).bind
            (fun p' => .ok (p', (IgsPaint.blitCost p fx fy tx ty, IgsPaint.blitCost p fx fy tx ty))) ∧
      IgsPaint.blitCost p fx fy tx ty ≤ (IgsPaint.resW p).toNat * (IgsPaint.resH p).toNat :=
  ⟨IgsPaint.blitScreenToMemoryC_eq p fx fy tx ty, IgsPaint.blitCost_le p fx fy tx ty⟩

example : IgsPaint.blitCost IgsPaint.Paint.new 5 5 99999 7 = 320 * 2 := by decide

set_option linter.unusedVariables false in
/-- `fill_rect` for ALL corner coordinates: whenever the instrumented function returns, the model function returns
the same canvas, the rounds are `fillCost` (the clipped rectangle) — at most width x height — and the pixel writes are
at most the rounds.  (`hg` belongs to the statement as it was written down; the proof does not use it, hence the option.) -/
theorem igs_fill_rect_cost (p : IgsPaint.Paint) (hg : IgsPaint.Good p) (x0 y0 x1 y1 : Int) (r : IgsPaint.Paint × IgsPaint.Cost)
    (h : IgsPaint.fillRectC p x0 y0 x1 y1 = .ok r) :
    IgsPaint.fillRect p x0 y0 x1 y1 = .ok r.1 ∧ r.2.1 = IgsPaint.fillCost p x0 y0 x1 y1 ∧ r.2.2 ≤ r.2.1 ∧
      r.2.1 ≤ (IgsPaint.resW p).toNat * (IgsPaint.resH p).toNat := by
  obtain ⟨h1, h2, h3⟩ := IgsPaint.fillRectC_ok h
  exact ⟨h1, h2, by omega, by rw [h2]; exact IgsPaint.fillCost_le p x0 y0 x1 y1⟩

example : IgsPaint.fillCost IgsPaint.Paint.new 0 0 99999 99999 = 320 * 200 := by decide

end IcyVerif.C20
