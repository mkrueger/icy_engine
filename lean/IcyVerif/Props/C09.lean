import IcyVerif.Lemmas.TermWrap
import IcyVerif.Lemmas.TermOther
import IcyVerif.Lemmas.TermSize
/-! # C09 — cursor and fixed-grid geometry stay consistent under any stream
The theorems cover all ten text-mode emulations on a terminal buffer with scrollback: ANSI (all four music options,
with or without BS as control character) and its wrappers Avatar, PCBoard, Ctrl-A, Renegade; ASCII, ATASCII, PETSCII;
Viewdata and Mode 7, which keep their 40x24 page (fixed-grid clause).  `run` feeds a whole stream through `step`, one character at a time, so quantifying over
all streams covers every prefix.  A stream "requests a text-area resize" iff `resized` is set afterwards
(`CSI 8;h;w t`, also when executed from inside a macro). -/
namespace IcyVerif.C09
open IcyVerif.Term

/-- after every character of every resize-free stream the cursor is inside the visible screen -/
theorem cursor_in_screen (w h : Int) (hw1 : 1 ≤ w) (hw2 : w ≤ 132) (hh1 : 1 ≤ h) (hh2 : h ≤ 60)
    (cfg : Cfg) (o : Nat → Orc) (bytes : List Char) (st : St)
    (hrun : run cfg o (initSt w h) bytes = .ok st) (hres : st.p.resized = false) :
    0 ≤ st.c.x ∧ st.c.x < st.s.tw ∧ st.s.fv ≤ st.c.y ∧ st.c.y < st.s.fv + st.s.th :=
  (run_reach w h hw1 hw2 hh1 hh2 cfg o bytes st hrun).cursor hres

/-- the one-step form: from any good state, any character, any oracle -/
theorem cursor_in_screen_step (cfg : Cfg) (o : Nat → Orc) (st st' : St) (ch : Char) (out : Out)
    (hg : GoodSt st) (hstep : step cfg o st ch = .ok (st', out)) (hres : st'.p.resized = false) :
    0 ≤ st'.c.x ∧ st'.c.x < st'.s.tw ∧ st'.s.fv ≤ st'.c.y ∧ st'.c.y < st'.s.fv + st'.s.th := by
  have h := step_good cfg o st ch hg
  rw [hstep] at h
  exact GoodSt.cursor h hres

/-- after a stream that does not resize, the buffer is not shorter than the screen -/
theorem screen_not_below_buffer (w h : Int) (hw1 : 1 ≤ w) (hw2 : w ≤ 132) (hh1 : 1 ≤ h) (hh2 : h ≤ 60)
    (cfg : Cfg) (o : Nat → Orc) (bytes : List Char) (st : St)
    (hrun : run cfg o (initSt w h) bytes = .ok st) (hres : st.p.resized = false) : st.s.th ≤ st.s.bh :=
  ((run_reach w h hw1 hw2 hh1 hh2 cfg o bytes st hrun).inScr hres).1

/-- margins always lie inside the screen (what the repaired `set_margins_*` guarantees) -/
theorem margins_inside_screen (w h : Int) (hw1 : 1 ≤ w) (hw2 : w ≤ 132) (hh1 : 1 ≤ h) (hh2 : h ≤ 60)
    (cfg : Cfg) (o : Nat → Orc) (bytes : List Char) (st : St)
    (hrun : run cfg o (initSt w h) bytes = .ok st) :
    (∀ t b, st.s.mtb = some (t, b) → 0 ≤ t ∧ t ≤ b ∧ b < st.s.th) ∧
    (∀ l r, st.s.mlr = some (l, r) → 0 ≤ l ∧ l ≤ r ∧ r < st.s.tw) := by
  have hg := run_reach w h hw1 hw2 hh1 hh2 cfg o bytes st hrun
  exact ⟨hg.scr.mtb, hg.scr.mlr⟩

/-- the same for Avatar, PCBoard, Ctrl-A and Renegade (state machines in front of the ANSI parser) -/
theorem cursor_in_screen_wrapped (e : Emu) (w h : Int) (hw1 : 1 ≤ w) (hw2 : w ≤ 132) (hh1 : 1 ≤ h) (hh2 : h ≤ 60)
    (o : Nat → Orc) (bytes : List Char) (st : WSt)
    (hrun : wrun e o (initW w h) bytes = .ok st) (hres : st.inner.p.resized = false) :
    0 ≤ st.inner.c.x ∧ st.inner.c.x < st.inner.s.tw ∧ st.inner.s.fv ≤ st.inner.c.y ∧
      st.inner.c.y < st.inner.s.fv + st.inner.s.th := by
  have hg := wrun_good e o bytes (initW w h) (initSt_good w h hw1 hw2 hh1 hh2)
  rw [hrun] at hg
  exact GoodSt.cursor hg hres

/-- ASCII, ATASCII and PETSCII (scrolling terminals), Viewdata and Mode 7 (pages): cursor inside the screen after
    every character of every stream -/
theorem cursor_in_screen_bytes (e : Emu2) (w h : Int) (hw1 : 1 ≤ w) (hw2 : w ≤ 132) (hh1 : 1 ≤ h) (hh2 : h ≤ 60)
    (bytes : List Char) (st : OSt) (hrun : orun e (initO w h) bytes = .ok st) :
    0 ≤ st.c.x ∧ st.c.x < st.s.tw ∧ st.s.fv ≤ st.c.y ∧ st.c.y < st.s.fv + st.s.th := by
  exact (goodO_toSt st (orun_reach e w h hw1 hw2 hh1 hh2 bytes st hrun).1).cursor rfl

/-- Viewdata and Mode 7 keep exactly their 40x24 page: terminal size, buffer size and hence "no scrollback" -/
theorem fixed_grid (e : Emu2) (he : e = .viewdata ∨ e = .mode7) (bytes : List Char) (st : OSt)
    (hrun : orun e (initO 40 24) bytes = .ok st) :
    st.s.tw = 40 ∧ st.s.th = 24 ∧ st.s.bw = 40 ∧ st.s.bh = 24 ∧ st.s.fv = 0 := by
  obtain ⟨hgo, hf⟩ := orun_reach e 40 24 (by decide) (by decide) (by decide) (by decide) bytes st hrun
  have hs := orun_same e bytes (initO 40 24) st hrun
  obtain ⟨f1, f2⟩ := hf he
  have htw : st.s.tw = 40 := hs.1
  have hth : st.s.th = 24 := hs.2
  refine ⟨htw, hth, by rw [f2, htw], by rw [f1, hth], ?_⟩
  exact fixed_fv st ⟨hgo, ⟨f1, f2⟩⟩

/-- "the visible screen" is a fixed window: a stream that does not request a text-area resize never changes the
    terminal size — in particular not through a reset, form feed or clear screen while a scrollback exists (what
    `Buffer::reset_terminal` must guarantee by rebuilding the terminal state from the terminal size).  Together with
    `cursor_in_screen` this is the property with the *initial* width/height: column in `0..w-1`, row in the last
    `h` rows of the buffer. -/
theorem size_const (w h : Int) (cfg : Cfg) (o : Nat → Orc) (bytes : List Char) (st : St)
    (hrun : run cfg o (initSt w h) bytes = .ok st) (hres : st.p.resized = false) : st.s.tw = w ∧ st.s.th = h :=
  ((run_keeps cfg o bytes (initSt w h) st hrun).size hres).2

/-- the same for Avatar, PCBoard, Ctrl-A and Renegade -/
theorem size_const_wrapped (e : Emu) (w h : Int) (o : Nat → Orc) (bytes : List Char) (st : WSt)
    (hrun : wrun e o (initW w h) bytes = .ok st) (hres : st.inner.p.resized = false) :
    st.inner.s.tw = w ∧ st.inner.s.th = h :=
  ((wrun_keeps e o bytes (initW w h) st hrun).size hres).2

/-- ASCII, ATASCII, PETSCII, Viewdata and Mode 7 have no resize function: the size never changes -/
theorem size_const_bytes (e : Emu2) (w h : Int) (bytes : List Char) (st : OSt)
    (hrun : orun e (initO w h) bytes = .ok st) : st.s.tw = w ∧ st.s.th = h :=
  orun_same e bytes (initO w h) st hrun

/-- cursor clause with the initial size spelled out: after every character of every resize-free stream the column is
    in `0..w-1` and the row among the last `h` rows of the buffer (`bh - h ..= bh - 1`); `hbh`: the first visible row
    is a saturating subtraction, which is `bh - h` only while the buffer height fits `i32` -/
theorem cursor_in_initial_screen (w h : Int) (hw1 : 1 ≤ w) (hw2 : w ≤ 132) (hh1 : 1 ≤ h) (hh2 : h ≤ 60)
    (cfg : Cfg) (o : Nat → Orc) (bytes : List Char) (st : St)
    (hrun : run cfg o (initSt w h) bytes = .ok st) (hres : st.p.resized = false) (hbh : st.s.bh ≤ 2147483647) :
    0 ≤ st.c.x ∧ st.c.x < w ∧ st.s.bh - h ≤ st.c.y ∧ st.c.y < st.s.bh := by
  have hc := cursor_in_screen w h hw1 hw2 hh1 hh2 cfg o bytes st hrun hres
  have hb := screen_not_below_buffer w h hw1 hw2 hh1 hh2 cfg o bytes st hrun hres
  obtain ⟨hw, hh⟩ := size_const w h cfg o bytes st hrun hres
  have hfv := fv_eq st.s (run_reach w h hw1 hw2 hh1 hh2 cfg o bytes st hrun).scr hbh
  rw [hw, hh] at hc
  rw [hh] at hb hfv
  omega

/-- non-vacuity of `size_const`: scrollback, then soft reset, form feed and RIS — the size stays 7x4 -/
example : (match run { musicOpt := 0, bsCtrl := true } (fun _ => { lineLen := 0, extOk := true }) (initSt 7 4)
      "\n\n\n\n\n\n\n\x1b[!p\n\n\n\n\n\n\x0c\n\n\n\n\n\n\x1bc\n\n\n\n\n\n".toList with
    | .ok st => (st.s.tw, st.s.th, st.s.bh, st.p.resized) | .error _ => (-1, -1, -1, true)) = (7, 4, 7, false) := by decide +kernel

/-- non-vacuity: a stream that fills the scrollback, sets margins, tabs beyond the last stop and restores a
    stale saved position ends on the screen (the pinned tree left the cursor outside in each of these) -/
def demo : List Char := "\x1b[s\n\n\n\n\n\n\x1b[2;3r\x1b[99Y\x1b[u\x1b[!pA".toList
example : (match run { musicOpt := 0, bsCtrl := true } (fun _ => { lineLen := 0, extOk := true }) (initSt 7 4) demo with
    | .ok st => (st.c.x, st.c.y, st.s.fv, st.s.bh) | .error _ => (-1, -1, -1, -1)) = (1, 3, 3, 7) := by decide +kernel

/-- Avatar `^V ^H row col` with row and column 200: clamped to the last cell of the 80x25 screen -/
example : (match wrun .avatar (fun _ => { lineLen := 0, extOk := true }) (initW 80 25) "\x16\x08\u00c8\u00c8".toList with
    | .ok w => (w.inner.c.x, w.inner.c.y) | .error _ => (-1, -1)) = (79, 24) := by decide +kernel

end IcyVerif.C09
