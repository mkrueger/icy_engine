import IcyVerif.Lemmas.PaletteIdx
import IcyVerif.Lemmas.PaletteSix
import IcyVerif.Lemmas.PaletteFiles
import IcyVerif.Lemmas.PaletteStream
import IcyVerif.Lemmas.PaletteBridge
/-! # C16 — palette indices are stable, palette files round-trip, the 6-bit VGA codec is idempotent
Property theorems, non-vacuity examples and the few definitions the examples need.  Palettes are arbitrary lists (any
length), histories are arbitrary lists of operations, metadata are arbitrary strings (lists of code points).  After the
index laws, the codec and the palette files come the palette blocks inside whole XBin / IDF files and the call sites
(byte streams: SGR, `CSI t`, OSC 4, Tundra).  The property continues in `Props/C16b.lean` (colours as stored with
names; whole files for every font count). -/
namespace IcyVerif.C16
open IcyVerif.Palette IcyVerif.Gen.Palette

/-- adding a colour returns an index that resolves to exactly that colour (`p.length < 2^31`: indices with bit 31
    set mean "RGB encoded in the index" for `get_rgb`; such a palette would need 64 GiB) -/
theorem insert_resolves (p : List Rgb) (c : Rgb) (hlen : p.length < 2147483648) :
    getRgb (insertColor p c).1 (insertColor p c).2 = c := by
  rw [getRgb_of_lt _ _ (Nat.lt_of_le_of_lt (insertColor_idx_le p c) hlen)]
  exact insertColor_getD p c

/-- … and leaves every previously valid index resolving to its previous value -/
theorem insert_stable (p : List Rgb) (c : Rgb) (i : Nat) (hi : i < p.length) :
    getRgb (insertColor p c).1 i = getRgb p i :=
  keeps_insert.getRgb hi

/-- adding a colour that is already present returns its existing (first) index and changes nothing -/
theorem insert_existing (p : List Rgb) (c : Rgb) (h : c ∈ p) :
    insertColor p c = (p, firstIdx c p) ∧ firstIdx c p < p.length ∧ p.getD (firstIdx c p) black = c ∧
      ∀ j, j < firstIdx c p → p.getD j black ≠ c :=
  ⟨insertColor_mem p c h, (firstIdx_lt_iff c p).mpr h, getD_firstIdx c p black ((firstIdx_lt_iff c p).mpr h),
    fun j hj => firstIdx_first c p black j hj⟩

/-- a new colour goes to the end -/
theorem insert_new (p : List Rgb) (c : Rgb) (h : c ∉ p) : insertColor p c = (p ++ [c], p.length) :=
  insertColor_not_mem p c h

example : insertColor [⟨1, 2, 3⟩, ⟨9, 9, 9⟩, ⟨1, 2, 3⟩] ⟨1, 2, 3⟩ = ([⟨1, 2, 3⟩, ⟨9, 9, 9⟩, ⟨1, 2, 3⟩], 0) := by decide
example : insertColor [⟨1, 2, 3⟩, ⟨9, 9, 9⟩] ⟨4, 5, 6⟩ = ([⟨1, 2, 3⟩, ⟨9, 9, 9⟩, ⟨4, 5, 6⟩], 2) := by decide

/-- `set_color` resolves at its index (growing the palette with black if needed) and nowhere else -/
theorem set_resolves (p : List Rgb) (i : Nat) (c : Rgb) (hi : i < 2147483648) : getRgb (setColor p i c) i = c := by
  rw [getRgb_of_lt _ _ hi]; exact setColor_getD_self p i c

theorem set_stable (p : List Rgb) (i j : Nat) (c : Rgb) (h : j ≠ i) : getRgb (setColor p i c) j = getRgb p j :=
  getRgb_congr _ _ j (setColor_getD_ne p i j c h)

/-- HISTORIES: along every sequence of insert / set / lookup / push operations, an index that was valid keeps
    resolving to the same colour for as long as no `set_color` of that very index occurs -/
theorem history_stable (p : List Rgb) (ops : List Op) (i : Nat) (hi : i < p.length)
    (h : ∀ op ∈ ops, ¬ op.touches i) : getRgb (runOps p ops) i = getRgb p i :=
  (runOps_keeps h).getRgb hi

/-- … in particular the index returned by an insert keeps resolving to the inserted colour through every later
    history that does not overwrite it (cells store these indices) -/
theorem inserted_index_survives (p : List Rgb) (c : Rgb) (ops : List Op) (hlen : p.length < 2147483648)
    (h : ∀ op ∈ ops, ¬ op.touches (insertColor p c).2) :
    getRgb (runOps (insertColor p c).1 ops) (insertColor p c).2 = c := by
  rw [history_stable _ ops _ (insertColor_idx_lt p c) h]
  exact insert_resolves p c hlen

/-- the model's trace (what the driver prints) ends in the same palette as `runOps` -/
theorem trace_final (p : List Rgb) (ops : List Op) : (trace p ops).2 = runOps p ops := by
  induction ops generalizing p with
  | nil => rfl
  | cons op ops ih => simp only [trace, runOps, List.foldl]; exact ih _

example : (trace [] [.insert ⟨1, 2, 3⟩, .set 3 ⟨7, 7, 7⟩, .insert ⟨0, 0, 0⟩, .lookup 0, .insert ⟨7, 7, 7⟩]).1 =
    [.idx 0, .idx 1, .rgb ⟨1, 2, 3⟩, .idx 3] := by decide
example : ¬ (Op.insert ⟨1, 2, 3⟩).touches 0 ∧ (Op.set 0 ⟨1, 2, 3⟩).touches 0 := ⟨fun h => h, rfl⟩

/-- all 64 six-bit values, each channel (with the channel's own shifts from the source): `(c<<2 | c>>4) >> 2 = c` -/
theorem six_bit (k : Nat) (hk : k < 3) (v : Nat) (hv : v < 64) : chanDown k (chanUp k v) = v := six_chan k hk v hv

/-- `as_vec_63(from_63(bs)) = bs` for EVERY list of 6-bit values on which `from_63` does not panic -/
theorem asVec63_from63_eq (bs : List Nat) (p : List Rgb) (h : from63 bs = .ok p) (hb : ∀ b ∈ bs, b < 64) :
    asVec63 p = bs := by
  fun_induction from63 bs generalizing p with
  | case1 => cases h; rfl
  | case2 r g b rest cs hrest ih =>
    cases h
    have h3 : down6 (up6 ⟨r, g, b⟩) = ⟨r, g, b⟩ :=
      down6_up6 _ ⟨hb r (by simp), hb g (by simp), hb b (by simp)⟩
    have := ih cs hrest (fun x hx => hb x (by simp [hx]))
    simp only [asVec63, List.flatMap_cons] at this ⊢
    rw [this, h3]; rfl
  | case3 r g b rest e hrest ih => cases h
  | case4 t h1 h2 => cases h

/-- `from_63` succeeds exactly on whole triples; a ragged tail is the index panic -/
theorem from63_whole_triples (bs : List Nat) :
    (bs.length % 3 = 0 → ∃ p, from63 bs = .ok p ∧ 3 * p.length = bs.length) ∧
    (bs.length % 3 ≠ 0 → from63 bs = .error "palette_handling.rs::from_63") := by
  match bs with
  | [] => exact ⟨fun _ => ⟨[], rfl, rfl⟩, fun h => absurd rfl h⟩
  | [_] => exact ⟨fun h => by simp at h, fun _ => rfl⟩
  | [_, _] => exact ⟨fun h => by simp at h, fun _ => rfl⟩
  | r :: g :: b :: rest =>
    have ih := from63_whole_triples rest
    constructor
    · intro h
      obtain ⟨p, hp, hl⟩ := ih.1 (by simp at h; omega)
      exact ⟨_, from63_ok_cons r g b rest p hp, by simp; omega⟩
    · intro h
      have := ih.2 (by simp at h; omega)
      simp only [from63, this]

/-- IDEMPOTENCE: storing any 8-bit palette as 6-bit and loading it (`from_63 ∘ as_vec_63`) is a quantisation `Q`;
    doing it again changes nothing -/
theorem six_bit_idempotent (p : List Rgb) (hv : ∀ c ∈ p, c.Valid) :
    ∃ q, from63 (asVec63 p) = .ok q ∧ from63 (asVec63 q) = .ok q := by
  refine ⟨p.map q6, from63_asVec63 p, ?_⟩
  rw [from63_asVec63, List.map_map]
  exact congrArg _ (List.map_congr_left fun c hc => congrArg up6 (down6_q6 c (hv c hc)))

/-- ADF / EGA slots: a palette loaded with `from_ega_data` from 6-bit data, saved with `to_ega_data` and loaded
    again is the same palette -/
theorem ega_roundtrip (d : List Nat) (p : List Rgb) (hd : ∀ x ∈ d, x < 64) (h : fromEga d = .ok p) :
    fromEga (toEga p) = .ok p := by
  have hp : p = egaOffsets.map (slot d) := ((fromEgaGo_iff d egaOffsets p).mp h).2
  have hl : p.length = 16 := by rw [hp, List.length_map]; rfl
  have getD_lt64 : ∀ k, d.getD k 0 < 64 := fun k => by
    rw [List.getD_eq_getElem?_getD]
    cases hk : d[k]? with
    | none => decide
    | some x => exact hd x (List.mem_of_getElem? hk)
  -- every colour of `p` is the expansion of a 6-bit triple, so quantising it changes nothing
  rw [fromEga_toEga p (by omega), ← hl, List.take_length]
  congr 1
  conv => rhs; rw [← List.map_id p]
  apply List.map_congr_left
  intro c hc
  rw [hp] at hc
  obtain ⟨i, _, rfl⟩ := List.mem_map.mp hc
  exact q6_up6 _ ⟨getD_lt64 _, getD_lt64 _, getD_lt64 _⟩

/-- … and a palette of at least 16 `u8` colours saved, loaded and saved again gives the same 192 bytes -/
theorem ega_save_idempotent (p : List Rgb) (hv : ∀ c ∈ p, c.Valid) (hl : 16 ≤ p.length) :
    ∃ q, fromEga (toEga p) = .ok q ∧ toEga q = toEga p := by
  refine ⟨_, fromEga_toEga p hl, toEga_congr p _ hl (by simp; omega) ?_⟩
  rw [List.take_of_length_le (by simp; omega), List.map_map]
  exact List.map_congr_left fun c hc => down6_q6 c (hv c (List.mem_of_mem_take hc))

example : from63 [63, 0, 21, 1, 2, 3] = .ok [⟨255, 0, 85⟩, ⟨4, 8, 12⟩] := rfl
example : from63 [63, 0, 21, 1] = .error "palette_handling.rs::from_63" := rfl
example : asVec63 [⟨255, 0, 85⟩, ⟨4, 8, 12⟩] = [63, 0, 21, 1, 2, 3] := by decide
example : ∃ p, fromEga (List.replicate 192 21) = .ok p ∧ p.length = 16 :=
  ⟨_, fromEgaGo_ok _ egaOffsets (by decide +kernel), by rw [List.length_map]; rfl⟩

/-- EXPORT → IMPORT, all five formats, FULL strength: any title / author / description / colour names (any code
    points, including line breaks, digits, hex digits, comment characters), any number of `u8` colours: the
    imported palette has the same RGB sequence.  (Holds for the tree with the two `fix:` commits; on the pinned
    tree false, see `pinned_gpl_empty_description` and `unflattened_multiline_injects`.) -/
theorem export_import (f : Fmt) (p : Pal) (hv : p.ValidColors) :
    ∃ q, importM f (exportM f p) = some q ∧ q.rgbs = p.rgbs := by
  obtain ⟨q, h1, h2⟩ := import_exportLines f p.flatten (flatten_clean p) (flatten_valid p hv)
  exact ⟨q, h1, h2.trans (flatten_rgbs p)⟩

/-- non-vacuity: a palette with multi-line, digit- and hex-laden metadata and a named colour -/
def demo : Pal :=
  ⟨[120, 10, 49, 32, 50, 32, 51, 32, 121], [], [97, 97, 98, 98, 99, 99, 10, 70, 70, 48, 49, 48, 50, 48, 51],
   [⟨none, ⟨1, 22, 133⟩⟩, ⟨some [110, 10, 52, 32, 53, 32, 54, 32, 122], ⟨0, 0, 0⟩⟩, ⟨none, ⟨255, 254, 9⟩⟩]⟩
theorem demo_valid : demo.ValidColors := by
  unfold Pal.ValidColors Rgb.Valid; decide
example : (importM .gpl (exportM .gpl demo)).map Pal.rgbs = some demo.rgbs := by
  obtain ⟨q, h1, h2⟩ := export_import .gpl demo demo_valid; rw [h1, Option.map_some, h2]
example : (importM .ice (exportM .ice demo)).map Pal.rgbs = some demo.rgbs := by
  obtain ⟨q, h1, h2⟩ := export_import .ice demo demo_valid; rw [h1, Option.map_some, h2]
example : (importM .txt (exportM .txt demo)).map Pal.rgbs = some demo.rgbs := by
  obtain ⟨q, h1, h2⟩ := export_import .txt demo demo_valid; rw [h1, Option.map_some, h2]
example : (importM .pal (exportM .pal demo)).map Pal.rgbs = some demo.rgbs := by
  obtain ⟨q, h1, h2⟩ := export_import .pal demo demo_valid; rw [h1, Option.map_some, h2]
example : (importM .hex (exportM .hex demo)).map Pal.rgbs = some demo.rgbs := by
  obtain ⟨q, h1, h2⟩ := export_import .hex demo demo_valid; rw [h1, Option.map_some, h2]

/-- `import_palette` (dispatch on the file extension, any letter case folded by `to_ascii_lowercase`) reads back what
    `export_palette` wrote, for every extension it knows (pal, gpl, txt, hex; there is none for the ICE format) -/
theorem import_by_extension (p : Pal) (hv : p.ValidColors) :
    ∀ e ∈ importExts, ∃ f q, fmtOfNum e.2 = some f ∧ importByExt e.1 (exportM f p) = some q ∧ q.rgbs = p.rgbs := by
  intro e he
  have hk : ∀ s, importByExt e.1 s = (fmtOfNum e.2).bind (importM · s) ∧ (fmtOfNum e.2).isSome := by
    simp only [importExts, List.mem_cons, List.not_mem_nil, or_false] at he
    rcases he with rfl | rfl | rfl | rfl <;> exact fun s => ⟨rfl, rfl⟩
  obtain ⟨f, hf⟩ := Option.isSome_iff_exists.mp (hk []).2
  obtain ⟨q, h1, h2⟩ := export_import f p hv
  exact ⟨f, q, hf, by rw [(hk _).1, hf]; exact h1, h2⟩

example : importByExt [80, 65, 76] (exportM .pal demo) = importM .pal (exportM .pal demo) := rfl
example : importByExt [105, 99, 101] (exportM .ice demo) = none := rfl

/-- `Color::from_hex(c.to_hex()) = c` -/
theorem color_hex_roundtrip (c : Rgb) (h : c.Valid) : colorFromHex (colorToHex c) = some c := by
  have e : colorToHex c = 35 :: hex6 c := by simp [colorToHex, hex6]
  have h35 : hexRun 6 (35 :: hex6 c) = none := by simp [hexRun, isHex]
  rw [e, colorFromHex, findFirst, h35, findFirst_hex6, Option.map_some, rgbOfHex6_hex6 c h]

/-- why `export_palette` must flatten: writing `demo` through `export_lines` directly (as the pinned tree did)
    lets the second line of its title come back as a colour -/
theorem unflattened_multiline_injects : (importM .gpl (exportLines .gpl demo)).map Pal.rgbs ≠ some demo.rgbs := by
  decide +kernel

/-- the GPL colour-line tail of the pinned tree (cdb5b60), `\s+(.+)`: at least one blank, then at least one more
    character (possibly a blank given back by the greedy `\s+`) -/
def pinnedGplTail (rest : List Nat) : Bool :=
  !(rest.takeWhile isWs).isEmpty && (!(rest.dropWhile isWs).isEmpty || 2 ≤ (rest.takeWhile isWs).length)

set_option linter.unusedVariables false in
/-- THE GPL DEFECT OF THE PINNED TREE: every colour line written for an empty description (`"  1  22 133 "`) fails
    the pinned tail, so the pinned importer skipped all colours; the repaired tail `\s*(.*)` accepts any rest
    (for every number, not only bytes: `h` is not needed) -/
theorem pinned_gpl_empty_description (c : Rgb) (h : c.Valid) :
    ∃ t, findFirst rgbAt (gplLine c []) = some (t, [32]) ∧ pinnedGplTail [32] = false :=
  ⟨_, findFirst_gplLine c [], by decide⟩

/-! ## palette blocks inside whole files (XBin, IDF): the functions of the whole-file model of C05 -/

/-- load → save → load of an XBin / IDF palette block gives the same palette, for EVERY block of bytes (values above
    63 included: the decoder drops the two high bits, the quantisation is a fixed point after one step) -/
theorem file_block_idempotent (bs : List Nat) (hb : ∀ b ∈ bs, b < 256) :
    BinFormats.from63 (BinFormats.asVec63 (BinFormats.from63 bs)) = BinFormats.from63 bs :=
  PaletteBridge.from63_asVec63_from63 bs hb

/-- save → load → save of a 6-bit block gives the same bytes (all 64 values of every channel) -/
theorem file_block_six_bit (bs : List Nat) (hb : ∀ b ∈ bs, b < 64) (h3 : bs.length % 3 = 0) :
    BinFormats.asVec63 (BinFormats.from63 bs) = bs := by
  rw [PaletteBridge.asVec63_bridge]
  exact asVec63_from63_eq bs _ (PaletteBridge.from63_bridge bs h3) hb

/-- the decoder of the whole-file model IS `from63` of this property's model -/
theorem file_decoder_is_from63 (bs : List Nat) (h3 : bs.length % 3 = 0) :
    from63 bs = .ok ((BinFormats.from63 bs).map PaletteBridge.toC16) := PaletteBridge.from63_bridge bs h3

example : BinFormats.from63 [39, 64, 255] = [(158, 4, 255)] := by decide
example : BinFormats.asVec63 (BinFormats.from63 [39, 64, 255]) = [39, 1, 63] := by decide

/-! ## the call sites: byte streams (ANSI SGR / `CSI … t` / OSC 4) and Tundra colour records

State = (palette, caret foreground index, caret background index); a byte stream is decoded into operations
(`Model/PalStream.lean`).  All statements are for EVERY state / EVERY history of operations. -/
section stream
open IcyVerif.PalStream IcyVerif.Gen.PalStream

/-- THE INVARIANT over all histories: whenever the caret's foreground (background) was last selected BY COLOUR `c`
    (38;5;n, 38;2;r;g;b, `CSI 1;r;g;b t`, a Tundra colour record) and the entry it was given has not been redefined by
    OSC 4 since, the index the caret holds lies inside the palette and resolves to exactly `c` -/
theorem tracked_resolves (s : St) (ops : List PalStream.Op) : Good (run s ops) (trackRun s Want.none ops) :=
  good_run ops s Want.none (good_none s)

/-- SELECT RESOLVES: after any history, a colour-selecting operation hands out an index that resolves to the colour -/
theorem select_resolves (s : St) (ops : List PalStream.Op) (c : Rgb) :
    (exec (run s ops) (.insFg c)).fg < (exec (run s ops) (.insFg c)).pal.length ∧
    (exec (run s ops) (.insFg c)).pal.getD (exec (run s ops) (.insFg c)).fg black = c ∧
    (exec (run s ops) (.insBg c)).bg < (exec (run s ops) (.insBg c)).pal.length ∧
    (exec (run s ops) (.insBg c)).pal.getD (exec (run s ops) (.insBg c)).bg black = c :=
  ⟨insertColor_idx_lt _ c, insertColor_getD _ c, insertColor_idx_lt _ c, insertColor_getD _ c⟩

/-- … also through `get_rgb` (bit 31 of an index means "RGB given directly"): streams redefine only entries below
    256 (`osc_only_redefines`), so the palette stays far below 2^31 entries -/
theorem select_resolves_rgb (s : St) (ops : List PalStream.Op) (c : Rgb) (hb : ∀ op ∈ ops, op.bound ≤ 256)
    (hlen : max s.pal.length 256 + ops.length + 1 < 2147483648) :
    getRgb (exec (run s ops) (.insFg c)).pal (exec (run s ops) (.insFg c)).fg = c := by
  have h1 := run_len_le ops s 256 hb
  have h2 := (select_resolves s ops c).1
  have h3 := insertColor_length_le (run s ops).pal c
  rw [getRgb_of_lt _ _ (by simp only [exec] at h2 ⊢; omega)]
  exact (select_resolves s ops c).2.1

/-- INSERT-ONLY STABLE: a history without OSC 4 redefinitions never changes what a valid index resolves to -/
theorem insert_only_stable (s : St) (ops : List PalStream.Op) (i : Nat) (hi : i < s.pal.length)
    (h : ∀ op ∈ ops, op.isSet = false) : getRgb (run s ops).pal i = getRgb s.pal i :=
  (run_keeps fun op ho => not_sets_of_not_isSet (h op ho) i).getRgb hi

/-- … and with redefinitions in the history: index `i` is stable as long as no OSC 4 names `i` itself -/
theorem stream_history_stable (s : St) (ops : List PalStream.Op) (i : Nat) (hi : i < s.pal.length)
    (h : ∀ op ∈ ops, ¬ op.sets i) : getRgb (run s ops).pal i = getRgb s.pal i :=
  (run_keeps h).getRgb hi

/-- OSC 4 changes exactly entry `k` (growing the palette with black up to `k`), and not the caret -/
theorem osc4_changes_exactly (s : St) (k : Nat) (c : Rgb) (hk : k < 2147483648) :
    (exec s (.set k c)).fg = s.fg ∧ (exec s (.set k c)).bg = s.bg ∧ getRgb (exec s (.set k c)).pal k = c ∧
    ∀ j, j ≠ k → getRgb (exec s (.set k c)).pal j = getRgb s.pal j :=
  ⟨rfl, rfl, set_resolves s.pal k c hk, fun j hj => set_stable s.pal k j c hj⟩

/-- which sequences can do what: SGR and `CSI … t` never redefine an entry, OSC does nothing but redefine entries
    0..=255 (it never moves the caret colours), loading a Tundra file only inserts -/
theorem sgr_never_redefines (nums : List Nat) : ∀ op ∈ (sgrOps nums).1, op.isSet = false := map_toOp_noSet _
theorem csi_t_never_redefines (nums : List Nat) : ∀ op ∈ (tOps nums).1, op.isSet = false := map_toOp_noSet _

theorem osc_only_redefines (payload : List Nat) :
    ∀ op ∈ (oscOps payload).1, ∃ k c, op = .set k c ∧ k ≤ 255 := by
  unfold oscOps
  intro op h
  simp only [] at h
  split at h
  · simp only [setOps, List.mem_map] at h
    obtain ⟨kc, hk, rfl⟩ := h
    exact ⟨kc.1, kc.2, rfl, oscSets_le _ kc hk⟩
  · split at h <;> simp at h

theorem tnd_only_inserts (data : List Nat) (ops : List PalStream.Op) (e : End) (h : tndOps data = some (ops, e)) :
    ∀ op ∈ ops, op.isSet = false := by
  unfold tndOps at h
  split at h
  · cases h
  · split at h
    · cases h
    · simp only [Option.some.injEq, Prod.mk.injEq] at h
      rw [← h.1]; exact map_toOp_noSet _

/-- `ESC[38;5;n m` at ANY state (so: after any history, including OSC 4 redefinitions of the index an earlier lookup
    of the same `n` was given): no error, and the caret foreground resolves to `XTERM_256_PALETTE[n]` -/
theorem sgr_256_resolves (s : St) (n : Nat) (h : n ≤ 255) :
    (sgrOps [38, 5, n]).2 = true ∧
    (run s (sgrOps [38, 5, n]).1).pal.getD (run s (sgrOps [38, 5, n]).1).fg black = xterm n ∧
    (sgrOps [48, 5, n]).2 = true ∧
    (run s (sgrOps [48, 5, n]).1).pal.getD (run s (sgrOps [48, 5, n]).1).bg black = xterm n := by
  have e1 : sgrOps [38, 5, n] = ([.insFg (xterm n)], true) := sgrOps_fg256 n h
  have e2 : sgrOps [48, 5, n] = ([.insBg (xterm n)], true) := sgrOps_bg256 n h
  rw [e1, e2]
  exact ⟨rfl, insertColor_getD _ _, rfl, insertColor_getD _ _⟩

/-- the same for the 24-bit foreground selection `ESC[38;2;r;g;b m` -/
theorem sgr_rgb_resolves (s : St) (c : Rgb) (h : c.Valid) :
    (sgrOps [38, 2, c.r, c.g, c.b]).2 = true ∧
    (run s (sgrOps [38, 2, c.r, c.g, c.b]).1).pal.getD (run s (sgrOps [38, 2, c.r, c.g, c.b]).1).fg black = c := by
  have e1 : sgrOps [38, 2, c.r, c.g, c.b] = ([.insFg c], true) := sgrOps_fgRgb c h
  rw [e1]
  exact ⟨rfl, insertColor_getD _ _⟩

/-- CELLS STORE INDICES: a cell written while the caret's foreground stood for colour `c` still shows `c` at the end
    of the history, unless an OSC 4 redefined that very entry afterwards -/
theorem cell_keeps_colour (s : St) (a b : List PalStream.Op) (t : Nat) (c : Rgb)
    (hw : (trackRun s Want.none a).fg = some c) (hb : ∀ op ∈ b, ¬ op.sets (run s a).fg) :
    (t, (run s a).fg, (run s a).bg) ∈ cells s (a ++ .put t :: b) ∧
    (run s (a ++ .put t :: b)).pal.getD (run s a).fg black = c := by
  refine ⟨cells_put s a b t, ?_⟩
  have hg := (tracked_resolves s a).1
  rw [hw] at hg
  rw [run_append, run_cons]
  show (run (run s a) b).pal.getD _ black = c
  rw [(run_keeps hb).get hg.1]
  exact hg.2

/-- a loaded Tundra palette starts with black and holds no colour twice (every record of a present colour got the
    existing index) -/
theorem tnd_palette_nodup (data : List Nat) (ops : List PalStream.Op) (e : End) (h : tndOps data = some (ops, e)) :
    (run tndStart ops).pal.Nodup ∧ (run tndStart ops).pal.getD 0 black = black := by
  refine ⟨run_nodup ops tndStart (tnd_only_inserts data ops e h) (by simp [tndStart]), ?_⟩
  rw [(run_keeps fun op ho => not_sets_of_not_isSet (tnd_only_inserts data ops e h op ho) 0).get (by simp [tndStart])]
  rfl

/-- `fill_to_16` and `resize` keep every index that survives them; `resize n` leaves exactly `n` colours -/
theorem fill_to_16_stable (p : List Rgb) (i : Nat) (hi : i < p.length) : getRgb (fillTo16 p) i = getRgb p i :=
  (fillTo16_keeps p i).getRgb hi
theorem resize_stable (p : List Rgb) (n i : Nat) (hi : i < p.length) (hn : i < n) :
    (resize p n).length = n ∧ getRgb (resize p n) i = getRgb p i :=
  ⟨resize_length p n, getRgb_congr _ _ i (resize_getD p n i hi hn)⟩

/-! non-vacuity: the stream `ESC[38;5;196m`, `ESC]4;16;rgb:01/02/03 ESC\`, `ESC[38;5;196m` from the DOS palette -/
example : parseSeq [27, 91, 51, 56, 59, 53, 59, 49, 57, 54, 109] = .sgr [38, 5, 196] := by decide
example : oscOps [52, 59, 49, 54, 59, 114, 103, 98, 58, 48, 49, 47, 48, 50, 47, 48, 51] = ([.set 16 ⟨1, 2, 3⟩], true) := by
  decide +kernel
theorem xterm_196 : xterm 196 = ⟨255, 0, 0⟩ := by decide +kernel
example : let s := run ⟨dosDefault, 7, 0⟩ [.insFg (xterm 196), .set 16 ⟨1, 2, 3⟩, .insFg (xterm 196)]
    (s.fg, s.pal.length, s.pal.getD s.fg black) = (17, 18, ⟨255, 0, 0⟩) := by rw [xterm_196]; decide +kernel
example : (trackRun ⟨dosDefault, 7, 0⟩ Want.none [.insFg (xterm 196), .set 16 ⟨1, 2, 3⟩]).fg = none := by
  rw [xterm_196]; decide +kernel
example : (trackRun ⟨dosDefault, 7, 0⟩ Want.none [.insFg (xterm 196), .set 3 ⟨1, 2, 3⟩, .put 0]).fg = some (xterm 196) := by
  rw [xterm_196]; decide +kernel
example : tOps [5, 300, 2, 3] = ([.ins ⟨44, 2, 3⟩], false) := by decide
example : resize [⟨1, 1, 1⟩] 3 = [⟨1, 1, 1⟩, ⟨0, 0, 170⟩, ⟨0, 170, 0⟩] := by decide +kernel

end stream

end IcyVerif.C16
