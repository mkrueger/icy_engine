import IcyVerif.Props.C11
import IcyVerif.Lemmas.SauceLoad
/-! # C11, last sentence — "the picture loaded from content+EOF+SAUCE equals the picture loaded from the content alone",
COMPOSED with the format loaders for the five binary formats (xb bin adf idf tnd).

`Props/C11.lean` proves the sentence at the dispatch level (`load_ignores_sauce`: the slice handed to the loader is
`content`, the record is `carry k b`).  Here the loader behind the dispatch is the C05 model
(`Model/BinFormats.lean`): `SauceLoad.fromBytes` = `fromBytesSplit` (full `SauceData::extract`, 0..=255
comment lines) followed by `BinFormats.loadBody` — which is C05's own `BinFormats.fromBytes`
(`binformats_from_bytes_is_this`): the two models of `Buffer::from_bytes` are one.

* `load_composed`  — for ALL content bytes and ALL metadata: `from_bytes (content ++ EOF ++ SAUCE)` IS the format
  loader applied to `content` and the carried record; `load_plain`: a file without a record goes to the loader whole.
* `record_xb … record_tnd` — the SAUCE rule per loader: what of the record (`set_sauce(.., true)`:
  width with the 0 / >1000 → 80 rule, height, ice flag, a font NAMED in it) survives in the loaded buffer.
* `load_ignores_sauce_bin`, `load_ignores_sauce_tnd` — both together for the variant each writer appends
  (`loaders` table regenerated from `src/formats/*.rs`): at the loader's default width / ice mode / font the loaded
  buffer is the one loaded from the content alone.

The loader model KEEPS the record's texts and flags in the loaded buffer (`LBuf.sauce`; `Buffer::set_sauce` stores them
for the next save) and models `set_sauce` replacing font slot 0 by a font NAMED in the record
(`BitFont::from_sauce_name`).  "The same buffer" therefore reads `outMap (keep m) (load content)`: every field of the
buffer loaded from the content alone — sizes, rows, ice mode, palette, fonts — and next to it the kept record `m`
(metadata, no part of the picture); and "the record's … font settings equal the loader's defaults" is a hypothesis where
a record can name a font that a loader would install (BIN: `fontAtDefault`; XBin and Tundra records carry no font name,
ADF and IDF files embed their font, IDF never applies the record).  The Tundra width rule is `tndRuleW`: widths above
1000 are taken as they are. -/
namespace IcyVerif.C11
open IcyVerif.Sauce IcyVerif.Gen.Sauce IcyVerif.SauceLoad IcyVerif.BinFormats IcyVerif.Gen

/-- C05's `BinFormats.fromBytes` is this composition (at C05's date predicate, outcome levels flattened) -/
theorem binformats_from_bytes_is_this (f : Fmt) (bytes : List Nat) :
    BinFormats.fromBytes f bytes =
      (match SauceLoad.fromBytes BinFormats.dateOk f bytes with
       | .ok r => r
       | .err _ => .err
       | .panic _ => .panic) := by
  unfold BinFormats.fromBytes SauceLoad.fromBytes
  cases Sauce.fromBytesSplit BinFormats.dateOk bytes with
  | ok cs => rfl
  | err e => rfl
  | panic p => rfl

/-- **load_composed**: whatever the content (loadable or not, ending in SAUCE/COMNT look-alikes or not) and whatever
    the metadata (0..=255 comment lines …), `Buffer::from_bytes` of the written file is the format loader applied to
    exactly `content`, with the record the variant carries -/
theorem load_composed (dateOk : List Nat → Bool) (f : Fmt) (k : Nat) (hk : k < 9) (b : BufInfo) (hv : Valid b)
    (date : List Nat) (hd : date.length = dateLen) (hok : dateOk date = true) (content bytes : List Nat)
    (hw : writeSauceInfo k b date content = .ok bytes) :
    SauceLoad.fromBytes dateOk f bytes =
      .ok (loadBody f content (some (carry k b (bytes.length - content.length)))) := by
  simp only [SauceLoad.fromBytes, load_ignores_sauce dateOk k hk b hv date hd hok content bytes hw]
  rfl

/-- a file in which `extract` finds no record goes to the loader whole -/
theorem load_plain (dateOk : List Nat → Bool) (f : Fmt) (content : List Nat)
    (h : extract dateOk content = .ok none) :
    SauceLoad.fromBytes dateOk f content = .ok (loadBody f content none) := by
  rw [SauceLoad.fromBytes, fromBytesSplit_eq, h]
  rfl

/-! ## the SAUCE rule, loader by loader

`keep m g` = the buffer `g` with the record's texts and flags `m` kept for the next save; `outMap` applies it to a
successful load and leaves `Err` / panic alone. -/

/-- XBin: size and ice mode come from the XBin header: a record that names no installable font changes nothing of the
    picture (and the record the XBin writer appends never names one: `carry_plain`) -/
theorem record_xb (d : List Nat) (s : Sauce.Sauce) (hf : fontAtDefault s = true) :
    loadBody .xb d (some s) = outMap (keep (some (metaOf s))) (loadBody .xb d none) := by
  show xbLoad d (some s) = outMap (keep (some (metaOf s))) (xbLoad d none)
  -- an equation on every outcome (`err` and `panic` included), so it follows `xbLoad` itself: `BinFormats.xbLoad_ok_iff`
  -- describes the `ok` outcome only
  obtain ⟨e1, e2, e3⟩ := start_setSauce_rest BinFmt.xbStartW BinFmt.xbStartH (BinFmt.xbClearsRows == 1) s
  have e4 := start_setSauce_fonts BinFmt.xbStartW BinFmt.xbStartH (BinFmt.xbClearsRows == 1) s hf
  unfold xbLoad
  generalize (LBuf.start BinFmt.xbStartW BinFmt.xbStartH (BinFmt.xbClearsRows == 1)).setSauce true (some s) = bs at *
  -- the header overwrites what else the record gave the start buffer
  have hb : ∀ (w : Nat) (h : Int) (im : XbCompress.IceMode),
      ({ bs with bw := w, bh := h, lw := w, lh := h, ice := im } : LBuf) =
        keep (some (metaOf s)) { (LBuf.start BinFmt.xbStartW BinFmt.xbStartH (BinFmt.xbClearsRows == 1)).setSauce true none with
          bw := w, bh := h, lw := w, lh := h, ice := im } := fun _ _ _ => by
    simp only [keep, e1, e2, e3, e4]; rfl
  rcases d with _ | ⟨i0, _ | ⟨i1, _ | ⟨i2, _ | ⟨i3, _ | ⟨eof, _ | ⟨wl, _ | ⟨wh, _ | ⟨hl, _ | ⟨hh, _ | ⟨fs0, _ | ⟨flags, rest⟩⟩⟩⟩⟩⟩⟩⟩⟩⟩⟩ <;>
    try rfl
  simp only []
  generalize (if fs0 = 0 then 16 else fs0) = fs
  -- wrong magic, width out of range, font height above 32: errors with and without the record
  refine outMap_ite_err (outMap_ite_err (outMap_ite_err ?_))
  rw [hb, xbBlocks_keep]
  cases xbBlocks _ _ _ _ _ rest with
  | ok r => exact xbImage_keep _ _ _ _ _ _ _
  | err => rfl
  | panic => rfl

-- the unfolded loader nests deeper than the default elaboration depth
set_option maxRecDepth 10000 in
/-- iCE Draw: the loader keeps the record as metadata but never resizes to it nor takes a font from it -/
theorem record_idf (d : List Nat) (s : Sauce.Sauce) :
    loadBody .idf d (some s) = outMap (keep (some (metaOf s))) (loadBody .idf d none) := by
  show idfLoad d (some s) = outMap (keep (some (metaOf s))) (idfLoad d none)
  unfold idfLoad
  simp only []
  have hs : ∀ b : LBuf, b.setSauce false (some s) = keep (some (metaOf s)) (b.setSauce false none) := fun _ => rfl
  rw [hs]
  generalize ({ LBuf.start BinFmt.idfStartW BinFmt.idfStartH (BinFmt.idfClearsRows == 1) with ice := .ice } : LBuf).setSauce false none = b1
  -- too short, wrong magic, `x2 < x1`, a row beyond the limit: errors with and without the record
  refine outMap_ite_err (outMap_ite_err (outMap_ite_err (outMap_ite_err ?_)))
  have hw : ∀ (w : Nat), ({ keep (some (metaOf s)) b1 with bw := w } : LBuf) = keep (some (metaOf s)) { b1 with bw := w } :=
    fun _ => rfl
  rw [hw, placeAll_keep]
  simp only [outMap, keep]

/-- ArtWorx: buffer width and ice mode are the format's, font and palette are in the file, the height is recomputed from
    the rows; the record's width is the layer width — equal to the default, the loaded picture is the same -/
theorem record_adf (d : List Nat) (s : Sauce.Sauce) (hw : ruleW s.width = BinFmt.adfStartW) :
    loadBody .adf d (some s) = outMap (keep (some (metaOf s))) (loadBody .adf d none) := by
  show adfLoad d (some s) = outMap (keep (some (metaOf s))) (adfLoad d none)
  simp only [ruleW] at hw
  unfold adfLoad
  simp only [LBuf.setSauce, LBuf.start, hw, if_true]
  -- too short, no version byte, wrong version: errors with and without the record
  refine outMap_ite_err ?_
  cases d with
  | nil => rfl
  | cons ver rest =>
    refine outMap_ite_err ?_
    simp only [outMap]
    congr 1
    rw [placeAll_crop_keep _ _ _ _ _ s.height s.height]
    rfl

/-- BIN: the record's width, ice flag and font ARE the loader's (no header); its height is overwritten by the first
    cell — and a BinaryText record always says 25, the default -/
theorem record_bin (d : List Nat) (s : Sauce.Sauce) (hw : ruleW s.width = BinFmt.binStartW) (hi : s.ice = false)
    (hf : fontAtDefault s = true) (hh : s.height = BinFmt.binStartH ∨ 2 ≤ d.length) :
    loadBody .bin d (some s) = outMap (keep (some (metaOf s))) (loadBody .bin d none) := by
  show binLoad d (some s) = outMap (keep (some (metaOf s))) (binLoad d none)
  unfold binLoad
  have hs := setSauce_eq (LBuf.start BinFmt.binStartW BinFmt.binStartH (BinFmt.binClearsRows == 1)) s hw rfl hi rfl hf
  have hn : (LBuf.start BinFmt.binStartW BinFmt.binStartH (BinFmt.binClearsRows == 1)).setSauce true none =
      LBuf.start BinFmt.binStartW BinFmt.binStartH (BinFmt.binClearsRows == 1) := rfl
  simp only [hs, hn, placeAll_keep, outMap]
  congr 1
  have e0 : ∀ b : LBuf, (keep (some (metaOf s)) b).ice = b.ice := fun _ => rfl
  have e1 : ∀ b : LBuf, (keep (some (metaOf s)) b).bw = b.bw := fun _ => rfl
  have e2 : ∀ (b : LBuf) (h1 h2 : Int), (setH b h1 h2).ice = b.ice := fun _ _ _ => rfl
  have e3 : ∀ (b : LBuf) (h1 h2 : Int), (setH b h1 h2).bw = b.bw := fun _ _ _ => rfl
  simp only [e0, e1, e2, e3]
  rcases hh with hh | hh
  · rw [hh]
    rfl
  · have hne : (pairsOf d).map (fun p => ({ ch := p.1, attr := fromU8' (LBuf.start BinFmt.binStartW BinFmt.binStartH (BinFmt.binClearsRows == 1)).ice p.2 } : XbCompress.Cell)) ≠ [] := by
      intro h
      exact pairsOf_ne_nil d hh (List.map_eq_nil_iff.mp h)
    rw [placeAll_setH 0 _ _ hne]
    rfl

/-- Tundra: ice mode and palette are the format's, the width is the record's (the format has no size fields) — equal to
    the default, the loaded picture is the same.  The record's HEIGHT is overwritten by the first cell
    (`set_height(pos.y + 1)` before every `set_char`), exactly as in the BIN loader; it counts only for a file that
    places no cell at all (header only / position commands only), hence the same kind of hypothesis as `record_bin`:
    the record says the loader's default height, or the content places a cell (stated on the buffer of the content
    alone: it has a row).  The second alternative of `tndLoad_record` says what the loader does in the remaining case. -/
theorem record_tnd (d : List Nat) (s : Sauce.Sauce) (hw : tndRuleW s.width = BinFmt.tndStartW)
    (hf : fontAtDefault s = true)
    (hh : s.height = BinFmt.tndStartH ∨ ∀ g, loadBody .tnd d none = .ok g → g.lines ≠ []) :
    loadBody .tnd d (some s) = outMap (keep (some (metaOf s))) (loadBody .tnd d none) := by
  rcases tndLoad_record d s hw hf with h | ⟨g, h1, h2, h3, h4, h5⟩
  · exact h
  · rcases hh with hh | hh
    · show tndLoad d (some s) = outMap (keep (some (metaOf s))) (tndLoad d none)
      rw [h5, h1, hh, ← h3]
      show _ = Out.ok (keep (some (metaOf s)) g)
      rw [show keep (some (metaOf s)) g = { g with bh := g.bh, lh := g.lh, sauce := some (metaOf s) } from rfl, h4, h3]
    · exact absurd h2 (hh g h1)

/-! ## both together: the property's last sentence for the binary formats -/

def extOf : Fmt → String
  | .xb => "xb"
  | .bin => "bin"
  | .adf => "adf"
  | .idf => "idf"
  | .tnd => "tnd"

/-- the `SauceFileType` the format's writer appends and the loader's default width — looked up in the table the
    translator regenerates from `src/formats/*.rs` -/
def kindOf (f : Fmt) : Nat := ((loaders.find? (fun l => l.1 == extOf f)).map (·.2.2.2.2)).getD 0
def defaultW (f : Fmt) : Nat := ((loaders.find? (fun l => l.1 == extOf f)).map (·.2.1)).getD 0

/-- the loader's default height, for the one loader whose file format stores no height (Tundra: the start buffer) -/
def defaultH (f : Fmt) : Nat := ((loaders.find? (fun l => l.1 == extOf f)).map (·.2.2.1)).getD 0

/-- the table against the constants of the C05 loader models (both regenerated from the source) -/
theorem loader_table :
    kindOf .xb = 8 ∧ kindOf .bin = 7 ∧ kindOf .adf = 2 ∧ kindOf .idf = 7 ∧ kindOf .tnd = 6 ∧
    defaultW .xb = BinFmt.xbStartW ∧ defaultW .bin = BinFmt.binStartW ∧ defaultW .adf = BinFmt.adfStartW ∧
    defaultW .idf = BinFmt.idfStartW ∧ defaultW .tnd = BinFmt.tndStartW ∧ defaultH .tnd = BinFmt.tndStartH ∧
    BinFmt.sauceMaxWidth = widthMax ∧ BinFmt.sauceFallbackWidth = widthFallback ∧ BinFmt.binStartH = readerDefaultHeight := by
  decide +kernel

/-- "the record's width, ice-colour and font settings equal the loader's defaults", per format: what the loader does
    not override itself.  (The font clause: `set_sauce` installs a font named in the record, and only the BinaryText
    record of a `.bin` file can name one — XBin and Tundra records carry no font name, `.adf` / `.idf` files embed
    their font.) -/
def AtDefaults (f : Fmt) (b : BufInfo) : Prop :=
  match f with
  | .xb | .idf => True
  | .adf | .tnd => b.width = defaultW f
  | .bin => b.width = defaultW f ∧ b.ice = false ∧ fontAtDefault (carry 7 b 0) = true

/-- **load_ignores_sauce_bin**: xb, bin, adf, idf — content (ANY bytes) + EOF + the SAUCE data the format's writer
    appends (any texts, 0..=255 comment lines, flags), record width / ice at the loader's defaults: `from_bytes` gives
    the SAME buffer as the loader on the content alone (`outMap (keep _)`: plus the kept record) -/
theorem load_ignores_sauce_bin (dateOk : List Nat → Bool) (f : Fmt) (hf : f ≠ .tnd) (b : BufInfo) (hv : Valid b)
    (hdef : AtDefaults f b) (date : List Nat) (hd : date.length = dateLen) (hok : dateOk date = true)
    (content bytes : List Nat) (hw : writeSauceInfo (kindOf f) b date content = .ok bytes) :
    SauceLoad.fromBytes dateOk f bytes =
      .ok (outMap (keep (some (metaOf (carry (kindOf f) b (bytes.length - content.length))))) (loadBody f content none)) := by
  have hk : kindOf f < 9 := by cases f <;> decide
  rw [load_composed dateOk f (kindOf f) hk b hv date hd hok content bytes hw]
  congr 1
  cases f with
  | xb =>
    apply record_xb
    have := (carry_plain 8 (by decide) b (bytes.length - content.length)).2.2.2.2.2.1
    show fontAtDefault (carry 8 b (bytes.length - content.length)) = true
    unfold fontAtDefault
    rw [this]
    rfl
  | idf => exact record_idf _ _
  | tnd => exact absurd rfl hf
  | adf =>
    apply record_adf
    have hwd : b.width = 80 := hdef
    have : (carry 2 b (bytes.length - content.length)).width = 80 := by
      rw [(carry_ansi 2 (Or.inr rfl) b _).1, hwd]
    show ruleW (carry 2 b (bytes.length - content.length)).width = _
    rw [this]; decide
  | bin =>
    obtain ⟨hwd, hice, hfont⟩ := hdef
    have hwd : b.width = 160 := hwd
    have hc := carry_bin b (bytes.length - content.length)
    apply record_bin
    · show ruleW (carry 7 b (bytes.length - content.length)).width = _
      rw [hc.1, hwd]; decide
    · show (carry 7 b (bytes.length - content.length)).ice = false
      rw [hc.2.2.1, hice]
    · -- `fontAtDefault` reads only the record's font name, which does not depend on the header length (`0` in `AtDefaults`)
      exact hfont
    · left
      show (carry 7 b (bytes.length - content.length)).height = _
      rw [hc.2.1]; decide

/-- **load_ignores_sauce_tnd** — Tundra, as `load_ignores_sauce_bin`: content (ANY bytes) + EOF + the SAUCE data the
    Tundra writer appends, record width at the loader's default: `from_bytes` gives the SAME buffer as the loader on the
    content alone.  The Tundra format has no size fields, so besides the width the record's HEIGHT is a setting of the
    loader — for a file that places no cell (the first cell overwrites it): "the record's settings equal the loader's
    defaults" includes `b.height = 25` there, and nothing is asked of the height of a content that places a cell.
    (On the pinned tree `write_sauce_info` writes height 0 into a Tundra record whatever the buffer, so that no buffer is at
    the default: finding `picture-tnd-no-cell`; the statement is about the repaired writer.) -/
theorem load_ignores_sauce_tnd (dateOk : List Nat → Bool) (b : BufInfo) (hv : Valid b)
    (hdef : AtDefaults .tnd b) (date : List Nat) (hd : date.length = dateLen) (hok : dateOk date = true)
    (content bytes : List Nat) (hw : writeSauceInfo (kindOf .tnd) b date content = .ok bytes)
    (hh : b.height = defaultH .tnd ∨ ∀ g, loadBody .tnd content none = .ok g → g.lines ≠ []) :
    SauceLoad.fromBytes dateOk .tnd bytes =
      .ok (outMap (keep (some (metaOf (carry 6 b (bytes.length - content.length))))) (loadBody .tnd content none)) := by
  rw [load_composed dateOk .tnd (kindOf .tnd) (by decide) b hv date hd hok content bytes hw]
  have hwd : b.width = 80 := hdef
  have hc := carry_plain 6 (Or.inr (Or.inr (Or.inl rfl))) b (bytes.length - content.length)
  have hww : tndRuleW (carry 6 b (bytes.length - content.length)).width = BinFmt.tndStartW := by
    rw [hc.1, hwd]; decide
  have hfd : fontAtDefault (carry 6 b (bytes.length - content.length)) = true := by
    unfold fontAtDefault
    rw [hc.2.2.2.2.2.1]
    rfl
  congr 1
  apply record_tnd content _ hww hfd
  rcases hh with hh | hh
  · left
    rw [hc.2.1, hh]; decide
  · exact Or.inr hh

def exMetaL : Meta := { title := [72, 105], comments := [[99, 49], [32], []] }
/-- a .bin buffer at the loader's defaults (width 160, no ice colours) with three comment lines -/
def exBufBin : BufInfo := { sauce := some exMetaL, width := 160, height := 2, ice := false, fontName := [73, 66, 77] }
def exBufTnd : BufInfo := { sauce := some exMetaL, width := 80, height := 2, ice := true, fontName := [] }

theorem exBufBin_valid : Valid exBufBin := ⟨by decide, by decide, by decide, by decide⟩
theorem exBufBin_atDefaults : AtDefaults .bin exBufBin := ⟨by decide, rfl, by decide +kernel⟩
theorem exBufTnd_valid : Valid exBufTnd := ⟨by decide, by decide, by decide, by decide⟩
theorem exBufTnd_atDefaults : AtDefaults .tnd exBufTnd := by show (80 : Nat) = defaultW .tnd; decide
example : Valid exBufBin := exBufBin_valid
example : AtDefaults .bin exBufBin := exBufBin_atDefaults
example : AtDefaults .tnd exBufTnd := exBufTnd_atDefaults

def writtenBy (k : Nat) (b : BufInfo) (content : List Nat) : List Nat :=
  match writeSauceInfo k b exDate content with
  | .ok bytes => bytes
  | _ => []

def sameBuf (a b : LBuf) : Bool :=
  a.bw == b.bw && a.bh == b.bh && a.lw == b.lw && a.lh == b.lh && a.lines == b.lines && a.pal == b.pal

/-- `writtenBy` is the written file once the writer is seen to return one (the hypothesis evaluates the writer no further than
    its outcome) -/
theorem writtenBy_ok (k : Nat) (b : BufInfo) (content : List Nat)
    (h : (match writeSauceInfo k b exDate content with | .ok _ => true | _ => false) = true) :
    writeSauceInfo k b exDate content = .ok (writtenBy k b content) := by
  unfold writtenBy
  cases hw : writeSauceInfo k b exDate content <;> first | rfl | (rw [hw] at h; cases h)

/-- .bin: two cells `A`,`B` + EOF + SAUCE with three comment lines: 326 bytes appended, the loaded buffer is the one
    of the four content bytes -/
example : (match SauceLoad.fromBytes (fun _ => true) .bin (writtenBy 7 exBufBin [65, 7, 66, 30]), loadBody .bin [65, 7, 66, 30] none with
    | .ok (.ok g), .ok g' => sameBuf g g' && g.lines.length == 1 && (writtenBy 7 exBufBin [65, 7, 66, 30]).length == 4 + 1 + 5 + 3 * 64 + 128
    | _, _ => false) = true := by
  -- the loaded buffer by `load_ignores_sauce_bin`; what is evaluated is the loader on the four bytes and the file's length
  rw [load_ignores_sauce_bin (fun _ => true) .bin (by decide) exBufBin exBufBin_valid exBufBin_atDefaults exDate rfl rfl _ _
    (writtenBy_ok 7 _ _ (by decide +kernel))]
  decide +kernel

def tndHeaderOnly : List Nat := [24] ++ BinFmt.tndHeader

theorem oneCell_places : ∀ g, loadBody .tnd (tndHeaderOnly ++ [65]) none = .ok g → g.lines ≠ [] := by
  intro g hg
  have : (match loadBody .tnd (tndHeaderOnly ++ [65]) none with | .ok g' => g'.lines.length == 1 | _ => false) = true := by
    decide +kernel
  rw [hg] at this
  intro h
  dsimp only at this
  rw [h] at this
  exact absurd this (by decide)

/-- Tundra: one cell `A` behind the header — same buffer with and without SAUCE -/
example : (match SauceLoad.fromBytes (fun _ => true) .tnd (writtenBy 6 exBufTnd (tndHeaderOnly ++ [65])), loadBody .tnd (tndHeaderOnly ++ [65]) none with
    | .ok (.ok g), .ok g' => sameBuf g g' && g.lines.length == 1 && g.bh == 1
    | _, _ => false) = true := by
  rw [load_ignores_sauce_tnd (fun _ => true) exBufTnd exBufTnd_valid exBufTnd_atDefaults exDate rfl rfl _ _
    (writtenBy_ok 6 _ _ (by decide +kernel)) (Or.inr oneCell_places)]
  decide +kernel

/-- the second alternative of `hh` is satisfiable: that content places a cell -/
example : ∀ g, loadBody .tnd (tndHeaderOnly ++ [65]) none = .ok g → g.lines ≠ [] := oneCell_places

/-- a Tundra buffer at the loader's defaults in the full sense (80 columns, 25 rows) -/
def exBufTnd25 : BufInfo := { exBufTnd with height := 25 }
theorem exBufTnd25_atDefaults : AtDefaults .tnd exBufTnd25 ∧ exBufTnd25.height = defaultH .tnd :=
  ⟨exBufTnd_atDefaults, by decide⟩
example : AtDefaults .tnd exBufTnd25 ∧ exBufTnd25.height = defaultH .tnd := exBufTnd25_atDefaults

/-- a file that places no cell (finding `picture-tnd-no-cell`): the header alone loads as 80x25 without SAUCE and as
    80x25 with the SAUCE of an 80x25 buffer — the record carries the 25 … -/
example : (match SauceLoad.fromBytes (fun _ => true) .tnd (writtenBy 6 exBufTnd25 tndHeaderOnly), loadBody .tnd tndHeaderOnly none with
    | .ok (.ok g), .ok g' => sameBuf g g' && g.bh == 25 && g.lines.isEmpty && g.bw == 80
    | _, _ => false) = true := by
  rw [load_ignores_sauce_tnd (fun _ => true) exBufTnd25 ⟨by decide, by decide, by decide, by decide⟩ exBufTnd25_atDefaults.1 exDate rfl rfl _ _
    (writtenBy_ok 6 _ _ (by decide +kernel)) (Or.inl exBufTnd25_atDefaults.2)]
  decide +kernel

/-- … and the hypothesis `hh` is needed: the same header with the SAUCE of an 80x2 buffer is an 80x2 picture (the record's
    height is honoured, the format has no other place for it), the header alone is 80x25 -/
example : (match SauceLoad.fromBytes (fun _ => true) .tnd (writtenBy 6 exBufTnd tndHeaderOnly), loadBody .tnd tndHeaderOnly none with
    | .ok (.ok g), .ok g' => g.bh == 2 && g'.bh == 25 && g.lines.isEmpty && g'.lines.isEmpty && g.bw == 80 && g'.bw == 80
    | _, _ => false) = true := by
  -- by `load_composed` the file loads as the header with the record's settings: the loader is evaluated with and without them
  rw [load_composed (fun _ => true) .tnd 6 (by decide) exBufTnd exBufTnd_valid exDate rfl rfl _ _ (writtenBy_ok 6 _ _ (by decide +kernel))]
  decide +kernel

/-- `load_plain` applies to the bare content of these examples -/
example : (match extract (fun _ => true) [65, 7, 66, 30] with | .ok none => true | _ => false) = true := by decide +kernel

end IcyVerif.C11
