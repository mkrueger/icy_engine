import IcyVerif.Lemmas.RowsOther
import IcyVerif.Lemmas.RowsPage
import IcyVerif.Lemmas.RowsRefine
import IcyVerif.Gen.RowSites
/-! # C01 — no byte stream can crash a terminal emulation: the ROW TABLE under the theorem
`Props/C01.lean` excludes the panics of cursor / margin arithmetic on the geometry model `TermGeo`, which abstracts
cell contents away.  Here the content operations themselves are under the theorem: `Model/Rows*.lean` transcribes
every function of `layer.rs`, `line.rs`, `parsers/mod.rs` (caret and buffer primitives), the rectangle commands and the
PETSCII / ATASCII / Viewdata / Mode 7 row operations that indexes, inserts or removes in `Layer.lines` or in a row's
`chars`, with every `v[i]`, `insert`, `remove`, `resize(n as usize)`, `with_capacity`, `x as usize + 1`, `assert!` as an
explicit panic outcome, and composes them with `Term.step` (same parser state machine, same macro replay).

`rows_total*`: for ALL initial row tables — any ragged shape, any number of rows including none and more than the
screen height, any layer height — and all streams, no content operation panics; a run can only stop at the
conservative `i32` guard of the geometry model (`overflow`, needs > 2^30 scrollback rows, `C01.overflow_guard_needs_2_30_rows`).
The per-operation theorems state each operation's precondition explicitly; `call_sites_provide` derives all of them
from `GoodSt` (C01's invariant) plus `BwOk` (buffer width in 1..=132, `bw_reachable`).

That the joint model speaks of the same states as C01 / C09 is stated for the ANSI parser per stream (`rows_refine_term`) and
for its four wrappers per character (`rows_refine_wrapped`).  For the five byte-oriented emulations it holds by
construction and is not stated: `Rows.ostepJ` is DEFINED as `Term.ostep` on the first component with the rows effect beside it. -/
namespace IcyVerif.C01
open IcyVerif.Term IcyVerif.Rows

/-! ## per-operation totality: explicit preconditions, arbitrary row table -/

/-- `Layer::set_char` / `Layer::get_char` never panic on any row table (layer width not negative) -/
theorem set_char_total (t : Tab) (x y : Int) (hw : 0 ≤ t.lw) :
    (∃ t', layerSetChar t x y = .ok t' ∧ t'.lw = t.lw ∧ t'.lh = t.lh) ∧ (∃ b, layerGetChar t x y = .ok b) := by
  obtain ⟨t', h1, h2⟩ := Holds.isOk (layerSetChar_ok t.lw hw t x y rfl)
  obtain ⟨b, h3, _⟩ := Holds.isOk (layerGetChar_ok t x y)
  exact ⟨⟨t', h1, h2⟩, ⟨b, h3⟩⟩

/-- `Buffer::scroll_left`: needs `last editable column + 1 >= 0` (it becomes `Line::insert_char`'s index) -/
theorem scroll_left_total (s : Scr) (t : Tab) (hcol : 0 ≤ lastCol s + 1) : ∃ t', scrollLeft s t = .ok t' ∧ t'.lw = t.lw :=
  (scrollLeft_ok rfl hcol).left.isOk

/-- `Buffer::scroll_right`: needs `last editable column >= 0` (`end_column as usize + 1`) -/
theorem scroll_right_total (s : Scr) (t : Tab) (hcol : 0 ≤ lastCol s) : ∃ t', scrollRight s t = .ok t' ∧ t'.lw = t.lw :=
  (scrollRight_ok rfl hcol).left.isOk

/-- `Buffer::scroll_up` / `scroll_down` (any margins, any buffer size) -/
theorem scroll_up_down_total (s : Scr) (t : Tab) (hw : 0 ≤ t.lw) :
    (∃ t', scrollUp s t = .ok t' ∧ t'.lw = t.lw) ∧ (∃ t', scrollDown s t = .ok t' ∧ t'.lw = t.lw) :=
  ⟨Holds.isOk ((setInv_w hw).scrollUp rfl), Holds.isOk ((setInv_w hw).scrollDown rfl)⟩

/-- `Buffer::insert_terminal_line(line)`: `line >= 0` (`assert!(index >= 0)`), bottom margin `>= 0` (`lines.remove(end)`) -/
theorem insert_line_total (s : Scr) (line : Int) (t : Tab) (hw : 0 ≤ t.lw) (hline : 0 ≤ line) (hb : BottomOk s) :
    ∃ t', insertTerminalLine s line t = .ok t' ∧ t'.lw = t.lw :=
  (insertTerminalLine_ok hw rfl hline hb).left.isOk

/-- `Buffer::remove_terminal_line(line)`: `line >= 0` (`assert!` in `Layer::remove_line`), bottom margin `>= 0` -/
theorem remove_line_total (s : Scr) (line : Int) (t : Tab) (hw : 0 ≤ t.lw) (hline : 0 ≤ line) (hb : BottomOk s) :
    ∃ t', removeTerminalLine s line t = .ok t' ∧ t'.lw = t.lw :=
  (removeTerminalLine_ok hw rfl hline hb).left.isOk

/-- `Caret::erase_charcter`: cursor column `>= 0` (`Line::set_char(x)` indexes `chars[x as usize]`) -/
theorem erase_character_total (s : Scr) (c : Car) (n : Int) (t : Tab) (hx : 0 ≤ c.x) : ∃ t', echT s c n t = .ok t' ∧ t'.lw = t.lw :=
  (echT_ok rfl hx).left.isOk

/-- `Caret::del` / `Caret::ins`: no precondition at all (both guarded by `lines.get_mut` and `i < len`) -/
theorem del_ins_total (c : Car) (t : Tab) : (∃ t', delT c t = .ok t') ∧ (∃ t', insT c t = .ok t') := by
  obtain ⟨t1, h1, _⟩ := Holds.isOk (delT_ok (t := t) rfl)
  obtain ⟨t2, h2, _⟩ := Holds.isOk (insT_ok (t := t) rfl)
  exact ⟨⟨t1, h1⟩, ⟨t2, h2⟩⟩

/-- `Buffer::print_char`: in insert mode cursor row and column `>= 0` (`lines.resize(y as usize + 1)`,
    `Line::insert_char(x)`); terminal width `>= 0` (`Line::with_capacity` in the line feed at the right edge) -/
theorem print_char_total (s : Scr) (c : Car) (t : Tab) (hw : 0 ≤ t.lw) (hins : c.ins = true → 0 ≤ c.x ∧ 0 ≤ c.y)
    (htw : 0 ≤ s.tw) : ∃ t', printCharT s c t = .ok t' ∧ t'.lw = t.lw :=
  Holds.isOk (printCharT_ok hw rfl hins htw)

/-- `Caret::lf`: terminal width `>= 0`; the scroll it may trigger is total -/
theorem line_feed_total (s : Scr) (c : Car) (t : Tab) (hw : 0 ≤ t.lw) (htw : 0 ≤ s.tw) : ∃ t', lfT s c t = .ok t' ∧ t'.lw = t.lw :=
  (lfT_ok hw rfl htw).left.isOk

/-- erase in display / in line, rectangles, PETSCII repaint, Viewdata / Mode 7 `fill_to_eol`: loops of `Layer::set_char`,
    total for every cursor, every buffer size, every parameter list of the right length, every fill count -/
theorem clear_and_fill_total (s : Scr) (c : Car) (t : Tab) (nums : List Int) (off cnt : Nat) (hw : 0 ≤ t.lw)
    (hn : off + 3 < nums.length) :
    (∃ t', clearBufferDown s c t = .ok t') ∧ (∃ t', clearBufferUp s c t = .ok t') ∧ (∃ t', clearLine s c t = .ok t') ∧
    (∃ t', clearLineEnd s c t = .ok t') ∧ (∃ t', clearLineStart s c t = .ok t') ∧ (∃ t', fillArea s t nums off = .ok t') ∧
    (∃ t', repaintAll s t = .ok t') ∧ (∃ t', fillToEol s c cnt t = .ok t') := by
  have hI := setInv_w hw
  have ex : ∀ {r : RRes Tab}, Holds NoErr r (W t.lw) → ∃ t', r = .ok t' := fun h => (Holds.isOk h).imp fun _ h => h.1
  exact ⟨ex (hI.clearBufferDown rfl), ex (hI.clearBufferUp rfl), ex (hI.clearLine rfl), ex (hI.clearLineEnd rfl),
    ex (hI.clearLineStart rfl), ex (hI.fillArea rfl hn), ex (hI.repaintAll rfl), ex (hI.fillToEol rfl)⟩

/-! ## the call sites provide the preconditions -/

/-- everything the operations above ask for follows from C01's invariant `GoodSt` (fields cited) and `BwOk`:
    cursor column / row `>= 0` (`CurOk`), terminal width `>= 1` (`ScrOk.tw1`), bottom margin `>= 0` (`ScrOk.mtb`),
    last editable column `>= 0` (`ScrOk.mlr` with margins, `BwOk` without) -/
theorem call_sites_provide (st : St) (hg : GoodSt st) (hb : BwOk st.s) :
    0 ≤ st.c.x ∧ 0 ≤ st.c.y ∧ 1 ≤ st.s.tw ∧ BottomOk st.s ∧ 0 ≤ lastCol st.s :=
  ⟨hg.2.1.1, hg.2.1.2.2.1, hg.1.tw1, bottomOk_of_scrOk _ hg.1, lastCol_nonneg _ hg.1 hb⟩

/-- the part of the precondition that `GoodSt` does not contain: the buffer width stays in 1..=132 along every
    stream (only `clear_screen` / `Caret::ff` write it, with the terminal width) -/
theorem bw_reachable (w h : Int) (hw1 : 1 ≤ w) (hw2 : w ≤ 132) (hh1 : 1 ≤ h) (hh2 : h ≤ 60)
    (cfg : Cfg) (o : Nat → Orc) (bytes : List Char) (t0 : Tab) (x : JSt)
    (hrun : runJ cfg o (initSt w h, { t0 with lw := w }) bytes = .ok x) : BwOk x.1.s ∧ GoodSt x.1 ∧ x.2.lw = w := by
  have hj : JGood w (initSt w h, { t0 with lw := w }) := ⟨initSt_good w h hw1 hw2 hh1 hh2, ⟨hw1, hw2⟩, rfl⟩
  have h := runJ_good w (by omega) cfg o bytes _ hj
  rw [hrun] at h
  exact ⟨h.2.1, h.1, h.2.2⟩

/-- ANSI (all four music options): for every initial row table `rows0` — any shape, any length — and layer height,
    no stream makes a content operation panic; a run stops at most at the `i32` guard of the geometry model -/
theorem rows_total (w h : Int) (hw1 : 1 ≤ w) (hw2 : w ≤ 132) (hh1 : 1 ≤ h) (hh2 : h ≤ 60)
    (cfg : Cfg) (o : Nat → Orc) (rows0 : List Nat) (lh0 : Int) (bytes : List Char) (e : JErr)
    (hrun : runJ cfg o (initSt w h, { rows := rows0, lw := w, lh := lh0 }) bytes = .error e) :
    ∃ site, e = JErr.geo (Panic.overflow site) := by
  have hj : JGood w (initSt w h, { rows := rows0, lw := w, lh := lh0 }) :=
    ⟨initSt_good w h hw1 hw2 hh1 hh2, ⟨hw1, hw2⟩, rfl⟩
  have hg := runJ_good w (by omega) cfg o bytes _ hj
  exact (hg.err hrun).geoOv

/-- the same from any state that satisfies the invariant (e.g. after any prefix), not only the initial one -/
theorem rows_total_from (cfg : Cfg) (o : Nat → Orc) (st : St) (t : Tab) (hg : GoodSt st) (hb : BwOk st.s) (hw : 0 ≤ t.lw)
    (bytes : List Char) (e : JErr) (hrun : runJ cfg o (st, t) bytes = .error e) :
    ∃ site, e = JErr.geo (Panic.overflow site) := by
  have h := runJ_good t.lw hw cfg o bytes (st, t) ⟨hg, hb, rfl⟩
  exact (h.err hrun).geoOv

/-- Avatar, PCBoard, Ctrl-A, Renegade -/
theorem rows_total_wrapped (em : Emu) (w h : Int) (hw1 : 1 ≤ w) (hw2 : w ≤ 132) (hh1 : 1 ≤ h) (hh2 : h ≤ 60)
    (o : Nat → Orc) (rows0 : List Nat) (lh0 : Int) (bytes : List Char) (e : JErr)
    (hrun : wrunJ em o (initW w h, { rows := rows0, lw := w, lh := lh0 }) bytes = .error e) :
    ∃ site, e = JErr.geo (Panic.overflow site) := by
  have hj : WGood w (initW w h, { rows := rows0, lw := w, lh := lh0 }) :=
    ⟨initSt_good w h hw1 hw2 hh1 hh2, ⟨hw1, hw2⟩, rfl⟩
  have hg := wrunJ_good w (by omega) em o bytes _ hj
  exact (hg.err hrun).geoOv

/-- ASCII, ATASCII, PETSCII, Viewdata, Mode 7 — for every sequence of `fill_to_eol` counts (the one content-dependent
    loop bound), every initial flag setting, every initial row table -/
theorem rows_total_bytes (em : Emu2) (w h : Int) (hw1 : 1 ≤ w) (hw2 : w ≤ 132) (hh1 : 1 ≤ h) (hh2 : h ≤ 60)
    (ox : OX) (rows0 : List Nat) (lh0 : Int) (bytes : List (Char × Nat)) (e : JErr)
    (hrun : orunJ em (initO w h, ox, { rows := rows0, lw := w, lh := lh0 }) bytes = .error e) :
    ∃ site, e = JErr.geo (Panic.overflow site) := by
  have hi := initO_good w h hw1 hw2 hh1 hh2
  have hj : OGood w em (initO w h, ox, { rows := rows0, lw := w, lh := lh0 }) :=
    ⟨hi.1, fun _ => hi.2, ⟨hw1, hw2⟩, rfl⟩
  have hg := orunJ_good w (by omega) em bytes _ hj
  exact (hg.err hrun).geoOv

/-! ## the composition is faithful, and shape facts -/

/-- the joint model's geometry / parser-state component IS `Term.run` (macro replays included): the states the
    row-table theorems quantify over are the states C01 / C09 speak about -/
theorem rows_refine_term (cfg : Cfg) (o : Nat → Orc) (bytes : List Char) (x x' : JSt)
    (h : runJ cfg o x bytes = .ok x') : run cfg o x.1 bytes = .ok x'.1 := (runJ_refines cfg o bytes x).val h

/-- …and for the four wrappers, per character -/
theorem rows_refine_wrapped (em : Emu) (o : Nat → Orc) (x x' : WJ) (ch : Char) (out : Out)
    (h : wstepJ em o x ch = .ok (x', out)) : wstep em o x.1 ch = .ok (x'.1, out) := (wstepJ_refines em o x ch).val h

/-- Viewdata / Mode 7 (fixed 40x24 page): after every stream — and for every sequence of `fill_to_eol` counts —
    layer 0 has at most 24 rows and every row that exists has exactly 40 cells -/
theorem rows_shape_page (em : Emu2) (he : em = .viewdata ∨ em = .mode7) (w h : Int) (ox : OX) (bytes : List (Char × Nat)) (x : OJ)
    (hrun : orunJ em (initO w h, ox, initTab 40 24) bytes = .ok x) :
    x.2.2.rows.length ≤ 24 ∧ (∀ n ∈ x.2.2.rows, n = 40) ∧ x.2.2.lw = 40 ∧ x.2.2.lh = 24 := by
  have hp := orunJ_page em he bytes _ x pageTab_init hrun
  exact ⟨hp.2.2.1, hp.2.2.2, hp.1, hp.2.1⟩

/-- hence the one content-dependent loop bound is irrelevant for the row table of a page: `fill_to_eol` with any
    count `>= 1` gives what count 1 gives (the correspondence driver passes 1) -/
theorem fill_count_irrelevant (s : Scr) (c : Car) (cnt : Nat) (t : Tab) (h : PageTab t) (htw : s.tw = 40) (hc : 1 ≤ cnt) :
    fillToEol s c cnt t = fillToEol s c 1 t := IcyVerif.Rows.fill_count_irrelevant s c cnt t h htw hc

/-- non-vacuity: a Viewdata page cleared, a character, line down, `ESC A` (alpha red: `fill_to_eol` after the cell)
    and a Mode 7 page cleared, two line feeds, code 129 (`fill_to_eol` before the cell), a character, backspace -/
example : (match orunJ .viewdata (initO 40 24, {}, initTab 40 24)
      [(Char.ofNat 12, 1), ('A', 1), (Char.ofNat 10, 1), (Char.ofNat 27, 1), ('A', 7), ('B', 1)] with
    | .ok x => (x.2.2.rows, x.2.1.vdEsc, x.1.c.x, x.1.c.y) | .error _ => ([], true, -1, -1)) = ([40, 40], false, 3, 1) := by
  decide +kernel
example : (match orunJ .mode7 (initO 40 24, {}, initTab 40 24)
      [(Char.ofNat 12, 1), (Char.ofNat 30, 1), (Char.ofNat 10, 1), (Char.ofNat 10, 1), (Char.ofNat 129, 3), ('B', 1), (Char.ofNat 127, 1)] with
    | .ok x => (x.2.2.rows, x.2.1.graphic, x.1.c.x, x.1.c.y) | .error _ => ([], true, -1, -1)) = ([40, 40, 40], false, 1, 2) := by
  decide +kernel
/-- the page shape is what `fill_count_irrelevant` asks for -/
example : PageTab (initTab 40 24) ∧ PageTab { rows := [40, 40], lw := 40, lh := 24 } ∧ PageTab { rows := [], lw := 40, lh := 24 } := by
  refine ⟨pageTab_init, ⟨rfl, rfl, by decide, ?_⟩, ⟨rfl, rfl, by decide, ?_⟩⟩
  · intro n hn; simp at hn; omega
  · intro n hn; simp at hn

/-! ## tie to the source: every panic-capable line of the transcribed functions is accounted for -/

/-- lines of the transcribed functions (`tools/gens/rows.py`: `line.rs`, `layer.rs`, `parsers/mod.rs`, the rectangle
    commands, PETSCII `update_shift_mode`, Viewdata / Mode 7 `fill_to_eol`) that hold a construct which can panic on a
    row table — index, `insert`, `remove`, `resize`, `with_capacity`, `as usize`, `assert!`, plain arithmetic — as 48-bit
    fingerprints of `file::fn::line`; next to each the model operation that accounts for it -/
def knownRowSiteIds : List Nat := [
  230223507486268,   -- line.rs with_capacity: chars: Vec::with_capacity(capacity as usize),  -> lineWithCapacity
  236040303460883,   -- line.rs create: chars.resize(width as usize, AttributedChar::invisible());  -> lineCreate
  14614071229328,   -- line.rs insert_char: if index > self.chars.len() as i32 {  -> lineInsertChar / lenInsert
  53204503163436,   -- line.rs insert_char: self.chars.resize(index as usize, AttributedChar::invisible());  -> lineInsertChar / lenInsert
  276448627955115,   -- line.rs insert_char: self.chars.insert(index as usize, char_opt);  -> lineInsertChar / lenInsert
  117768734283723,   -- line.rs set_char: if index >= self.chars.len() as i32 {  -> lineSetChar
  111461059992350,   -- line.rs set_char: self.chars.resize(index as usize + 1, AttributedChar::invisible());  -> lineSetChar
  178587328118532,   -- line.rs set_char: self.chars[index as usize] = char;  -> lineSetChar
  266726824680651,   -- layer.rs get_char: if y < self.lines.len() as i32 {  -> layerGetChar / vecIndex
  199912672046214,   -- layer.rs get_char: let cur_line = &self.lines[y as usize];  -> layerGetChar / vecIndex
  50423184617378,   -- layer.rs get_char: if pos.x < cur_line.chars.len() as i32 {  -> layerGetChar / vecIndex
  186665699510235,   -- layer.rs get_char: return cur_line.chars[pos.x as usize];  -> layerGetChar / vecIndex
  280475697739295,   -- layer.rs set_char: if pos.y >= self.lines.len() as i32 {  -> layerSetChar / vecResize / vecIndex
  173629472008027,   -- layer.rs set_char: self.lines.resize(pos.y as usize + 1, Line::create(self.size.width));  -> layerSetChar / vecResize / vecIndex
  108385867269118,   -- layer.rs set_char: let cur_line = &mut self.lines[pos.y as usize];  -> layerSetChar / vecResize / vecIndex
  270871660061561,   -- layer.rs remove_line: assert!(!(index < 0 || index >= self.lines.len() as i32), "line out of  -> layerRemoveLine / vecRemove
  67290325988950,   -- layer.rs remove_line: self.lines.remove(index as usize);  -> layerRemoveLine / vecRemove
  32926594143392,   -- layer.rs insert_line: assert!(index >= 0, "line out of range");  -> layerInsertLine / vecResize / vecInsert
  114755978265201,   -- layer.rs insert_line: if index > self.lines.len() as i32 {  -> layerInsertLine / vecResize / vecInsert
  74259277944173,   -- layer.rs insert_line: self.lines.resize(index as usize, Line::create(self.size.width));  -> layerInsertLine / vecResize / vecInsert
  231912293552580,   -- layer.rs insert_line: self.lines.insert(index as usize, line);  -> layerInsertLine / vecResize / vecInsert
  52359739054161,   -- mod.rs lf: self.pos.y += 1;  -> lfT (cursor / height arithmetic: Term.lf under RangeOk)
  64836492183899,   -- mod.rs lf: while self.pos.y >= buf.layers[current_layer].lines.len() as i32 {  -> lfT (cursor / height arithmetic: Term.lf under RangeOk)
  17828038523406,   -- mod.rs lf: let len = buf.layers[current_layer].lines.len();  -> lfT (cursor / height arithmetic: Term.lf under RangeOk)
  22040090423069,   -- mod.rs lf: buf.layers[current_layer].lines.insert(len, Line::with_capacity(buffer  -> lfT (cursor / height arithmetic: Term.lf under RangeOk)
  139275977982547,   -- mod.rs lf: if self.pos.y + 1 > buf.get_height() {  -> lfT (cursor / height arithmetic: Term.lf under RangeOk)
  3119638250569,   -- mod.rs lf: buf.set_height(self.pos.y + 1);  -> lfT (cursor / height arithmetic: Term.lf under RangeOk)
  178995656295425,   -- mod.rs ff: buf.layers[current_layer].clear();  -> ffT
  253981259807395,   -- mod.rs bs: self.pos.x = max(0, self.pos.x - 1);  -> bsT (x - 1: Term, RangeOk)
  173494019950347,   -- mod.rs bs: buf.layers[current_layer].set_char(self.pos, AttributedChar::new(' ',   -> bsT (x - 1: Term, RangeOk)
  42233812355712,   -- mod.rs del: if let Some(line) = buf.layers[current_layer].lines.get_mut(self.pos.y  -> delT / vecGet? / lenRemove
  65854378053871,   -- mod.rs del: let i = self.pos.x as usize;  -> delT / vecGet? / lenRemove
  14447974541024,   -- mod.rs del: line.chars.remove(i);  -> delT / vecGet? / lenRemove
  111394294686096,   -- mod.rs ins: if let Some(line) = buf.layers[current_layer].lines.get_mut(self.pos.y  -> insT / vecGet? / lenInsert
  2741495256236,   -- mod.rs ins: let i = self.pos.x as usize;  -> insT / vecGet? / lenInsert
  211599304924765,   -- mod.rs ins: line.chars.insert(i, AttributedChar::new(' ', self.attribute));  -> insT / vecGet? / lenInsert
  3038266446277,   -- mod.rs erase_charcter: let number = min(buf.terminal_state.get_width() - i, number);  -> echT / vecGet? / lineSetChar (i <= tw)
  108397827410146,   -- mod.rs erase_charcter: if let Some(line) = buf.layers[current_layer].lines.get_mut(self.pos.y  -> echT / vecGet? / lineSetChar (i <= tw)
  234904464757095,   -- mod.rs erase_charcter: i += 1;  -> echT / vecGet? / lineSetChar (i <= tw)
  68876192126923,   -- mod.rs check_scrolling_on_caret_down: self.pos.y -= 1;  -> checkScrollDownT (y - 1: Term.checkScrollDown, RangeOk)
  265538375532455,   -- mod.rs print_char: let buffer_width = self.layers[layer].get_width();  -> printCharT (cursor arithmetic: Term.printChar under RangeOk)
  56144853267921,   -- mod.rs print_char: let layer = &mut self.layers[layer];  -> printCharT (cursor arithmetic: Term.printChar under RangeOk)
  143988019646827,   -- mod.rs print_char: if layer.lines.len() < caret.pos.y as usize + 1 {  -> printCharT (cursor arithmetic: Term.printChar under RangeOk)
  212788175222243,   -- mod.rs print_char: layer.lines.resize(caret.pos.y as usize + 1, Line::with_capacity(buffe  -> printCharT (cursor arithmetic: Term.printChar under RangeOk)
  205817013324488,   -- mod.rs print_char: layer.lines[caret.pos.y as usize].insert_char(caret.pos.x, AttributedC  -> printCharT (cursor arithmetic: Term.printChar under RangeOk)
  250071657854852,   -- mod.rs print_char: if caret.pos.y + 1 > self.layers[layer].get_height() {  -> printCharT (cursor arithmetic: Term.printChar under RangeOk)
  198515176035408,   -- mod.rs print_char: self.layers[layer].set_height(caret.pos.y + 1);  -> printCharT (cursor arithmetic: Term.printChar under RangeOk)
  84730472089218,   -- mod.rs print_char: if self.is_terminal_buffer && caret.pos.y + 1 > self.get_height() {  -> printCharT (cursor arithmetic: Term.printChar under RangeOk)
  172890306727568,   -- mod.rs print_char: self.set_height(caret.pos.y + 1);  -> printCharT (cursor arithmetic: Term.printChar under RangeOk)
  12442952725967,   -- mod.rs print_char: self.layers[layer].set_char(caret.pos, ch);  -> printCharT (cursor arithmetic: Term.printChar under RangeOk)
  104770377232760,   -- mod.rs print_char: caret.pos.x += 1;  -> printCharT (cursor arithmetic: Term.printChar under RangeOk)
  209802778718296,   -- mod.rs print_char: caret.pos.x -= 1;  -> printCharT (cursor arithmetic: Term.printChar under RangeOk)
  202342250197032,   -- mod.rs scroll_up: let layer = &mut self.layers[layer];  -> scrollUp
  260093648558987,   -- mod.rs scroll_up: let ch = layer.get_char((x, y + 1));  -> scrollUp
  109325451373148,   -- mod.rs scroll_down: let layer = &mut self.layers[layer];  -> scrollDown
  148232653321549,   -- mod.rs scroll_down: ((start_line + 1)..=end_line).rev().for_each(|y| {  -> scrollDown
  267753034374820,   -- mod.rs scroll_down: let ch = layer.get_char((x, y - 1));  -> scrollDown
  121183521329718,   -- mod.rs scroll_left: let start_column = self.get_first_editable_column() as usize;  -> scrollLeft
  157205104946483,   -- mod.rs scroll_left: let end_column = self.get_last_editable_column() + 1;  -> scrollLeft
  63475494844259,   -- mod.rs scroll_left: let layer = &mut self.layers[layer];  -> scrollLeft
  225265882995102,   -- mod.rs scroll_left: let Some(line) = layer.lines.get_mut(i as usize) else {  -> scrollLeft
  52577683476571,   -- mod.rs scroll_left: line.chars.remove(start_column);  -> scrollLeft
  53166060668530,   -- mod.rs scroll_right: let start_column = self.get_first_editable_column() as usize;  -> scrollRight
  182001885063598,   -- mod.rs scroll_right: let end_column = self.get_last_editable_column() as usize;  -> scrollRight
  249927265287085,   -- mod.rs scroll_right: let layer = &mut self.layers[layer];  -> scrollRight
  90528177338913,   -- mod.rs scroll_right: let Some(line) = layer.lines.get_mut(i as usize) else {  -> scrollRight
  56726102613943,   -- mod.rs scroll_right: line.chars.insert(start_column, AttributedChar::default());  -> scrollRight
  114653783722302,   -- mod.rs scroll_right: if end_column + 1 < line.chars.len() {  -> scrollRight
  250223690500357,   -- mod.rs scroll_right: line.chars.remove(end_column + 1);  -> scrollRight
  188366832171476,   -- mod.rs clear_screen: let layer = &mut self.layers[layer];  -> clearScreenT
  276816021465839,   -- mod.rs clear_buffer_down: self.layers[layer].set_char((x, y), ch);  -> clearBufferDown
  196057693410987,   -- mod.rs clear_buffer_up: self.layers[layer].set_char((x, y), ch);  -> clearBufferUp
  60733979644757,   -- mod.rs clear_line: self.layers[layer].set_char(pos, ch);  -> clearLine
  151043576864471,   -- mod.rs clear_line_end: self.layers[layer].set_char(pos, ch);  -> clearLineEnd
  166080473533327,   -- mod.rs clear_line_start: self.layers[layer].set_char(pos, ch);  -> clearLineStart
  276450746656449,   -- mod.rs remove_terminal_line: if line >= self.layers[layer].get_line_count() {  -> removeTerminalLine
  129127928279840,   -- mod.rs remove_terminal_line: self.layers[layer].remove_line(line);  -> removeTerminalLine
  121817665287646,   -- mod.rs remove_terminal_line: let buffer_width = self.layers[layer].get_width();  -> removeTerminalLine
  148163647732085,   -- mod.rs remove_terminal_line: self.layers[layer].insert_line(end, Line::with_capacity(buffer_width))  -> removeTerminalLine
  203026226312761,   -- mod.rs insert_terminal_line: if end < self.layers[layer].get_line_count() {  -> insertTerminalLine / vecRemove
  215699106534068,   -- mod.rs insert_terminal_line: self.layers[layer].lines.remove(end as usize);  -> insertTerminalLine / vecRemove
  279427612147112,   -- mod.rs insert_terminal_line: let buffer_width = self.layers[layer].get_width();  -> insertTerminalLine / vecRemove
  85717605795231,   -- mod.rs insert_terminal_line: self.layers[layer].insert_line(line, Line::with_capacity(buffer_width)  -> insertTerminalLine / vecRemove
  141224701608666,   -- ansi/ansi_commands.rs get_rect_area: let top_line: i32 = self.parsed_numbers[offset]  -> rectArea / vecIndex (values <= max(rows, 60), 132)
  83644966758342,   -- ansi/ansi_commands.rs get_rect_area: - 1;  -> rectArea / vecIndex (values <= max(rows, 60), 132)
  273656108723769,   -- ansi/ansi_commands.rs get_rect_area: let left_column = self.parsed_numbers[offset + 1].max(1).min(buf.termi  -> rectArea / vecIndex (values <= max(rows, 60), 132)
  70387643001391,   -- ansi/ansi_commands.rs get_rect_area: let bottom_line = self.parsed_numbers[offset + 2]  -> rectArea / vecIndex (values <= max(rows, 60), 132)
  201188818607981,   -- ansi/ansi_commands.rs get_rect_area: - 1;#2  -> rectArea / vecIndex (values <= max(rows, 60), 132)
  213892892592518,   -- ansi/ansi_commands.rs get_rect_area: let right_column = self.parsed_numbers[offset + 3].max(1).min(buf.term  -> rectArea / vecIndex (values <= max(rows, 60), 132)
  195109452538794,   -- ansi/ansi_commands.rs fill_rectangular_area: let Some(ch) = char::from_u32(self.parsed_numbers[0] as u32) else {  -> fillArea (length guard 5)
  54014624447630,   -- ansi/ansi_commands.rs fill_rectangular_area: buf.layers[0].set_char((x, y), AttributedChar::new(ch, caret.attribute  -> fillArea (length guard 5)
  36918867303529,   -- ansi/ansi_commands.rs erase_rectangular_area: buf.layers[0].set_char((x, y), AttributedChar::default());  -> fillArea
  8826816896427,   -- ansi/ansi_commands.rs selective_erase_rectangular_area: buf.layers[0].set_char((x, y), AttributedChar::new(' ', ch.attribute))  -> fillArea
  245724265892178,   -- petscii/mod.rs update_shift_mode: buf.layers[current_layer].set_char((x, y), ch);  -> repaintAll
  25386756930936,   -- viewdata/mod.rs fill_to_eol: buf.layers[0].set_char(p, ch);  -> fillToEol
  14179077885193    -- mode7/mod.rs fill_to_eol: buf.layers[0].set_char(p, ch);  -> fillToEol
]

open IcyVerif.Gen.RowSites in
/-- the translator's inventory of the current source has no such line outside the table: a new index / insert /
    remove / cast in these functions is an undischarged obligation before any generator reaches it (the guards the
    totality proofs rely on are pinned by the translator itself, which fails when one disappears) -/
theorem row_sites_known : rowSiteIds.all (fun l => knownRowSiteIds.contains l) = true := by decide +kernel
open IcyVerif.Gen.RowSites in
theorem row_sites_complete : rowSiteIds.length = rowSites.length ∧ knownRowSiteIds.length = 96 := by decide +kernel

/-- did the operation panic? -/
def panics {α : Type} (r : RRes α) : Bool := match r with | .error _ => true | .ok _ => false
/- the preconditions are not idle: outside them the modelled operations DO panic (these are the shapes of the
   historical crashes: negative margin as an index, cursor column -1 in ECH, insert-mode print at row -1,
   `scroll_right` with an empty buffer width) -/
example : panics (insertTerminalLine { initScr 5 3 with mtb := some (-1, -1) } 0 (initTab 5 3)) = true := by decide +kernel
example : panics (removeTerminalLine { initScr 5 3 with mtb := some (-1, -1) } 0 (initTab 5 3)) = true := by decide +kernel
example : panics (echT (initScr 5 3) { x := -1, y := 0, ins := false } 1 (initTab 5 3)) = true := by decide +kernel
example : panics (printCharT (initScr 5 3) { x := 0, y := -1, ins := true } (initTab 5 3)) = true := by decide +kernel
example : panics (scrollRight { initScr 5 3 with bw := 0 } (initTab 5 3)) = true := by decide +kernel
example : panics (scrollLeft { initScr 5 3 with bw := -3 } (initTab 5 3)) = true := by decide +kernel
/-- and the same operations with the preconditions met, on a ragged table (rows of 0, 7 and 2 cells, 5 columns) -/
example : (panics (insertTerminalLine { initScr 5 3 with mtb := some (0, 2) } 1 { rows := [0, 7, 2], lw := 5, lh := 3 }),
    panics (scrollRight (initScr 5 3) { rows := [0, 7, 2], lw := 5, lh := 3 }),
    panics (scrollLeft { initScr 5 3 with mlr := some (1, 3) } { rows := [0, 7, 2], lw := 5, lh := 3 })) = (false, false, false) := by
  decide +kernel

/-- …and inside them the operations work on ragged tables: a 5x3 screen cleared, two short rows built with line
    feeds, left/right margins 2..4, then scroll left, scroll right, insert line, delete line, insert-mode print -/
example : (match runJ { musicOpt := 0, bsCtrl := true } (fun _ => { lineLen := 0, extOk := true }) (initSt 5 3, initTab 5 3)
      "\x1b[2Jab\nc\n\x1b[?69h\x1b[2;4s\x1b[1;1H\x1b[ @\x1b[2 A\x1b[L\x1b[3;1H\x1b[M\x1b[4hXY".toList with
    | .ok x => (x.2.rows, x.2.lh, x.1.c.x, x.1.c.y) | .error _ => ([], 0, -1, -1)) = ([0, 5, 2], 3, 2, 2) := by decide +kernel

/-- the macro replay threads the row table: macro 1 = "insert line, line feed", invoked twice -/
example : (match runJ { musicOpt := 0, bsCtrl := true } (fun _ => { lineLen := 0, extOk := true }) (initSt 4 2, initTab 4 2)
      "\x1bP1;0;0!z\x1b[L\n\x1b\\\x1b[1*z\x1b[1*z".toList with
    | .ok x => (x.2.rows, x.1.c.y) | .error _ => ([], -1)) = ([0, 0, 4, 4], 2) := by decide +kernel

end IcyVerif.C01
