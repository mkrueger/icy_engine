import IcyVerif.Lemmas.SixelRaster
import IcyVerif.Lemmas.SixelLoad
import IcyVerif.Lemmas.SixelScale
/-! # C14 — sixel images are complete rectangles and appear in arrival order
Property theorems, the reference `loadRef` of the load, and non-vacuity examples with their configurations.

(a) `Sixel::parse_from` (model `IcyVerif.Sixel.parse`, the repaired tree):
    rectangularity, consistency with a raster declaration, panic freedom.
(b) `Buffer::update_sixel_threads` (model `IcyVerif.SixelQueue.poll`): schedule independence,
    non-blocking, no loss / no duplication.
(c) the file-loading path `parse_with_parser` (model `IcyVerif.SixelLoad.loadSixels`) and the hand-off in
    `execute_dcs` (`IcyVerif.SixelLoad.classify`, `IcyVerif.Sixel.decode`): every delivered image becomes exactly
    one image layer, newest first, cell size = ceiling, independent of the completion schedule; the covering rule
    removes nothing but covered images; the picture does not depend on the DCS parameters.

Partial (named here and in the evidence): the OS scheduler and the memory ordering of
`JoinHandle::is_finished` are not modelled — completions enter the model as `finish` events;
payload numbers above `MAX_SIXEL_SIZE` / `MAX_SIXEL_COLORS` are parse errors; the model
outcome `Out.huge` is unreachable (`IcyVerif.C03.sixel_never_huge`). -/
namespace IcyVerif.C14
open IcyVerif

section Rect
open IcyVerif.Sixel

/-- the literals of the model (band height 6, 4 bytes per pixel, first data char `?`, ignore threshold 0x7F,
    control characters, 16-colour default palette, `parse_next_number`) are the ones in the working tree -/
theorem constants_match_source :
    Gen.Sixel.defaultPalLen = ({} : St).palLen ∧ Gen.Sixel.firstData = 63 ∧ Gen.Sixel.bandRows = 6 ∧
    Gen.Sixel.pixelBytes = 4 ∧ Gen.Sixel.ignoreAbove = 127 ∧
    Gen.Sixel.controlChars = ['#', '!', '-', '$', '"'].map Char.toNat ∧
    Gen.Sixel.src_parse_next_number = "x.saturating_mul(10).saturating_add(ch as i32).saturating_sub(b'0' as i32)" :=
  gen_constants_tie

/-- the raster attribute arm of `parse_char` is the code `sizeArm` was written against: both forms resize the row
    vector to the declared height unconditionally (`Vec::resize` grows AND cuts), then set `height_set`; any edit there
    breaks this obligation until the model has been revisited (the translator copies the text on every run) -/
theorem raster_source_unchanged :
    Gen.Sixel.src_raster_arm = [
      "self.vertical_scale = self.parsed_numbers[0];",
      "self.horizontal_scale = self.parsed_numbers[1];",
      "if self.parsed_numbers.len() == 3 {",
      "let height = self.parsed_numbers[2];",
      "self.picture_data.resize(height as usize, Vec::new());",
      "self.height_set = true;",
      "}",
      "if self.parsed_numbers.len() == 4 {",
      "let height = self.parsed_numbers[3];",
      "let width = self.parsed_numbers[2];",
      "self.picture_data.resize(height as usize, vec![0; 4 * width as usize]);",
      "self.height_set = true;",
      "}",
      "self.state = SixelState::Read;"] :=
  rfl

/-- **Rectangularity.** Every image the parser returns holds exactly `w * h * 4` bytes; the common row
    length is the widest row (rows are padded, never cut) and all sizes are in `i32` range. -/
theorem sixel_rect (payload : List Char) (img : Img) (h : parse payload = .ok img) :
    img.dataLen = img.w * img.h * 4 ∧ img.w * 4 ≤ hugeLimit ∧ img.h ≤ hugeLimit := by
  obtain ⟨s, g, rfl⟩ := ((run_good_sat good_init (payload ++ ['#'])).mapOut finish).of_ok h
  have hr := rowLen_ok g.rows
  simp only [finish, List.map_const', List.sum_replicate_nat, RowOK] at hr ⊢
  refine ⟨?_, by omega, g.height⟩
  have : rowLen s.rows / 4 * 4 = rowLen s.rows := by omega
  rw [Nat.mul_comm (rowLen s.rows / 4), Nat.mul_assoc, this]

/-- padding never cuts a row: every row of the final state fits into the returned width -/
theorem sixel_pad_only (payload : List Char) (s : St) (h : parseSt payload = .ok s) :
    ∀ r ∈ s.rows, r ≤ (finish s).w * 4 := by
  intro r hr
  have g : Good s := (run_good_sat good_init (payload ++ ['#'])).of_ok h
  have h1 := (foldl_max_ge s.rows 0).2 r hr
  have h2 := rowLen_ok g.rows
  simp only [finish, rowLen, RowOK] at *
  omega

/-- **Consistency with a declared raster size — wherever the attribute stands.** `hdr` is ANY prefix of the payload
    (picture data, `-`, `$`, colour definitions, earlier raster attributes) that leaves the parser inside a raster
    attribute whose numbers declare `W × H` (`"Pan;Pad;Ph;Pv` or `"Pan;Pad;Pv`, `W = 0`); the next character `c` ends
    the attribute, and no further `"` follows.  Then the image is exactly `H` pixels high: rows that were decoded
    BEFORE the attribute arrived and lie above `H` are cut (`picture_data.resize` of both arms), taller data after it
    is clipped, shorter data is padded; and if the attribute adds rows (`H` exceeds the rows decoded so far — in
    particular if it comes before any picture data and `H > 0`) the image is at least `W` wide (wider data extends it). -/
theorem sixel_raster_consistent (hdr rest : List Char) (c : Char) (s : St) (W H : Nat) (img : Img)
    (hh : run {} hdr = .ok s) (hst : s.state = .readSize) (hd : declared s.nums = some (W, H))
    (hc1 : c.isDigit = false) (hc2 : c ≠ ';') (hc3 : c ≠ '"') (hrest : ∀ ch ∈ rest, ch ≠ '"')
    (h : parse (hdr ++ c :: rest) = .ok img) :
    img.h = H ∧ (s.rows.length < H → W ≤ img.w) ∧ (s.rows = [] → 0 < H → W ≤ img.w) := by
  obtain ⟨h1, h2⟩ := parse_declared (img := img) (rest := rest ++ ['#']) hh hst hd hc1 hc2 hc3
    (fun ch hch => (List.mem_append.1 hch).elim (hrest ch) fun h' => by simp at h'; subst h'; decide)
    (by rw [← List.cons_append, ← List.append_assoc]; exact h)
  exact ⟨h1, h2, fun he hH => h2 (by rw [he]; exact hH)⟩

/-- the same at the END of the payload: an attribute that is still open when the data ends is closed by the final
    `#` that `parse_from` feeds to the parser (`hdr` again any prefix) -/
theorem sixel_raster_consistent_at_end (hdr : List Char) (s : St) (W H : Nat) (img : Img)
    (hh : run {} hdr = .ok s) (hst : s.state = .readSize) (hd : declared s.nums = some (W, H))
    (h : parse hdr = .ok img) :
    img.h = H ∧ (s.rows.length < H → W ≤ img.w) :=
  parse_declared (c := '#') (rest := []) hh hst hd (by decide) (by decide) (by decide) nofun h

/-- **No panic** (every char list): the parser returns an image, a parse error or the out-of-range outcome
    `huge`; every index, slice, `%` and every `i32` operation of the cursor is safe.
    (On the pinned tree the statement is false: `sixel_cursor_overflow_is_error` shows the input.) -/
theorem sixel_total (payload : List Char) (p : Site) : parse payload ≠ .panic p :=
  ((run_good_sat good_init (payload ++ ['#'])).mapOut finish).ne_panic p

/-- the same for `Sixel::parse_from` with any scales (what `execute_dcs` calls) -/
theorem decode_total (hs vs : Nat) (payload : List Char) (p : Site) : decode hs vs payload ≠ .panic p := by
  intro h
  have := decode_img hs vs payload
  rw [h] at this
  exact sixel_total payload p this.symm

/-- `!357913942-~` moves the cursor down 357 913 942 bands; `y * 6` then leaves `i32`: the result is
    `Err(InvalidPictureSize)`, on the pinned tree an overflow panic in the decode thread (replayed on the real code on
    every run) -/
theorem sixel_cursor_overflow_is_error : parse "!357913942-~".toList = .err .invalidPictureSize := by
  have h1 : run {} "!357913942".toList = .ok { state := .repeat_, nums := [357913942] } := by decide
  have e : "!357913942-~".toList ++ ['#'] = "!357913942".toList ++ ['-', '~', '#'] := by decide
  unfold parse mapOut
  rw [e, run_append, h1, ok_andThen, cursor_overflow_err 357913942 (by decide), err_andThen]

/-- the pinned tree (before `fix: sixel rows are padded …`) violates rectangularity -/
theorem sixel_rect_pinned_false :
    ¬ ∀ payload img, parsePinned payload = .ok img → img.dataLen = img.w * img.h * 4 := by
  intro h
  have := h "~-~~~".toList ⟨1, 12, 96⟩ (by decide)
  simp at this

/-! non-vacuity -/
example : parse "~-~~~".toList = .ok ⟨3, 12, 144⟩ := by decide +kernel
example : parsePinned "~-~~~".toList = .ok ⟨1, 12, 96⟩ := by decide +kernel
example : parse "A".toList = .ok ⟨1, 6, 24⟩ := by decide +kernel
example : parse "#1;2;100;0;0!3~-!2?".toList = .ok ⟨3, 12, 144⟩ := by decide +kernel
/-- a raster attribute declaring 3×2 before data that is 5 wide and 18 high: clipped to 2 rows, 5 wide -/
example : run {} "\"1;1;3;2".toList = .ok { state := .readSize, nums := [1, 1, 3, 2] } := by decide +kernel
example : parse "\"1;1;3;2~~~~~-~-~".toList = .ok ⟨5, 2, 40⟩ := by decide +kernel
/-- LATE raster attributes: two bands (12 rows) were decoded, then `"1;1;4;8` arrives: rows 8..11 are cut -/
example : run {} "~~~~-~~~~\"1;1;4;8".toList =
    .ok { state := .readSize, nums := [1, 1, 4, 8], x := 4, y := 1, rows := List.replicate 12 16 } := by decide +kernel
example : parse "~~~~-~~~~\"1;1;4;8".toList = .ok ⟨4, 8, 128⟩ := by decide +kernel
/-- the three-number form cuts as well; data after it is clipped at the declared height -/
example : parse "~-~\"1;1;7~~~".toList = .ok ⟨4, 7, 112⟩ := by decide +kernel
example : parse "~~~-~\"1;1;2;9~~~-~".toList = .ok ⟨4, 9, 144⟩ := by decide +kernel
/-- a late attribute that ADDS rows makes them as wide as declared: one band of one pixel, then 5×12 -/
example : parse "~\"1;1;5;12".toList = .ok ⟨5, 12, 240⟩ := by decide +kernel
/-- several attributes: the last one that declares a size counts -/
example : parse "\"1;1;9;30~-~\"1;1;2;3~-~".toList = .ok ⟨9, 3, 108⟩ := by decide +kernel
example : parse " ".toList = .err .invalidSixelChar := by decide +kernel
/-- numbers beyond `MAX_SIXEL_SIZE` are parse errors, not allocations of that size -/
example : parse "\"1;1;2147483599~".toList = .err .invalidPictureSize := by decide +kernel
example : parse "\"1;1;4096;2~".toList = .ok ⟨4096, 2, 32768⟩ := by decide +kernel

end Rect

section Queue
open IcyVerif.SixelQueue

/-- **Schedule independence.** For EVERY sequence of arrivals, thread completions, polls and clear-screens (any
    interleaving, any completion order, any number of polls anywhere; `arrivals` = the ids that arrived since the
    last clear-screen): the ids popped so far are a prefix
    `popped` of the arrival order, the rest is still queued in arrival order, and the layer is exactly what
    placing the successfully decoded images of `popped` one after the other in ARRIVAL order gives.
    In particular once the queue is empty the layer depends on the arrival order only. -/
theorem schedule_independent (cfg : Cfg) (evs : List Ev) :
    ∃ popped, arrivals evs = popped ++ ids (run cfg evs).queue ∧
      (run cfg evs).layer = placeAll cfg (okImgs cfg popped) ∧
      ((run cfg evs).queue = [] → (run cfg evs).layer = placeAll cfg (okImgs cfg (arrivals evs))) := by
  obtain ⟨popped, g⟩ := run_good cfg evs
  refine ⟨popped, g.split, g.layer, ?_⟩
  intro hq
  have := g.split
  rw [hq] at this
  simp [ids] at this
  rw [this]; exact g.layer

/-- two schedules with the same arrivals that both drained the queue show the same picture -/
theorem schedule_independent_pair (cfg : Cfg) (evs1 evs2 : List Ev) (ha : arrivals evs1 = arrivals evs2)
    (h1 : (run cfg evs1).queue = []) (h2 : (run cfg evs2).queue = []) :
    (run cfg evs1).layer = (run cfg evs2).layer := by
  obtain ⟨_, _, _, e1⟩ := schedule_independent cfg evs1
  obtain ⟨_, _, _, e2⟩ := schedule_independent cfg evs2
  rw [e1 h1, e2 h2, ha]

/-- once every decode in flight has finished, `queue.length` further polls deliver everything: the final
    picture is the arrival-order placement, whatever happened before -/
theorem all_delivered_after_polls (cfg : Cfg) (evs : List Ev) (hf : AllFinished (run cfg evs).queue) :
    let fin := run cfg (evs ++ List.replicate (run cfg evs).queue.length Ev.poll)
    fin.queue = [] ∧ fin.layer = placeAll cfg (okImgs cfg (arrivals evs)) := by
  intro fin
  obtain ⟨_, g⟩ := run_good cfg evs
  have hq : fin.queue = [] := by
    show (run cfg (evs ++ _)).queue = []
    simp only [run, List.foldl_append]
    rw [← pollN_eq_run]
    exact pollN_drains _ g hf (Nat.le_refl _)
  obtain ⟨_, _, _, e⟩ := schedule_independent cfg (evs ++ List.replicate (run cfg evs).queue.length Ev.poll)
  refine ⟨hq, ?_⟩
  have ha : arrivals (evs ++ List.replicate (run cfg evs).queue.length Ev.poll) = arrivals evs := by
    rw [arrivals_append]
    exact List.foldlRecOn _ arrStep (motive := (· = arrivals evs)) rfl fun _ hb _ he => List.eq_of_mem_replicate he ▸ hb
  rw [← ha]; exact e hq

/-- **Polling never blocks**: in every reachable state `update_sixel_threads` returns without calling
    `join` on a thread that is still running. -/
theorem poll_nonblocking (cfg : Cfg) (evs : List Ev) : (poll cfg (run cfg evs)).2 ≠ .blocked := by
  obtain ⟨popped, g⟩ := run_good cfg evs
  obtain ⟨_, hp⟩ := poll_good g
  exact hp.notBlocked

/-- poll never inspects anything at or behind the first unfinished handle: that handle and everything
    queued after it (finished or not) come back untouched, in order -/
theorem poll_stops_at_unfinished (cfg : Cfg) (pre post : List (Nat × Option Res)) (id : Nat) (layer : List Img)
    (log : List Nat) :
    ∃ k, (poll cfg ⟨pre ++ (id, none) :: post, layer, log⟩).1.queue = pre.drop k ++ (id, none) :: post :=
  pollLoop_stops_at_unfinished cfg pre post id layer log false

/-- **No loss, no duplication.** The sequence of images pushed onto the layer is always the successfully
    decoded part of a PREFIX of the arrival order (so images are applied in arrival order, none skipped);
    with distinct arrival ids no image is pushed twice. -/
theorem no_loss_no_dup (cfg : Cfg) (evs : List Ev) :
    ∃ popped, arrivals evs = popped ++ ids (run cfg evs).queue ∧ (run cfg evs).log = okIds cfg popped ∧
      ((arrivals evs).Nodup → (run cfg evs).log.Nodup) := by
  obtain ⟨popped, g⟩ := run_good cfg evs
  refine ⟨popped, g.split, g.log, ?_⟩
  intro hn
  rw [g.log]
  have h1 : popped.Sublist (arrivals evs) := by rw [g.split]; exact List.sublist_append_left _ _
  exact ((okIds_sublist cfg popped).trans h1).nodup hn

/-- **Delivery.** A poll that reports no error has delivered every image whose decode and all earlier
    decodes had finished: if the queue starts with a block `pre` of finished handles, every id in `pre`
    whose decode succeeded is in the log afterwards (exactly once, by `no_loss_no_dup`); afterwards the
    queue is empty or starts with an unfinished handle. -/
theorem no_loss (cfg : Cfg) (evs : List Ev) (pre post : List (Nat × Option Res)) (b : Bool)
    (hq : (run cfg evs).queue = pre ++ post) (hf : AllFinished pre)
    (hr : (poll cfg (run cfg evs)).2 = .ok b) :
    (∀ id img, id ∈ ids pre → cfg.res id = .ok img → id ∈ (run cfg (evs ++ [Ev.poll])).log) ∧
      ((run cfg (evs ++ [Ev.poll])).queue = [] ∨ ∃ id rest, (run cfg (evs ++ [Ev.poll])).queue = (id, none) :: rest) := by
  rw [run_snoc_poll]
  obtain ⟨popped, g⟩ := run_good cfg evs
  obtain ⟨_, hp⟩ := poll_good g
  exact ⟨fun id img hid hres => poll_delivers g hq hf hr hid hres, (hp.ok b hr).2⟩

/-- **An error return loses nothing.** In every reachable state whose queue starts with a block `pre` of finished
    handles none of which failed, followed by a handle whose decode FAILED (`result?`): the poll reports the error,
    takes exactly `pre` and the failing handle from the queue (`post` stays, in order, for the next poll), and every
    image of `pre` that decoded fine has been pushed; the layer is the arrival-order placement of ALL handles taken so
    far — an image that left the queue is on the layer (or covered by a later one), however many finished decodes met
    this poll and wherever the failing one stood among them. -/
theorem no_loss_at_error (cfg : Cfg) (evs : List Ev) (pre post : List (Nat × Option Res)) (bad : Nat)
    (hq : (run cfg evs).queue = pre ++ (bad, some .err) :: post) (hf : AllFinished pre)
    (hne : ∀ e ∈ pre, e.2 ≠ some .err) :
    (poll cfg (run cfg evs)).2 = .err ∧
    (run cfg (evs ++ [Ev.poll])).queue = post ∧
    (∀ id img, id ∈ ids pre → cfg.res id = .ok img → id ∈ (run cfg (evs ++ [Ev.poll])).log) ∧
    ∃ popped, arrivals evs = popped ++ ids post ∧ (∀ id ∈ ids pre, id ∈ popped) ∧
      (run cfg (evs ++ [Ev.poll])).log = okIds cfg popped ∧
      (run cfg (evs ++ [Ev.poll])).layer = placeAll cfg (okImgs cfg popped) := by
  rw [run_snoc_poll]
  obtain ⟨popped, g⟩ := run_good cfg evs
  obtain ⟨herr, hqueue, g2⟩ := poll_at_error g hq hf hne
  have hmem : ∀ id ∈ ids pre, id ∈ popped ++ (ids pre ++ [bad]) := fun id hid => by simp [hid]
  refine ⟨herr, hqueue, fun id img hid hres => ?_, _, ?_, hmem, g2.log, g2.layer⟩
  · rw [g2.log]; exact mem_okIds (hmem id hid) hres
  · rw [g2.split, hqueue]

/-- **Clear-screen**: whatever happened before it — images shown, decodes queued or still running — the state
    after a clear-screen is the initial one, so nothing that arrived before it can ever appear afterwards,
    whenever its decode finishes -/
theorem clear_forgets (cfg : Cfg) (pre post : List Ev) : run cfg (pre ++ Ev.clear :: post) = run cfg post := by
  simp [run, List.foldl_append, step]

/-! non-vacuity: three images, the third covers the first; decodes finish in the order 2, 0, 1 with a poll
    after each completion -/
def exCfg : Cfg := { fw := 8, fh := 16, res := fun
  | 0 => .ok ⟨0, 0, 0, 4, 6⟩
  | 1 => .ok ⟨1, 5, 0, 4, 6⟩
  | 2 => .ok ⟨2, 0, 0, 8, 12⟩
  | _ => .err }
def exSched : List Ev := [.arrive 0, .arrive 1, .arrive 2, .finish 2, .poll, .finish 0, .poll, .finish 1, .poll]
example : ((run exCfg exSched).layer.map (·.id)) = [1, 2] := by decide +kernel
example : (run exCfg exSched).log = [0, 1, 2] := by decide +kernel
example : (run exCfg exSched).queue = [] := by decide +kernel
example : (run exCfg [.arrive 0, .arrive 1, .finish 1, .poll]).layer = [] := by decide +kernel
/-- two good images and a failing decode (id 7) between / behind them, all finished when ONE poll comes: the poll
    returns the error, the images in front of the failing decode are shown, the one behind it is still queued -/
example : (poll exCfg (run exCfg [.arrive 0, .arrive 1, .arrive 7, .arrive 2, .finish 2, .finish 7, .finish 1, .finish 0])).2 = .err := by decide +kernel
example : (run exCfg [.arrive 0, .arrive 1, .arrive 7, .arrive 2, .finish 2, .finish 7, .finish 1, .finish 0, .poll]).log = [0, 1] := by decide +kernel
example : (run exCfg [.arrive 0, .arrive 1, .arrive 7, .arrive 2, .finish 2, .finish 7, .finish 1, .finish 0, .poll]).queue =
    [(2, some (.ok ⟨2, 0, 0, 8, 12⟩))] := by decide +kernel
example : (run exCfg [.arrive 0, .arrive 1, .arrive 7, .arrive 2, .finish 2, .finish 7, .finish 1, .finish 0, .poll, .poll]).log = [0, 1, 2] := by decide +kernel
example : AllFinished (run exCfg [.arrive 0, .arrive 1, .finish 1, .finish 0]).queue := by unfold AllFinished; decide
example : (run exCfg [.arrive 0, .arrive 1, .finish 0, .poll, .clear, .finish 1, .poll, .arrive 2, .finish 2, .poll]).layer.map (·.id) = [2] := by
  decide +kernel

end Queue
section Load
open IcyVerif.SixelQueue IcyVerif.SixelLoad

/-- the loader's sixel code is the code the model was written against: the translator copies the text of the
    join loop and of the sixel-to-layer loop of `parse_with_parser` and the `vertical_scale` table of
    `execute_dcs`; any edit there breaks this obligation until the model has been revisited -/
theorem load_source_unchanged :
    Gen.Sixel.src_sixel_to_layers = [
      "while !result.sixel_threads.is_empty() {",
      "thread::sleep(Duration::from_millis(50));",
      "result.update_sixel_threads()?;",
      "}",
      "let mut num = 0;",
      "while !result.layers[0].sixels.is_empty() {",
      "if let Some(mut sixel) = result.layers[0].sixels.pop() {",
      "let size = sixel.get_size();",
      "let font_size = result.get_font_dimensions();",
      "let size = Size::new(",
      "(size.width + font_size.width - 1) / font_size.width,",
      "(size.height + font_size.height - 1) / font_size.height,",
      ");",
      "num += 1;",
      "let mut layer = Layer::new(fl!(crate::LANGUAGE_LOADER, \"layer-new-sixel_layer_name\", number = num), size);",
      "layer.role = Role::Image;",
      "layer.set_offset(sixel.position);",
      "sixel.position = Position::default();",
      "layer.sixels.push(sixel);",
      "result.layers.push(layer);",
      "}",
      "}"] ∧
    Gen.Sixel.vscaleTable.all (fun e => e.1.all fun n => vscaleOf [n] = e.2) = true ∧
    vscaleOf [] = Gen.Sixel.vscaleNone ∧ vscaleOf [7] = Gen.Sixel.vscaleOther ∧ vscaleOf [1000] = Gen.Sixel.vscaleOther :=
  ⟨rfl, by decide⟩

/-- **No loss, no duplicate on the file-loading path** (every list of delivered sixels): the conversion loop
    creates exactly one image layer per sixel on `layers[0]`, in REVERSE delivery order (newest first — `pop`
    takes the last), numbered 1, 2, …; the k-th layer carries the (k+1)-th newest sixel with its pixel size, sits
    at that sixel's cell position and is `cells` wide and high — zero-size images included. -/
theorem load_one_layer_per_image (fw fh : Int) (sixels : List Img) :
    (toLayers fw fh sixels).length = sixels.length ∧
    (toLayers fw fh sixels).map (·.id) = (sixels.map (·.id)).reverse ∧
    ((toLayers fw fh sixels).map (·.id)).Perm (sixels.map (·.id)) ∧
    (toLayers fw fh sixels).map (·.num) = List.range' 1 sixels.length ∧
    ∀ k, (toLayers fw fh sixels)[k]? = (sixels.reverse[k]?).map (fun i => mkLayer fw fh (k + 1) i) := by
  refine ⟨toLayers_length fw fh sixels, toLayers_ids fw fh sixels, ?_, toLayers_nums fw fh sixels,
    toLayers_getElem? fw fh sixels⟩
  rw [toLayers_ids]
  exact List.reverse_perm _

/-- **Cell size = ceiling of pixel size / font size**, for every non-negative pixel size and positive font size;
    an image without pixels gets a layer of 0 cells (and still gets its layer, `load_one_layer_per_image`). -/
theorem load_cell_size (fw fh : Int) (num : Nat) (i : Img) (hfw : 0 < fw) (hfh : 0 < fh) (hw : 0 ≤ i.w) (hh : 0 ≤ i.h) :
    let l := mkLayer fw fh num i
    (0 ≤ l.cw ∧ (l.cw - 1) * fw < i.w ∧ i.w ≤ l.cw * fw) ∧ (0 ≤ l.ch ∧ (l.ch - 1) * fh < i.h ∧ i.h ≤ l.ch * fh) ∧
      (i.w = 0 → l.cw = 0) ∧ (i.h = 0 → l.ch = 0) ∧ l.offX = i.px ∧ l.offY = i.py ∧ l.pw = i.w ∧ l.ph = i.h := by
  intro l
  refine ⟨cells_ceil i.w fw hfw hw, cells_ceil i.h fh hfh hh, ?_, ?_, rfl, rfl, rfl, rfl⟩
  · intro h; show cells i.w fw = 0; rw [h]; exact cells_zero fw hfw
  · intro h; show cells i.h fh = 0; rw [h]; exact cells_zero fh hfh

/-- what the load must produce, computed without any queue: an error if a decode returned one, otherwise the
    image layers of the arrival-order placement -/
def loadRef (cfg : Cfg) (arr : List Nat) : LoadOut :=
  if arr.any (fun id => cfg.res id == .err) then .err
  else if (cfg.fw = 0 ∨ cfg.fh = 0) ∧ placeAll cfg (okImgs cfg arr) ≠ [] then .divZero
  else .ok (toLayers cfg.fw cfg.fh (placeAll cfg (okImgs cfg arr)))

/-- **Schedule independence of a load.** `arr` arrived in this order; the decode threads complete during the
    sleeps of the join loop in ANY order and grouping `sched` (every decode completes at some point).  The load
    ends (never `waiting`, never `blocked`) with the result `loadRef` that depends on the arrival order only. -/
theorem load_schedule_independent (cfg : Cfg) (arr : List Nat) (sched : List (List Nat))
    (hc : ∀ id ∈ arr, id ∈ sched.flatten) : loadSixels cfg arr sched = loadRef cfg arr := by
  have h := arrived_joinLoop cfg arr sched (covered := True) fun _ => hc
  unfold loadSixels loadFrom loadRef
  revert h
  generalize joinLoop cfg sched (arrived cfg arr) = r
  obtain ⟨s, ret⟩ := r
  cases ret with
  | done =>
    intro ⟨hq, popped, g, hne⟩
    have hsplit := g.split
    rw [hq] at hsplit
    simp only [ids, List.map_nil, List.append_nil] at hsplit
    subst hsplit
    simp only [NoErr.any_false hne, Bool.false_eq_true, if_false, g.layer]
  | err =>
    intro ⟨id, hid, he⟩
    have hany : (arr.any fun id => cfg.res id == .err) = true := by
      rw [List.any_eq_true]
      exact ⟨id, hid, by simp [he]⟩
    simp only [hany, if_true]
  | blocked => exact False.elim
  | waiting => exact fun h => absurd trivial h

/-- the join loop never joins a running thread, even under a schedule in which some decode never completes -/
theorem load_never_blocks (cfg : Cfg) (arr : List Nat) (sched : List (List Nat)) :
    loadSixels cfg arr sched ≠ .blocked := by
  have h := arrived_joinLoop cfg arr sched (covered := False) False.elim
  unfold loadSixels loadFrom
  revert h
  generalize joinLoop cfg sched (arrived cfg arr) = r
  obtain ⟨s, ret⟩ := r
  cases ret <;> simp [JoinOK]
  split <;> simp

/-- **End to end**: if no decode returns an error and the font has a size, the load creates one image layer per
    image of the arrival-order placement `placeAll` — the images that arrived minus those a later image covers —
    newest first; no other layer, none twice. -/
theorem load_no_loss (cfg : Cfg) (arr : List Nat) (sched : List (List Nat)) (hc : ∀ id ∈ arr, id ∈ sched.flatten)
    (hne : ∀ id ∈ arr, cfg.res id ≠ .err) (hfw : 0 < cfg.fw) (hfh : 0 < cfg.fh) :
    ∃ layers, loadSixels cfg arr sched = .ok layers ∧
      layers.length = (placeAll cfg (okImgs cfg arr)).length ∧
      layers.map (·.id) = ((placeAll cfg (okImgs cfg arr)).map (·.id)).reverse := by
  refine ⟨toLayers cfg.fw cfg.fh (placeAll cfg (okImgs cfg arr)), ?_, toLayers_length _ _ _, toLayers_ids _ _ _⟩
  rw [load_schedule_independent cfg arr sched hc]
  unfold loadRef
  have hany := NoErr.any_false (cfg := cfg) hne
  have hz : ¬ ((cfg.fw = 0 ∨ cfg.fh = 0) ∧ placeAll cfg (okImgs cfg arr) ≠ []) := by
    intro ⟨h, _⟩; omega
  simp only [hany, Bool.false_eq_true, if_false, hz]

/-- **Clear-screen in a file**: only arrivals and clear-screens happen while the text is parsed, and the load then
    behaves as if just the sequences after the last clear-screen had arrived — images that arrived before a
    clear-screen never appear, the others are subject to `load_schedule_independent` / `load_no_loss`. -/
theorem load_text_clear (cfg : Cfg) (text : List Ev) (sched : List (List Nat)) (h : ∀ e ∈ text, TextEv e) :
    loadText cfg text sched = loadSixels cfg (arrivals text) sched ∧
    ∀ pre post, text = pre ++ Ev.clear :: post → arrivals text = arrivals post := by
  refine ⟨by unfold loadText loadSixels; rw [run_text cfg text h], ?_⟩
  intro pre post hp
  subst hp
  simp [arrivals, List.foldl_append, arrStep]

/-- **The covering rule loses nothing but covered images**: the picture is a sub-sequence of the decoded images
    in arrival order (no reordering, no duplicate); an image that is not shown is covered by an image that
    arrived LATER; the newest image is always shown, on top. -/
theorem placement_loses_only_covered (cfg : Cfg) (imgs : List Img) :
    (placeAll cfg imgs).Sublist imgs ∧
    (∀ pre i post, imgs = pre ++ i :: post → i ∈ placeAll cfg imgs ∨ ∃ j ∈ post, covers cfg j i = true) ∧
    (∀ pre i, imgs = pre ++ [i] → (placeAll cfg imgs).getLast? = some i) := by
  refine ⟨placeAll_sublist cfg imgs, ?_, ?_⟩
  · intro pre i post h; subst h; exact placeAll_lost_only_if_covered cfg pre post i
  · intro pre i h; subst h; exact placeAll_newest cfg pre i

/-- **The DCS hand-off** (`execute_dcs`): a DCS string made of numeric parameters, `q` and a payload starts a decode
    of exactly that payload (whatever the parameters), with `vertical_scale` ∈ {1,2,3,5} chosen by the first
    parameter; and what the decode returns is the picture of `parse payload` — its sizes, its byte count, its
    error — independent of the scales: so `sixel_rect`, `sixel_raster_consistent` and `sixel_total`
    hold for every image the terminal or a file can deliver. -/
theorem dcs_handoff (params payload : List Char) (hp : ∀ c ∈ params, IsParam c) :
    ∃ vs bg, classify (params ++ 'q' :: payload) = .sixel vs bg payload ∧ (vs = 1 ∨ vs = 2 ∨ vs = 3 ∨ vs = 5) ∧
      Sixel.mapOut (·.img) (Sixel.decode 1 vs payload) = Sixel.parse payload ∧
      ∀ d, Sixel.decode 1 vs payload = .ok d → d.img.dataLen = d.img.w * d.img.h * 4 := by
  refine ⟨_, _, classify_sixel params payload hp, vscaleOf_range _, Sixel.decode_img 1 _ payload, ?_⟩
  intro d hd
  have h := Sixel.decode_img 1 (vscaleOf (dcsNumbers [] params).1) payload
  rw [hd] at h
  exact (sixel_rect payload d.img h.symm).1

/-! non-vacuity -/
/-- five sequences as in a file: painted, all-background, empty, one whose decode thread panicked, a big one covering the first -/
def exLoadCfg : Cfg := { fw := 8, fh := 16, res := fun
  | 0 => .ok ⟨0, 0, 0, 4, 6⟩
  | 1 => .ok ⟨1, 2, 1, 0, 12⟩
  | 2 => .ok ⟨2, 4, 2, 0, 0⟩
  | 3 => .panicked
  | 4 => .ok ⟨4, 0, 0, 20, 12⟩
  | _ => .err }
example : loadSixels exLoadCfg [0, 1, 2, 3, 4] [[4, 2], [], [0, 3, 1]] =
    .ok [⟨1, 0, 0, 3, 1, 4, 20, 12⟩, ⟨2, 4, 2, 0, 0, 2, 0, 0⟩, ⟨3, 2, 1, 0, 1, 1, 0, 12⟩] := by decide +kernel
example : loadSixels exLoadCfg [0, 1, 5, 2] [[0, 1, 5, 2]] = .err := by decide +kernel
example : loadSixels exLoadCfg [0, 1] [[1]] = .waiting := by decide +kernel
example : loadText exLoadCfg [.arrive 0, .arrive 4, .clear, .arrive 1, .arrive 2] [[2, 1]] =
    .ok [⟨1, 4, 2, 0, 0, 2, 0, 0⟩, ⟨2, 2, 1, 0, 1, 1, 0, 12⟩] := by decide +kernel
example : classify "0;1q#1~".toList = .sixel 2 true "#1~".toList := by decide +kernel
example : classify "2q~".toList = .sixel 5 false "~".toList := by decide +kernel
example : classify ";3q~".toList = .sixel 3 false "~".toList := by decide +kernel
example : classify "CTerm:Font:0:AAAA".toList = .font := by decide +kernel
example : classify "1;0;0!z41".toList = .macroDef [1, 0, 0] := by decide +kernel
example : classify "xq~".toList = .unsupported := by decide +kernel
example : Sixel.decode 1 5 "\"7;9~".toList = .ok ⟨⟨1, 6, 24⟩, 9, 7⟩ := by decide +kernel
example : cells 0 8 = 0 ∧ cells 1 8 = 1 ∧ cells 8 8 = 1 ∧ cells 9 8 = 2 := by decide +kernel

end Load

end IcyVerif.C14
