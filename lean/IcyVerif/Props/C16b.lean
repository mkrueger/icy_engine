import IcyVerif.Lemmas.PaletteNamed
import IcyVerif.Lemmas.PaletteFiles
import IcyVerif.Lemmas.PaletteFilesRt
/-! # C16, second part — colours AS STORED (with names), and the palette of whole files for every font count

Only property theorems and non-vacuity examples.

* The index laws of `Props/C16.lean` are about RGB triples.  `Color` has a fourth field, `name: Option<String>` (set by the
  ICE and GPL importers and by callers).  The theorems here are about palettes of `Color`s — EVERY palette, EVERY colour
  and name, EVERY history — over a model that compares exactly the fields the source compares (`Gen/PalColor.lean`).
* "The 6-bit VGA palette encoding used by XBin/IDF/ADF is idempotent" for WHOLE FILES written from a picture: whatever the
  number of fonts (XBin: one, or two = 512-character mode), the palette that comes back is the palette that was saved. -/
namespace IcyVerif.C16
open IcyVerif.Palette IcyVerif.Gen.Palette

/-! ## names play no role -/

/-- `Color == Color` (used by `is_default`, `are_colors_equal`, `Palette == Palette`) compares RGB only -/
theorem color_eq_ignores_name (a b : Color) : colorEq a b = true ↔ a.rgb = b.rgb := by
  rw [colorEq_rgb]; simp

/-- `insert_color` on stored colours is `insert_color` on their RGB values: same index, same RGB sequence afterwards -/
theorem named_insert_refines (p : List Color) (c : Color) :
    (rgbsOf (insertColorN p c).1, (insertColorN p c).2) = insertColor (rgbsOf p) c.rgb := insertColorN_erase p c

/-- ADDING A COLOUR THAT IS ALREADY PRESENT — present by its RGB value, under whatever name, or none — returns the index
    of the first entry with that RGB value and changes NOTHING (no entry added, no name touched) -/
theorem named_insert_existing (p : List Color) (c : Color) (h : c.rgb ∈ rgbsOf p) :
    insertColorN p c = (p, firstIdx c.rgb (rgbsOf p)) ∧ firstIdx c.rgb (rgbsOf p) < p.length ∧
      (rgbsOf p).getD (firstIdx c.rgb (rgbsOf p)) black = c.rgb := by
  have hlt : firstIdx c.rgb (rgbsOf p) < (rgbsOf p).length := (firstIdx_lt_iff _ _).mpr h
  have hlt' : firstIdx c.rgb (rgbsOf p) < p.length := by rw [rgbsOf_length] at hlt; exact hlt
  refine ⟨?_, hlt', getD_firstIdx c.rgb (rgbsOf p) black hlt⟩
  unfold insertColorN; rw [firstIdxN_eq]; simp [hlt']

/-- a colour whose RGB value is new goes to the end, WITH its name -/
theorem named_insert_new (p : List Color) (c : Color) (h : c.rgb ∉ rgbsOf p) : insertColorN p c = (p ++ [c], p.length) := by
  have hge : ¬ firstIdx c.rgb (rgbsOf p) < (rgbsOf p).length := fun hlt => h ((firstIdx_lt_iff _ _).mp hlt)
  rw [rgbsOf_length] at hge
  unfold insertColorN; rw [firstIdxN_eq]; simp [hge]

/-- … and the returned index resolves to the RGB value of the colour, every old index to what it resolved to -/
theorem named_insert_resolves (p : List Color) (c : Color) (hlen : p.length < 2147483648) :
    getRgbN (insertColorN p c).1 (insertColorN p c).2 = c.rgb ∧
    ∀ i, i < p.length → getRgbN (insertColorN p c).1 i = getRgbN p i := by
  unfold getRgbN
  rw [insertColorN_fst, insertColorN_snd]
  refine ⟨?_, fun i hi => ?_⟩
  · rw [getRgb_of_lt _ _ (Nat.lt_of_le_of_lt (insertColor_idx_le _ _) (by rw [rgbsOf_length]; exact hlen))]
    exact insertColor_getD _ _
  · exact keeps_insert.getRgb (by rw [rgbsOf_length]; exact hi)

/-- HISTORIES: every sequence of insert / set / lookup / push / is_default operations on a palette whose entries carry
    names — inserting, setting and pushing named and unnamed colours — gives the same indices, the same looked-up colours and
    the same final RGB sequence as the same history on the bare RGB values.  So every theorem of `Props/C16.lean` about
    histories (`history_stable`, `inserted_index_survives`, …) holds for stored colours with names. -/
theorem named_history_refines (dos : List Rgb) (p : List Color) (ops : List NOp) :
    ((traceN dos p ops).1.flatMap NOut.erase, rgbsOf (traceN dos p ops).2) = trace (rgbsOf p) (ops.flatMap NOp.erase) := by
  induction ops generalizing p with
  | nil => rfl
  | cons op ops ih =>
    rw [List.flatMap_cons, stepN_sim dos, ← ih]
    simp only [traceN]
    cases (stepN dos p op).2 <;> simp

/-- `is_default` does not see names: a DOS palette whose entries were given names is still the default palette
    (the XBin / IcyDraw writers decide with it whether to write a palette block) -/
theorem named_is_default (p : List Color) : isDefaultN PalStream.dosDefault p = PalStream.isDefault (rgbsOf p) := by
  rw [isDefaultN_eq_colorsEqual, Bool.eq_iff_iff, colorsEqual_rgb, rgbsOf_unnamed]
  simp [PalStream.isDefault]

/-- `are_colors_equal` does not see names -/
theorem named_colors_equal (p q : List Color) : colorsEqual p q = true ↔ rgbsOf p = rgbsOf q := colorsEqual_rgb p q

/-- LOADED PALETTES: export a palette (any metadata, any colour names) in any of the five formats and import it — the ICE
    and GPL importers attach names to the colours — then add any colour of the original palette again, under ANY name or
    none: the answer is the index of the first entry with that RGB value in the ORIGINAL sequence, and the loaded palette
    does not change -/
theorem loaded_palette_insert_existing (f : Fmt) (p : Pal) (hv : p.ValidColors) :
    ∃ q, importM f (exportM f p) = some q ∧ q.rgbs = p.rgbs ∧
      ∀ c ∈ p.rgbs, ∀ nm : Option (List Nat), insertColorN q.colors ⟨nm, c⟩ = (q.colors, firstIdx c p.rgbs) := by
  obtain ⟨q, h1, h2⟩ := import_exportLines f p.flatten (flatten_clean p) (flatten_valid p hv)
  have h3 : q.rgbs = p.rgbs := h2.trans (flatten_rgbs p)
  refine ⟨q, h1, h3, fun c hc nm => ?_⟩
  have hq : rgbsOf q.colors = p.rgbs := h3
  have := (named_insert_existing q.colors ⟨nm, c⟩ (by rw [hq]; exact hc)).1
  rw [hq] at this
  exact this

/-! non-vacuity: an entry named "sky" and an unnamed one; the same RGB under another name, under none, a new one -/
def skyPal : List Color := [⟨some [115, 107, 121], ⟨10, 20, 30⟩⟩, ⟨none, ⟨40, 50, 60⟩⟩, ⟨some [120], ⟨10, 20, 30⟩⟩]
example : insertColorN skyPal ⟨none, ⟨10, 20, 30⟩⟩ = (skyPal, 0) := by decide
example : insertColorN skyPal ⟨some [98, 108, 117, 101], ⟨10, 20, 30⟩⟩ = (skyPal, 0) := by decide
example : insertColorN skyPal ⟨some [110], ⟨40, 50, 60⟩⟩ = (skyPal, 1) := by decide
example : insertColorN skyPal ⟨some [110], ⟨40, 50, 61⟩⟩ = (skyPal ++ [⟨some [110], ⟨40, 50, 61⟩⟩], 3) := by decide
example : (traceN [] skyPal [.insert ⟨none, ⟨10, 20, 30⟩⟩, .set 1 ⟨some [122], ⟨1, 1, 1⟩⟩, .insert ⟨some [113], ⟨1, 1, 1⟩⟩, .lookup 1]).1 =
    [.idx 0, .idx 1, .rgb ⟨1, 1, 1⟩] := by decide
example : isDefaultN PalStream.dosDefault (PalStream.dosDefault.map fun c => ⟨some [100], c⟩) = true := by decide +kernel
/-- what the check is there to exclude: were the name compared (field 3), the same RGB under another name would be "new" -/
example : eqOn [3, 0, 1, 2] ⟨some [97], ⟨1, 2, 3⟩⟩ ⟨none, ⟨1, 2, 3⟩⟩ = false := by decide
/-- an ICE palette with colour names: after export → import the entries carry the names; the same RGB unnamed is found -/
def icePal : Pal := ⟨[116], [], [100], [⟨some [115, 107, 121], ⟨1, 22, 133⟩⟩, ⟨some [110, 105, 103, 104, 116], ⟨0, 0, 0⟩⟩, ⟨none, ⟨255, 254, 9⟩⟩]⟩
example : (importM .ice (exportM .ice icePal)).map (fun q => (q.colors.map (·.name), insertColorN q.colors ⟨none, ⟨0, 0, 0⟩⟩ == (q.colors, 1))) =
    some ([some [115, 107, 121], some [110, 105, 103, 104, 116], none], true) := by
  decide +kernel

/-! ## the palette of whole files written from a picture, for every number of fonts -/
section files
open IcyVerif.BinFormats

/-- SAVE → LOAD OF WHOLE FILES (XBin, ArtWorx ADF, iCE Draw IDF): for EVERY representable picture — for XBin that includes
    the pictures with TWO fonts (512-character mode) as well as those with one, raw and compressed — the palette of the
    loaded buffer is exactly the 16-colour six-bit palette that was saved: all sixteen entries, whatever the fonts are.
    (`Representable` is the quantifier of C05: 16 colours whose channels are 6-bit values expanded to 8 bits.) -/
theorem file_palette_roundtrip (f : BinFormats.Fmt) (hf : f = .xb ∨ f = .adf ∨ f = .idf) (o : Opts) (date : List Nat) (p : Pic)
    (hs : o.sauce = true) (hrep : Representable f o p = true) (hdate : dateOk date = true) :
    ∃ bytes g, save f o date p = .ok bytes ∧ fromBytes f bytes = .ok g ∧ g.pal = p.pal := by
  obtain ⟨bytes, h1, h2⟩ := embedded_palette_roundtrip f hf o date p hrep hdate
  obtain ⟨g, h3, h4⟩ := h2 (Or.inl hs)
  exact ⟨bytes, g, h1, h3, h4⟩

/-- … and without a SAUCE record, unless the picture content at the end of the file reads as one (C05's recorded
    exclusion `content-reads-as-sauce`) -/
theorem file_palette_roundtrip_nosauce_partial (f : BinFormats.Fmt) (hf : f = .xb ∨ f = .adf ∨ f = .idf) (o : Opts)
    (date : List Nat) (p : Pic) (hrep : Representable f o p = true) (hdate : dateOk date = true) :
    ∃ bytes, save f o date p = .ok bytes ∧
      (looksLikeSauce bytes = false → ∃ g, fromBytes f bytes = .ok g ∧ g.pal = p.pal) := by
  obtain ⟨bytes, h1, h2⟩ := embedded_palette_roundtrip f hf o date p hrep hdate
  exact ⟨bytes, h1, fun hn => h2 (Or.inr hn)⟩

/-- THE XBIN WRITER ON EVERY PICTURE IT ACCEPTS — one font or two (512-character mode), any cells, raw or compressed, with
    or without SAUCE, representable or not, any palette of at most 16 arbitrary 8-bit colours: the flag byte announces a
    palette block exactly when the palette is not the DOS default, and the block is the six-bit image of the palette
    padded to 16 colours.  Nothing else in the picture has a say in the palette block. -/
theorem xb_writer_palette_block (c s : Bool) (date : List Nat) (p : Pic) (bytes : List Nat) (h : xbSave c s date p = .ok bytes) :
    ((bytes.getD 10 0 &&& Gen.Xb.flagPalette == Gen.Xb.flagPalette) = !palIsDefault p.pal) ∧
    (palIsDefault p.pal = false → (bytes.drop 11).take Gen.Xb.paletteLength = asVec63 (fillTo16 p.pal)) :=
  xb_writer_palette c s date p bytes h

/-- THE XBIN LOADER ON EVERY FILE IT ACCEPTS: the palette of the loaded buffer is the expansion of the 48 bytes after
    the header when the flag byte announces a block, the DOS palette otherwise — whatever the fonts, the 512-character
    flag, the compression and the image data are -/
theorem xb_loader_palette_block (data : List Nat) (s : Option Sauce.Sauce) (g : LBuf) (h : xbLoad data s = .ok g) :
    g.pal = if (data.getD 10 0 &&& Gen.Xb.flagPalette == Gen.Xb.flagPalette) = true
      then BinFormats.from63 ((data.drop 11).take Gen.Xb.paletteLength) else dosPalette :=
  (xb_loader_blocks data s g h).1

/-- … together: what comes back from an XBin file is the six-bit quantisation of the saved palette (padded to 16), or the
    DOS palette when that was saved, for EVERY picture the writer accepts and the loader reads back -/
theorem xb_palette_any_picture (c : Bool) (date : List Nat) (p : Pic) (body : List Nat) (s : Option Sauce.Sauce) (g : LBuf)
    (hs : xbSave c false date p = .ok body) (hl : xbLoad body s = .ok g) :
    g.pal = if palIsDefault p.pal = true then dosPalette else BinFormats.from63 (asVec63 (fillTo16 p.pal)) := by
  obtain ⟨w1, w2⟩ := xb_writer_palette c false date p body hs
  rw [xb_loader_palette_block body s g hl, w1]
  cases hd : palIsDefault p.pal
  · simp only [Bool.not_false, if_true, Bool.false_eq_true, if_false]
    rw [w2 hd]
  · simp

/-! non-vacuity: a TWO-FONT XBin picture whose palette is custom in the HIGH half (entries 8..15), the case
    a loader that pads with DOS colours would get wrong, is representable, and the model writes and reads it back with that palette -/
def hiPal : List BinFormats.Rgb :=
  dosPalette.take 8 ++ [(4, 8, 12), (16, 20, 24), (28, 32, 36), (40, 44, 48), (52, 56, 60), (65, 69, 73), (142, 190, 101), (255, 251, 247)]
def fntA : Font := ⟨[65], 8, List.replicate 2048 0x55⟩
def fntB : Font := ⟨[66], 8, List.replicate 2048 0xAA⟩
def twoFontPic : Pic :=
  ⟨2, 1, [[⟨0x41, ⟨7, 9, 0, 0⟩⟩, ⟨0x42, ⟨5, 15, 0, 1⟩⟩]], .ice, hiPal, [(0, fntA), (1, fntB)], none⟩
def date0 : List Nat := [50, 48, 50, 52, 48, 50, 50, 57]
theorem twoFontPic_rep : Representable .xb ⟨true, false⟩ twoFontPic = true := by decide +kernel
set_option maxRecDepth 100000 in
example : Representable .xb ⟨true, false⟩ twoFontPic = true := twoFontPic_rep
set_option maxRecDepth 100000 in
example : (match save .xb ⟨true, false⟩ date0 twoFontPic with
    | .ok b => (match fromBytes .xb b with | .ok g => g.pal == hiPal && g.fonts.length == 2 | _ => false)
    | _ => false) = true := by
  -- the palette comes back by `file_palette_roundtrip`; the two fonts because the writer sets the 512-character flag of the
  -- body, `from_bytes` hands the loader exactly that body (`fromBytes_sauced`), and the loader reads the flag
  obtain ⟨bytes, g, h1, h2, h3⟩ := file_palette_roundtrip .xb (Or.inl rfl) ⟨true, false⟩ date0 twoFontPic rfl twoFontPic_rep (by decide)
  obtain ⟨body, _, ⟨font, fl, fb, img, d⟩, hw⟩ := xbSave_layout false true date0 twoFontPic bytes h1
  obtain ⟨bytes', hw', _, hfb⟩ := fromBytes_sauced .xb .xbin twoFontPic date0 body fntA rfl (by decide) nofun (by decide)
  cases Out.ok.inj (hw.symm.trans hw')
  have hl : xbLoad body _ = .ok g := hfb.symm.trans h2
  obtain rfl := d.body
  have hf := (xb_loader_blocks _ _ g hl).2 (d.bit512.trans (by decide))
  rw [h1]
  simp only [h2, h3, hf]
  decide

/-- a picture OUTSIDE `Representable` (8 colours only, arbitrary 8-bit values, two fonts): the writer accepts it, the
    loader reads it, and the palette is the quantised one padded with DOS colours 8..15 -/
def shortPic : Pic :=
  ⟨2, 1, [[⟨0x41, ⟨7, 1, 0, 0⟩⟩, ⟨0x42, ⟨5, 2, 0, 1⟩⟩]], .ice,
   [(1, 2, 3), (255, 254, 253), (9, 99, 199), (7, 7, 7), (0, 0, 0), (128, 64, 32), (17, 34, 51), (250, 5, 100)], [(0, fntA), (1, fntB)], none⟩
set_option maxRecDepth 100000 in
example : (match xbSave false false [] shortPic with
    | .ok b => (match xbLoad b none with
      | .ok g => g.pal == BinFormats.from63 (asVec63 (fillTo16 shortPic.pal)) && g.pal.length == 16 && g.pal.drop 8 == dosPalette.drop 8
      | _ => false)
    | _ => false) = true := by decide +kernel

end files

end IcyVerif.C16
