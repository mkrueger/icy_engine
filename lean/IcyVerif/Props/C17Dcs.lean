import IcyVerif.Lemmas.FontDcs
import IcyVerif.Gen.FontDcs
/-! # C17 — the DCS font-loading sequence ON THE STREAM

`Props/C17.lean: dcs_rt_exact` is a statement about the text between `ESC P` and `ESC \`.  Here the same round trip is
stated on the character stream `BitFont::encode_as_ansi(slot)` really produces, fed character by character to
`ansi::Parser::print_char` (`Model/FontDcs.lean`: the parser's DCS state machine incl. `ReadPossibleMacroInDCS`, macro
replay, `execute_dcs`, and the buffer's font table), for EVERY parser whose state is `Default` — whatever macros are
defined, whatever `parse_string` / `parsed_numbers` / fonts are left over from earlier traffic — also behind arbitrary
text, for several fonts back to back, and for sequences that are cut off or interrupted. -/
namespace IcyVerif.C17
open IcyVerif.Font IcyVerif.FontDcs

/-- **DCS font loading on the stream, exact.**  For every well-formed 256-glyph font, every slot a `usize` can hold, every
    parser in the `Default` state (any macros, any left-over strings and numbers, any fonts) and any ESC-free text in front:
    feeding `text ++ encode_as_ansi(f, slot)` leaves the parser in `Default` with its macros untouched, and the font table
    is the old one with `slot` set to what `from_bytes` makes of the raw glyph bytes — which is `f` **iff** `rawGuard`. -/
theorem dcs_stream_exact (f : BitFont) (h : Nat) (wf : WfFont f h) (h256 : f.glyphs.length = 256)
    (hb : ∀ x ∈ flat f.glyphs, x < 256) (slot : Nat) (hs : slot < 18446744073709551616)
    (p : P) (hp : p.st = .dflt) (t : List Nat) (ht : ESC ∉ t) :
    ∃ s, encodeStream f slot = .ok s ∧
      (run p (t ++ s)).st = .dflt ∧ (run p (t ++ s)).macros = p.macros ∧
      (run p (t ++ s)).fonts = (match fromBytes (flat f.glyphs) with | .ok g => setFont p.fonts slot g | _ => p.fonts) ∧
      (fromBytes (flat f.glyphs) = .ok f ↔ rawGuard (flat f.glyphs) h = true) := by
  obtain ⟨s, h1, h2, h3, h4⟩ := stream_effect f h wf hb slot hs p hp t ht
  exact ⟨s, h1, h2, h3, h4, raw_exact f h wf h256 hb⟩

/-- the property's sentence for the DCS sequence: inside `rawGuard` the slot holds exactly `f` afterwards and every
    other slot holds what it held before -/
theorem dcs_stream_rt (f : BitFont) (h : Nat) (wf : WfFont f h) (h256 : f.glyphs.length = 256)
    (hb : ∀ x ∈ flat f.glyphs, x < 256) (hg : rawGuard (flat f.glyphs) h = true) (slot : Nat) (hs : slot < 18446744073709551616)
    (p : P) (hp : p.st = .dflt) (t : List Nat) (ht : ESC ∉ t) :
    ∃ s, encodeStream f slot = .ok s ∧ (run p (t ++ s)).st = .dflt ∧
      fontAt (run p (t ++ s)).fonts slot = some f ∧ ∀ k, k ≠ slot → fontAt (run p (t ++ s)).fonts k = fontAt p.fonts k := by
  obtain ⟨s, h1, h2, _, h4, h5⟩ := dcs_stream_exact f h wf h256 hb slot hs p hp t ht
  rw [h5.mpr hg] at h4
  refine ⟨s, h1, h2, ?_, ?_⟩
  · rw [h4]; exact fontAt_setFont_self _ _ _
  · intro k hk; rw [h4]; exact fontAt_setFont_other _ _ _ _ hk

/-- the literals of the model are the ones in the source (regenerated every run by `tools/gens/fontdcs.py`, which also pins the
    text of the `print_char` arms, `invoke_macro_by_id`, `load_custom_font`, `encode_as_ansi` and `Buffer::set_font`):
    prefix, separator, framing bytes, macro limits -/
theorem dcs_source_constants :
    prefixCTerm = IcyVerif.Gen.FontDcs.dcsPrefix ∧ IcyVerif.Gen.FontDcs.slotSeparator = 58 ∧
    IcyVerif.Gen.FontDcs.frameStart = [ESC, 80] ∧ IcyVerif.Gen.FontDcs.frameEnd = [ESC, 92] ∧
    IcyVerif.Term.MAX_MACRO_DEPTH = IcyVerif.Gen.FontDcs.maxMacroDepth ∧
    IcyVerif.Term.MAX_MACRO_EXPANSION = IcyVerif.Gen.FontDcs.maxMacroExpansion := by decide

/-- one item of a font upload: text (no ESC), then `encode_as_ansi(font, slot)` -/
structure Upload where
  text : List Nat
  font : BitFont
  slot : Nat

def uploadStream : List Upload → Option (List Nat)
  | [] => some []
  | u :: rest =>
    match encodeStream u.font u.slot, uploadStream rest with
    | .ok s, some r => some (u.text ++ s ++ r)
    | _, _ => none

def UploadOk (u : Upload) : Prop :=
  ESC ∉ u.text ∧ u.slot < 18446744073709551616 ∧ u.font.glyphs.length = 256 ∧ (∀ x ∈ flat u.font.glyphs, x < 256) ∧
  ∃ h, WfFont u.font h ∧ rawGuard (flat u.font.glyphs) h = true

/-- **several fonts back to back** (what a writer emits for a buffer with several custom font slots), each behind any
    ESC-free text: the font table afterwards is the old one with every slot set in order (a later upload to the same slot
    wins), parser back in `Default`, macros untouched -/
theorem dcs_streams_back_to_back (us : List Upload) (hus : ∀ u ∈ us, UploadOk u) (p : P) (hp : p.st = .dflt) :
    ∃ s, uploadStream us = some s ∧ (run p s).st = .dflt ∧ (run p s).macros = p.macros ∧
      (run p s).fonts = us.foldl (fun fs u => setFont fs u.slot u.font) p.fonts := by
  induction us generalizing p with
  | nil => exact ⟨[], rfl, hp, rfl, rfl⟩
  | cons u rest ih =>
    obtain ⟨ht, hs, h256, hb, h, wf, hg⟩ := hus u (by simp)
    obtain ⟨s, h1, h2, h3, h4, h5⟩ := dcs_stream_exact u.font h wf h256 hb u.slot hs p hp u.text ht
    rw [h5.mpr hg] at h4
    obtain ⟨r, hr1, hr2, hr3, hr4⟩ := ih (fun v hv => hus v (List.mem_cons_of_mem _ hv)) (run p (u.text ++ s)) h2
    refine ⟨u.text ++ s ++ r, ?_, ?_, ?_, ?_⟩
    · simp only [uploadStream, h1, hr1]
    · rw [run_append]; exact hr2
    · rw [run_append, hr3, h3]
    · rw [run_append, hr4, h4]; rfl

/-- **no terminator**: `ESC P` and any ESC-free text (in particular every prefix of a font payload) — everything is
    recorded, nothing is executed, every font is untouched -/
theorem dcs_unterminated_untouched (p : P) (hp : p.st = .dflt) (a : List Nat) (ha : ESC ∉ a) :
    (run p (ESC :: 80 :: a)).fonts = p.fonts ∧ (run p (ESC :: 80 :: a)).st = .dcs ∧ (run p (ESC :: 80 :: a)).str = a := by
  rw [run_unterminated p a hp (verbatim_noesc a ha)]
  simp [P.str]

/-- **interrupted by a foreign escape sequence**: an `ESC x` (x neither `\` nor `[`) anywhere between `ESC P` and `ESC \` —
    the recorded string contains the ESC, `load_custom_font` rejects it (slot number or base64), every font is untouched
    and the parser is back in `Default` -/
theorem dcs_interrupted_untouched (p : P) (hp : p.st = .dflt) (a b : List Nat) (x : Nat) (ha : ESC ∉ a) (hb : ESC ∉ b)
    (h92 : x ≠ 92) (h91 : x ≠ 91) :
    (run p (ESC :: 80 :: (a ++ ESC :: x :: (b ++ [ESC, 92])))).fonts = p.fonts ∧
    (run p (ESC :: 80 :: (a ++ ESC :: x :: (b ++ [ESC, 92])))).st = .dflt := by
  have hv : verbatim (a ++ ESC :: x :: b) = true := by
    rw [verbatim_append a _ ha]
    cases b with
    | nil => simp [verbatim, h92, h91]
    | cons y b => simp [verbatim, h92, h91, verbatim_noesc _ hb]
  have := dcs_frame p (a ++ ESC :: x :: b) hp hv
  rw [List.append_assoc, List.cons_append, List.cons_append] at this
  rw [this]
  exact ⟨by rw [executeDcs_esc_untouched _ (by simp [P.str])], (executeDcs_spec _).1⟩

/-- **a cut-off sequence followed by a complete one**: `ESC P` + any ESC-free beginning `a` (every prefix of a payload),
    optionally the lone ESC of its terminator, and then a complete `encode_as_ansi(f, slot)`: the parser records both as
    ONE string, neither font arrives, every font is untouched — also the one the complete sequence carries -/
theorem dcs_cut_then_complete_untouched (p : P) (hp : p.st = .dflt) (a : List Nat) (ha : ESC ∉ a) (lone : Bool)
    (f : BitFont) (h : Nat) (wf : WfFont f h) (slot : Nat) :
    ∃ s, encodeStream f slot = .ok s ∧
      (run p (ESC :: 80 :: (a ++ (if lone then [ESC] else []) ++ s))).fonts = p.fonts ∧
      (run p (ESC :: 80 :: (a ++ (if lone then [ESC] else []) ++ s))).st = .dflt := by
  obtain ⟨pay, henc, hpay, _, _⟩ := encodeStream_eq f h wf slot
  refine ⟨_, henc, ?_⟩
  cases lone with
  | false => simpa using dcs_interrupted_untouched p hp a pay 80 ha hpay (by decide) (by decide)
  | true =>
    -- the lone ESC and the `ESC P` of the complete sequence read as a foreign `ESC ESC` followed by `P…`
    simpa using dcs_interrupted_untouched p hp a (80 :: pay) ESC ha (by simp [ESC]; exact fun e => hpay e) (by decide) (by decide)


/-- an 8x1 font whose glyph `g` is the byte `255 - g` -/
def dcsFont : BitFont := { w := 8, h := 1, length := 256, glyphs := (List.range 256).map fun g => some [255 - g] }
/-- a parser that has seen other traffic: a left-over string, numbers, a macro, a font in slot 7 -/
def busy : P := { st := .dflt, strRev := [65, 66], nums := [5], macros := [(1, ['x'])], fonts := [(7, dcsFont)] }

theorem dcsUpload_ok : UploadOk ⟨[72, 105], dcsFont, 3⟩ :=
  ⟨by decide, by decide, by decide +kernel, by decide +kernel, 1,
    wf_table 1 (by decide) (by decide) (fun g => [255 - g]) fun _ => rfl, by decide +kernel⟩

/-- the upload sequence is 361 characters long -/
theorem dcsStream_length : (match encodeStream dcsFont 3 with | .ok s => decide (s.length = 361) | _ => false) = true := by
  decide +kernel

example : (match encodeStream dcsFont 3 with
    | .ok s => decide (s.length = 361) && decide (fontAt (run busy ([72, 105] ++ s)).fonts 3 = some dcsFont) &&
        decide (fontAt (run busy ([72, 105] ++ s)).fonts 7 = some dcsFont) && decide ((run busy s).st = .dflt)
    | _ => false) = true := by
  obtain ⟨ht, hs, h256, hb, h, wf, hg⟩ := dcsUpload_ok
  obtain ⟨s, h1, _, h3, h4⟩ := dcs_stream_rt dcsFont h wf h256 hb hg 3 hs busy rfl [72, 105] ht
  obtain ⟨s', h1', h2', _, _⟩ := dcs_stream_rt dcsFont h wf h256 hb hg 3 hs busy rfl [] (by simp)
  rw [h1] at h1'
  cases h1'
  have hlen := dcsStream_length
  rw [h1] at hlen ⊢
  simp only [List.nil_append] at h2'
  have h7 : fontAt busy.fonts 7 = some dcsFont := rfl
  simp only [hlen, h3, h4 7 (by decide), h7, h2', decide_true, Bool.and_self]
/-- the same stream without its last character installs nothing; with a foreign `ESC A` inside it installs nothing -/
example : (match encodeStream dcsFont 3 with
    | .ok s => decide (fontAt (run busy (s.take 360)).fonts 3 = none) &&
        decide (fontAt (run busy (s.take 100 ++ [27, 65] ++ s.drop 100)).fonts 3 = none)
    | _ => false) = true := by
  obtain ⟨_, _, _, _, h, wf, _⟩ := dcsUpload_ok
  obtain ⟨pay, henc, hno, _, _⟩ := encodeStream_eq dcsFont h wf 3
  have hlen := dcsStream_length
  rw [henc] at hlen ⊢
  have hp : pay.length = 357 := by simpa using hlen
  -- without its last character the stream is an unterminated sequence and the ESC of its terminator
  have e1 : (ESC :: 80 :: (pay ++ [ESC, 92])).take 360 = (ESC :: 80 :: pay) ++ [ESC] := by
    have : ESC :: 80 :: (pay ++ [ESC, 92]) = ((ESC :: 80 :: pay) ++ [ESC]) ++ [92] := by simp
    rw [this, List.take_left' (by simp [hp])]
  -- with `ESC A` spliced in it is an interrupted sequence
  have e2 : (ESC :: 80 :: (pay ++ [ESC, 92])).take 100 ++ [27, 65] ++ (ESC :: 80 :: (pay ++ [ESC, 92])).drop 100 =
      ESC :: 80 :: (pay.take 98 ++ ESC :: 65 :: (pay.drop 98 ++ [ESC, 92])) := by
    simp [List.take_append, List.drop_append, hp, ESC]
  have r1 : (run busy ((ESC :: 80 :: pay) ++ [ESC])).fonts = busy.fonts := by
    rw [run_append, run_unterminated busy pay rfl (verbatim_noesc pay hno), run_cons, step_dcs _ _ rfl, if_pos rfl]; rfl
  have r2 := (dcs_interrupted_untouched busy rfl (pay.take 98) (pay.drop 98) 65 (fun h => hno (List.mem_of_mem_take h))
    (fun h => hno (List.mem_of_mem_drop h)) (by decide) (by decide)).1
  simp only [e1, e2, r1, r2]
  rfl
example : UploadOk ⟨[72, 105], dcsFont, 3⟩ := dcsUpload_ok

end IcyVerif.C17
