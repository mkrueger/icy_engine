import IcyVerif.Lemmas.TermMacroDepth
import IcyVerif.Gen.MacroEntry
/-! # C03 — macro nesting is limited on EVERY call path into the replay ("a bound enforced at one of several entry points")
The statement of C03: work is "independent of ... macro nesting contained in it ... no input shorter than 64 bytes can ...
exhaust the stack", for "every DCS macro definition including self- and mutually-recursive macros".
Macro replay is the one native recursion of the terminal code (`print_char -> invoke_macro_by_id -> print_char`; the edges are
regenerated: `Gen.MacroEntry.entryEdges`).  It has TWO callers: the `CSI Pn * z` handler and state `ReadPossibleMacroInDCS`
(an `ESC [ Pn * z` met while a DCS string is recorded).  What is proved, about `stepK` (Model/TermMacroDepth.lean: the parser
step with the code's counter `macro_depth` and `fuel` native frames):
* the nesting test sits in the callee, in front of the counter and the loop (`macro_depth_guard_in_callee`, regenerated
  flag), no other line of the parser touches the counters (`macro_depth_uses_known`) and the call sites are the ones the
  model has (`entry_points_known`);
* FROM that flag: the counter accounting is the model's `step` (`macro_counter_refines`) and replay never nests deeper than
  `MAX_MACRO_DEPTH`, whatever the macros are and through whichever path they invoke each other: giving the parser more than
  `MAX_MACRO_DEPTH` frames changes nothing (`macro_nesting_bounded`, `macro_nesting_bounded_stream`);
* the placement matters: with the same test in the `CSI Pn * z` handler only, a 36-byte input nests as deep as there are
  frames (`macro_nesting_unbounded_without_callee_guard`) - only the expansion budget (65536 replayed characters) ends it.
The real stack is outside the model: harness/src/c03nest.rs counts the levels that ran on the real terminal. -/
namespace IcyVerif.C03
open IcyVerif.Term

/-- the limits of macro replay in the model are the ones in the source -/
theorem macro_limits_from_source :
    MAX_MACRO_DEPTH = IcyVerif.Gen.MacroEntry.maxMacroDepth ∧ MAX_MACRO_EXPANSION = IcyVerif.Gen.MacroEntry.maxMacroExpansion := by
  decide

/-- the nesting test of macro replay sits in `invoke_macro_by_id` itself, before `macro_depth += 1` and the replay loop
    (regenerated from the source on every run) -/
theorem macro_depth_guard_in_callee : IcyVerif.Gen.MacroEntry.depthGuardInCallee = true := by decide

/-- every line of the ANSI parser that reads or writes `macro_depth` / `macro_budget` (fingerprints of `file::fn::text`) -/
def knownDepthUseIds : List Nat := [
  128091481992444,   -- parsers/ansi/mod.rs::invoke_macro_by_id::if self.macro_depth >= MAX_MACRO_DEPTH {
  230945843794628,   -- parsers/ansi/mod.rs::invoke_macro_by_id::if self.macro_depth == 0 {
  6691482599719,     -- parsers/ansi/mod.rs::invoke_macro_by_id::self.macro_budget = MAX_MACRO_EXPANSION;
  273060919629821,   -- parsers/ansi/mod.rs::invoke_macro_by_id::self.macro_depth += 1;
  80785399749316,    -- parsers/ansi/mod.rs::invoke_macro_by_id::if self.macro_budget == 0 {
  103736153467206,   -- parsers/ansi/mod.rs::invoke_macro_by_id::self.macro_budget -= 1;
  26812778553415     -- parsers/ansi/mod.rs::invoke_macro_by_id::self.macro_depth -= 1;
]

/-- the counters are used exactly where the model uses them: nothing added, moved to another function or dropped -/
theorem macro_depth_uses_known : IcyVerif.Gen.MacroEntry.depthUseIds = knownDepthUseIds := by decide +kernel

/-- every call path into a bounded loop / recursion of the terminal code (fingerprints of `callee <- file::fn[state]`) -/
def knownEntryEdgeIds : List Nat := [
  270974900042562,   -- invoke_macro_by_id <- parsers/ansi/mod.rs::print_char[ReadPossibleMacroInDCS]    (stepCore, `.dcsMacro`)
  139937871653872,   -- invoke_macro <- parsers/ansi/mod.rs::print_char[EndCSI]                          (endCsi, `* z`)
  11879892676818,    -- print_char <- parsers/ansi/mod.rs::print_char[ReadRIPSupportRequest]             (stepCore, `.rip`: tail call)
  74485307414433,    -- print_char <- parsers/ansi/mod.rs::invoke_macro_by_id                            (replay)
  105332888772814,   -- execute_dcs <- parsers/ansi/mod.rs::print_char[RecordDCSEscape]                  (stepCore, `.dcsEsc`)
  158492973512053,   -- invoke_macro_by_id <- parsers/ansi/ansi_commands.rs::invoke_macro                (endCsi, `* z`)
  81415619609571,    -- parse_macro <- parsers/ansi/dcs.rs::execute_dcs                                  (executeDcs)
  128303186378059,   -- parse_macro_sequence <- parsers/ansi/dcs.rs::parse_macro
  47985125595641,    -- parse_hex_macro_sequence <- parsers/ansi/dcs.rs::parse_macro                     (hexMacro)
  251114550483781,   -- push_repeated <- parsers/ansi/dcs.rs::parse_hex_macro_sequence                   (hexMacro, `;`)
  203236082516109,   -- push_repeated <- parsers/ansi/dcs.rs::parse_hex_macro_sequence #2                (hexMacro, end of string)
  28336815419350,    -- Sixel::parse_from <- parsers/ansi/dcs.rs::execute_dcs                            (Props/C03Sixel)
  49021153349886,    -- Sixel::parse_from <- parsers/ansi/dcs.rs::execute_dcs #2                         (same call, cfg(not(verif)))
  210356313535620,   -- print_char <- parsers/avatar/mod.rs::print_fallback                              (Model/TermWrap)
  235193749771931,   -- print_char <- parsers/avatar/mod.rs::print_char                                  (Avatar repeat, <= 255)
  266486153541023,   -- print_char <- parsers/pcboard/mod.rs::print_char
  115646480361710,   -- print_char <- parsers/renegade/mod.rs::print_char
  153950061352471,   -- print_char <- parsers/ctrla/mod.rs::print_char
  117010357586406,   -- print_char <- parsers/ctrla/mod.rs::print_char #2
  265123830846547,   -- parse_sixel_data <- sixel_mod.rs::parse_char                                     (Model/Sixel)
  202636454463461,   -- parse_sixel_data <- sixel_mod.rs::parse_char #2
  228558390375500,   -- parse_sixel_data <- sixel_mod.rs::parse_char #3
  99485203521054     -- parse_sixel_data <- sixel_mod.rs::parse_char #4                                  (repeat loop)
]

/-- the source has no call path into macro replay, the DCS handlers, the hex-macro expansion or the sixel decoder that is not
    in the table (a new caller is a new entry point: it needs the model's attention and a generator family) -/
theorem entry_points_known :
    IcyVerif.Gen.MacroEntry.entryEdgeIds.all (fun e => knownEntryEdgeIds.contains e) = true ∧
    IcyVerif.Gen.MacroEntry.entryEdgeIds.length = IcyVerif.Gen.MacroEntry.entryEdges.length := by decide +kernel

/-- the code's accounting (counter + test in the callee, as found in the source) IS the model's `step`, for every amount of
    native stack of at least `MAX_MACRO_DEPTH` frames, every state and every character -/
theorem macro_counter_refines (f : Nat) (hf : MAX_MACRO_DEPTH ≤ f) (cfg : Cfg) (o : Nat → Orc) (st : St) (ch : Char) :
    stepK IcyVerif.Gen.MacroEntry.depthGuardInCallee f 0 cfg o st ch = step cfg o st ch := by
  rw [macro_depth_guard_in_callee]
  exact stepK_eq_step f hf cfg o st ch

/-- macro nesting clause, all call paths: whatever macros are defined (self-invoking, mutually recursive, through the CSI
    handler, inside a DCS, alternating) one input character never makes the replay nest deeper than `MAX_MACRO_DEPTH` levels -
    with `f` frames available the parser does exactly what it does with `MAX_MACRO_DEPTH` frames -/
theorem macro_nesting_bounded (f : Nat) (hf : MAX_MACRO_DEPTH ≤ f) (cfg : Cfg) (o : Nat → Orc) (st : St) (ch : Char) :
    stepK IcyVerif.Gen.MacroEntry.depthGuardInCallee f 0 cfg o st ch =
    stepK IcyVerif.Gen.MacroEntry.depthGuardInCallee MAX_MACRO_DEPTH 0 cfg o st ch := by
  rw [macro_counter_refines f hf, macro_counter_refines MAX_MACRO_DEPTH (Nat.le_refl _)]

/-- … and so along every stream -/
theorem macro_nesting_bounded_stream (f : Nat) (hf : MAX_MACRO_DEPTH ≤ f) (cfg : Cfg) (o : Nat → Orc) (st : St) (cs : List Char) :
    runK IcyVerif.Gen.MacroEntry.depthGuardInCallee f cfg o st cs = run cfg o st cs := by
  rw [macro_depth_guard_in_callee]
  exact runK_eq_run f hf cfg o cs st

/-- the placement of the test matters: were it in the `CSI Pn * z` handler only, the 36-byte input `selfNestInDcs` (a macro
    that re-opens a DCS and invokes itself inside it) would nest as deep as there are frames - 9 with 9, 12 with 12, 40 with 40 -
    while recursion through the handler itself stays at 8 -/
theorem macro_nesting_unbounded_without_callee_guard :
    levelsRun false 9 selfNestInDcs = 9 ∧ levelsRun false 12 selfNestInDcs = 12 ∧ levelsRun false 40 selfNestInDcs = 40 ∧
    levelsRun false 40 selfNestCsi = 8 := by decide +kernel

/-- non-vacuity: with the test in the callee both paths stop at 8 levels however many frames there are; the tables are not empty -/
example : levelsRun true 40 selfNestInDcs = 8 ∧ levelsRun true 40 selfNestCsi = 8 ∧ levelsRun true 3 selfNestInDcs = 3 := by decide +kernel
example : selfNestInDcs.length = 36 := by decide +kernel
example : knownEntryEdgeIds.length = 23 ∧ knownDepthUseIds.length = 7 := by decide
example : MAX_MACRO_DEPTH ≤ 8 ∧ MAX_MACRO_DEPTH ≤ 6554 := by decide

end IcyVerif.C03
