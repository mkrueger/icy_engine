import IcyVerif.Lemmas.ArtAnsiFTop
/-! # C04 — ANSI files written by the engine parse back to the same picture

The full statement is `ansi_rt` (Props/C04X.lean): for every single-layer picture (width 80, or 1..=132 carried by SAUCE; up
to 10^6 rows, 999 with longer-terminal positioning), every palette and colour index, every `AnsiOpts`, line-length limit,
`skip_lines`, assignment of ANSI fonts and ice mode, `Ansi::to_bytes` returns and the file loads back to a picture that
shows every cell of every written row: same glyph (NUL / space / 0xFF are one blank glyph), same displayed foreground RGB
unless the glyph is blank (bold low colour = bright colour), same background RGB, same blink state.

This file holds the theorems about `writeAnsi` = the `StringGenerator`'s output without line splitting, skipped rows, font
pages and without the guard of `to_bytes` against output that starts with EF BB BF — hence their hypothesis
`bomPrefixed … = false`; `bom_counterexample` shows what the loader does with such output.  `writeAnsi` is the event-level
writer of `ansi_rt` without those extras (`writeAnsi_eq_evs`); the cell loop and the row loops are followed once for all
of them (Lemmas/ArtAnsiFLine.lean, Lemmas/ArtAnsiFRows.lean, `ansi_unsplit` in Lemmas/ArtAnsiFTop.lean), over any relation
between cells and the reader's items.  The hypotheses `SauceFits`, `Pic.Full` and the rows left out `effSkip` are defined
next to `ansi_unsplit`.

  * `ansi_rt_partial₄` — all colours: the picture's palette is arbitrary (the 16 base colours may have been replaced), every
    cell's foreground and background are arbitrary indices resolved through it (`Palette::get_rgb`: out of range = black),
    so DOS colours, xterm-256 colours (`38;5;n` / `48;5;n`), every other RGB value (`CSI 1;r;g;b t` / `CSI 0;r;g;b t`) and
    bright backgrounds outside iCE mode are covered, extended colours on or off, all combinations of compress / cursor
    forward / repeat sequences / preserved line length / longer-terminal positioning, all screen preparations and
    control-character modes, all three ice modes (in iCE mode cells do not blink).  Up to 10^6 rows, so that the loaded
    palette's indices stay below 2^31, where `get_rgb` reads them as indices.  Conclusion `ShowsEqX`, each picture seen
    through its own palette.  `RelX` (Lemmas/ArtAnsiXSgr.lean) relates the writer's `AnsiState` to the reader's caret
    attribute and palette in RGB terms (`sgr_sync_all`); `insert_resolves`, `xterm_lookup_sound` are the palette facts.
    SGR groups are read before 24-bit commands, so foreground and background actions may happen in either order
    (`chain_order`).  The proof needs two properties of `get_color` / `generate_cells` that the icy_engine tree has (see
    known_findings.txt): SGR 1 brightens the DOS colour the terminal is on (`state.fg_idx`), not the palette slot; blanks
    are skipped / trimmed only where the palette's colour 0 is black.
  * `ansi_rt_partial₃` — the same options on the DOS palette (16 foreground x 8 background colours, 16 backgrounds in iCE
    mode), with the stronger conclusion `ShowsEq`: equal colour INDICES.  This and `ansi_rt_partial₁` are what the
    16-colour relations serve (`RelS`, `LineOk`, `CInv`, and `ItemsOkC` = `ItemsOk` + "only the compressing writer skips
    cells"); `ansi_rt` rests on the all-colour ones only.  The 16-colour cell step is the all-colour one on the DOS
    palette (`RelS` = `RelX` there plus low reader indices: `relS_iff`), which is where the exact indices come from.
  * `ansi_rt_partial₁` — no compression, blink / unlimited mode, width 80, DOS palette, with the conclusion `ShowsAll …
    ansiImg`: EVERY loaded cell IS the saved cell with the bold attribute folded into the bright colour (same character
    code, colour indices, blink and extended attributes), and the height is preserved.

Under the heading "the lemma-file results behind the theorems above" the results the proofs rest on are restated under the
names `sgr_sync_16`, `csi_roundtrip`, `ansi_prep_core`, `subst_sound`, `trim_sound`, `sgr_sync_all`, `insert_resolves`,
`xterm_lookup_sound`, `subst_sound_all`, `trim_sound_all`; the proofs cite the lemma-file names.

Outside all of them: sixels, fonts uploaded with the file (slots >= 100), `modern_terminal_output` (excluded by the
property); the colour optimiser (`lossles_output = false`, `normalize_whitespaces`) is C12's subject (the harness hands the
writer model the optimised picture); the overline / invisible attribute bits, which the writer never emits. -/
namespace IcyVerif.C04
open IcyVerif.ArtIO IcyVerif.Gen.Art

/-- the loaded cell: the saved cell with bold folded into the bright colour (`parse_with_parser`) -/
def ansiImg (c : Cell) : Cell := ⟨c.ch, ⟨dispFg c.attr, c.attr.bg, { c.attr.fl with bold := false }⟩⟩

/-- the loaded picture shows `img` of EVERY saved cell; same size; the reader stayed inside the modelled sub-language -/
def ShowsAll (L : Loaded) (p : Pic) (img : Cell → Cell) : Prop :=
  L.stuck = false ∧ L.w = p.w ∧ L.h = p.rows.length ∧
  ∀ x y, x < p.w → y < p.rows.length → L.cellAt x y = img (p.get x y)

theorem foldBold_prImg (ic : Bool) (c : Cell) (ha : Attr16 ic c.attr) : foldBold (shown (prImg c)) = ansiImg c := by
  obtain ⟨hfg, _, _, hinv⟩ := ha
  have hd : dispFg c.attr < 16 := dispFg_lt hfg
  have hv : (prImg c).isVisible = true := by simp [prImg, printedAttr, Cell.isVisible, hinv]
  rw [shown_of_visible hv]
  unfold foldBold prImg printedAttr ansiImg
  by_cases h8 : 8 ≤ dispFg c.attr
  · have n8 : ¬ dispFg c.attr < 8 := by omega
    have l8 : dispFg c.attr - 8 < 8 := by omega
    have e : dispFg c.attr - 8 + 8 = dispFg c.attr := by omega
    simp [h8, n8, l8, e]
  · have l8 : dispFg c.attr < 8 := by omega
    simp [h8, l8]

/-- **C04, `ansi_rt_partial₁`**: no compression, 16 x 8 colours, blink / unlimited mode — see the header. -/
theorem ansi_rt_partial₁ (o : AnsiOpts) (p : Pic) (hw : p.w = 80) (hc : o.compress = false)
    (hl : o.longerTerminalOutput = false) (hice : p.ice ≠ .ice) (hpal : p.pal = dosPalette) (hfull : Pic.Full p)
    (hne : p.rows ≠ []) (hdom : p.AllCells (CellDom o false)) (hbom : bomPrefixed (writeAnsi o p) = false) :
    ShowsAll (load .ansi none (writeAnsi o p)) p ansiImg := by
  have hbytes : writeAnsi o p = ansiPrep o p.ice ++ genLines o p.w p.rows.length (genCells o dosPalette p.ice p.w p.rows ansiState0) 0 true := by
    unfold writeAnsi
    simp only [hfull.pad, hpal, show ansiEnd p.ice = [] from if_neg hice, List.append_nil]
  have hload := load_ansi_noBom none (writeAnsi o p) hbom
  obtain ⟨H, P1, C1, hP, hcinv, hscr1, _, _⟩ := prep_cinv o p none (Or.inl ⟨rfl, hw⟩)
  have hicf : decide (p.ice = .ice) = false := by simp [hice]
  -- without compression nothing is skipped or trimmed: the item rows are the picture's rows, printed
  obtain ⟨irows, Rf, P2, C2, hR, R1, _, _, R2, R3⟩ := rows_compG o (fun _ => false) dosPalette p.ice (decide (p.ice = .ice)) p.w p.rows.length
    (by omega) (by omega) hl (row_read16 o p.ice _ rfl p.w (by omega) (by omega)) (fun _ _ _ _ _ h => h) p.rows [] ansiState0
    (defaultAttr, dosPalette) 0 true 0 P1 C1 hfull (by rw [hicf]; exact hdom) (relS_initial _) hcinv (fun _ => by rw [hscr1]; rfl)
    (by omega) (fun fr h => by cases h)
  rw [genCellsS_noskip, ← genLines_eq_ev] at hR
  rw [rows_printed hc hfull R1, picItems_printed p.w p.rows _ hfull, hscr1] at R2
  have hcore : (run .ansi (initial .ansi none) (writeAnsi o p)).core = C2 := by
    rw [run_ansi_eq, hbytes, ansiRun_append_of_eq hP, hR]
  have hrun : (run .ansi (initial .ansi none) (writeAnsi o p)).core.scr = (freshScreen p.w H).runOps (picOps id prImg p.w p.rows) := by
    rw [hcore]; exact R2
  have hstuck : (run .ansi (initial .ansi none) (writeAnsi o p)).core.stuck = false := by
    rw [hcore]; exact R3.base.ns
  have hfit : ∀ r ∈ p.rows, (id r).length ≤ p.w := fun r hr => Nat.le_of_eq (hfull r hr)
  have hlast : ∀ r, p.rows.getLast? = some r → id r ≠ [] := fun r hr e => by
    have := hfull r (List.mem_of_getLast? hr)
    rw [show r = [] from e, hw] at this
    cases this
  obtain ⟨F1, F2, F3, F4⟩ := finish_spec id .ansi (by decide) _ prImg p.w H p.rows (by omega) hfit hne hlast hrun
  rw [hload]
  refine ⟨by rw [F3]; exact hstuck, F1, F2, ?_⟩
  intro x y hx hy
  have hrow : p.rows.getD y [] ∈ p.rows := Basics.getD_mem hy
  have hxl : x < (id (p.rows.getD y [])).length := by show x < (p.rows.getD y []).length; rw [hfull _ hrow]; exact hx
  rw [F4 x y hx hy, if_pos hxl]
  show foldBold (shown (prImg ((p.rows.getD y []).getD x defaultCell))) = ansiImg (p.get x y)
  have hcell : (p.rows.getD y []).getD x defaultCell ∈ p.rows.getD y [] := Basics.getD_mem hxl
  exact foldBold_prImg false _ (hdom _ hrow _ hcell).1

/-! ### compression: trimming, cursor forward, repeat sequences -/

/-- what C04 compares: the saved cell `c` and the loaded cell `l` show the same — the same character (NUL, space and
    0xFF are the same blank glyph; the writer's trimming and cursor-forward turn them into a space), the same displayed
    foreground colour unless the glyph is blank, the same background colour, the same blink state -/
def ShowEq (c l : Cell) : Prop :=
  (l.ch = c.ch ∨ (Blank c.ch ∧ l.ch = 32)) ∧ (¬ Blank c.ch → dispFg l.attr = dispFg c.attr) ∧
  l.attr.bg = c.attr.bg ∧ l.attr.fl.blink = c.attr.fl.blink

/-- every cell of the picture is shown by the loaded picture (the loaded picture may have fewer rows: trailing rows that
    show nothing are cropped and read as blank) -/
def ShowsEq (L : Loaded) (p : Pic) : Prop :=
  L.stuck = false ∧ L.w = p.w ∧ ∀ x y, x < p.w → y < p.rows.length → ShowEq (p.get x y) (L.cellAt x y)

theorem showEq_img (c : Cell) : ShowEq c (ansiImg c) := by
  refine ⟨Or.inl rfl, fun _ => ?_, rfl, rfl⟩
  show dispFg ⟨dispFg c.attr, c.attr.bg, { c.attr.fl with bold := false }⟩ = dispFg c.attr
  simp [dispFg]

theorem showEq_blank (c l : Cell) (h : TrimCell c) (hl : l = defaultCell ∨ l = invisibleCell) : ShowEq c l := by
  obtain ⟨h1, h2, h3⟩ := h
  rcases hl with e | e <;> subst e <;> exact ⟨Or.inr ⟨h1, rfl⟩, fun hn => absurd h1 hn, h2.symm, h3.symm⟩

/-- **C04, `ansi_rt_partial₃`**: every combination of compression, cursor forward, repeat sequences, preserved line length and
    longer-terminal positioning (`CSI y H` per row; then at most 999 rows), in blink, unlimited AND iCE mode (16 foreground
    colours; 8 background colours, 16 in iCE mode), width 80 — or any width 1..=132 when SAUCE carries it — see the header. -/
theorem ansi_rt_partial₃ (o : AnsiOpts) (p : Pic) (sauce : Option Sauce) (hs : SauceFits sauce p)
    (hlh : o.longerTerminalOutput = true → p.rows.length ≤ 999)
    (hpal : p.pal = dosPalette) (hfull : Pic.Full p) (hdom : p.AllCells (CellDom o (decide (p.ice = .ice))))
    (hbom : bomPrefixed (writeAnsi o p) = false) :
    ShowsEq (load .ansi sauce (writeAnsi o p)) p := by
  obtain ⟨hw1, hw2⟩ := hs.width
  obtain ⟨irows, Pf, c0, e0, R1, _, _, U1, _, U3, U4⟩ := ansi_unsplit (Q := fun _ => ItemsOkC o 0 p.w) o none [] p sauce hs hlh hfull hdom
    (by rw [hpal]; exact row_read16 o p.ice _ rfl p.w (by omega) (by omega)) (fun _ _ _ _ _ h => h) (relS_initial _)
    (fun _ _ _ hl hq => ItemsP.skips (fun _ h => by cases h) hl hq) (fun fr h => by cases h)
  have hrun : (run .ansi (initial .ansi sauce) (writeAnsi o p)).core = c0 := by
    rw [run_ansi_eq, writeAnsi_eq_evs]; exact e0
  rw [load_ansi_noBom sauce _ hbom]
  have hsw : (run .ansi (initial .ansi sauce) (writeAnsi o p)).core.scr.w = p.w := by rw [hrun]; exact U3
  have hV : ∀ x y, shownAt (run .ansi (initial .ansi sauce) (writeAnsi o p)).core.scr.lines x y = itemsShown irows x y := fun x y => by
    rw [hrun]; exact U4 x y
  obtain ⟨F1, F2, _⟩ := finish_view .ansi (by decide) _ p.w irows hsw hV
  refine ⟨by rw [F2, hrun]; exact U1, F1, ?_⟩
  intro x y hx hy
  have hrow : p.rows.getD y [] ∈ p.rows := Basics.getD_mem hy
  have hrl : (p.rows.getD y []).length = p.w := hfull _ hrow
  obtain ⟨l1, l2, l3⟩ := ansiRowLen_spec o p.pal p.w (by omega) (p.rows.getD y [])
  have hcd : CellDom o (decide (p.ice = .ice)) (p.get x y) := hdom _ hrow _ (Basics.getD_mem (by omega))
  have hvis : shown (prImg (p.get x y)) = prImg (p.get x y) :=
    shown_of_visible (by simp [prImg, printedAttr, Cell.isVisible, hcd.1.2.2.2])
  unfold ItemsOkC at R1
  rcases loaded_cases .ansi (by decide) _ R1 hsw hV hx hy (Bool.and_false _) hrl l2
    with ⟨it, hit, hc⟩ | ⟨hb, hc⟩
  · rw [hit] at hc
    rcases hc with e | ⟨e1, e2⟩
    · rw [e]
      show ShowEq _ (foldBold (shown (prImg (p.get x y))))
      rw [foldBold_prImg _ (p.get x y) hcd.1]; exact showEq_img _
    · -- printed, yet its row was cropped: then it was printed as a default blank
      have hpc : prImg (p.get x y) = defaultCell := hvis.symm.trans e2
      have hch : (p.get x y).ch = 32 := congrArg Cell.ch hpc
      have hbg : (p.get x y).attr.bg = 0 := congrArg (fun c => c.attr.bg) hpc
      have hbl : (p.get x y).attr.fl.blink = false := congrArg (fun c => c.attr.fl.blink) hpc
      rw [e1]; exact showEq_blank _ _ ⟨Or.inl hch, hbg, hbl⟩ (Or.inr rfl)
  · exact showEq_blank _ _ (hb.elim (fun h => skip_trim h.2) (fun hxl => l3.elim (fun e => by omega) (fun h => h.2.2 x hxl hx))) hc

/-! ### ALL colours: custom palettes, xterm-256, 24-bit, bright backgrounds in every ice mode (`ansi_rt_partial₄`) -/

/-- what C04 compares, in colours: the saved cell `c` seen through the picture's palette `pal` and the loaded cell `l` seen
    through the loaded palette `Lpal` show the same — the same character (NUL, space and 0xFF are the same blank glyph),
    the same displayed foreground RGB unless the glyph is blank (bold low colour = bright colour), the same background
    RGB, the same blink state.  `getRgb` is `Palette::get_rgb`. -/
def ShowEqX (pal Lpal : List Rgb) (c l : Cell) : Prop :=
  (l.ch = c.ch ∨ (Blank c.ch ∧ l.ch = 32)) ∧ (¬ Blank c.ch → getRgb Lpal (dispFg l.attr) = getRgb pal (dispFg c.attr)) ∧
  getRgb Lpal l.attr.bg = getRgb pal c.attr.bg ∧ l.attr.fl.blink = c.attr.fl.blink

/-- every cell of the picture is shown by the loaded picture, each through its own palette -/
def ShowsEqX (L : Loaded) (p : Pic) : Prop :=
  L.stuck = false ∧ L.w = p.w ∧ ∀ x y, x < p.w → y < p.rows.length → ShowEqX p.pal L.pal (p.get x y) (L.cellAt x y)

theorem showEqX_of_disp {pal P : List Rgb} {c l l' : Cell} (h : Disp pal P c l) (hlen : P.length ≤ 2147483648)
    (e1 : l'.ch = l.ch) (e2 : l'.attr.fg = l.attr.fg) (e3 : l'.attr.bg = l.attr.bg) (e4 : l'.attr.fl.bold = l.attr.fl.bold)
    (e5 : l'.attr.fl.blink = l.attr.fl.blink) : ShowEqX pal P c l' := by
  obtain ⟨h1, _, h3, h4, h5, h6, h7⟩ := h
  have ed : dispFg l'.attr = dispFg l.attr := by unfold dispFg; rw [e2, e4]
  refine ⟨Or.inl (by rw [e1, h1]), fun _ => ?_, ?_, by rw [e5, h7]⟩
  · rw [ed, getRgb_eq_pget _ _ (by omega), h5]
  · rw [e3, getRgb_eq_pget _ _ (by omega), h6]

theorem showEqX_blank {pal P : List Rgb} {c l : Cell} (ht : TrimCellX pal c) (hp : DosPre P) (hl : l = defaultCell ∨ l = invisibleCell) :
    ShowEqX pal P c l := by
  obtain ⟨h1, h2, h3⟩ := ht
  have hb : getRgb P 0 = (0, 0, 0) := by
    rw [getRgb_eq_pget _ _ (by omega), hp.get (by omega)]; decide
  rcases hl with e | e <;> subst e <;> exact ⟨Or.inr ⟨h1, rfl⟩, fun hn => absurd h1 hn, by rw [h2]; exact hb, h3.symm⟩

/-- every cell of every row that was written is shown by the loaded picture, each through its own palette -/
def ShowsEqXS (L : Loaded) (p : Pic) (es : Nat → Bool) : Prop :=
  L.stuck = false ∧ L.w = p.w ∧ ∀ x y, x < p.w → y < p.rows.length → es y = false → ShowEqX p.pal L.pal (p.get x y) (L.cellAt x y)

/-- from what the reader's final screen shows to the loaded picture -/
theorem shows_of_items (o : AnsiOpts) (p : Pic) (es : Nat → Bool) (rs : RS) (irows : List (List (Option Cell))) (Pf : List Rgb)
    (hw1 : 1 ≤ p.w) (hfull : Pic.Full p) (R1 : RowsGS (ansiRowLen o p.pal p.w) (ItemsOkX p.pal Pf 0 p.w) es 0 p.rows irows) (hdp : DosPre Pf)
    (hbig : Pf.length ≤ 2147483648) (hstuck : rs.core.stuck = false) (hpal : rs.core.pal = Pf) (hsw : rs.core.scr.w = p.w)
    (hV : ∀ x y, shownAt rs.core.scr.lines x y = itemsShown irows x y) :
    ShowsEqXS (finish .ansi rs) p es := by
  obtain ⟨F1, F2, _⟩ := finish_view .ansi (by decide) rs p.w irows hsw hV
  have hLpal : (finish .ansi rs).pal = Pf := by unfold finish; rw [if_neg (by decide)]; exact hpal
  refine ⟨by rw [F2]; exact hstuck, F1, ?_⟩
  intro x y hx hy hes
  rw [hLpal]
  have hrl : (p.rows.getD y []).length = p.w := hfull _ (Basics.getD_mem hy)
  obtain ⟨l1, l2, l3⟩ := ansiRowLen_specX o p.pal p.w (by omega) (p.rows.getD y [])
  rw [itemsOkX_eq] at R1
  rcases loaded_cases .ansi (by decide) rs R1 hsw hV hx hy hes hrl l2
    with ⟨it, ⟨l, e, hd⟩, hc⟩ | ⟨hb, hc⟩
  · subst e
    have hvis : itemShown (some l) defaultCell = l := shown_of_visible (by unfold Cell.isVisible; rw [hd.vis]; rfl)
    rw [hvis] at hc
    rcases hc with e | ⟨e1, e2⟩
    · rw [e]; exact showEqX_of_disp hd.fold hbig rfl rfl rfl rfl rfl
    · -- printed, yet its row was cropped: then it was printed as a default blank
      subst e2
      rw [e1]; exact showEqX_of_disp hd hbig rfl rfl rfl rfl rfl
  · exact showEqX_blank (hb.elim skip_trimX (fun hxl => l3.elim (fun e => by omega) (fun h => h.2 x hxl hx))) hdp hc

/-- **C04, `ansi_rt_partial₄`**: as `ansi_rt_partial₃`, for ALL colours a buffer can hold.  The picture's palette is arbitrary (any
    number of entries, the 16 base colours may have been replaced), every cell's foreground and background are arbitrary
    colour indices resolved through it (`Palette::get_rgb`: out of range = black), so xterm-256 colours (`38;5;n` /
    `48;5;n` with extended colours), any other RGB value (`CSI 1/0;r;g;b t`) and bright backgrounds in blink / unlimited
    mode are covered, with extended colours on or off, under every combination of compression, cursor forward, repeat
    sequences, preserved line length and longer-terminal positioning, every screen preparation and control-character mode,
    in all three ice modes (in iCE mode cells do not blink).  Conclusion: every cell is shown by the loaded picture with
    the same displayed RGB values, each picture seen through its own palette. -/
theorem ansi_rt_partial₄ (o : AnsiOpts) (p : Pic) (sauce : Option Sauce) (hs : SauceFits sauce p)
    (hlh : o.longerTerminalOutput = true → p.rows.length ≤ 999) (hrows : p.rows.length ≤ 1000000)
    (hpal : PalBytes p.pal) (hfull : Pic.Full p) (hdom : p.AllCells (CellDomX o (decide (p.ice = .ice))))
    (hbom : bomPrefixed (writeAnsi o p) = false) :
    ShowsEqX (load .ansi sauce (writeAnsi o p)) p := by
  obtain ⟨hw1, hw2⟩ := hs.width
  obtain ⟨irows, Pf, c0, e0, R1, hdp, hlen, U1, U2, U3, U4⟩ := ansi_unsplit o none [] p sauce hs hlh hfull hdom
    (row_readF o p.pal hpal p.ice _ rfl p.w (by omega) (by omega)) (fun _ _ _ _ hq h => h.mono hq) (relX_initial _)
    (fun _ _ _ hl hq => itemsOk_rowSkips hl hq) (fun fr h => by cases h)
  have hbig := pf_small hw2 hrows hlen
  have hrun : (run .ansi (initial .ansi sauce) (writeAnsi o p)).core = c0 := by
    rw [run_ansi_eq, writeAnsi_eq_evs]; exact e0
  rw [load_ansi_noBom sauce _ hbom]
  obtain ⟨S1, S2, S3⟩ := shows_of_items o p (effSkip o none) _ irows Pf hw1 hfull R1 hdp hbig (by rw [hrun]; exact U1) (by rw [hrun]; exact U2)
    (by rw [hrun]; exact U3) (fun x y => by rw [hrun]; exact U4 x y)
  exact ⟨S1, S2, fun x y hx hy => S3 x y hx hy (Bool.and_false _)⟩

/-! ### the lemma-file results behind the theorems above, under the names the property's documents use

16 colours: `sgr_sync` (Lemmas/ArtAnsiXSgr.lean, a corollary of `sgr_syncX`), `csi_read` (ArtAnsiRead), `ansi_prep_read` (ArtAnsiFTop),
`genLineEv_items` (ArtAnsiFLine), `ansiRowLen_spec`
(ArtAnsiTrim); all colours: `sgr_syncX` (ArtAnsiXSgr), `insertColor` facts and `xtermIndex_spec` (ArtAnsiXPal), the cell loop
(ArtAnsiFLine), `ansiRowLen_specX` (ArtAnsiTrim). -/

/-- the simulation step of `ansi_rt_partial₃`: after the SGR parameters
    `get_color` emits for a cell the reader's attribute is the cell's rendition, the new writer state is again related
    to it, every parameter is one the reader accepts, and no 24-bit colour command is needed -/
theorem sgr_sync_16 (o : AnsiOpts) (im : IceMode) (attr : Attr) (ha : Attr16 (decide (im = .ice)) attr) (st : AnsiState) (A0 : Attr)
    (h : RelS (decide (im = .ice)) st.isBlink st A0) :
    (getColor o dosPalette im attr st).2.2 = [] ∧ AllSimple (getColor o dosPalette im attr st).2.1 ∧
    RelS (decide (im = .ice)) (getColor o dosPalette im attr st).1.isBlink (getColor o dosPalette im attr st).1
      (sgrSimple A0 (getColor o dosPalette im attr st).2.1) ∧
    sgrSimple A0 (getColor o dosPalette im attr st).2.1 = caretAttr (decide (im = .ice)) attr :=
  sgr_sync o im attr ha st A0 h

/-- a control sequence with parameters below 1000 is read back with exactly these parameters -/
theorem csi_roundtrip (p : AnsiP) (c : Core) (ps : List Nat) (final : Nat) (hs : c.stuck = false) (hg : p.st = .ground)
    (hne : ps ≠ []) (hlt : ∀ n ∈ ps, n < 1000) :
    ansiRun p c (csi ps final) = ansiStep { p with st := .csi ps false } c final :=
  csi_read p c ps final hs hg hne hlt

/-- the iCE switch (if the buffer is in iCE mode) and the screen preparation: on the fresh reader only the iCE flags move -/
theorem ansi_prep_core (o : AnsiOpts) (im : IceMode) (p : AnsiP) (core : Core)
    (ns : core.stuck = false) (ag : p.st = .ground) (hfresh : core.scr.lines = [] ∧ core.scr.cx = 0 ∧ core.scr.cy = 0) :
    (ansiRun p core (ansiPrep o im)).2 = (if im = .ice then { core with bufIce := .ice, caretIce := true } else core) ∧
    (ansiRun p core (ansiPrep o im)).1.st = .ground := by
  obtain ⟨p', e, h⟩ := ansi_prep_read o im p core ns ag hfresh
  rw [e]; exact ⟨rfl, h⟩

/-- the line loop with RLE / cursor-forward / repeat substitution makes the reader perform one item per
    cell — the printed cell, or a skip over a cell that is a space on colour 0, not blinking, away from the margin -/
theorem subst_sound (o : AnsiOpts) (ic : Bool) (w : Nat) (hw : w ≤ 999) (fuel : Nat) (cells : List Cell) (line : List CharCell)
    (A : Attr) (x : Nat) (p : AnsiP) (core : Core) (h1 : line.length ≤ fuel) (h2 : LineOk o ic A cells line)
    (h3 : x + cells.length ≤ w) (h4 : CInv ic A w p core) (h5 : cells ≠ [] → core.scr.cx = x) :
    ∃ items : List (Option Cell), items.length = cells.length ∧ ItemsOk x w cells items ∧
      (ansiRun p core (genLine o w fuel x line)).2.scr = core.scr.runItems items ∧
      CInv ic (lastAttr ic A cells) w (ansiRun p core (genLine o w fuel x line)).1 (ansiRun p core (genLine o w fuel x line)).2 := by
  obtain ⟨items, p', core', e, i1, i2, i3, i4⟩ := genLineEv_items ic (fun R c c' g g' s => caret_same g.1 g'.1 s)
    w hw fuel cells line [] (A, core.pal) _ x 0 p core h1 (h2.toG core.pal) h3 ⟨h4, rfl⟩ h5 (fun f hf => by cases hf)
  rw [genLine_eq_ev, e]
  exact ⟨items, i1, fun j hj => (ItemsG.okC i2 j hj).imp id (fun h => ⟨h.1, h.2.1.2, h.2.2⟩), i3, i4.base⟩

/-- what `generate_cells` drops at the end of a row: nothing, or at least two cells, each a blank on colour 0 that does not blink -/
theorem trim_sound (o : AnsiOpts) (w : Nat) (hw : 0 < w) (row : List Cell) :
    1 ≤ ansiRowLen o dosPalette w row ∧ ansiRowLen o dosPalette w row ≤ w ∧
    (ansiRowLen o dosPalette w row = w ∨
      (ansiRowLen o dosPalette w row + 2 ≤ w ∧ ∀ i, ansiRowLen o dosPalette w row ≤ i → i < w → TrimCell (row.getD i defaultCell))) :=
  (ansiRowLen_spec o dosPalette w hw row).imp id (And.imp id (Or.imp id fun h => ⟨h.1, h.2.2⟩))

/-- the simulation step of `ansi_rt_partial₄` and of `ansi_rt`: after everything `get_color` emits for a
    cell (SGR parameters incl. `38;5;n` / `48;5;n`, 24-bit commands) the reader — `rdPre` = `select_graphic_rendition`
    followed by `select_24bit_color`, acting on caret attribute and palette — is again in step with the writer's state
    (`RelX`: the reader's colour indices resolve, in ITS palette, to the colours the state records), the state records the
    cell's displayed colours, the palette only grew (by at most two entries) and every parameter is below 1000 -/
theorem sgr_sync_all (o : AnsiOpts) (pal : List Rgb) (hpal : PalBytes pal) (im : IceMode) (attr : Attr)
    (ha : AttrX (decide (im = .ice)) attr) (st : AnsiState) (A0 : Attr) (P0 : List Rgb)
    (h : RelX (decide (im = .ice)) st.isBlink st A0 P0) :
    SyncX (decide (im = .ice)) pal attr P0 (getColor o pal im attr st)
      (rdPre (A0, P0) (getColor o pal im attr st).2.1 (getColor o pal im attr st).2.2) :=
  sgr_syncX o pal hpal im attr ha st A0 P0 h

/-- the palette lemma the colour round trip rests on: `Palette::insert_color` returns an index inside the (possibly
    extended) palette that resolves to the inserted colour, the old entries keep their positions, at most one entry is added -/
theorem insert_resolves (P : List Rgb) (c : Rgb) :
    (insertColor P c).2 < (insertColor P c).1.length ∧ pget (insertColor P c).1 (insertColor P c).2 = c ∧
    P <+: (insertColor P c).1 ∧ (insertColor P c).1.length ≤ P.length + 1 :=
  ⟨insertColor_lt P c, insertColor_get P c, insertColor_prefix P c, insertColor_length_le P c⟩

/-- the writer's xterm-256 lookup (a hash map filled from the regenerated `XTERM_256_PALETTE`) only ever returns a table
    index 0..=255 whose entry is exactly the colour asked for — so the reader's `XTERM_256_PALETTE[n]` is that colour -/
theorem xterm_lookup_sound (useExt : Bool) (c : Rgb) (e : Nat) (h : xtermIndex useExt c = some e) :
    e ≤ 255 ∧ xtermPalette.getD e (0, 0, 0) = c :=
  xtermIndex_spec useExt c e h

/-- `subst_sound` for all colours: the line loop with RLE / cursor-forward / repeat substitution makes the reader perform one
    item per cell — a printed cell that SHOWS what the saved cell shows (`Disp`), or a skip over a space on a black
    background that does not blink, away from the margin -/
theorem subst_sound_all (o : AnsiOpts) (ic : Bool) (pal : List Rgb) (w : Nat) (hw : w ≤ 999) (fuel : Nat) (cells : List Cell)
    (line : List CharCell) (R Re : RdSt) (x : Nat) (p : AnsiP) (core : Core) (h1 : line.length ≤ fuel)
    (h2 : LineOkX o ic pal R cells line Re) (h3 : x + cells.length ≤ w) (h4 : CInvX ic R w p core) (h5 : cells ≠ [] → core.scr.cx = x) :
    ∃ items : List (Option Cell), items.length = cells.length ∧ ItemsOkX pal Re.2 x w cells items ∧
      (ansiRun p core (genLine o w fuel x line)).2.scr = core.scr.runItems items ∧
      CInvX ic Re w (ansiRun p core (genLine o w fuel x line)).1 (ansiRun p core (genLine o w fuel x line)).2 := by
  rw [genLine_eq_ev]
  exact genLine_itemsF o ic pal w hw fuel cells line [] R Re x 0 p core h1 h2 h3 h4 h5 (fun f hf => by cases hf)

/-- `trim_sound` on an arbitrary palette: what `generate_cells` drops at the end of a row is blank, on a BLACK background
    (colour 0 of a palette whose colour 0 is black) and does not blink -/
theorem trim_sound_all (o : AnsiOpts) (pal : List Rgb) (w : Nat) (hw : 0 < w) (row : List Cell) :
    1 ≤ ansiRowLen o pal w row ∧ ansiRowLen o pal w row ≤ w ∧
    (ansiRowLen o pal w row = w ∨
      (ansiRowLen o pal w row + 2 ≤ w ∧ ∀ i, ansiRowLen o pal w row ≤ i → i < w → TrimCellX pal (row.getD i defaultCell))) :=
  ansiRowLen_specX o pal w hw row

/-! ### non-vacuity: pictures on which the hypotheses of the three partial theorems hold, and what is written / loaded for them -/

/-- row 0 of `demoPic`: bright / bold / blinking / underlined cells, a control character (IcyTerm handling), spaces -/
def demoRow0 : List Cell :=
  [⟨65, ⟨12, 1, { blink := true }⟩⟩, ⟨66, ⟨4, 1, { bold := true, underline := true }⟩⟩, ⟨27, ⟨7, 0, {}⟩⟩] ++
    List.replicate 77 ⟨32, ⟨3, 0, {}⟩⟩
def demoRow1 : List Cell := List.replicate 80 ⟨219, ⟨15, 7, { conceal := true, crossed := true }⟩⟩
/-- two full rows -/
def demoPic : Pic := { w := 80, rows := [demoRow0, demoRow1], ice := .unlimited, pal := dosPalette }
def demoOpts : AnsiOpts := { compress := false, ctrl := .icyTerm, prep := .clear }

theorem demoPic_fits : demoPic.w = 80 ∧ demoOpts.compress = false ∧ demoOpts.longerTerminalOutput = false ∧ demoPic.ice ≠ .ice ∧
    demoPic.pal = dosPalette ∧ Pic.Full demoPic ∧ demoPic.rows ≠ [] ∧ demoPic.AllCells (CellDom demoOpts false) ∧
    bomPrefixed (writeAnsi demoOpts demoPic) = false := by
  refine ⟨rfl, rfl, rfl, by decide, rfl, ?_, by decide, ?_, ?_⟩
  · unfold Pic.Full; decide +kernel
  · simp only [Pic.AllCells, CellDom, Attr16, EncDom, demoOpts, and_true]; decide +kernel
  · decide +kernel

-- the statement of `demoPic_fits` once more, as an `example`: the hypotheses of `ansi_rt_partial₁` hold of `demoPic`
example : demoPic.w = 80 ∧ demoOpts.compress = false ∧ demoOpts.longerTerminalOutput = false ∧ demoPic.ice ≠ .ice ∧
    demoPic.pal = dosPalette ∧ Pic.Full demoPic ∧ demoPic.rows ≠ [] ∧ demoPic.AllCells (CellDom demoOpts false) ∧
    bomPrefixed (writeAnsi demoOpts demoPic) = false :=
  demoPic_fits

/-- the same picture under the default options (compression and cursor forward on) satisfies the hypotheses of
    `ansi_rt_partial₃`; the 77 trailing cyan-on-black spaces of row 0 are written as nothing at all -/
example : (({} : AnsiOpts).longerTerminalOutput = true → demoPic.rows.length ≤ 999) ∧ demoPic.AllCells (CellDom { ctrl := .icyTerm } (decide (demoPic.ice = .ice))) ∧
    bomPrefixed (writeAnsi { ctrl := .icyTerm } demoPic) = false ∧ (writeAnsi { ctrl := .icyTerm } demoPic).length < 200 := by
  refine ⟨fun _ => by decide, ?_, ?_⟩
  · simp only [Pic.AllCells, CellDom, Attr16, EncDom, and_true]; decide +kernel
  · decide +kernel

/-- longer-terminal output of the same picture: `ESC[0m ESC[1H` row 0 `ESC[2H` row 1, no line break -/
example : (writeAnsi { longerTerminalOutput := true, ctrl := .icyTerm } demoPic).take 8 = [27, 91, 48, 109, 27, 91, 49, 72] ∧
    ¬ (13 ∈ writeAnsi { longerTerminalOutput := true, ctrl := .icyTerm } demoPic) ∧
    (load .ansi none (writeAnsi { longerTerminalOutput := true, ctrl := .icyTerm } demoPic)).cellAt 79 1 = ⟨219, ⟨15, 7, { conceal := true, crossed := true }⟩⟩ := by
  decide +kernel

/-- an iCE-mode picture (bright backgrounds 9 and 15) under the default options, with SAUCE carrying width 40 -/
def icePic : Pic :=
  { w := 40, rows := [[⟨65, ⟨15, 9, {}⟩⟩, ⟨32, ⟨7, 15, {}⟩⟩, ⟨66, ⟨0, 1, {}⟩⟩] ++ List.replicate 37 defaultCell,
                      List.replicate 40 ⟨219, ⟨12, 8, { bold := true }⟩⟩], ice := .ice, pal := dosPalette }

example : SauceFits (some ⟨40, 2, true⟩) icePic ∧ Pic.Full icePic ∧ icePic.AllCells (CellDom {} (decide (icePic.ice = .ice))) ∧
    bomPrefixed (writeAnsi {} icePic) = false ∧
    (load .ansi (some ⟨40, 2, true⟩) (writeAnsi {} icePic)).cellAt 1 0 = ⟨32, ⟨7, 15, {}⟩⟩ := by
  refine ⟨Or.inr ⟨2, rfl, by decide, by decide, by decide⟩, ?_, ?_, ?_⟩
  · unfold Pic.Full; decide +kernel
  · simp only [Pic.AllCells, CellDom, Attr16, EncDom, AnsiPrintable]; decide +kernel
  · decide +kernel

/-- the bold low colour of the second cell is written as `1;…;31` and comes back as colour 12 without the bold flag -/
example : (load .ansi none (writeAnsi demoOpts demoPic)).cellAt 1 0 = ⟨66, ⟨12, 1, { underline := true }⟩⟩ := by
  obtain ⟨h1, h2, h3, h4, h5, h6, h7, h8, h9⟩ := demoPic_fits
  exact (ansi_rt_partial₁ demoOpts demoPic h1 h2 h3 h4 h5 h6 h7 h8 h9).2.2.2 1 0 (by decide) (by decide)

/-- a picture for `ansi_rt_partial₄`: a CUSTOM base palette (slot 3 holds DOS red, slot 0 stays black), two extra palette
    entries (xterm-256 colour 255 and an RGB value in no table); cells: the custom slot, a bright colour right after it,
    a blinking cell on a bright background outside iCE mode with the xterm colour, a bold cell with the RGB colour on the
    xterm colour, then blanks -/
def xPal : List Rgb := (dosPalette.set 3 (170, 0, 0)) ++ [(238, 238, 238), (1, 2, 3)]
def xRow : List Cell :=
  [⟨65, ⟨3, 0, {}⟩⟩, ⟨66, ⟨11, 0, {}⟩⟩, ⟨67, ⟨16, 12, { blink := true }⟩⟩, ⟨68, ⟨17, 16, { bold := true }⟩⟩] ++
    List.replicate 76 ⟨32, ⟨7, 0, {}⟩⟩
def xPic : Pic := { w := 80, rows := [xRow], ice := .unlimited, pal := xPal }

/-- the bytes written for it, which the examples below speak about (the 76 trailing blanks on black are trimmed) -/
theorem xPic_bytes : writeAnsi {} xPic =
    [27, 91, 51, 49, 109, 65, 27, 91, 49, 59, 51, 54, 109, 66, 27, 91, 48, 59, 53, 59, 51, 56, 59, 53, 59, 50, 53, 53, 109,
     27, 91, 48, 59, 50, 53, 53, 59, 56, 53, 59, 56, 53, 116, 67, 27, 91, 48, 59, 49, 59, 52, 56, 59, 53, 59, 50, 53, 53,
     109, 27, 91, 49, 59, 49, 59, 50, 59, 51, 116, 68] := by decide +kernel

example : SauceFits none xPic ∧ (({} : AnsiOpts).longerTerminalOutput = true → xPic.rows.length ≤ 999) ∧ xPic.rows.length ≤ 1000000 ∧
    PalBytes xPic.pal ∧ Pic.Full xPic ∧ xPic.AllCells (CellDomX {} (decide (xPic.ice = .ice))) ∧
    bomPrefixed (writeAnsi {} xPic) = false := by
  refine ⟨Or.inl ⟨rfl, rfl⟩, fun _ => by decide, by decide, ?_, ?_, ?_, ?_⟩
  · unfold PalBytes; decide +kernel
  · unfold Pic.Full; decide +kernel
  · simp only [Pic.AllCells, CellDomX, AttrX, EncDom, AnsiPrintable]; decide +kernel
  · rw [xPic_bytes]; decide

/-- what is written for it: `ESC[31m A ESC[1;36m B ESC[0;5;38;5;255;48;5;12m C …` and a 24-bit command for (1,2,3); what
    comes back shows the same colours through the reader's own palette (DOS palette + the two inserted colours) -/
example : (writeAnsi {} xPic).take 14 = [27, 91, 51, 49, 109, 65, 27, 91, 49, 59, 51, 54, 109, 66] ∧
    (load .ansi none (writeAnsi {} xPic)).pal = dosPalette ++ [(238, 238, 238), (1, 2, 3)] ∧
    getRgb (load .ansi none (writeAnsi {} xPic)).pal (dispFg ((load .ansi none (writeAnsi {} xPic)).cellAt 0 0).attr) = (170, 0, 0) ∧
    getRgb (load .ansi none (writeAnsi {} xPic)).pal (dispFg ((load .ansi none (writeAnsi {} xPic)).cellAt 1 0).attr) = (85, 255, 255) ∧
    getRgb (load .ansi none (writeAnsi {} xPic)).pal (dispFg ((load .ansi none (writeAnsi {} xPic)).cellAt 2 0).attr) = (238, 238, 238) ∧
    getRgb (load .ansi none (writeAnsi {} xPic)).pal ((load .ansi none (writeAnsi {} xPic)).cellAt 2 0).attr.bg = (255, 85, 85) ∧
    ((load .ansi none (writeAnsi {} xPic)).cellAt 2 0).attr.fl.blink = true ∧
    getRgb (load .ansi none (writeAnsi {} xPic)).pal (dispFg ((load .ansi none (writeAnsi {} xPic)).cellAt 3 0).attr) = (1, 2, 3) ∧
    getRgb (load .ansi none (writeAnsi {} xPic)).pal ((load .ansi none (writeAnsi {} xPic)).cellAt 3 0).attr.bg = (238, 238, 238) := by
  rw [xPic_bytes]; decide +kernel

/-- the same picture with extended colours switched off is written with 24-bit commands only (`CSI 1;238;238;238 t`) and
    satisfies the hypotheses as well -/
example : xPic.AllCells (CellDomX { useExtendedColors := false } (decide (xPic.ice = .ice))) ∧
    bomPrefixed (writeAnsi { useExtendedColors := false } xPic) = false ∧
    ¬ (38 ∈ ((writeAnsi { useExtendedColors := false } xPic).take 60)) := by
  refine ⟨?_, ?_⟩
  · simp only [Pic.AllCells, CellDomX, AttrX, EncDom, AnsiPrintable]; decide +kernel
  · decide +kernel

/-- why `Ansi::to_bytes` guards its output (known_findings.txt: `ans:utf8-bom-prefix`): the `StringGenerator`'s
    bytes for this picture start with EF BB BF and the loader reads them as UTF-8 -/
def bomPic : Pic :=
  { w := 80, rows := [[⟨239, defaultAttr⟩, ⟨187, defaultAttr⟩, ⟨191, defaultAttr⟩] ++ List.replicate 77 defaultCell], ice := .unlimited, pal := dosPalette }
theorem bom_counterexample :
    bomPrefixed (writeAnsi {} bomPic) = true ∧
    (load .ansi none (writeAnsi {} bomPic)).cellAt 0 0 = ⟨65279, defaultAttr⟩ ∧ bomPic.get 0 0 = ⟨239, defaultAttr⟩ := by
  decide +kernel

end IcyVerif.C04
