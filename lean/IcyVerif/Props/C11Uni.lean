import IcyVerif.Lemmas.SauceUni
/-! # C11 — SAUCE strings on the Rust `String`s the API accepts

`Props/C11.lean: string_rt…` are statements about CP437 bytes.  `SauceString::from` takes a `String` and `to_string` gives
one back; in between are the table `CP437_TO_UNICODE` (regenerated: `Gen/Codec.lean: cp437`), the first-index search of
`from`, its `?` substitution and its cut at `LEN` characters.  These theorems put all of that under the round trip, with the
exact domain. -/
namespace IcyVerif.C11
open IcyVerif.Sauce IcyVerif.Gen.Sauce IcyVerif.Gen.Codec
open IcyVerif.Codec (cp437_nodup cp437_length)

/-- the facts about the table the theorems rest on (all 256 entries, kernel-checked on the regenerated table): it has 256
    entries, no character occurs twice (so "first index" is "the index"), NUL and blank sit at their ASCII positions -/
theorem cp437_table_facts :
    cp437.length = 256 ∧ cp437.Nodup ∧ cpChar 0 = 0 ∧ cpChar 32 = 32 ∧ cpChar 63 = 63 :=
  ⟨cp437_length, cp437_nodup, cpChar_fixed⟩

/-- `from` and `to_string` on single characters: every byte's character is found at that byte; every table character
    comes back; every other character becomes `?` -/
theorem from_char_exact (ch : Nat) :
    (ch ∈ cp437 → cpChar (cpByte ch) = ch) ∧ (ch ∉ cp437 → cpByte ch = 63) ∧ cpByte ch < 256 ∧
    (∀ b, b < 256 → cpByte (cpChar b) = b) :=
  ⟨cpChar_cpByte ch, cpByte_other ch, cpByte_lt ch, cpByte_cpChar⟩

/-- the domain of the string round trip: at most `LEN` characters, all of them CP437 characters, no trailing blank / NUL -/
def UniDomain (len : Nat) (t : List Nat) : Prop :=
  t.length ≤ len ∧ (∀ ch ∈ t, ch ∈ cp437) ∧ stripT t = t

/-- **blank-padded fields (title, author, group) on Rust strings**: for every string of CP437 characters that fits,
    `from` → `append_to` → `read` → `to_string` gives the string without its trailing blanks and NULs — whatever follows
    the field in the record -/
theorem string_uni_rt (len : Nat) (t : List Nat) (hl : t.length ≤ len) (hc : ∀ ch ∈ t, ch ∈ cp437) (rest : List Nat) :
    ∃ r, strRead len 32 (strAppend len 32 (strFromUni len t) [] ++ rest) = .ok r ∧ strTextUni r = stripT t := by
  have hs := strFromUni_length len t
  refine ⟨_, strRead_append hs rest, ?_⟩
  unfold strTextUni
  rw [if_neg (by decide)]
  rw [strText_eq, carryPad_stripT hs (by decide)]
  exact uni_core len t hl hc

/-- **the domain is exact**: the string comes back unchanged **iff** it has at most `LEN` characters, all of them in the
    table, and no trailing blank / NUL.  (Longer strings are cut, other characters become `?`, trailing blanks and NULs are
    padding.) -/
theorem string_uni_rt_iff (len : Nat) (t : List Nat) :
    strTextUni (carryPad len 32 (strFromUni len t)) = t ↔ UniDomain len t := by
  have hs := strFromUni_length len t
  have hL : strTextUni (carryPad len 32 (strFromUni len t)) = (stripT (strFromUni len t)).map cpChar := by
    unfold strTextUni
    rw [strText_eq, carryPad_stripT hs (by decide)]
  constructor
  · intro h
    rw [hL] at h
    -- lengths: nothing was stripped and nothing was cut
    have e1 : (stripT (strFromUni len t)).length = t.length := by rw [← List.length_map (f := cpChar), h]
    have e2 := stripT_length_le (strFromUni len t)
    have e3 : (strFromUni len t).length ≤ t.length := by simp [strFromUni]; omega
    have hl : t.length ≤ len := by omega
    have hfull := stripT_eq_self (s := strFromUni len t) (by omega)
    rw [hfull] at h
    unfold strFromUni at h hfull
    rw [List.take_of_length_le hl] at h hfull
    rw [List.map_map, ← List.map_id t, List.map_map] at h
    -- every character comes back, so it is a table character
    have hc : ∀ ch ∈ t, ch ∈ cp437 := fun ch hch => by
      have e : cpChar (cpByte ch) = ch := List.map_inj_left.mp h ch hch
      rw [← e]
      exact cpChar_mem _ (cpByte_lt ch)
    rw [stripT_map cpByte t (fun x hx => strip_cpByte x (hc x hx))] at hfull
    exact ⟨hl, hc, stripT_eq_self (by simpa using congrArg List.length hfull)⟩
  · rintro ⟨hl, hc, hstrip⟩
    rw [hL, uni_core len t hl hc, hstrip]

/-- **NUL-padded fields (comment lines, font name)**: for every string of CP437 characters without a NUL that fits, the
    string comes back without its trailing blanks -/
theorem string_uni_rt_nul (len : Nat) (t : List Nat) (hl : t.length ≤ len) (hc : ∀ ch ∈ t, ch ∈ cp437) (h0 : 0 ∉ t)
    (rest : List Nat) :
    ∃ r, strRead len 0 (strAppend len 0 (strFromUni len t) [] ++ rest) = .ok r ∧ strTextUni r = stripT t := by
  have hs := strFromUni_length len t
  have ht : t.take len = t := List.take_of_length_le hl
  have hno : 0 ∉ strFromUni len t := by
    unfold strFromUni
    rw [ht]
    intro hm
    obtain ⟨ch, hch, he⟩ := List.mem_map.mp hm
    have := cpChar_cpByte ch (hc ch hch)
    rw [he] at this
    rw [cpChar_fixed.1] at this
    exact h0 (this ▸ hch)
  refine ⟨_, strRead_append hs rest, ?_⟩
  rw [if_pos rfl]
  have hcn : carryNul (strFromUni len t) = strFromUni len t := takeWhile_ne_zero_self _ hno
  unfold strTextUni
  rw [strText_eq, hcn]
  exact uni_core len t hl hc

/-- **the `?` substitution and the cut, as values**: what `from` makes of ANY string — one byte per character of the first
    `LEN` characters, the table index where there is one, `?` otherwise -/
theorem from_uni_value (len : Nat) (t : List Nat) :
    strFromUni len t = (t.take len).map (fun ch => if ch ∈ cp437 then cpByte ch else 63) ∧
    (strFromUni len t).length = min len t.length ∧ ∀ b ∈ strFromUni len t, b < 256 := by
  refine ⟨?_, by simp [strFromUni], ?_⟩
  · unfold strFromUni
    apply List.map_congr_left
    intro ch _
    by_cases h : ch ∈ cp437
    · rw [if_pos h]
    · rw [if_neg h, cpByte_other ch h]
  · intro b hb
    obtain ⟨ch, _, rfl⟩ := List.mem_map.mp hb
    exact cpByte_lt ch

-- "Grüße ░▒▓ " : German sharp s, umlaut, shade blocks are CP437; the trailing blank is padding
def exUni : List Nat := [71, 114, 252, 223, 101, 32, 9617, 9618, 9619, 32]
example : strFromUni 35 exUni = [71, 114, 129, 225, 101, 32, 176, 177, 178, 32] := by decide +kernel
example : strTextUni (carryPad 35 32 (strFromUni 35 exUni)) = exUni.take 9 := by decide +kernel
example : UniDomain 35 (exUni.take 9) := ⟨by decide, by decide +kernel, by decide +kernel⟩
-- a euro sign and a CJK character are not CP437: `?`
example : strFromUni 35 [8364, 65, 23383] = [63, 65, 63] := by decide +kernel
-- 40 characters into the 35-character title: cut
example : (strFromUni 35 (List.replicate 40 65)).length = 35 := by decide +kernel

end IcyVerif.C11
