import IcyVerif.Lemmas.UndoFonts
import IcyVerif.Lemmas.UndoRows
import IcyVerif.Lemmas.UndoFrames
/-! # C08 — the inverse law, record by record, at every document

One law for each record type of `UndoOp` in the order of the type (`atomic` apart: its law is `atomic_group_undoable` in
`Props/C08`), and one for the group a mirrored `set_char` on the centre column pushes.  Each is an instance of a scheme of
`Lemmas/UndoOps` (`undoable_obs`: the record acts on the observation by GU / GR with GU (GR a) = a; `inverseAt_fun`: it
never changes itself; `undoable_layer`, `inverseAt_onLayer`: it works on one layer; `undoable_insert`, `undoable_remove`,
`undoable_merge`, `inverseAt_swap`: it rearranges the layer stack), `Lemmas/UndoFonts` (`undoable_fonts`: it works on the font
table), `Lemmas/UndoRows` (`inverseAt_scroll`), together with the cancellation law of the operation on observations
(`LObs.restore_setChar`, `swapChar_swapChar`, `insertRow_removeRow`, `restoreColumn_removeColumn`, `stamp_back`, `fset_move_back`, …).
A law opens with `inverseAt_of_redone` where `redo` can fail or rewrites the record: the failing branches are `trivial`.

A record that stores a copy of what it overwrites obeys the law only if the copy is right.  Seven laws therefore carry a
hypothesis about the record's payload: `inverse_setChar` (`old` is the cell at the position), `inverse_moveLayer` (`from` is
the layer's offset), `inverse_rotateLayer` (`old_lines` is the layer's storage), `inverse_updateLayerProps` (`old` are the
layer's properties), `inverse_setFont` (`old` is the font of the slot), `inverse_layerChange` (the two snapshots are
`from_layer` of the layer before and after an edit inside the area), `inverse_addFloatingLayer` (the layer is a freshly
pasted one: the record is its own inverse on no other).  `inverse_resizeBuffer`, `inverse_crop`, `inverse_replaceFontUsage`,
`inverse_switchPalette`, `inverse_setIceMode` are stated for the record whose "before" fields are the document's,
`inverse_addLayer`, `inverse_paste`, `inverse_mergeLayerDown` for the record that holds its layer (without it `redo` does
nothing or fails), `inverse_reversed` for a wrapped record that can be undone from the document.  Every operation of `Call`
builds its record that way; `call_steps_good` (`Props/C08Calls`) discharges the hypotheses (that of
`inverse_addFloatingLayer` through the test `add_floating_layer` is modelled with, `floatBuild`).
The framework theorems (`stack_discipline`, `api_history_discipline`) are in `Props/C08`. -/
namespace IcyVerif.C08
open IcyVerif.Undo

/-- **UndoSetChar** (set_char, also each half of a mirrored set_char off the centre column).  After `fix: undo restores
    recorded cells directly…` the law holds at EVERY document: locked, hidden and alpha-locked layers, positions outside the
    layer, rows that are not materialised. -/
theorem inverse_setChar (d : Doc) (i : Nat) (x y : Int) (old new : Cell)
    (hold : ∀ l, d.layers[i]? = some l → old = l.getChar x y) :
    InverseAt (.setChar x y i old new) d :=
  inverseAt_onLayer _ i (some .panic) (·.setChar x y new) (·.restoreChar x y old) (·.setChar x y new) (·.restoreChar x y old)
    (fun l => setChar_obs l x y new) (fun l => restoreChar_obs l x y old) (fun _ => rfl) (fun _ => rfl)
    (fun l hl => LObs.restore_setChar l.obs x y old new (hold l hl))

/-- the group a mirrored `set_char` on the centre column pushes (the same record twice) -/
theorem inverse_setChar_mirror_centre (d : Doc) (i : Nat) (x y : Int) (c : Cell) (l : LayerM) (hl : d.layers[i]? = some l) :
    Undoable (.atomic [.setChar x y i (l.getChar x y) c, .setChar x y i (l.getChar x y) c]) d.obs
      (d.setLayer i ((l.setChar x y c).setChar x y c)).obs := by
  let r : UndoOp := .setChar x y i (l.getChar x y) c
  refine undoable_layer hl (· = .atomic [r, r]) (· = .atomic [r, r]) rfl ?_ ?_
  · rintro _ rfl e' m hm hmo
    have hm1 : (e'.layers.set i (m.restoreChar x y (l.getChar x y)))[i]? = some _ := getElem?_setLayer_self e' i _ m hm
    refine ⟨.atomic [r, r], (m.restoreChar x y (l.getChar x y)).restoreChar x y (l.getChar x y), ?_, ?_, rfl⟩
    · simp [UndoOp.undo, undoList, onLayerIdx, hm, hm1, r, Doc.setLayer, List.set_set]
    · rw [restoreChar_obs, restoreChar_obs, hmo, setChar_obs, setChar_obs, LObs.restore_idem, LObs.restore_absorbs_set,
        LObs.restore_absorbs_set, getChar_obs, LObs.restore_self]
  · rintro _ rfl e m hm hmo
    have hm1 : (e.layers.set i (m.setChar x y c))[i]? = some _ := getElem?_setLayer_self e i _ m hm
    refine ⟨.atomic [r, r], (m.setChar x y c).setChar x y c, ?_, ?_, rfl⟩
    · simp [UndoOp.redo, redoList, onLayerIdx, hm, hm1, r, Doc.setLayer, List.set_set]
    · rw [setChar_obs, setChar_obs, setChar_obs, setChar_obs, hmo]

/-- **UndoSwapChar** — self-inverse at every document: positions outside the layer, locked and hidden layers are no-ops,
    an alpha-locked layer swaps two visible cells or nothing -/
theorem inverse_swapChar (d : Doc) (i : Nat) (x1 y1 x2 y2 : Int) : InverseAt (.swapChar i x1 y1 x2 y2) d :=
  inverseAt_onLayer _ i (some .panic) (·.swapChar x1 y1 x2 y2) (·.swapChar x1 y1 x2 y2) (·.swapChar x1 y1 x2 y2) (·.swapChar x1 y1 x2 y2)
    (fun l => swapChar_obs l _ _ _ _) (fun l => swapChar_obs l _ _ _ _) (fun _ => rfl) (fun _ => rfl)
    (fun l _ => LObs.swapChar_swapChar l.obs _ _ _ _)

/-- **AddLayer** (add_new_layer, duplicate_layer) — at every document: the record keeps the removed layer, whatever its
    raw storage looks like -/
theorem inverse_addLayer (d : Doc) (idx : Nat) (l : LayerM) : InverseAt (.addLayer idx (some l)) d := by
  refine inverseAt_of_redone ?_
  simp only [UndoOp.redo]
  exact of_ite (fun hidx => undoable_insert (.addLayer idx) idx
    (fun p e m hm => ⟨min e.cur ((e.layers.eraseIdx idx).length - 1), by simp [UndoOp.undo, hm, Doc.clampCur]⟩)
    (fun l' e hk => by simp [UndoOp.redo, hk]) d hidx l) fun _ => trivial

/-- **RemoveLayer** — at every document (an out-of-range index makes the edit itself fail) -/
theorem inverse_removeLayer (d : Doc) (idx : Nat) (p : Option LayerM) : InverseAt (.removeLayer idx p) d := by
  refine inverseAt_of_redone ?_
  simp only [UndoOp.redo]
  cases hl : d.layers[idx]? with
  | none => trivial
  | some l =>
    exact undoable_remove (.removeLayer idx) idx (fun l' e hk => by simp [UndoOp.undo, hk])
      (fun p e m hm => ⟨min e.cur ((e.layers.eraseIdx idx).length - 1), by simp [UndoOp.redo, hm, Doc.clampCur]⟩) d l hl _

/-- **RaiseLayer** — at every document; the top layer cannot be raised (the edit fails), an index past the end panics in
    `redo`, so no such record is ever pushed -/
theorem inverse_raiseLayer (d : Doc) (idx : Nat) : InverseAt (.raiseLayer idx) d :=
  inverseAt_swap (.raiseLayer idx) idx (idx + 1) (fun e => by simp only [UndoOp.redo]; cases listSwap e.layers idx (idx + 1) <;> rfl)
    (fun e => by simp only [UndoOp.undo]; cases listSwap e.layers idx (idx + 1) <;> rfl) d

/-- **LowerLayer** — at every document (`lower_layer(0)` pushes nothing; index 0 in a record would underflow) -/
theorem inverse_lowerLayer (d : Doc) (idx : Nat) : InverseAt (.lowerLayer idx) d := by
  by_cases h0 : idx = 0
  · intro op' d' hr
    simp [UndoOp.redo, h0] at hr
  · exact inverseAt_swap (.lowerLayer idx) idx (idx - 1)
      (fun e => by simp only [UndoOp.redo, h0, if_false]; cases listSwap e.layers idx (idx - 1) <;> rfl)
      (fun e => by simp only [UndoOp.undo, h0, if_false]; cases listSwap e.layers idx (idx - 1) <;> rfl) d

/-- **ToggleLayerVisibility** — self-inverse at every document (an out-of-range index makes the edit itself fail) -/
theorem inverse_toggleVisibility (d : Doc) (i : Nat) : InverseAt (.toggleVisibility i) d :=
  let f : LayerM → LayerM := fun l => { l with props := { l.props with visible := !l.props.visible } }
  let F : LObs → LObs := fun a => (a.w, a.h, { a.props with visible := !a.props.visible }, a.cells)
  inverseAt_onLayer _ i (some .err) f f F F (fun _ => rfl) (fun _ => rfl) (fun _ => rfl) (fun _ => rfl)
    (fun l _ => by simp [F, LayerM.obs, LObs.props, LObs.cells])

/-- **MoveLayer** — at every document, provided the record carries the layer's current offset as `from` (it does:
    `move_layer` reads it from the layer it then moves); on a position-locked layer both directions are no-ops -/
theorem inverse_moveLayer (d : Doc) (i : Nat) (fx fy tx ty : Int)
    (hfrom : ∀ l, d.layers[i]? = some l → fx = l.props.offX ∧ fy = l.props.offY) :
    InverseAt (.moveLayer i fx fy tx ty) d :=
  inverseAt_onLayer _ i (some .err) (·.setOffset tx ty) (·.setOffset fx fy) (·.setOffset tx ty) (·.setOffset fx fy)
    (fun l => setOffset_obs l _ _) (fun l => setOffset_obs l _ _) (fun _ => rfl) (fun _ => rfl)
    (fun l hl => by
      obtain ⟨rfl, rfl⟩ := hfrom l hl
      obtain ⟨w, h, ⟨v, lk, pl, ha, al, ox, oy, ti, ro⟩, lines⟩ := l
      cases pl <;> rfl)

/-- **SetLayerSize** — the record captures the old size in `redo` (it mutates itself); rows and cells beyond the new
    size stay in `lines`, so shrinking and undoing restores them.  Holds at every document. -/
theorem inverse_setLayerSize (d : Doc) (i : Nat) (fw fh tw th : Int) : InverseAt (.setLayerSize i fw fh tw th) d := by
  refine inverseAt_of_redone ?_
  simp only [UndoOp.redo]
  cases hl : d.layers[i]? with
  | none => trivial
  | some l =>
    refine undoable_layer hl (· = .setLayerSize i l.w l.h tw th) (· = .setLayerSize i l.w l.h tw th) rfl ?_ ?_
    · rintro _ rfl e' m hm hmo
      obtain ⟨_, _, hp, hc⟩ := LayerM.obs_eq.mp hmo
      exact ⟨_, { m with w := l.w, h := l.h }, by simp [UndoOp.undo, onLayer, hm], LayerM.obs_eq.mpr ⟨rfl, rfl, hp, hc⟩, rfl⟩
    · rintro _ rfl e m hm hmo
      obtain ⟨hw, hh, hp, hc⟩ := LayerM.obs_eq.mp hmo
      exact ⟨.setLayerSize i m.w m.h tw th, { m with w := tw, h := th }, by simp [UndoOp.redo, hm],
        LayerM.obs_eq.mpr ⟨rfl, rfl, hp, hc⟩, by rw [hw, hh]⟩

/-- **ResizeBuffer** (resize_buffer without layers) — at every document, given that the record holds the buffer's
    size as `orig_size` (it is created that way) -/
theorem inverse_resizeBuffer (d : Doc) (w h : Int) : InverseAt (.resizeBuffer d.w d.h w h) d :=
  inverseAt_fun _ (fun a => { a with w := d.w, h := d.h }) (fun a => { a with w := w, h := h }) (fun _ => rfl) (fun _ => rfl) rfl

/-- **UndoLayerChange, full law** (flip, justify, center, erase, partial scroll, make transparent, stamp down): for every
    layer state and every area, whenever the snapshots are `from_layer` of the layer before and after an edit that stayed
    inside the area (`Frame`) — which every operation that builds this record does (`call_steps_good`) -/
theorem inverse_layerChange (d : Doc) (i : Nat) (a : Rect) (l l' old new : LayerM)
    (hl : d.layers[i]? = some l) (hold : fromLayer l a = .ok old) (hnew : fromLayer l' a = .ok new)
    (hframe : Frame a l.obs l'.obs) :
    Undoable (.layerChange i a.x a.y old new) d.obs (d.setLayer i l').obs := by
  refine undoable_layer hl (· = .layerChange i a.x a.y old new) (· = .layerChange i a.x a.y old new) rfl ?_ ?_
  · rintro _ rfl e' m hm hmo
    exact ⟨_, layerChangeApply m a.x a.y old, by simp [UndoOp.undo, onLayer, hm], stamp_back hold hmo hframe, rfl⟩
  · rintro _ rfl e m hm hmo
    exact ⟨_, layerChangeApply m a.x a.y new, by simp [UndoOp.redo, onLayer, hm], stamp_back hnew hmo hframe.symm, rfl⟩

/-- **Crop** (resize_buffer with layers, crop, crop_rect): the edit builds the new layer vector, the record keeps the
    old one and both are swapped back and forth — exact at every document, whatever the new layers are -/
theorem inverse_crop (d : Doc) (w h : Int) (newLayers : List LayerM) :
    Undoable (.crop d.w d.h w h d.layers) d.obs ({ d with w := w, h := h, layers := newLayers } : Doc).obs := by
  refine undoable_obs (fun o => ∃ ls, o = .crop d.w d.h w h ls ∧ ls.map LayerM.obs = d.layers.map LayerM.obs)
    (fun o => ∃ ls, o = .crop d.w d.h w h ls ∧ ls.map LayerM.obs = newLayers.map LayerM.obs)
    (fun A => { A with w := d.w, h := d.h, layers := d.layers.map LayerM.obs })
    (fun A => { A with w := w, h := h, layers := newLayers.map LayerM.obs }) ⟨d.layers, rfl, rfl⟩ rfl ?_ ?_ rfl
  · rintro _ ⟨ls, rfl, hls⟩ e' he'
    exact ⟨.crop d.w d.h w h e'.layers, ({ e' with w := d.w, h := d.h, layers := ls } : Doc).setMaskSize, by simp [UndoOp.undo],
      by simp [Doc.obs, Doc.setMaskSize, hls], e'.layers, rfl, obs_layers he'⟩
  · rintro _ ⟨ls, rfl, hls⟩ e he
    exact ⟨.crop d.w d.h w h e.layers, ({ e with w := w, h := h, layers := ls } : Doc).setMaskSize, by simp [UndoOp.redo],
      by simp [Doc.obs, Doc.setMaskSize, hls], e.layers, rfl, obs_layers he⟩

/-- **DeleteRow** — at every document: caret row beyond the materialised rows or beyond the layer height, hidden rows
    below; a negative caret row panics in the edit -/
theorem inverse_deleteRow (d : Doc) (i : Nat) (line : Int) (row0 : Row) : InverseAt (.deleteRow i line row0) d := by
  refine inverseAt_of_redone ?_
  simp only [UndoOp.redo]
  cases hl : d.layers[i]? with
  | none => trivial
  | some l =>
    refine of_ite (fun _ => trivial) fun hneg => ?_
    · obtain ⟨hobs, hrow⟩ := deleteRowRedo_obs l line.toNat
      refine undoable_layer hl (fun o => ∃ r, o = .deleteRow i line r ∧ ∀ x, r.getD x Cell.invisible = rowsGet l.lines x line.toNat)
        (fun o => ∃ r, o = .deleteRow i line r) ⟨_, rfl, hrow⟩ ?_ ?_
      · rintro _ ⟨r, rfl, hr⟩ e' m hm hmo
        refine ⟨.deleteRow i line [], { m with lines := (growTo m.lines line.toNat []).insertIdx line.toNat r, h := m.h + 1 },
          by simp [UndoOp.undo, hm, hneg], ?_, [], rfl⟩
        rw [deleteRowUndo_obs, hmo, hobs, funext hr]
        exact LObs.insertRow_removeRow l.obs line.toNat
      · rintro _ ⟨r, rfl⟩ e m hm hmo
        obtain ⟨hobs', hrow'⟩ := deleteRowRedo_obs m line.toNat
        refine ⟨.deleteRow i line (deleteRowRedo m line.toNat).1, (deleteRowRedo m line.toNat).2, by simp [UndoOp.redo, hm, hneg],
          by rw [hobs', hobs, hmo], _, rfl, fun x => ?_⟩
        rw [hrow' x, (LayerM.obs_eq.mp hmo).2.2.2]

/-- **InsertRow** — at every document (row inserted beyond the materialised rows, beyond the height, …) -/
theorem inverse_insertRow (d : Doc) (i : Nat) (line : Int) (row0 : Row) : InverseAt (.insertRow i line row0) d := by
  refine inverseAt_of_redone ?_
  simp only [UndoOp.redo]
  cases hl : d.layers[i]? with
  | none => trivial
  | some l =>
    refine of_ite (fun _ => trivial) fun hneg => ?_
    · have hobs := insertRowRedo_obs l line.toNat row0
      refine undoable_layer hl (· = .insertRow i line [])
        (fun o => ∃ r, o = .insertRow i line r ∧ ∀ x, r.getD x Cell.invisible = row0.getD x Cell.invisible) rfl ?_ ?_
      · rintro _ rfl e' m hm hmo
        rw [hobs] at hmo
        have hrow : ∀ x, rowsGet m.lines x line.toNat = row0.getD x Cell.invisible := rowsGet_of_insertRow hmo
        obtain ⟨hin, hout⟩ := insertRowUndo_obs m line.toNat
        by_cases hlen : line.toNat < m.lines.length
        · exact ⟨.insertRow i line (m.lines.getD line.toNat []), { m with lines := m.lines.eraseIdx line.toNat, h := m.h - 1 },
            by simp [UndoOp.undo, hm, hneg, hlen], by rw [hin, hmo, LObs.removeRow_insertRow], _, rfl, hrow⟩
        · refine ⟨.insertRow i line [], { m with h := m.h - 1 }, by simp [UndoOp.undo, hm, hneg, hlen],
            by rw [hout (by omega), hmo, LObs.removeRow_insertRow], _, rfl, fun x => ?_⟩
          rw [← hrow x, rowsGet_beyond _ _ _ (by omega)]
          rfl
      · rintro _ ⟨r, rfl, hr⟩ e m hm hmo
        exact ⟨.insertRow i line [], insertRowRedo m line.toNat r, by simp [UndoOp.redo, hm, hneg],
          by rw [insertRowRedo_obs, hobs, hmo, funext hr], rfl⟩

/-- **DeleteColumn** — at every document: rows shorter than the column (nothing recorded for them), rows that are not
    materialised, negative caret column -/
theorem inverse_deleteColumn (d : Doc) (i : Nat) (col : Int) (del0 : List (Option Cell)) : InverseAt (.deleteColumn i col del0) d := by
  refine inverseAt_of_redone ?_
  simp only [UndoOp.redo]
  cases hl : d.layers[i]? with
  | none => trivial
  | some l =>
    obtain ⟨hobs, hdel⟩ := deleteColumnRedo_obs l col
    refine undoable_layer hl (fun o => ∃ del, o = .deleteColumn i col del ∧ ColOf l col del) (fun o => ∃ del, o = .deleteColumn i col del)
      ⟨_, rfl, hdel⟩ ?_ ?_
    · rintro _ ⟨del, rfl, hP⟩ e' l' hm hl2
      refine ⟨.deleteColumn i col del, deleteColumnUndo l' col del, by simp [UndoOp.undo, onLayer, hm], ?_, del, rfl⟩
      rw [deleteColumnUndo_obs, hl2, hobs]
      exact LObs.restoreColumn_removeColumn l col del hP
    · rintro _ ⟨del, rfl⟩ e m hm hmo
      obtain ⟨hobs', hdn', hdp'⟩ := deleteColumnRedo_obs m col
      refine ⟨.deleteColumn i col (deleteColumnRedo m col).1, (deleteColumnRedo m col).2, by simp [UndoOp.redo, hm],
        by rw [hobs', hobs, hmo], _, rfl, hdn', fun hneg y => ?_⟩
      have := hdp' hneg y
      rw [(LayerM.obs_eq.mp hmo).2.2.2] at this
      exact this

/-- **InsertColumn** — at every document (rows shorter than the column, negative caret column, …) -/
theorem inverse_insertColumn (d : Doc) (i : Nat) (col : Int) : InverseAt (.insertColumn i col) d :=
  inverseAt_onLayer _ i (some .err) (insertColumnRedo · col) (insertColumnUndo · col)
    (·.insertColumn col) (·.removeColumn col) (fun l => insertColumnRedo_obs l col) (fun l => insertColumnUndo_obs l col)
    (fun _ => rfl) (fun _ => rfl) (fun l _ => l.obs.removeColumn_insertColumn col)

/-- **UndoScrollWholeLayerUp / Down** (after `fix: whole-layer scroll up/down rotates the visible rows…`) — at every
    document: rows not materialised, hidden rows below the layer (they stay where they are), empty layers -/
theorem inverse_scrollUp (d : Doc) (i : Nat) : InverseAt (.scrollUp i) d :=
  inverseAt_scroll _ i true (fun _ => rfl) (fun _ => rfl) d

theorem inverse_scrollDown (d : Doc) (i : Nat) : InverseAt (.scrollDown i) d :=
  inverseAt_scroll _ i false (fun _ => rfl) (fun _ => rfl) d

/-- **ClearLayer** — the record and the layer swap their row storage; at every document -/
theorem inverse_clearLayer (d : Doc) (idx : Nat) (lines0 : List Row) : InverseAt (.clearLayer idx lines0) d := by
  refine inverseAt_of_redone ?_
  simp only [UndoOp.redo]
  cases hl : d.layers[idx]? with
  | none => trivial
  | some l =>
    refine undoable_layer hl (fun o => ∃ ls, o = .clearLayer idx ls ∧ rowsGet ls = rowsGet l.lines)
      (fun o => ∃ ls, o = .clearLayer idx ls ∧ rowsGet ls = rowsGet lines0) ⟨l.lines, rfl, rfl⟩ ?_ ?_
    · rintro _ ⟨ls, rfl, hls⟩ e' m hm hmo
      obtain ⟨hw, hh, hp, hc⟩ := LayerM.obs_eq.mp hmo
      exact ⟨.clearLayer idx m.lines, { m with lines := ls }, by simp [UndoOp.undo, hm], LayerM.obs_eq.mpr ⟨hw, hh, hp, hls⟩, _, rfl, hc⟩
    · rintro _ ⟨ls, rfl, hls⟩ e m hm hmo
      obtain ⟨hw, hh, hp, hc⟩ := LayerM.obs_eq.mp hmo
      exact ⟨.clearLayer idx m.lines, { m with lines := ls }, by simp [UndoOp.redo, hm], LayerM.obs_eq.mpr ⟨hw, hh, hp, hls⟩, _, rfl, hc⟩

/-- selection records do not touch the document state at all -/
theorem inverse_setSelection (d : Doc) (old new : Option Sel) : InverseAt (.setSelection old new) d :=
  inverseAt_fun _ id id (fun _ => rfl) (fun _ => rfl) rfl

theorem inverse_selectNothing (d : Doc) (sel : Option Sel) (mask : Mask) : InverseAt (.selectNothing sel mask) d :=
  inverseAt_fun _ id id (fun _ => rfl) (fun _ => rfl) rfl

theorem inverse_deselect (d : Doc) (sel : Sel) : InverseAt (.deselect sel) d :=
  inverseAt_fun _ id id (fun _ => rfl) (fun _ => rfl) rfl

/-- **MergeLayerDown** (`merge_layer_down`, `anchor_layer`): two layers are replaced by the merged one and the record
    keeps them; undo puts them back in order and takes the merged layer out again — exact at every document, whatever the
    merged layer is -/
theorem inverse_mergeLayerDown (d : Doc) (idx : Nat) (m : LayerM) (o0 : Option (List LayerM)) :
    InverseAt (.mergeLayerDown idx (some m) o0) d := by
  refine inverseAt_of_redone ?_
  simp only [UndoOp.redo]
  refine of_ite (fun _ => trivial) fun hbad => ?_
  obtain ⟨k, rfl⟩ : ∃ k, idx = k + 1 := ⟨idx - 1, by omega⟩
  exact undoable_merge d k m (by omega) _

/-- **Paste** (`paste_clipboard_data`) — the record keeps the layer it removes; at every document -/
theorem inverse_paste (d : Doc) (cur : Nat) (l : LayerM) : InverseAt (.paste cur (some l)) d := by
  refine inverseAt_of_redone ?_
  simp only [UndoOp.redo]
  exact of_ite (fun hidx => undoable_insert (.paste cur) (cur + 1) (fun p e m hm => ⟨e.cur, by simp [UndoOp.undo, hm]⟩)
    (fun l' e hk => by simp [UndoOp.redo, hk]) d hidx l) fun _ => trivial

/-- **AddFloatingLayer** — on a freshly pasted layer (role PastePreview / PasteImage, title "pasted"), which is how the
    operation is used; on any other layer the record would not be its own inverse (the title is overwritten) -/
theorem inverse_addFloatingLayer (d : Doc) (i : Nat)
    (hpaste : ∀ l, d.layers[i]? = some l → (l.props.role = 1 ∨ l.props.role = 2) ∧ l.props.title = IcyVerif.Gen.Undo.layerPastedName) :
    InverseAt (.addFloatingLayer i) d :=
  let FR : LObs → LObs := fun a => (a.w, a.h, { a.props with role := if a.props.role = 2 then 3 else 0, title := IcyVerif.Gen.Undo.layerNewName }, a.cells)
  let FU : LObs → LObs := fun a => (a.w, a.h, { a.props with role := if a.props.role = 3 then 2 else 1, title := IcyVerif.Gen.Undo.layerPastedName }, a.cells)
  inverseAt_onLayer _ i none floatRedo floatUndo FR FU (fun _ => rfl) (fun _ => rfl) (fun _ => rfl) (fun _ => rfl)
    (fun l hl => by
      obtain ⟨hrole, htitle⟩ := hpaste l hl
      obtain ⟨w, h, ⟨v, lk, pl, ha, al, ox, oy, ti, ro⟩, lines⟩ := l
      simp only at hrole htitle
      subst htitle
      rcases hrole with rfl | rfl <;> simp [FR, FU, LayerM.obs, LObs.props, LObs.cells])

/-- **RotateLayer** — the record holds complete copies of the row storage before and after, sizes are swapped back and
    forth: exact at every document (hidden rows included), given that `old_lines` is the layer's storage (it is cloned
    from it); a missing layer makes both directions no-ops -/
theorem inverse_rotateLayer (d : Doc) (i : Nat) (old new : List Row)
    (hold : ∀ l, d.layers[i]? = some l → old = l.lines) : InverseAt (.rotateLayer i old new) d :=
  inverseAt_onLayer _ i none
    (fun l => { l with w := l.h, h := l.w, lines := new }) (fun l => { l with w := l.h, h := l.w, lines := old })
    (fun a => (a.h, a.w, a.props, rowsGet new)) (fun a => (a.h, a.w, a.props, rowsGet old))
    (fun _ => rfl) (fun _ => rfl) (fun _ => rfl) (fun _ => rfl)
    (fun l hl => by
      show (l.w, l.h, l.props, rowsGet old) = l.obs
      rw [hold l hl]
      rfl)

/-- **UpdateLayerProperties** — at every document, given that the record holds the layer's properties as
    `old_properties` (it clones them); `Layer::role` is not part of the properties and stays -/
theorem inverse_updateLayerProps (d : Doc) (i : Nat) (old new : Props)
    (hold : ∀ l, d.layers[i]? = some l → old = l.props) : InverseAt (.updateLayerProps i old new) d :=
  inverseAt_onLayer _ i (some .err)
    (fun l => { l with props := { new with role := l.props.role } }) (fun l => { l with props := { old with role := l.props.role } })
    (fun a => (a.w, a.h, { new with role := a.props.role }, a.cells)) (fun a => (a.w, a.h, { old with role := a.props.role }, a.cells))
    (fun _ => rfl) (fun _ => rfl) (fun _ => rfl) (fun _ => rfl)
    (fun l hl => by
      show (l.w, l.h, ({ old with role := l.props.role } : Props), rowsGet l.lines) = l.obs
      rw [hold l hl]
      rfl)

/-- **SetSelectionMask / AddSelectionToMask / InverseSelection** — selection and mask only -/
theorem inverse_setSelectionMask (d : Doc) (old new : Mask) : InverseAt (.setSelectionMask old new) d :=
  inverseAt_fun _ id id (fun _ => rfl) (fun _ => rfl) rfl

theorem inverse_addSelectionToMask (d : Doc) (old : Mask) (sel : Sel) : InverseAt (.addSelectionToMask old sel) d :=
  inverseAt_fun _ id id (fun _ => rfl) (fun _ => rfl) rfl

theorem inverse_inverseSelection (d : Doc) (sel : Option Sel) (old new : Mask) :
    Undoable (.inverseSelection sel old new) d.obs ({ d with sel := none, mask := new } : Doc).obs :=
  undoable_fun _ id id (fun _ => rfl) (fun _ => rfl) rfl

/-- **SwitchPalettte** (`switch_to_palette`): buffer and record swap their palettes — at every document -/
theorem inverse_switchPalettte (d : Doc) (pal : List Nat) : InverseAt (.switchPalettte pal) d := by
  refine inverseAt_of_redone ?_
  refine undoable_obs (· = .switchPalettte d.x.palette) (· = .switchPalettte pal)
    (fun a => { a with x := { a.x with palette := d.x.palette } }) (fun a => { a with x := { a.x with palette := pal } }) rfl rfl ?_ ?_ rfl
  · rintro _ rfl e' he'
    exact ⟨.switchPalettte e'.x.palette, _, rfl, rfl, congrArg (fun a => UndoOp.switchPalettte a.x.palette) he'⟩
  · rintro _ rfl e he
    exact ⟨.switchPalettte e.x.palette, _, rfl, rfl, congrArg (fun a => UndoOp.switchPalettte a.x.palette) he⟩

/-- **SetSauceData** (`update_sauce_data`): buffer and record swap their SAUCE records — at every document -/
theorem inverse_setSauceData (d : Doc) (data : Option Nat) : InverseAt (.setSauceData data) d := by
  refine inverseAt_of_redone ?_
  refine undoable_obs (· = .setSauceData d.x.sauce) (· = .setSauceData data)
    (fun a => { a with x := { a.x with sauce := d.x.sauce } }) (fun a => { a with x := { a.x with sauce := data } }) rfl rfl ?_ ?_ rfl
  · rintro _ rfl e' he'
    exact ⟨.setSauceData e'.x.sauce, _, rfl, rfl, congrArg (fun a => UndoOp.setSauceData a.x.sauce) he'⟩
  · rintro _ rfl e he
    exact ⟨.setSauceData e.x.sauce, _, rfl, rfl, congrArg (fun a => UndoOp.setSauceData a.x.sauce) he⟩

/-- **SwitchToFontPage** — caret only -/
theorem inverse_switchToFontPage (d : Doc) (old new : Nat) : InverseAt (.switchToFontPage old new) d :=
  inverseAt_fun _ id id (fun _ => rfl) (fun _ => rfl) rfl

/-- **SetFont** — given that the record holds the font the slot had (it is created that way after `fix: set_font/… record
    the old font of the slot they write`) -/
theorem inverse_setFont (d : Doc) (page old new : Nat) (hold : fmLookup d.x.fonts page = some old) :
    InverseAt (.setFont page old new) d :=
  inverseAt_fun _ (fun a => a.setFonts (fset a.x.fonts page (some old))) (fun a => a.setFonts (fset a.x.fonts page (some new)))
    (fun e => by show Except.ok (_, (e.setFonts _).obs) = _; rw [setFonts_obs, fmLookup_insert_fn]; rfl)
    (fun e => by show Except.ok (_, (e.setFonts _).obs) = _; rw [setFonts_obs, fmLookup_insert_fn]; rfl)
    (by
      show d.obs.setFonts (fset (fset (fmLookup d.x.fonts) page (some new)) page (some old)) = d.obs
      rw [fset_fset, ← hold, fset_self]
      rfl)

/-- **AddFont** (`add_ansi_font`, `add_font`, and `set_font` on an empty slot) — at every document: the record keeps the
    font it replaces (after `fix: AddFont keeps the font it replaces…`) -/
theorem inverse_addFont (d : Doc) (oldPage newPage font : Nat) (r0 : Option Nat) : InverseAt (.addFont oldPage newPage font r0) d := by
  refine inverseAt_of_redone ?_
  have hafter : ∀ m : List (Nat × Nat), fmLookup (fmInsert (fmRemove m newPage) newPage font) = fset (fmLookup m) newPage (some font) :=
    fun m => by rw [fmLookup_insert_fn, fmLookup_remove_fn, fset_fset]
  refine undoable_fonts (· = .addFont oldPage newPage font (fmLookup d.x.fonts newPage)) (fun o => ∃ r, o = .addFont oldPage newPage font r) rfl
    (fset (fmLookup d.x.fonts) newPage (some font)) ?_ ?_ (setFonts_to (hafter _))
  · rintro _ rfl e' he'
    refine ⟨.addFont oldPage newPage font none, _, rfl, setFonts_to ?_, none, rfl⟩
    cases hlk : fmLookup d.x.fonts newPage with
    | none => rw [fmLookup_remove_fn, he', fset_fset, ← hlk, fset_self]
    | some f => rw [fmLookup_insert_fn, fmLookup_remove_fn, he', fset_fset, fset_fset, ← hlk, fset_self]
  · rintro _ ⟨r, rfl⟩ e he
    exact ⟨_, _, rfl, setFonts_to (by rw [hafter, he]), by rw [he]⟩

/-- **RemoveFont** — at every document (an empty slot makes the edit itself fail) -/
theorem inverse_removeFont (d : Doc) (slot : Nat) (f0 : Option Nat) : InverseAt (.removeFont slot f0) d := by
  refine inverseAt_of_redone ?_
  simp only [UndoOp.redo]
  cases hlk : fmLookup d.x.fonts slot with
  | none => trivial
  | some f =>
    refine undoable_fonts (· = .removeFont slot (some f)) (fun o => ∃ r, o = .removeFont slot r) rfl
      (fset (fmLookup d.x.fonts) slot none) ?_ ?_ (setFonts_to (fmLookup_remove_fn _ _))
    · rintro _ rfl e' he'
      exact ⟨.removeFont slot none, _, rfl, setFonts_to (by rw [fmLookup_insert_fn, he', fset_fset, ← hlk, fset_self]), none, rfl⟩
    · rintro _ ⟨r, rfl⟩ e he
      exact ⟨.removeFont slot (some f), _, by simp only [UndoOp.redo, he, hlk]; rfl, setFonts_to (by rw [fmLookup_remove_fn, he]), rfl⟩

/-- **ChangeFontSlot** — at every document, also onto an occupied slot (after `fix: ChangeFontSlot keeps the font of an
    occupied target slot…`) and with `from = to` -/
theorem inverse_changeFontSlot (d : Doc) (src dst : Nat) (r0 : Option Nat) : InverseAt (.changeFontSlot src dst r0) d := by
  refine inverseAt_of_redone ?_
  simp only [UndoOp.redo]
  cases hlk : fmLookup d.x.fonts src with
  | none => trivial
  | some f =>
    -- `r`: what the record keeps of the target slot
    generalize hr : fmLookup (fmRemove d.x.fonts src) dst = r
    have hr' : r = if dst = src then none else fmLookup d.x.fonts dst := by rw [← hr, fmLookup_remove]
    have hafter : ∀ m : List (Nat × Nat), fmLookup (fmInsert (fmRemove (fmRemove m src) dst) dst f) = fset (fset (fmLookup m) src none) dst (some f) :=
      fun m => by rw [fmLookup_insert_fn, fmLookup_remove_fn, fmLookup_remove_fn, fset_fset]
    refine undoable_fonts (· = .changeFontSlot src dst r) (fun o => ∃ q, o = .changeFontSlot src dst q) rfl
      (fset (fset (fmLookup d.x.fonts) src none) dst (some f)) ?_ ?_ (setFonts_to (hafter _))
    · rintro _ rfl e' he'
      have hdst : fmLookup e'.x.fonts dst = some f := by rw [he']; simp [fset]
      refine ⟨.changeFontSlot src dst none, _, by simp only [UndoOp.undo, hdst]; rfl, setFonts_to ?_, none, rfl⟩
      have hback := fset_move_back (fmLookup d.x.fonts) src dst f hlk r hr'
      cases r with
      | none =>
        show fmLookup (fmInsert (fmRemove e'.x.fonts dst) src f) = _
        rw [fmLookup_insert_fn, fmLookup_remove_fn, he']
        exact hback
      | some g =>
        show fmLookup (fmInsert (fmInsert (fmRemove e'.x.fonts dst) src f) dst g) = _
        rw [fmLookup_insert_fn, fmLookup_insert_fn, fmLookup_remove_fn, he']
        exact hback
    · rintro _ ⟨q, rfl⟩ e he
      have hlk' : fmLookup e.x.fonts src = some f := by rw [he]; exact hlk
      exact ⟨_, _, by simp only [UndoOp.redo, hlk']; rfl, setFonts_to (by rw [hafter, he]), by rw [fmLookup_remove, he, ← fmLookup_remove, hr]⟩

/-- **ReplaceFontUsage** (`replace_font_usage`, inside `change_font_slot` and `remove_font`): the record holds all layers
    before and after — exact whenever the "before" layers are the document's (they are cloned from it) -/
theorem inverse_replaceFontUsage (d : Doc) (op np : Nat) (nl : List LayerM) :
    Undoable (.replaceFontUsage op d.layers np nl) d.obs ({ d with layers := nl, fontPage := np } : Doc).obs :=
  undoable_fun _ (fun a => { a with layers := d.layers.map LayerM.obs }) (fun a => { a with layers := nl.map LayerM.obs })
    (fun _ => rfl) (fun _ => rfl) rfl

/-- **SwitchPalette** (`set_palette_mode`): palette, mode and all layers before and after -/
theorem inverse_switchPalette (d : Doc) (nm : Nat) (npal : List Nat) (nl : List LayerM) :
    Undoable (.switchPalette d.x.paletteMode d.x.palette d.layers nm npal nl) d.obs
      ({ d with layers := nl, x := { d.x with palette := npal, paletteMode := nm } } : Doc).obs :=
  undoable_fun _ (fun a => { a with layers := d.layers.map LayerM.obs, x := { a.x with palette := d.x.palette, paletteMode := d.x.paletteMode } })
    (fun a => { a with layers := nl.map LayerM.obs, x := { a.x with palette := npal, paletteMode := nm } })
    (fun _ => rfl) (fun _ => rfl) rfl

/-- **SetIceMode**: all layers and the mode before and after -/
theorem inverse_setIceMode (d : Doc) (nm : Nat) (nl : List LayerM) :
    Undoable (.setIceMode d.x.iceMode d.layers nm nl) d.obs ({ d with layers := nl, x := { d.x with iceMode := nm } } : Doc).obs :=
  undoable_fun _ (fun a => { a with layers := d.layers.map LayerM.obs, x := { a.x with iceMode := d.x.iceMode } })
    (fun a => { a with layers := nl.map LayerM.obs, x := { a.x with iceMode := nm } })
    (fun _ => rfl) (fun _ => rfl) rfl

/-- **ReverseCaretPosition** (`undo_caret_position`) — caret only; the record rewrites its `old_pos` -/
theorem inverse_reverseCaret (d : Doc) (px py ox oy : Int) : Undoable (.reverseCaret px py ox oy) d.obs d.obs := by
  refine undoable_obs (fun o => ∃ a b c e, o = .reverseCaret a b c e) (fun o => ∃ a b c e, o = .reverseCaret a b c e) id id
    ⟨_, _, _, _, rfl⟩ rfl ?_ ?_ rfl
  · rintro _ ⟨a, b, c, e0, rfl⟩ e _
    exact ⟨.reverseCaret a b e.caretX e.caretY, { e with caretX := a, caretY := b }, rfl, rfl, ⟨_, _, _, _, rfl⟩⟩
  · rintro _ ⟨a, b, c, e0, rfl⟩ e _
    exact ⟨.reverseCaret a b c e0, { e with caretX := c, caretY := e0 }, rfl, rfl, ⟨_, _, _, _, rfl⟩⟩

/-- **ReversedUndo**: wrapping a record that can be undone from the current document gives a record that obeys the law -/
theorem inverse_reversed (d : Doc) (op : UndoOp) (a : DObs) (h : Undoable op a d.obs) : InverseAt (.reversed op) d := by
  refine inverseAt_of_redone ?_
  obtain ⟨o2, e', h1, h2, h3⟩ := (redoable_reversed h).step (e := d) rfl
  rw [h1]
  show Undoable o2 d.obs e'.obs
  rw [h2]
  exact h3

end IcyVerif.C08
