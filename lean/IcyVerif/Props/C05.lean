import IcyVerif.Lemmas.BinFormatsRt
import IcyVerif.Lemmas.BinFormatsResave
/-!
# C05 — binary art formats reproduce what was saved

Property (properties.jsonl): for every buffer representable in a binary format (XBin, BIN, ArtWorx ADF, iCE Draw IDF,
Tundra), saving it and loading the result yields the same width and height, the same character in every cell, the same
displayed foreground/background colours and blink state, the same blink/ice mode and, where the format embeds them,
identical font glyphs and palette.  Loading any file these loaders accept, saving it again in the same format and loading
that gives the same picture as the first load.

Model: `Model/BinFormats.lean` — `save fmt opts date pic` (= `Buffer::to_bytes(ext, lossless options)`), `fromBytes fmt bytes`
(= `Buffer::from_bytes`, incl. SAUCE detection, `set_sauce(resize)`, `Layer::set_char`, `crop_loaded_file`); XBin image data,
`encode_attr`, `decode_char` come from the C06 model.  The model follows the tree AFTER the C05 `fix:` commits; the
witnesses of the defects of the pinned tree are in `known_findings.txt` (`fixed:` lines) and replayed on every run.

`Representable fmt opts pic` is the decidable domain of the quantifier; `SamePicture fmt pic g` is the conclusion: width,
height, no allocated rows outside the picture, ice mode, and for EVERY cell character / displayed fg and bg colour through the
two palettes / blink / font page, plus embedded fonts and palette.  All round-trip theorems hold for ALL representable
pictures (induction over rows and cells; `decide` only for the 256-entry attribute-byte tables).

Statements that are `_partial`, and exactly what they exclude:
* `rt_nosauce_partial` — a file saved WITHOUT a SAUCE record whose last 128 bytes (picture content) begin with `SAUCE`
  is taken for a SAUCE record by `from_bytes` (finding `<fmt>:content-reads-as-sauce`, witness `fake_sauce_violates`).
  With `save_sauce = true` there is no exclusion (`xb_rt`, `bin_rt`, `adf_rt`, `idf_rt`).
  (Tundra is full too: `tnd_rt`, with `tnd_wide_holds` for the widths above 1000 that `Buffer::set_sauce` distrusts.)
* `resave_stable_partial` and its five cases `resave_{bin,adf,xb,idf,tnd}_partial` — re-save stability is proved for every accepted
  file that meets `ResaveCovered`; what that leaves out is listed clause by clause in front of them.
-/
namespace IcyVerif.C05
open IcyVerif.XbCompress IcyVerif.BinFormats IcyVerif.Gen

/-! ## save → load, with a SAUCE record: full strength -/

/-- **XBin** (width 1..=4096, one or two 256-glyph fonts of height 1..=32, 16 six-bit colours, blink or ice, compressed or
    not): every representable picture comes back as the same picture. -/
theorem xb_rt (o : Opts) (date : List Nat) (p : Pic) (hs : o.sauce = true) (hrep : Representable .xb o p = true)
    (hdate : dateOk date = true) :
    ∃ bytes g, save .xb o date p = .ok bytes ∧ fromBytes .xb bytes = .ok g ∧ SamePicture .xb p g :=
  roundtrip_sauce .xb o date p hs hrep hdate

/-- **BIN** (even widths 2..=510, SAUCE, any height). -/
theorem bin_rt (o : Opts) (date : List Nat) (p : Pic) (hrep : Representable .bin o p = true) (hdate : dateOk date = true) :
    ∃ bytes g, save .bin o date p = .ok bytes ∧ fromBytes .bin bytes = .ok g ∧ SamePicture .bin p g :=
  bin_roundtrip o date p hrep hdate

/-- **ArtWorx ADF** (width 80, ice colours, 8x16 font, 16 six-bit colours). -/
theorem adf_rt (o : Opts) (date : List Nat) (p : Pic) (hs : o.sauce = true) (hrep : Representable .adf o p = true)
    (hdate : dateOk date = true) :
    ∃ bytes g, save .adf o date p = .ok bytes ∧ fromBytes .adf bytes = .ok g ∧ SamePicture .adf p g :=
  roundtrip_sauce .adf o date p hs hrep hdate

/-- **iCE Draw IDF** (width 1..=80, height <= 200, ice colours, 8x16 font), raw and run-length coded. -/
theorem idf_rt (o : Opts) (date : List Nat) (p : Pic) (hs : o.sauce = true) (hrep : Representable .idf o p = true)
    (hdate : dateOk date = true) :
    ∃ bytes g, save .idf o date p = .ok bytes ∧ fromBytes .idf bytes = .ok g ∧ SamePicture .idf p g :=
  roundtrip_sauce .idf o date p hs hrep hdate

/-- **Tundra** (any width the SAUCE record can hold — the width is stored nowhere else —, arbitrary 24-bit colours).
    Full strength since `fix: Tundra loader replaces a SAUCE width above 1000 by 80 …`. -/
theorem tnd_rt (o : Opts) (date : List Nat) (p : Pic) (hs : o.sauce = true) (hrep : Representable .tnd o p = true)
    (hdate : dateOk date = true) :
    ∃ bytes g, save .tnd o date p = .ok bytes ∧ fromBytes .tnd bytes = .ok g ∧ SamePicture .tnd p g :=
  roundtrip_sauce .tnd o date p hs hrep hdate

/-! ## save → load, without a SAUCE record: PARTIAL (file content that `from_bytes` reads as a SAUCE record is excluded) -/

set_option linter.unusedVariables false in
/-- XBin / ADF / IDF / Tundra (80 columns) saved without SAUCE.  Full statement: the same without the guard.  The guard is
    EXACT: `tailReadsAsSauce bytes` says that `SauceData::extract` answers `Ok(Some(..))` on the file (signature, version
    `00`, a date chrono accepts, and — if the comment count is not 0 — a `COMNT` block where it must be); in every other
    case (`Ok(None)`, or an `Err`, which `from_bytes` logs and ignores) the loader is handed the whole file.  Where the
    guard fails the tail of the picture data is cut off: the statement is false there (`fake_sauce_violates`; findings
    `<fmt>:content-reads-as-sauce`).  The writers cannot avoid it: nothing in the formats marks the end of the picture
    data, and appending an EOF character or an empty record only when the tail would parse is special-casing the input.
    (`hf`: BIN is left out because the property quantifies BIN "with SAUCE" only — `Representable .bin` contains `o.sauce`, so
    the statement would hold for it too, with a guard that is never needed; the proof does not use `hf`.) -/
theorem rt_nosauce_partial (f : Fmt) (o : Opts) (date : List Nat) (p : Pic) (hf : f ≠ .bin) (hrep : Representable f o p = true)
    (hdate : dateOk date = true) :
    ∃ bytes, save f o date p = .ok bytes ∧
      (tailReadsAsSauce bytes = false → ∃ g, fromBytes f bytes = .ok g ∧ SamePicture f p g) := by
  obtain ⟨b, h1, h2⟩ := roundtrip f o date p hrep hdate
  exact ⟨b, h1, fun h => h2 (Or.inr h)⟩

/-- the cheap sufficient condition: no `SAUCE` signature 128 bytes before the end of the file -/
theorem tail_guard_of_signature (bytes : List Nat) (h : looksLikeSauce bytes = false) : tailReadsAsSauce bytes = false :=
  tail_of_looks bytes h

/-- … and whenever the guard fails the loader is NOT handed the whole file: at least the 128 bytes of the "record" are
    cut off (so a format whose picture data extends to the end of the file cannot load all of it) -/
theorem tail_cut_when_guard_fails (f : Fmt) (bytes : List Nat) (h : tailReadsAsSauce bytes = true) :
    ∃ content s, Sauce.fromBytesSplit dateOk bytes = .ok (content, some s) ∧ content.length + 128 ≤ bytes.length ∧
      fromBytes f bytes = loadBody f content (some s) := by
  unfold tailReadsAsSauce at h
  cases hx : Sauce.extract dateOk bytes with
  | ok o =>
    cases o with
    | none => rw [hx] at h; exact absurd h (by simp)
    | some s =>
      have hle := IcyVerif.C11.header_len_le dateOk bytes s hx
      have hge : 128 ≤ s.headerLen := sauce_header_ge dateOk bytes s hx
      refine ⟨bytes.take (bytes.length - s.headerLen), s, by rw [Sauce.fromBytesSplit_eq, hx], ?_, ?_⟩
      · rw [List.length_take]; omega
      · unfold fromBytes
        rw [Sauce.fromBytesSplit_eq, hx]
  | err e => rw [hx] at h; exact absurd h (by simp)
  | panic site => rw [hx] at h; exact absurd h (by simp)

/-- the conclusion in the form the driver evaluates (`picSame`), so that the check `binformats rt` of the correspondence
    run and the theorems speak about the same predicate -/
theorem samePicture_checks (f : Fmt) (p : Pic) (g : LBuf) (h : SamePicture f p g) : picSame true f p g = true := by
  unfold picSame
  simp only [Bool.and_eq_true, beq_iff_eq, decide_eq_true_eq, List.all_eq_true, List.mem_range, Bool.true_or, if_true,
    Bool.or_eq_true, Bool.not_eq_true', Bool.not_true, Bool.false_or]
  refine ⟨⟨⟨⟨⟨h.width, h.height⟩, h.rows_alloc⟩, h.mode⟩, fun y hy x hx => ⟨(h.cells y x hy hx).1, ?_⟩⟩, ?_⟩
  · exact (h.cells y x hy hx).2.symm
  · by_cases he : f.embeds = true
    · exact Or.inr ⟨h.fonts he, h.palette he⟩
    · left; simpa using he

/-! ## re-save stability: for EVERY byte string the loader accepts

`fromBytes f bytes = .ok g` is the only thing assumed about the file (`hb`: a file is a string of BYTES); `Restable f o date g`
says: the picture `g` shows (`g.toPic`: `Buffer::get_char` over the buffer, plus palette, fonts, mode and the SAUCE data the
buffer keeps) is written by `save`, and that file loads to the same picture.  The proofs characterise the RANGE of each loader
(`Lemmas/BinFormatsRange.lean`: an invariant of the cells a layer can hold, kept by `set_char`/placement/crop, and the SAUCE
data `extract` returns; `Lemmas/BinFormatsResave*.lean`: per loader, the palette and font blocks) and show that it lies inside the
domain of the save → load theorems; where a writer refuses a loaded picture by its own rules (`.err`, no file), that is stated as
the other half.

What is NOT covered, per clause of `ResaveCovered` (each is `_partial` for exactly these):
* every format: pictures without rows (`1 ≤ g.bh`).  FALSE for BIN and for Tundra re-saved without SAUCE: neither format stores a
  height, the re-saved file of a 0-row picture loads as the 25 default rows (findings `bin:resave-height0`,
  `tnd:resave-height0`; witnesses `resave_bin_height0_violates`, `resave_tnd_height0_violates`).  True for XBin / ADF (header and
  crop give 0 rows again), never the case for IDF; not proved.
* XBin: 512-character files whose cells all use the second font (re-saved as a one-font file: same glyphs, other slot number —
  holds under the non-strict comparison `picSame false`, which the oracle and the correspondence run check; not proved).
  (Font blocks that have the default font's CHECKSUM but other glyphs are covered: `BitFont::is_default` compares name AND
  glyphs — C17 `fixed:` `xbin_font_named_default` —, `Font.isDefault` follows it, so the writer embeds such a font.)
* ADF: more than 65535 rows (a file above 10 MiB; the SAUCE height field is 16 bit; not known to fail).
* IDF: a header that announces more than 80 columns (the loader's layer is 80 columns wide, cells beyond it are dropped on
  every load; not known to fail).
* Tundra: files of 2 GiB, pictures of 2^30 cells (`i32` palette indices / positions), and re-saving WITHOUT a SAUCE record a
  picture that is not 80 columns wide (the format has no width field: the property's quantifier says "any width with SAUCE").
* BIN: re-saving without a SAUCE record (same reason; quantifier: "with SAUCE"). -/

/-- the loaded pictures the re-save theorem covers -/
def ResaveCovered (f : Fmt) (o : Opts) (bytes : List Nat) (g : LBuf) : Prop :=
  1 ≤ g.bh ∧
  match f with
  | .xb => analyzeFontUsage g.toPic.rows.flatten ≠ [1]
  | .bin => o.sauce = true
  | .adf => g.bh ≤ 65535
  | .idf => g.bw ≤ 80
  | .tnd => bytes.length + 8 ≤ 2147483648 ∧ g.bw * g.bh.toNat < 1073741824 ∧ (o.sauce = true ∨ g.bw = 80)

/-- loaded pictures a writer refuses by the format's own limits (it returns `Err`, no file is written): BIN stores width / 2
    in one byte of its SAUCE record, iCE Draw has at most 200 rows -/
def Refused (f : Fmt) (g : LBuf) : Prop :=
  match f with
  | .bin => ¬ (g.bw % 2 = 0 ∧ g.bw ≤ 510)
  | .idf => g.bh > 200
  | _ => False

/-- **BIN**: every accepted file with at least one row, re-saved with a SAUCE record: the same picture — or, when the loaded
    width is odd or above 510 (a foreign SAUCE record said so), the writer refuses -/
theorem resave_bin_partial (o : Opts) (date bytes : List Nat) (g : LBuf) (hb : ∀ b ∈ bytes, b < 256) (hdate : dateOk date = true)
    (hs : o.sauce = true) (hload : fromBytes .bin bytes = .ok g) (hh : 1 ≤ g.bh) :
    (g.bw % 2 = 0 ∧ g.bw ≤ 510 → Restable .bin o date g) ∧ (¬ (g.bw % 2 = 0 ∧ g.bw ≤ 510) → save .bin o date g.toPic = .err) := by
  obtain ⟨content, s, hl, hcb, hmg, _, _, _⟩ := fromBytes_ok .bin bytes hb g hload
  have hr := bin_range content hcb s g hl
  constructor
  · intro ⟨h1, h2⟩
    have hrep := bin_loaded_representable o s g hr hmg hs hh h1 h2
    obtain ⟨b₂, g₂, q1, q2, q3⟩ := bin_roundtrip o date g.toPic hrep hdate
    exact ⟨b₂, q1, fun _ => ⟨g₂, q2, q3⟩⟩
  · intro hn
    exact bin_loaded_refused o date s g hr hmg hs (by omega)

/-- **ADF**: every accepted file with 1..=65535 rows -/
theorem resave_adf_partial (o : Opts) (date bytes : List Nat) (g : LBuf) (hb : ∀ b ∈ bytes, b < 256) (hdate : dateOk date = true)
    (hload : fromBytes .adf bytes = .ok g) (hh : 1 ≤ g.bh) (hh2 : g.bh ≤ 65535) : Restable .adf o date g := by
  obtain ⟨content, s, hl, hcb, hmg, _, _, _⟩ := fromBytes_ok .adf bytes hb g hload
  have hr := adf_range content hcb s g hl
  exact adf_roundtrip o date g.toPic (adf_loaded_representable o s g hr hmg hh hh2) hdate

/-- **XBin**: every accepted file with at least one row — PARTIAL: excluded are 512-character files whose cells all use
    the second font (re-saved as a one-font file: the same glyphs under another
    slot number — true under the weaker comparison `picSame false`, checked by the oracle and the correspondence run) -/
theorem resave_xb_partial (o : Opts) (date bytes : List Nat) (g : LBuf) (hb : ∀ b ∈ bytes, b < 256) (hdate : dateOk date = true)
    (hload : fromBytes .xb bytes = .ok g) (hh : 1 ≤ g.bh)
    (hp1 : analyzeFontUsage g.toPic.rows.flatten ≠ [1]) : Restable .xb o date g := by
  obtain ⟨content, s, hl, hcb, hmg, _, _, _⟩ := fromBytes_ok .xb bytes hb g hload
  have hr := xb_range content hcb s g hl
  exact xb_roundtrip o date g.toPic (xb_loaded_representable o s g hr hmg hh hp1) hdate

/-- **IDF**: every accepted file that announces at most 80 columns (the layer iCE Draw files are loaded into is 80 columns
    wide; PARTIAL: wider headers are excluded, the statement is not known to fail there): up to 200 rows the same picture,
    above that the writer refuses -/
theorem resave_idf_partial (o : Opts) (date bytes : List Nat) (g : LBuf) (hb : ∀ b ∈ bytes, b < 256) (hdate : dateOk date = true)
    (hload : fromBytes .idf bytes = .ok g) (hh : 1 ≤ g.bh) (hw : g.bw ≤ 80) :
    (g.bh ≤ 200 → Restable .idf o date g) ∧ (g.bh > 200 → save .idf o date g.toPic = .err) := by
  obtain ⟨content, s, hl, hcb, hmg, _, _, _⟩ := fromBytes_ok .idf bytes hb g hload
  have hr := idf_range content hcb s g hl
  exact ⟨fun h2 => idf_roundtrip o date g.toPic (idf_loaded_representable o s g hr hmg hh h2 hw) hdate,
    fun h2 => idf_loaded_refused o date s g hr h2⟩

/-- **Tundra**: every accepted file below 2 GiB with at least one row and fewer than 2^30 cells, re-saved with a SAUCE
    record (or 80 columns wide) -/
theorem resave_tnd_partial (o : Opts) (date bytes : List Nat) (g : LBuf) (hb : ∀ b ∈ bytes, b < 256) (hdate : dateOk date = true)
    (hload : fromBytes .tnd bytes = .ok g) (hlen : bytes.length + 8 ≤ 2147483648) (hh : 1 ≤ g.bh)
    (harea : g.bw * g.bh.toNat < 1073741824) (hs : o.sauce = true ∨ g.bw = 80) : Restable .tnd o date g := by
  obtain ⟨content, s, hl, hcb, hmg, hsw, hcl, _⟩ := fromBytes_ok .tnd bytes hb g hload
  have hr := tnd_range content hcb s hsw g hl
  exact tnd_roundtrip o date g.toPic (tnd_loaded_representable o _ s g hr hmg (by omega) hh harea hs) hdate

/-- **PARTIAL** (see above for exactly what `ResaveCovered` leaves out): loading any file the loader accepts, saving it again
    in the same format and loading that gives the same picture as the first load — or the writer refuses the picture. -/
theorem resave_stable_partial (f : Fmt) (o : Opts) (date bytes : List Nat) (g : LBuf) (hb : ∀ b ∈ bytes, b < 256)
    (hdate : dateOk date = true) (hload : fromBytes f bytes = .ok g) (hc : ResaveCovered f o bytes g) :
    (¬ Refused f g → Restable f o date g) ∧ (Refused f g → save f o date g.toPic = .err) := by
  obtain ⟨hh, hc⟩ := hc
  cases f with
  | xb => exact ⟨fun _ => resave_xb_partial o date bytes g hb hdate hload hh hc, fun h => h.elim⟩
  | bin =>
    obtain ⟨h1, h2⟩ := resave_bin_partial o date bytes g hb hdate hc hload hh
    exact ⟨fun hn => h1 (Classical.not_not.mp hn), fun hr => h2 hr⟩
  | adf => exact ⟨fun _ => resave_adf_partial o date bytes g hb hdate hload hh hc, fun h => h.elim⟩
  | idf =>
    obtain ⟨h1, h2⟩ := resave_idf_partial o date bytes g hb hdate hload hh hc
    exact ⟨fun hn => h1 (by show g.bh ≤ 200; have : ¬ g.bh > 200 := hn; omega), h2⟩
  | tnd => exact ⟨fun _ => resave_tnd_partial o date bytes g hb hdate hload hc.1 hh hc.2.1 hc.2.2, fun h => h.elim⟩

/-- what every loader can produce (the facts the proofs above rest on), XBin as the example: width 1..=4096, at most 65535
    rows, blink or ice, a 16-colour 6-bit palette, one font or — in 512-character mode — two fonts of the same height, every
    cell an 8-bit character with a 4-bit foreground (3-bit in 512-character mode) and a background that fits the mode -/
theorem xb_loader_range (bytes : List Nat) (hb : ∀ b ∈ bytes, b < 256) (s : Option Sauce.Sauce) (g : LBuf) (h : xbLoad bytes s = .ok g) :
    XbRange s g := xb_range bytes hb s g h

/-! ## SAUCE-carrying saves: the texts of the record and fonts named by it -/

/-- title, author, group and comments survive the binary round trip (all five formats) -/
theorem sauce_texts_rt (f : Fmt) (o : Opts) (date : List Nat) (p : Pic) (bytes : List Nat) (g : LBuf)
    (hs : o.sauce = true) (hm : metaOk p.sauce = true) (hdate : dateOk date = true) (hb : ∀ b ∈ bytes, b < 256)
    (hsave : save f o date p = .ok bytes) (hload : fromBytes f bytes = .ok g) :
    ∃ m, g.sauce = some m ∧
      m.title = Sauce.carryPad Gen.Sauce.titleLen Gen.Sauce.titlePad (p.sauce.getD {}).title ∧
      m.author = Sauce.carryPad Gen.Sauce.authorLen Gen.Sauce.authorPad (p.sauce.getD {}).author ∧
      m.group = Sauce.carryPad Gen.Sauce.groupLen Gen.Sauce.groupPad (p.sauce.getD {}).group ∧
      m.comments = (p.sauce.getD {}).comments.map Sauce.carryNul := by
  obtain ⟨_, c⟩ := o
  cases hs
  obtain ⟨body, _, hw⟩ := withSauce_ok ((save_eq f ⟨true, c⟩ date p).symm.trans hsave)
  replace hw : writeSauce (kindOf f) p date body = .ok bytes := hw
  obtain ⟨content, s, hl, hcb, _, hsw, _, hsplit⟩ := fromBytes_ok f bytes hb g hload
  -- the writer's side: which record the file ends in
  obtain ⟨f0, _, hwi⟩ := writeSauce_info _ p date body bytes hw
  obtain ⟨hv, _⟩ := metaOk_valid p f0.name hm
  have hsp := IcyVerif.C11.load_ignores_sauce dateOk (kindOf f).idx (kind_lt _) (bufInfo p f0.name) hv date
    (dateOk_length date hdate) hdate body bytes hwi
  rw [hsp] at hsplit
  have e2 : some (Sauce.carry (kindOf f).idx (bufInfo p f0.name) (bytes.length - body.length)) = s :=
    congrArg Prod.snd (Sauce.Res.ok.inj hsplit)
  have hgs := loaded_sauce f content hcb s hsw g hl
  rw [← e2] at hgs
  exact ⟨_, hgs, rfl, rfl, rfl, rfl⟩

/-- … which under `SauceString`'s own equality (trailing blanks and NULs never count) is: the same title (C11
    `string_rt_equal`) -/
theorem sauce_title_equal (f : Fmt) (o : Opts) (date : List Nat) (p : Pic) (bytes : List Nat) (g : LBuf)
    (hs : o.sauce = true) (hm : metaOk p.sauce = true) (hdate : dateOk date = true) (hb : ∀ b ∈ bytes, b < 256)
    (hsave : save f o date p = .ok bytes) (hload : fromBytes f bytes = .ok g) :
    ∃ m, g.sauce = some m ∧ Sauce.strEq m.title (p.sauce.getD {}).title = true := by
  obtain ⟨m, h1, h2, _⟩ := sauce_texts_rt f o date p bytes g hs hm hdate hb hsave hload
  refine ⟨m, h1, ?_⟩
  rw [h2]
  have hv := (metaOk_valid p [] hm).1
  exact (IcyVerif.C11.string_rt_equal Gen.Sauce.titleLen Gen.Sauce.titlePad (by decide) _ hv.title).1

/-- BIN stores no glyphs: a font SAUCE can name (TInfoS; table regenerated from `sauce_fonts!`) comes back as that font -/
theorem bin_font_by_name_rt (o : Opts) (date : List Nat) (p : Pic) (f0 : Font) (hrep : Representable .bin o p = true)
    (hdate : dateOk date = true) (hf0 : lookupFont p.fonts 0 = some f0) (hn : sauceFontByName f0.name = some f0) :
    ∃ bytes g, save .bin o date p = .ok bytes ∧ fromBytes .bin bytes = .ok g ∧ SamePicture .bin p g ∧ lookupFont g.fonts 0 = some f0 := by
  obtain ⟨hmeta, f0', d⟩ := (representable_bin o p).mp hrep
  obtain rfl : f0 = f0' := Option.some.inj (hf0.symm.trans d.font0)
  obtain ⟨bytes, sc, g, h1, h2, h3, hgf, c4⟩ := bin_core o date p f0 hmeta d hdate
  refine ⟨bytes, g, h1, h2, h3, ?_⟩
  -- the name survives TInfoS
  have hname : sc.font = some f0.name := by
    rw [c4]
    unfold sauceFontByName at hn
    cases hf : BinFonts.sauceFonts.find? (fun e => e.1 == f0.name) with
    | none => rw [hf] at hn; cases hn
    | some e =>
      have hq := List.all_eq_true.mp sauceFonts_names e (List.mem_of_find?_eq_some hf)
      simp only [Bool.and_eq_true, decide_eq_true_eq, Bool.not_eq_true', bne_iff_ne, ne_eq] at hq
      obtain ⟨⟨⟨⟨q1, q2⟩, q3⟩, q4⟩, _⟩ := hq
      have he : e.1 = f0.name := by simpa using List.find?_some hf
      rw [he] at q1 q2 q3 q4
      rw [tinfo_name_rt f0.name q1 q2 q3 q4]
  rw [hgf]
  unfold startFonts
  rw [hname]
  simp only [Option.bind_some, hn]
  simp [lookupFont, setFont]

/-! ## non-vacuity: representable pictures of every format (each `example` restates the named lemma in front of it, which later
vectors use), the wide Tundra picture that holds, and the recorded exclusion of `rt_nosauce_partial` -/

def cA : Cell := ⟨0x41, ⟨7, 0, 0, 0⟩⟩
def cB : Cell := ⟨0x42, ⟨12, 9, 0, 0⟩⟩
def cBold : Cell := ⟨0x43, ⟨3, 1, Xb.attrBold, 0⟩⟩
def cBlink : Cell := ⟨0x44, ⟨14, 2, Xb.attrBlink, 0⟩⟩
def cEsc : Cell := ⟨1, ⟨0, 0, 0, 0⟩⟩
def cP1 : Cell := ⟨0xDB, ⟨5, 4, 0, 1⟩⟩
def fnt8 : Font := ⟨[70], 8, List.replicate 2048 0x55⟩
def date0 : List Nat := [50, 48, 50, 52, 48, 50, 50, 57]    -- "20240229"

theorem date0_ok : dateOk date0 = true := by decide
example : dateOk date0 = true := date0_ok

/-- XBin, blink mode, two 16-row fonts, compressed, with SAUCE -/
def xbPic : Pic := ⟨3, 2, [[cA, cP1, cA], [cP1, cP1, ⟨0x42, ⟨7, 6, Xb.attrBlink, 0⟩⟩]], .blink, dosPalette,
  [(0, defaultFont), (1, ⟨[71], 16, List.replicate 4096 0xAA⟩)], none⟩
example : Representable .xb ⟨true, true⟩ xbPic = true := by
  have h0 : lookupFont xbPic.fonts 0 = some defaultFont := rfl
  have h1 : lookupFont xbPic.fonts 1 = some ⟨[71], 16, List.replicate 4096 0xAA⟩ := rfl
  have hf1 : fontOk ⟨[71], 16, List.replicate 4096 0xAA⟩ = true := by rw [fontOk, List.length_replicate]; decide
  simp only [Representable, h0, h1, fontOk_default, hf1]
  decide +kernel
/-- XBin, ice mode, one 8-row font, a one-row picture (the pinned tree loaded it 25 rows high) -/
def xbLow : Pic := ⟨2, 1, [[cB, cBold]], .ice, dosPalette, [(0, fnt8)], none⟩
theorem xbLow_rep : Representable .xb ⟨true, false⟩ xbLow = true := by decide +kernel
example : Representable .xb ⟨true, false⟩ xbLow = true := xbLow_rep
example : (match save .xb ⟨true, false⟩ date0 xbLow with
    | .ok b => (match fromBytes .xb b with | .ok g => g.bh == 1 && picSame true .xb xbLow g | _ => false)
    | _ => false) = true := by
  obtain ⟨b, g, h1, h2, h3⟩ := xb_rt ⟨true, false⟩ date0 xbLow rfl xbLow_rep date0_ok
  simp only [h1, h2, h3.height, samePicture_checks _ _ _ h3]
  decide

def binPic : Pic := ⟨2, 3, [[cA, cBlink], [cBold, cA], [cA, cA]], .blink, dosPalette, [(0, defaultFont)], none⟩
theorem binPic_rep : Representable .bin ⟨true, false⟩ binPic = true := by decide +kernel
example : Representable .bin ⟨true, false⟩ binPic = true := binPic_rep

def row80 (c : Cell) : List Cell := cB :: List.replicate 79 c
def adfPic : Pic := ⟨80, 2, [row80 cA, row80 cBold], .ice, dosPalette, [(0, defaultFont)], none⟩
theorem adfPic_rep : Representable .adf ⟨false, false⟩ adfPic = true := by
  have h : lookupFont adfPic.fonts 0 = some defaultFont := rfl
  simp only [Representable, h, font16_default]
  decide +kernel
example : Representable .adf ⟨false, false⟩ adfPic = true := adfPic_rep
example : (match save .adf ⟨true, false⟩ date0 adfPic with
    | .ok b => (match fromBytes .adf b with | .ok g => picSame true .adf adfPic g | _ => false)
    | _ => false) = true := by
  obtain ⟨b, g, h1, h2, h3⟩ := adf_rt ⟨true, false⟩ date0 adfPic rfl adfPic_rep date0_ok
  simp only [h1, h2]
  exact samePicture_checks _ _ _ h3

/-- IDF with the escape pair (character 1 on attribute 0), compressed: the pinned tree shifted everything behind it -/
def idfPic : Pic := ⟨5, 2, [[cEsc, cA, cA, cA, cA], [cB, cEsc, cEsc, cB, cA]], .ice, dosPalette, [(0, defaultFont)], none⟩
theorem idfPic_rep : Representable .idf ⟨true, true⟩ idfPic = true := by
  have h : lookupFont idfPic.fonts 0 = some defaultFont := rfl
  simp only [Representable, h, font16_default]
  decide +kernel
example : Representable .idf ⟨true, true⟩ idfPic = true := idfPic_rep
example : (match save .idf ⟨true, true⟩ date0 idfPic with
    | .ok b => (match fromBytes .idf b with | .ok g => picSame true .idf idfPic g | _ => false)
    | _ => false) = true := by
  obtain ⟨b, g, h1, h2, h3⟩ := idf_rt ⟨true, true⟩ date0 idfPic rfl idfPic_rep date0_ok
  simp only [h1, h2]
  exact samePicture_checks _ _ _ h3

/-- Tundra: control-range characters, a bold cell on a bright colour, palette entry 0 that is not black -/
def tndPic : Pic := ⟨3, 2, [[⟨0x41, ⟨0, 0, 0, 0⟩⟩, ⟨2, ⟨14, 3, 0, 0⟩⟩, ⟨0x43, ⟨9, 0, Xb.attrBold, 0⟩⟩], [cA, cB, ⟨6, ⟨20, 17, 0, 0⟩⟩]], .ice,
  (31, 89, 15) :: dosPalette.drop 1 ++ [(1, 2, 3), (200, 100, 50), (9, 9, 9), (250, 251, 252), (77, 0, 77)], [(0, defaultFont)], none⟩
theorem tndPic_rep : Representable .tnd ⟨true, false⟩ tndPic = true := by decide +kernel
example : Representable .tnd ⟨true, false⟩ tndPic = true := tndPic_rep
example : (match save .tnd ⟨true, false⟩ date0 tndPic with
    | .ok b => (match fromBytes .tnd b with | .ok g => picSame true .tnd tndPic g | _ => false)
    | _ => false) = true := by
  obtain ⟨b, g, h1, h2, h3⟩ := tnd_rt ⟨true, false⟩ date0 tndPic rfl tndPic_rep date0_ok
  simp only [h1, h2]
  exact samePicture_checks _ _ _ h3

/-- a representable Tundra picture 1001 columns wide (the pinned tree loaded it 80 columns wide: finding
    `tnd:sauce-width>1000`, repaired) comes back 1001 columns wide -/
def tndWide : Pic := ⟨1001, 1, [List.replicate 1001 cA], .ice, dosPalette, [(0, defaultFont)], none⟩
theorem tnd_wide_holds :
    ∃ bytes g, save .tnd ⟨true, false⟩ date0 tndWide = .ok bytes ∧ fromBytes .tnd bytes = .ok g ∧ g.bw = 1001 ∧
      SamePicture .tnd tndWide g := by
  obtain ⟨bytes, g, h1, h2, h3⟩ := tnd_rt ⟨true, false⟩ date0 tndWide rfl (by decide +kernel) date0_ok
  exact ⟨bytes, g, h1, h2, h3.width, h3⟩

/-- a row of 64 cells whose bytes in the file spell a SAUCE record -/
def sauceRow : List Cell :=
  (pairsOf (BinFmt.sauceId ++ [48, 48] ++ List.replicate 75 32 ++ date0 ++ [0, 0, 0, 0, 6, 0, 64, 0, 1, 0] ++ List.replicate 28 0)).map
    fun q => (⟨q.1, fromU8 true q.2⟩ : Cell)
def fakeSaucePic : Pic := ⟨64, 2, [List.replicate 64 cA, sauceRow], .ice, dosPalette, [(0, defaultFont)], none⟩
/-- **Excluded from `rt_nosauce_partial`, and really false:** a representable 64-column ice-colour XBin picture saved
    without SAUCE whose last row spells a SAUCE record loses that row. -/
theorem fake_sauce_violates :
    Representable .xb ⟨false, false⟩ fakeSaucePic = true ∧
    (match save .xb ⟨false, false⟩ date0 fakeSaucePic with
     | .ok b => tailReadsAsSauce b && (match fromBytes .xb b with | .ok g => g.bh == 1 && !picSame true .xb fakeSaucePic g | _ => false)
     | _ => false) = true := by
  constructor
  · have h : lookupFont fakeSaucePic.fonts 0 = some defaultFont := rfl
    simp only [Representable, h, fontOk_default]
    decide +kernel
  · -- the writer's branches by `xbSave_single` (it compares the font with the default font, 4096 bytes), then evaluation
    obtain ⟨img, himg⟩ := Option.isSome_iff_exists.mp
      (show (imageData fakeSaucePic.ice false fakeSaucePic.rows).isSome = true by decide +kernel)
    have hs := xbSave_single ⟨false, false⟩ date0 fakeSaucePic defaultFont img (by decide +kernel) rfl fontOk_default dosPalette_length himg
    have e : img = (imageData fakeSaucePic.ice false fakeSaucePic.rows).getD [] := by rw [himg]; rfl
    subst e
    rw [show save .xb ⟨false, false⟩ date0 fakeSaucePic = xbSave false false date0 fakeSaucePic from rfl, hs]
    simp only [xbBody, isDefault_default, Bool.false_eq_true, if_false]
    decide +kernel

/-! ## buffers with several layers

The writers read the buffer through `Buffer::get_char` only (translator guard `Gen.BinFmt.writersReadGetCharOnly`), i.e. they
save the picture of the WHOLE layer stack as the compositor (C13's model, `Model/Comp.lean`) shows it.  `Layered.flatten` is that
picture; everything above applies to it. -/

/-- for every stack of layers (visible or hidden, any offsets, with or without alpha channel, `Chars` / `Attributes` layers):
    if the composited picture is in the format's domain, saving the buffer and loading the file gives the composited picture -/
theorem layers_rt (hb : Comp.Cell → Nat × Nat) (f : Fmt) (o : Opts) (date : List Nat) (B : Layered)
    (hrep : Representable f o (B.flatten hb) = true) (hdate : dateOk date = true) :
    ∃ bytes, saveLayered hb f o date B = .ok bytes ∧
      ((o.sauce = true ∨ tailReadsAsSauce bytes = false) → ∃ g, fromBytes f bytes = .ok g ∧ SamePicture f (B.flatten hb) g) :=
  roundtrip f o date _ hrep hdate

/-- the composited picture is rectangular whatever the layers are, and its cells are `Buffer::get_char` -/
theorem layers_picture (hb : Comp.Cell → Nat × Nat) (B : Layered) (h : 1 ≤ B.h) :
    wellFormed (B.flatten hb) = true ∧
    ∀ x y, x < B.w → y < B.h → (B.flatten hb).cell x y = cellOf (Comp.getChar hb B.isTerm B.layers (x : Int) (y : Int)) :=
  ⟨flatten_wellFormed hb B h, fun x y hx hy => flatten_cell hb B x y hx hy⟩

/-- the one-layer buffers of the theorems above are the special case: one visible opaque `Normal` layer at offset 0 shows its
    visible cells, and the default cell where it holds an invisible one -/
theorem layers_single (hb : Comp.Cell → Nat × Nat) (B : Layered) (l : Comp.Layer) (hl : B.layers = [l]) (hv : l.visible = true)
    (hna : l.alpha = false) (hm : l.mode = .normal) (hox : l.offX = 0) (hoy : l.offY = 0) (x y : Nat)
    (hx : (x : Int) < l.w) (hy : (y : Int) < l.h) (hnt : (l.getChar x y).hasTransparentColor = false) :
    Comp.getChar hb B.isTerm B.layers (x : Int) (y : Int) =
      (if (l.getChar x y).isVisible then l.getChar x y else Comp.defaultCell.withPage l.dfltPage) := by
  rw [flatten_single hb B l hl hv hna hm hox hoy x y hx hy, hnt]
  simp

def kA : Comp.Cell := ⟨0x41, ⟨7, 0, 0, 0⟩⟩
def kB : Comp.Cell := ⟨0x42, ⟨12, 9, 0, 0⟩⟩
/-- non-vacuity: a 3x2 base layer under a smaller layer with an alpha channel at offset (1, 0) whose middle cell is
    invisible: the composited picture is in XBin's domain and is neither layer alone -/
def twoLayers : Layered :=
  { w := 3, h := 2, isTerm := false,
    layers := [⟨true, false, .normal, 0, 0, 3, 2, 0, [[kA, kA, kA], [kA, kA, kA]]⟩,
               ⟨true, true, .normal, 1, 0, 2, 2, 0, [[kB, Comp.invisibleCell], [Comp.invisibleCell, kB]]⟩],
    ice := .ice, pal := dosPalette, fonts := [(0, defaultFont)] }
example : Representable .xb ⟨true, true⟩ (twoLayers.flatten (fun _ => (0, 0))) = true ∧
    (twoLayers.flatten (fun _ => (0, 0))).rows = [[cA, cB, cA], [cA, cA, cB]] := by
  constructor
  · have h : lookupFont (twoLayers.flatten (fun _ => (0, 0))).fonts 0 = some defaultFont := rfl
    simp only [Representable, h, fontOk_default]
    decide +kernel
  · decide +kernel

/-! ## re-save stability: non-vacuity (files that load and meet `ResaveCovered`) and the excluded points that are really false -/

def fileOf (f : Fmt) (o : Opts) (p : Pic) : List Nat := match save f o date0 p with | .ok b => b | _ => []

-- files that load and meet the size clauses of `ResaveCovered`: a two-font compressed XBin file (also `hb`: all bytes below 256),
-- a BIN, an ADF, an IDF and a Tundra file (for Tundra: `1 ≤ g.bh` and the area bound)
def xbTiny : Pic := ⟨3, 2, [[cA, cP1, cA], [cP1, cP1, ⟨0x42, ⟨7, 6, Xb.attrBlink, 0⟩⟩]], .blink, dosPalette,
  [(0, ⟨[70], 1, List.replicate 256 0x81⟩), (1, ⟨[71], 1, List.replicate 256 0xAA⟩)], none⟩
example : Representable .xb ⟨true, true⟩ xbTiny = true := by decide +kernel
example : (fileOf .xb ⟨true, true⟩ xbTiny).all (· < 256) = true ∧
    (match fromBytes .xb (fileOf .xb ⟨true, true⟩ xbTiny) with
     | .ok g => decide (1 ≤ g.bh) && (analyzeFontUsage g.toPic.rows.flatten != [1])
     | _ => false) = true := by decide +kernel
example : (match fromBytes .bin (fileOf .bin ⟨true, false⟩ binPic) with | .ok g => decide (1 ≤ g.bh) && decide (g.bw % 2 = 0 ∧ g.bw ≤ 510) | _ => false) = true := by
  obtain ⟨b, g, h1, h2, h3⟩ := bin_rt ⟨true, false⟩ date0 binPic binPic_rep date0_ok
  simp only [fileOf, h1, h2, h3.width, h3.height]
  decide
example : (match fromBytes .adf (fileOf .adf ⟨false, false⟩ adfPic) with | .ok g => decide (1 ≤ g.bh ∧ g.bh ≤ 65535) | _ => false) = true := by
  obtain ⟨b, h1, h2⟩ := rt_nosauce_partial .adf ⟨false, false⟩ date0 adfPic (by decide) adfPic_rep date0_ok
  -- the file ends in the 320 bytes of the two rows, which do not spell `SAUCE`
  obtain ⟨pre, hb⟩ := adfSave_tail date0 adfPic b h1
  obtain ⟨g, h2, h3⟩ := h2 (tail_guard_of_signature b (by rw [hb, looksLikeSauce_append _ _ (by decide +kernel)]; decide +kernel))
  simp only [fileOf, h1, h2, h3.height]
  decide
example : (match fromBytes .idf (fileOf .idf ⟨true, true⟩ idfPic) with | .ok g => decide (1 ≤ g.bh ∧ g.bh ≤ 200 ∧ g.bw ≤ 80) | _ => false) = true := by
  obtain ⟨b, g, h1, h2, h3⟩ := idf_rt ⟨true, true⟩ date0 idfPic rfl idfPic_rep date0_ok
  simp only [fileOf, h1, h2, h3.width, h3.height]
  decide
example : (match fromBytes .tnd (fileOf .tnd ⟨true, false⟩ tndPic) with
    | .ok g => decide (1 ≤ g.bh ∧ g.bw * g.bh.toNat < 1073741824) | _ => false) = true := by
  obtain ⟨b, g, h1, h2, h3⟩ := tnd_rt ⟨true, false⟩ date0 tndPic rfl tndPic_rep date0_ok
  simp only [fileOf, h1, h2, h3.width, h3.height]
  decide

/-- a SAUCE record (with its EOF character) of the given data type, file type and size -/
def sauceRec (dt ft w h : Nat) : List Nat :=
  [0x1A] ++ Gen.Sauce.sauceId ++ [48, 48] ++ List.replicate 75 32 ++ date0 ++ [0, 0, 0, 0, dt, ft, w % 256, w / 256, h % 256, h / 256, 0, 0, 0, 0, 0, 0] ++
    List.replicate 22 0

/-- **Excluded by `1 ≤ g.bh` (the clause common to all formats), and really false for BIN:** a `.bin` file that is nothing but a (foreign) SAUCE record announcing
    4 x 0 loads without rows; re-saved (with SAUCE) and loaded again it has the 25 rows the BIN record type implies. -/
theorem resave_bin_height0_violates :
    (match fromBytes .bin (sauceRec 1 8 4 0) with
     | .ok g => g.bh == 0 && g.bw == 4 &&
        (match save .bin ⟨true, false⟩ date0 g.toPic with
         | .ok b₂ => (match fromBytes .bin b₂ with | .ok g₂ => g₂.bh == 25 && g₂.bw == 4 | _ => false)
         | _ => false)
     | _ => false) = true := by decide +kernel

/-- **Excluded by `1 ≤ g.bh`, and really false for Tundra:** a Tundra file without cells whose SAUCE record (height field 0: a
    foreign record, or the engine's own record of a picture without rows — since `fix: SAUCE record of a Tundra file …` the
    engine writes the picture's height) says 80 columns loads as 80 x 0; re-saved WITHOUT a SAUCE record it loads as 80 x 25. -/
theorem resave_tnd_height0_violates :
    (match fromBytes .tnd ([BinFmt.tndVersion] ++ BinFmt.tndHeader ++ sauceRec 1 8 80 0) with
     | .ok g => g.bh == 0 && g.bw == 80 &&
        (match save .tnd ⟨false, false⟩ date0 g.toPic with
         | .ok b₂ => (match fromBytes .tnd b₂ with | .ok g₂ => g₂.bh == 25 && g₂.bw == 80 | _ => false)
         | _ => false)
     | _ => false) = true := by decide +kernel

def vga50 : Font := match sauceFontByName [73, 66, 77, 32, 86, 71, 65, 53, 48] with | some f => f | none => defaultFont
/-- SAUCE texts and a font by name: a BIN picture with title, author, one comment line and the font "IBM VGA50" -/
def binNamed : Pic := ⟨2, 1, [[cA, cBlink]], .blink, dosPalette, [(0, vga50)],
  some { title := [72, 105], author := [109, 101, 32], group := [], comments := [[99, 49], [99, 0, 50]], ar := false, ls := false }⟩
theorem binNamed_rep : Representable .bin ⟨true, false⟩ binNamed = true := by decide +kernel

theorem vga50_named : sauceFontByName vga50.name = some vga50 := by
  obtain ⟨f, hf⟩ := Option.isSome_iff_exists.mp (show (sauceFontByName [73, 66, 77, 32, 86, 71, 65, 53, 48]).isSome = true by decide +kernel)
  have e : vga50 = f := by unfold vga50; rw [hf]
  rw [e, sauceFontByName_name _ f hf, hf]

example : Representable .bin ⟨true, false⟩ binNamed = true ∧ sauceFontByName vga50.name = some vga50 ∧ vga50.height = 8 :=
  ⟨binNamed_rep, vga50_named, by decide +kernel⟩

example : (match fromBytes .bin (fileOf .bin ⟨true, false⟩ binNamed) with
    | .ok g => (lookupFont g.fonts 0 == some vga50) &&
        (match g.sauce with
         | some m => m.title == [72, 105] && m.author == [109, 101] && m.comments == [[99, 49], [99]]
         | none => false)
    | _ => false) = true := by
  obtain ⟨bytes, g, h1, h2, _, h4⟩ := bin_font_by_name_rt ⟨true, false⟩ date0 binNamed vga50 binNamed_rep date0_ok rfl vga50_named
  have hb : ∀ b ∈ bytes, b < 256 := by
    have : (fileOf .bin ⟨true, false⟩ binNamed).all (· < 256) = true := by decide +kernel
    simp only [fileOf, h1, List.all_eq_true, decide_eq_true_eq] at this
    exact this
  obtain ⟨m, hm, t1, t2, _, t4⟩ := sauce_texts_rt .bin ⟨true, false⟩ date0 binNamed bytes g rfl (by decide) date0_ok hb h1 h2
  simp only [fileOf, h1, h2, h4, hm, t1, t2, t4, beq_self_eq_true, Bool.true_and]
  decide
end IcyVerif.C05
