import IcyVerif.Lemmas.LoaderCostDispatch
import IcyVerif.Lemmas.FontLoad
import IcyVerif.Lemmas.PalLoad
/-! # C02 — no file content can crash a loader

Only property theorems, the table of known panic sites they are about (`knownSiteIds`) and non-vacuity examples live here.  `load d ≠ .panic s` for every site `s` is the
statement "the loader never panics"; `.panic` is returned by the model at every Rust index, slice, `usize`
subtraction, `i32` overflow (debug profile) and when a loop model runs out of fuel.

The loaders that also have a cost-instrumented model (`Model/LoaderCost`: XBin, BIN, ADF, IDF, Tundra, TheDraw, the IcyDraw LAYER decoders, the dispatch) are walked once,
there: a `Pot` statement says where the counted model can panic and what it spends; what it says about panics is carried over to the
models of `Model/Loaders` by the `_res` equations (`Lemmas/LoaderCost*`: `loadXb_sat` …, `icyNewLayer_sat`).

Bytes are `List Nat` (read mod 256).  `usize` arithmetic is not range-checked (offsets stay below
`len + 2^33`); `i32` arithmetic is.

Three loaders (BIN, ADF, Tundra) count rows in an `i32` that grows with the file length at one row per
>= 1 byte; for them — and for `from_bytes_total`, whatever the extension — the statement carries the hypothesis
`d.length + 65536 < 2^31` (files below 2 GiB - 64 KiB).  FULL STATEMENT (without the bound) is false in the debug profile for files of several GiB
(the row counter overflows) — such a file cannot be held in the engine's `Vec<Line>` anyway; it is outside
what this check can exercise and is stated here instead of being hidden.  XBin and IDF had the same problem
at 100 MB / 196 KB and were repaired (`fix:` commits), so `xb_total` and `idf_total` are unconditional.

Bitmap fonts (`Model/FontLoad.lean`) and palette importers (`Model/PalLoad.lean`) are stand-alone models of the same kind
(`bitfont_total`, `palette_import_total`, unconditional).  For them the translator also regenerates an inventory of every
source line in the loader functions that could panic (`loaderSites`); `loader_sites_known` demands that each is one the
model accounts for, and `glyph_guard_present` / `palette_conversions_pinned` pin the two source facts the proofs use. -/
namespace IcyVerif.C02
open IcyVerif.Bytes IcyVerif.Bytes.Res IcyVerif.Loaders IcyVerif.Gen.Loaders
open IcyVerif.FontLoad IcyVerif.PalLoad IcyVerif.Gen.FontPal

/-- XBin (`XBin::load_buffer`: header, palette, font blocks, compressed and uncompressed data), with or without
    a SAUCE size: never panics, for ALL byte strings -/
theorem xb_total (d : List Nat) (sauce : Option (Nat × Nat)) : ∀ s, loadXb d.toArray sauce ≠ .panic s :=
  (loadXb_sat d.toArray sauce).noPanic

/-- BIN (`Bin::load_buffer`), any SAUCE size, files below 2 GiB - 64 KiB -/
theorem bin_total (d : List Nat) (hd : d.length + 65536 < 2147483648) (sauce : Option (Nat × Nat)) :
    ∀ s, loadBin d.toArray sauce ≠ .panic s :=
  (loadBin_sat d.toArray (by unfold FitsI32; simpa using hd) sauce).noPanic

/-- ADF (`Artworx::load_buffer`), files below 2 GiB - 64 KiB -/
theorem adf_total (d : List Nat) (hd : d.length + 65536 < 2147483648) (sauce : Option (Nat × Nat)) :
    ∀ s, loadAdf d.toArray sauce ≠ .panic s :=
  (loadAdf_sat d.toArray (by unfold FitsI32; simpa using hd) sauce).noPanic

/-- IDF (`IceDraw::load_buffer` incl. the RLE records): never panics, for ALL byte strings -/
theorem idf_total (d : List Nat) (sauce : Option (Nat × Nat)) : ∀ s, loadIdf d.toArray sauce ≠ .panic s :=
  (loadIdf_sat d.toArray sauce).noPanic

/-- Tundra (`TundraDraw::load_buffer`), files below 2 GiB - 64 KiB.  Since the C05 repair the loader takes a SAUCE width
    above 1000 as it is; `hs` is the range of the field it comes from (`Size::width : i32`; what `extract` puts there is a
    16-bit value, `from_bytes_total`). -/
theorem tnd_total (d : List Nat) (hd : d.length + 65536 < 2147483648) (sauce : Option (Nat × Nat))
    (hs : ∀ sw sh, sauce = some (sw, sh) → sw ≤ 2147483647) :
    ∀ s, loadTnd d.toArray sauce ≠ .panic s :=
  (loadTnd_sat d.toArray (by unfold FitsI32; simpa using hd) sauce hs).noPanic

/-- TheDraw fonts (`TheDrawFont::from_tdf_bytes`): never panics, for ALL byte strings -/
theorem tdf_total (d : List Nat) : ∀ s, loadTdf d.toArray ≠ .panic s :=
  (loadTdf_sat d.toArray).noPanic

/-- Clipboard layers (`Layer::from_clipboard_data`), ALL byte strings.  Stated for either spelling of the source: a panic of the
    model can only be the abort of `char::from_u32_unchecked` on a surrogate, and then the flag `clipCharUnchecked` (regenerated from
    src/layer.rs: does the source contain that call?) is `true`.  In the present tree the flag is `false` (the repair is owned by C10), so
    with `clipboard_total_checked` below the model never panics; the closed sentence is that theorem at `by decide`. -/
theorem clipboard_total (d : List Nat) : ∀ s, loadClip d.toArray = .panic s → clipCharUnchecked = true ∧ s = sClipAbort :=
  fun _ h => (loadClip_sat d.toArray).panic_site h

/-- the closed form, conditional on the flag being `false` — which it is in the present tree -/
theorem clipboard_total_checked (h : clipCharUnchecked = false) (d : List Nat) : ∀ s, loadClip d.toArray ≠ .panic s := by
  intro s hs
  have := (clipboard_total d s hs).1
  rw [h] at this; cases this

/-- IcyDraw chunk payloads (ICED header, FONT_n, LAYER_n, LAYER_n~k, PALETTE, SAUCE, unknown keywords), ANY
    sequence of chunks with ANY payload bytes: if the font / palette / SAUCE loaders the payloads are handed to
    do not panic (`Foreign.panic` = what the harness observed of them; they belong to C10/C17, C16, C11), a panic
    of the model can only be the abort of `char::from_u32_unchecked` in the cell decoders, and then the regenerated flag
    `icyCharUnchecked` (does the source contain that call?) is `true`.  In the present tree the flag is `false` (repair owned by C10):
    `icy_chunk_total_checked` below is the closed form. -/
theorem icy_chunk_total (chunks : List (String × List Nat × Foreign)) (hf : ∀ c ∈ chunks, c.2.2 ≠ Foreign.panic) :
    ∀ s, loadIcy (chunks.map fun c => (c.1, c.2.1.toArray, c.2.2)) = .panic s → icyCharUnchecked = true ∧ s = sIcyAbort := by
  intro s h
  refine (icyChunks_sat IcyOwn (fun _ h => h) _ _ ?_).panic_site h
  intro c hc
  obtain ⟨c', hc', rfl⟩ := List.mem_map.mp hc
  exact foreign_own _ (hf c' hc')

/-- no panic at all, under the same hypothesis on the foreign loaders, conditional on the flag being `false` — which it is in the present tree -/
theorem icy_chunk_total_checked (h : icyCharUnchecked = false) (chunks : List (String × List Nat × Foreign))
    (hf : ∀ c ∈ chunks, c.2.2 ≠ Foreign.panic) :
    ∀ s, loadIcy (chunks.map fun c => (c.1, c.2.1.toArray, c.2.2)) ≠ .panic s := by
  intro s hs
  have := (icy_chunk_total chunks hf s hs).1
  rw [h] at this; cases this

/-- a foreign panic is passed through unchanged and nothing else is added -/
theorem icy_chunk_sites (chunks : List (String × List Nat × Foreign)) :
    ∀ s, loadIcy (chunks.map fun c => (c.1, c.2.1.toArray, c.2.2)) = .panic s →
      (icyCharUnchecked = true ∧ s = sIcyAbort) ∨ s = sForeign := by
  intro s h
  exact (icyChunks_sat IcySite (fun _ h => Or.inl h) _ _ (fun c _ => foreign_site c.2.2)).panic_site h

/-- `Buffer::from_bytes`: the SAUCE length arithmetic `len -= sauce_header_len` and the slice `&bytes[..len]`
    never panic, whatever `SauceData::extract` returns, for ALL byte strings and both answers of the date parser;
    the content length handed to the loader never exceeds the file (`dispatch_len_le`).  What is stated is not "no panic": a panic
    of `dispatchLen` is at the site of `extract` (`sSauce`, owned by C11).  That `extract`'s length arithmetic does not panic either is
    `sauce_length_total`; the two are not composed into one sentence here. -/
theorem dispatch_total (d : List Nat) (dateOk : Bool) : ∀ s, dispatchLen d.toArray dateOk = .panic s → s = sSauce :=
  fun _ h => (dispatchLen_spec d.toArray dateOk).panic_site h

theorem dispatch_len_le (d : List Nat) (dateOk : Bool) (r : Nat × Option (Nat × Nat)) (h : dispatchLen d.toArray dateOk = .ok r) :
    r.1 ≤ d.length := by
  have h1 := dispatchLen_spec d.toArray dateOk
  rw [h] at h1
  have h2 : r.1 ≤ d.toArray.size := h1.1
  simpa using h2

/-- the length arithmetic of `extract` cannot panic, conditional on C11's two repairs being in the tree (flags regenerated from
    src/sauce_mod/mod.rs); both flags are `true` in the present tree -/
theorem sauce_length_total (hs : sauceOffsetSaturating = true) (hc : sauceCommentCheckUsize = true) (d : List Nat) (dateOk : Bool) :
    ∀ s, sauceInfo d.toArray dateOk ≠ .panic s :=
  (sauceInfo_total hs hc d.toArray dateOk).noPanic

/-- whole path `from_bytes` → binary loader, every extension (known or not).  The hypothesis (files below 2 GiB - 64 KiB) is carried for
    every extension, also for those whose own loader theorem needs none.  As for `dispatch_total` the conclusion is not "no panic"
    but: a panic is at the site of `SauceData::extract` -/
theorem from_bytes_total (d : List Nat) (hd : d.length + 65536 < 2147483648) (ext : String) (dateOk : Bool) :
    ∀ s, fromBytes d.toArray ext dateOk = .panic s → s = sSauce :=
  fun _ h => (fromBytes_site d.toArray (by unfold FitsI32; simpa using hd) ext dateOk).panic_site h

/-- the zero-height guard of `glyphs_from_u8_data` is in the source (flag regenerated by `tools/gens/fontpal.py`);
    every font theorem below is proved FROM this fact, so removing the guard breaks them -/
theorem glyph_guard_present : glyphZeroGuard = true := by decide

/-- bitmap fonts (`BitFont::from_bytes`: length guard, PSF1 / PSF2 sniffing, `load_psf1`, `load_psf2` with its `i64`/`u64`
    consistency arithmetic, `load_plain_font`, `glyphs_from_u8_data`): never a panic and never a glyph loop that fails to
    terminate (fuel exhausted = `.panic "…::diverge"`), for ALL byte strings -/
theorem bitfont_total (d : List Nat) : ∀ s, fontFromBytes d.toArray ≠ .panic s :=
  (fontFromBytes_sat glyph_guard_present d.toArray).noPanic

/-- the guard matters: in a tree without it a PSF1 header with character height 0 diverges on every file -/
theorem bitfont_needs_zero_guard (hg : glyphZeroGuard = false) (d : List Nat) (o : Nat) (ho : o ≤ d.length) :
    glyphsFrom 0 d.toArray o = .panic sDiverge :=
  glyphsFrom_needs_guard hg d.toArray o (by simpa using ho)

/-- every font `BitFont::from_bytes` accepts from a file of less than 2^40 bytes (`hbig`: a raw font's height is `len / 256` cast to `i32`,
    which is 0 again at 2^40) has a width and a height different from 0 (`psf1ZeroRejected`: the PSF1 guard is in the
    source): this is what makes the cell-size division of `parse_with_parser` safe for a font loaded by `CTerm:Font` into slot 0 -/
theorem bitfont_size_nonzero (d : List Nat) (hbig : d.length < 1099511627776) (f : Font) (h : fontFromBytes d.toArray = .ok f) :
    f.w ≠ 0 ∧ f.h ≠ 0 :=
  fontFromBytes_size glyph_guard_present (by decide) d.toArray (by simpa using hbig) f h

/-- the five palette importers (`Palette::load_palette`: UTF-8 check, line loop, regex matches, `parse::<u32>()?`,
    `from_str_radix(_, 16)?`, `as u8`) and the extension dispatch of `import_palette`: never a panic, for ALL byte strings,
    every format, every extension (known, unknown or missing) -/
theorem palette_import_total (f : IcyVerif.Palette.Fmt) (d : List Nat) : ∀ s, palLoad f d ≠ .panic s :=
  (palLoad_sat f d).noPanic

theorem palette_import_ext_total (ext : Option String) (d : List Nat) : ∀ s, palImport ext d ≠ .panic s :=
  (palImport_sat ext d).noPanic

/-- pinned by the translator: every conversion of a number found in a palette file is `.parse::<u32>()?` or
    `u32::from_str_radix(_, 16)?` — the `Err` outcome of `parseU32` is what `?` propagates (an `unwrap`, or a wider type
    that is then used as a size, flips the flag) -/
theorem palette_conversions_pinned : palConversionsChecked = true := by decide

/-- a decimal channel of 2^32 or more is an `Err` — it is never truncated, never used as a size (a channel written with
    non-ASCII digits is an `Err` too: one of the examples at the end) -/
theorem palette_number_overflow_is_err (ds : List Nat) (h : 4294967296 ≤ IcyVerif.Palette.decVal ds) : parseU32 ds = .err := by
  unfold parseU32
  split
  · rename_i hh; omega
  · rfl

/-- lines of the font / palette loader functions that contain a construct which can panic in the debug profile
    (index, slice, unwrap, allocation from a number, arithmetic, cast, `todo!`), as 48-bit fingerprints of
    `file::fn::line`; next to each: the model operation that accounts for it -/
def knownSiteIds : List Nat := [
  177752670417767,   -- glyphs_from_u8_data: data[..font_height]                      -> slice (glyphLoop)
  244539708662553,   -- glyphs_from_u8_data: char::from_u32(ch as u32)                -> scalarsBelow (no panic: checked conversion)
  35319426141771,   -- glyphs_from_u8_data: data = &data[font_height..]              -> slice (glyphLoop)
  20139745512573,   -- glyphs_from_u8_data: ch += 1                                  -> usize counter <= data.len()
  48671801667160,   -- load_psf1: data[2]                                            -> rd
  112554629936380,   -- load_psf1: data[3]                                            -> rd
  103600904436763,   -- load_psf1: &data[4..], charsize as usize                      -> slice
  180293644882313,   -- load_plain_font: data.len() % 256                             -> constant divisor
  68003725177329,   -- load_plain_font: data.len() / 256                             -> constant divisor
  175861348391845,   -- load_plain_font: char_height as i32                           -> asI32 (wrapping cast)
  218247223516129,   -- load_psf2: data[4..8].try_into().unwrap()                     -> rdU32
  111950791377630,   -- load_psf2: data[8..12]                                        -> rdU32
  52832596720901,   -- load_psf2: data[16..20] as i32                                -> rdU32, asI32
  11722076513318,   -- load_psf2: data[20..24] as i32                                -> rdU32, asI32
  187740461968721,   -- load_psf2: data[24..28]                                       -> rdU32
  25605184388145,   -- load_psf2: data[28..32]                                       -> rdU32
  72185841379756,   -- load_psf2: i64 product and sum                                -> chkI64 (twice)
  89078562687065,   -- load_psf2: u64 sum, division by 8, product                    -> chkU64 (twice)
  156334085594325,   -- load_psf2: expected as usize (error message)                  -> wrapping cast
  8650048178242,   -- load_psf2: &data[headersize..]                                -> slice
  131448068814851,   -- from_bytes: data[0..2].try_into().unwrap()                    -> rdU16s
  251599850650885,   -- from_bytes: if data[3] == 0 (PSF1 character size 0 is rejected)  -> rd
  89905606661340,   -- from_bytes: data[0..4].try_into().unwrap()                    -> rdU32
  95741062839190,   -- calculate_checksum: char::from_u32(ch as u32)                 -> cksumIters (checked conversion)
  244011783155096,   -- create_8: height as usize (u8)                                -> XBin/ADF/IDF models (Model/Loaders)
  277559259562542,   -- from_basic: height as usize (u8)                              -> XBin/ADF/IDF models
  131060951300826,   -- load_palette/Hex: `[r, g, b]` is a pattern, not an index      -> colorsOfHexText
  70432448588115,   -- load_palette/Hex: r as u8 …                                   -> parseHex2 < 256
  209235545710915,   -- load_palette/Pal: pattern                                     -> scanWith (rgbAtWith isNd)
  237685006872747,   -- load_palette/Pal: r as u8 …                                   -> rgbOfDec (% 256)
  18540541025581,   -- load_palette/Gpl: pattern                                     -> findFirst (rgbAtWith isNd)
  134959383358329,   -- load_palette/Gpl: r as u8 …                                   -> rgbOfDec (% 256)
  41759450870794,   -- load_palette/Ice: pattern                                     -> findFirst (hexRun 6)
  125308993284890,   -- load_palette/Ice: r as u8 …                                   -> parseHex2 < 256
  70472089431505,   -- load_palette/Txt: pattern                                     -> findFirst (hexRun 8)
  257238798813892,   -- load_palette/Txt: r as u8 …                                   -> parseHex2 < 256
  102846824837714    -- load_palette: PaletteFormat::Ase => todo!()  (selected by the caller only: outside the quantifier)
]

/-- the translator's inventory of the current source contains no such line outside the table: a new index, unwrap,
    `reserve(count)`, `with_capacity(len / height)` … in these functions is an undischarged obligation -/
theorem loader_sites_known : loaderSiteIds.all (fun l => knownSiteIds.contains l) = true := by decide +kernel
theorem loader_sites_complete : loaderSiteIds.length = loaderSites.length := by decide +kernel

/-- (the expected line counts depend on whether the loader clears the 25 lines `Buffer::new` creates — a change
    owned by C05; the flag is regenerated from the source)
    a well-formed 2x1 XBin file loads; its truncation inside the announced palette is an error, not a panic -/
example : loadXb #[88, 66, 73, 78, 26, 2, 0, 1, 0, 16, 0, 65, 7, 66, 7] none =
    (if xbLinesCleared then .ok ⟨2, 1, 2, 1, 1⟩ else .ok ⟨2, 25, 2, 25, 25⟩) := by decide +kernel
example : loadXb #[88, 66, 73, 78, 26, 2, 0, 1, 0, 16, 1, 65, 7] none = .err := by decide +kernel
/-- a compressed XBin whose last byte is a run header (the pinned tree panicked here) -/
example : loadXb #[88, 66, 73, 78, 26, 2, 0, 3, 0, 16, 4, 0x41] none =
    (if xbLinesCleared then .ok ⟨2, 0, 2, 0, 0⟩ else .ok ⟨2, 25, 2, 25, 25⟩) := by decide +kernel
/-- the guards are needed: the raw operations do panic -/
example : rd "site" #[1, 2] 2 = .panic "site" := by decide +kernel
example : slice "site" #[1, 2] 1 3 = .panic "site" := by decide +kernel
example : usub "site" 3 4 = .panic "site" := by decide +kernel
example : chk32 "site" 2147483648 = .panic "site" := by decide +kernel
/-- Tundra: a position command cut off by the end of the file -/
example : loadTnd #[24, 84, 85, 78, 68, 82, 65, 50, 52, 1, 0, 0] none = .err := by decide +kernel
example : loadTnd #[24, 84, 85, 78, 68, 82, 65, 50, 52, 65, 66] none = .ok ⟨80, 1, 80, 1, if tndLinesCleared then 1 else 25⟩ := by decide +kernel
/-- BIN: odd trailing byte is ignored -/
example : loadBin #[65, 7, 66] none = .ok ⟨160, 1, 160, 1, if binLinesCleared then 1 else 25⟩ := by decide +kernel
/-- clipboard: 1x1 layer; data shorter than the announced cells -/
example : loadClip #[0, 1,0,0,0, 2,0,0,0, 1,0,0,0, 1,0,0,0, 65,0, 0,0, 0,0, 0,0,0,0, 7,0,0,0] = .ok ⟨1, 1, 1, 1, 2⟩ := by decide +kernel
example : loadClip #[0, 1,0,0,0, 2,0,0,0, 2,0,0,0, 1,0,0,0, 65,0, 0,0, 0,0, 0,0,0,0, 7,0,0,0] = .err := by decide +kernel
example : loadClip #[0, 1, 0] = .err := by decide +kernel
/-- IcyDraw: ICED header then a continuation chunk for a layer that does not exist -/
example : loadIcy [("ICED", #[0,0,0,0,0,0,1,0,2,1,1, 10,0,0,0, 3,0,0,0], .ok), ("LAYER_0~1", #[1, 2], .ok)] = .err := by decide +kernel
example : loadIcy [("ICED", #[0,0,0,0,0,0,1,0,2,1,1, 10,0,0,0, 3,0,0,0], .ok)] = .ok ⟨10, 3, #[]⟩ := by decide +kernel
/-- dispatch: 128 bytes that are not a SAUCE record are content -/
example : dispatchLen (Array.replicate 130 0) true = .ok (130, none) := by decide +kernel
/-- dispatch: content, EOF byte, SAUCE record: one content byte is handed to the loader with the default size -/
example : dispatchLen (#[65, 26, 83, 65, 85, 67, 69, 48, 48] ++ Array.replicate 121 0) true = .ok (1, some (80, 25)) := by
  rw [append_replicate]
  decide +kernel
/-- a file that is only a SAUCE record: `len - 1` underflows in `extract` on the pinned tree (C11's finding),
    `saturating_sub` after its repair — the model follows whichever the source has -/
example : dispatchLen (#[83, 65, 85, 67, 69, 48, 48] ++ Array.replicate 121 0) true =
    (if sauceOffsetSaturating then .ok (0, some (80, 25)) else .panic sSauce) := by
  rw [append_replicate]
  decide +kernel
/-- an unreadable date makes `extract` fail: the whole file is content -/
example : dispatchLen (#[65, 26, 83, 65, 85, 67, 69, 48, 48] ++ Array.replicate 121 0) false = .ok (130, none) := by
  rw [append_replicate]
  decide +kernel
/-- TheDraw: empty bundle; short file -/
example : loadTdf (#[19, 84, 104, 101, 68, 114, 97, 119, 32, 70, 79, 78, 84, 83, 32, 102, 105, 108, 101, 26] ++ Array.replicate 213 0) = .ok [] := by
  rw [append_replicate]
  decide +kernel
example : loadTdf #[19, 84, 104] = .err := by decide +kernel
/-- ADF / IDF: files shorter than header + palette + font are errors (the `ok` side of these two loaders needs files of
    >= 4 KiB and is exercised by the correspondence run) -/
example : loadAdf #[1, 0, 0, 65, 7] none = .err := by decide +kernel
example : loadIdf #[4, 49, 46, 52, 0, 0, 0, 0, 79, 0, 0, 0, 65, 7] none = .err := by decide +kernel
/-- extension dispatch is case-insensitive and falls back to the ANSI loader -/
example : loaderFor "XB" = "xbinary" ∧ loaderFor "an7" = "renegade" ∧ loaderFor "zzz" = "ansi" := by decide +kernel

/-- fonts: a PSF1 header announcing height 0 in front of data is an error (the pinned tree never returned; after the first repair
    it loaded as an empty font of height 0, which `parse_with_parser` then divided by — now rejected like `charsize <= 0` in PSF2);
    PSF1 with 2 complete glyphs and a ragged tail; PSF2 whose length field contradicts the file; raw data by length -/
example : fontFromBytes #[0x36, 0x04, 0, 0, 1, 2, 3] = .err := by decide +kernel
example : fontFromBytes #[0x36, 0x04, 1, 2, 1, 2, 3, 4, 5] = .ok ⟨8, 2, 512, 2, 2, 512⟩ := by decide +kernel
example : fontFromBytes (#[0x72, 0xb5, 0x4a, 0x86, 0,0,0,0, 32,0,0,0, 0,0,0,0, 255,255,255,127, 16,0,0,0, 16,0,0,0, 8,0,0,0]) = .err := by decide +kernel
example : fontFromBytes #[1, 2, 3] = .err := by decide +kernel
example : fontFromBytes #[1, 2, 3, 4, 5] = .err := by decide +kernel
/-- the primitive the loop is built from does fail when asked for more than is there -/
example : glyphLoop 3 #[1, 2, 3, 4] 5 2 0 = .ok 0 := by decide +kernel
example : glyphLoop 0 #[1, 2, 3, 4] 5 2 0 = .panic sDiverge := by decide +kernel
/-- palettes: a JASC count line is ignored whatever it says; a channel of 2^32 is an error; Arabic-Indic digits match
    `\d` and then fail to parse; not UTF-8 is an error -/
example : palLoad .pal ("JASC-PAL\n0100\n18446744073709551615\n1 2 300\n".toList.map Char.toNat) = .ok [⟨1, 2, 44⟩] := by decide +kernel
example : palLoad .pal ("JASC-PAL\n0100\n1\n4294967296 2 3\n".toList.map Char.toNat) = .err := by decide +kernel
example : palLoad .gpl ("GIMP Palette\n".toList.map Char.toNat ++ [0xD9, 0xA1, 32, 0xD9, 0xA2, 32, 0xD9, 0xA3, 10]) = .err := by decide +kernel
example : palLoad .hex [0x66, 0x66, 0xFF] = .err := by decide +kernel
example : palImport (some "PAL") [] = .ok [] ∧ palImport (some "ice") [] = .err ∧ palImport none [] = .err := by decide +kernel
example : knownSiteIds.length = 37 := by decide +kernel

end IcyVerif.C02
