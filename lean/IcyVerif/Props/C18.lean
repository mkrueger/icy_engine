import IcyVerif.Lemmas.Codec
/-! # C18 — 8-bit attribute and code-page codecs are exact inverses on their domain
Only property theorems and non-vacuity examples live here.  Every quantifier below is over the COMPLETE domain:
all 256 bytes x 3 modes, every `Attr` value (arbitrary colours and flag word) that is expressible, all 256 /
128 codes of the generated tables, every typed character x all five converters. -/
namespace IcyVerif.C18
open IcyVerif.Codec IcyVerif.Gen.Codec

/-- decode a DOS attribute byte, re-encode it in the same mode: the original byte, all 256 bytes, every mode
    (`asU8` is the current `as_u8`; for the one of the pinned tree see `pinned_unlimited_defect`) -/
theorem attr_dec_enc (m : IceMode) (b : Nat) (hb : b < 256) : asU8 m (fromU8 m b) = b :=
  (dec_core m (IceMode.mem_all m) b hb).1

example : asU8 .unlimited (fromU8 .unlimited 0x9C) = 0x9C := by decide
example : (fromU8 .unlimited 0x9C).isBlink = true ∧ (fromU8 .unlimited 0x9C).bg = 1 := by decide

/-- encode any attribute expressible in the mode (any `Attr`: colours are arbitrary naturals, the flag word is
    arbitrary — only its BOLD and BLINK bits matter), decode the byte: same foreground, background, blink -/
theorem attr_enc_dec (m : IceMode) (a : Attr) (h : Expressible m a) : (fromU8 m (asU8 m a)).sameColours a := by
  have hbg : a.bg < 16 := by
    have := h.2.2
    cases m <;> simp only [] at this <;> omega
  unfold Expressible at h
  unfold asU8
  have hb := h.2.1
  rw [hb] at h ⊢
  exact enc_dec_core m (IceMode.mem_all m) a.fg h.1 a.bg hbg a.isBlink h

/-- the hypothesis is satisfiable by non-trivial values in every mode (underline + blink set; 16 backgrounds in iCE) -/
example : Expressible .blink ⟨14, 5, attrBlink ||| attrUnderline, 3⟩ := by decide
example : Expressible .unlimited ⟨14, 5, attrBlink ||| attrUnderline, 3⟩ := by decide
example : Expressible .ice ⟨14, 13, attrUnderline, 0⟩ := by decide

/-- `Expressible` is not an artificially small domain: for non-bold attributes (bold is not a bit of the byte) it
    is EXACTLY the set on which encode/decode preserves foreground, background and blink -/
theorem attr_enc_dec_exact (m : IceMode) (a : Attr) (hbold : a.isBold = false) :
    (fromU8 m (asU8 m a)).sameColours a ↔ Expressible m a := by
  constructor
  · -- what comes out of the decoder is expressible, and it agrees with `a` in all that `Expressible` looks at
    intro ⟨h1, h2, h3⟩
    have h := (dec_core m (IceMode.mem_all m) (asU8 m a) (encByte_lt ..)).2.1
    unfold Expressible at h ⊢
    rw [h1, h2, h3, h.2.1, ← hbold] at h
    exact h
  · exact attr_enc_dec m a

/-- decoding lands in the expressible set, so with the two round trips `fromU8 m`/`asU8 m` is a bijection
    between the 256 bytes and the expressible (fg, bg, blink) triples of the mode -/
theorem attr_dec_expressible (m : IceMode) (b : Nat) (hb : b < 256) : Expressible m (fromU8 m b) :=
  (dec_core m (IceMode.mem_all m) b hb).2.1

/-- a bold attribute with a bright foreground (fg 8..15) also survives: encoding only ORs bit 3 into the foreground
    nibble, it never carries into the background -/
theorem attr_enc_dec_bold (m : IceMode) (fg bg : Nat) (blink : Bool) (hfg : fg < 16) (hbright : 8 ≤ fg)
    (h : ExpressibleT m fg bg false blink) :
    (fromU8 m (encByte m fg bg true blink)).fg = fg ∧ (fromU8 m (encByte m fg bg true blink)).bg = bg ∧
    (fromU8 m (encByte m fg bg true blink)).isBlink = blink := by
  have hbg : bg < 16 := by
    have := h.2.2
    cases m <;> simp only [] at this <;> omega
  rw [encByte_bold_bright m fg bg blink hfg hbright]
  exact enc_dec_core m (IceMode.mem_all m) fg hfg bg hbg blink h

/-- THE DEFECT OF THE PINNED TREE (cdb5b60), as a theorem about the pinned `as_u8`: the dec/enc round trip fails,
    witness `(Unlimited, 0x80)` -/
theorem pinned_unlimited_defect : ¬ (∀ m b, b < 256 → asU8Pinned m (fromU8 m b) = b) := by
  intro h
  exact absurd (h .unlimited 0x80 (by decide)) (by decide)

/-- … and it fails at exactly the 128 `Unlimited` bytes with bit 7 set, nowhere else -/
theorem pinned_defect_exact (m : IceMode) (b : Nat) (hb : b < 256) :
    asU8Pinned m (fromU8 m b) = b ↔ ¬ (m = .unlimited ∧ 128 ≤ b) := (dec_core m (IceMode.mem_all m) b hb).2.2

/-- CP437: all 256 codes map to Unicode and back to the same code -/
theorem cp437_rt (c : Nat) (hc : c < 256) : fromUni .cp437 (toUni .cp437 c) = c :=
  table_rt cp437 cp437Rev cp437_base_nodup (by decide +kernel) c hc

example : toUni .cp437 0xB0 = 0x2591 ∧ fromUni .cp437 0x2591 = 0xB0 := by decide +kernel

/-- ATASCII: the 128 base codes map to Unicode and back to the same code -/
theorem atascii_rt (c : Nat) (hc : c < 128) : fromUni .atascii (toUni .atascii c) = c :=
  table_rt atari atariRev atari_base_nodup (by rw [atari_length.1, atari_length.2]; decide) c hc

example : toUni .atascii 0 = 0x2665 ∧ fromUni .atascii 0x2665 = 0 := by decide +kernel
/-- the inverse-video half is outside the claim, and indeed does not round-trip -/
example : fromUni .atascii (toUni .atascii 128) = 0 := by decide +kernel

/-- every emulation's converter: a typed letter, digit or space converts to the emulation's code and back to
    the same character -/
theorem typed_rt (c : Conv) (ch : Nat) (h : IsTyped ch) : toUni c (fromUni c ch) = ch :=
  (typed_core c ch ((mem_typedChars ch).mpr h)).1

/-- … and "the emulation's code" is the character's own ASCII code wherever the emulation displays that code as the
    character (space is sent as 0x20 although other Viewdata / Mode 7 codes also display as a blank) -/
theorem typed_code (c : Conv) (ch : Nat) (h : IsTyped ch) (hd : toUni c ch = ch) : fromUni c ch = ch :=
  (typed_core c ch ((mem_typedChars ch).mpr h)).2 hd

example : IsTyped 0x20 ∧ toUni .viewdata 0x20 = 0x20 ∧ toUni .viewdata 0xC0 = 0x20 ∧ fromUni .viewdata 0x20 = 0x20 := by decide +kernel

/-- the same over the explicit list of the 63 typed characters -/
theorem typed_rt_list (c : Conv) (ch : Nat) (h : ch ∈ typedChars) : toUni c (fromUni c ch) = ch :=
  (typed_core c ch h).1

example : typedChars.length = 63 := by decide
example : IsTyped 0x61 ∧ fromUni .petscii 0x61 = 0x41 ∧ toUni .petscii 0x41 = 0x61 := by decide +kernel
example : IsTyped 0x66 ∧ fromUni .viewdata 0x66 = 0x66 ∧ toUni .viewdata 0x23 = 0x66 := by decide +kernel

/-- PETSCII `CHAR_TABLE` is a bijection: every pair converts in both directions (so the two derived hash maps
    lose no pair to a duplicate key) -/
theorem petscii_table_rt (p : Nat × Nat) (hp : p ∈ petscii) :
    fromUni .petscii p.1 = p.2 ∧ toUni .petscii p.2 = p.1 := by
  obtain ⟨h1, h2⟩ := petscii_bytes p hp
  have hq : (p.2, p.1) ∈ petscii.map fun p => (p.2, p.1) := List.mem_map_of_mem hp
  simp only [fromUni, toUni, Nat.mod_eq_of_lt h1, Nat.mod_eq_of_lt h2, lastAssoc_nodup _ petscii_nodup.1 p hp,
    lastAssoc_nodup _ petscii_nodup.2 _ hq, Option.getD_some, and_self]

example : (0x5C, 0x9C) ∈ petscii := by decide

end IcyVerif.C18
