import IcyVerif.Lemmas.UndoCalls
/-! # C08 — every public operation of `Call` only pushes records that obey the inverse law
The hypothesis of `stack_discipline` holds for the modelled operations; `api_history_discipline` in `Props/C08` puts this
together with the framework theorem. -/
namespace IcyVerif.C08
open IcyVerif.Undo

/-- every step list of `Call` is good: whatever record an operation pushes obeys the inverse law at the document it is pushed
    at (the hypothesis of `stack_discipline` is met by the modelled operations).  The hypotheses that seven of the laws make
    about the record's payload hold because the operation builds the record from the document. -/
theorem call_steps_good (c : Call) : ∀ s ∈ c.steps, s.Good := by
  -- `trivial`: a step `Step.Good` asks nothing of, or a leaf of a builder that fails or records nothing; `fun _ => rfl`: a `touch` step
  cases c with
  | setCaret x y => exact good_cons (fun _ => rfl) good_nil
  | setCurrentLayer i => exact good_cons (fun _ => rfl) good_nil
  | selectPasteLayer =>
    refine good_cons (fun d => ?_) good_nil
    simp only
    split <;> rfl
  | setMirror b => exact good_cons (fun _ => rfl) good_nil
  | setChar x y c => exact good_cons (setChar_good x y c) good_nil
  | swapChar x1 y1 x2 y2 => exact good_cons (act_good fun d => .onCurrent fun i => inverse_swapChar d i _ _ _ _) good_nil
  | addLayer layer | duplicateLayer layer =>
    refine good_cons (act_good fun d => ?_) (good_cons (fun _ => rfl) good_nil)
    split
    · trivial
    · exact inverse_addLayer d _ _
  | removeLayer layer => exact good_cons (act_good fun d => .onValid (inverse_removeLayer d layer none)) good_nil
  | raiseLayer layer =>
    exact good_cons (act_good fun d => of_ite (fun _ => trivial) fun _ => inverse_raiseLayer d layer) (good_cons (fun _ => rfl) good_nil)
  | lowerLayer layer =>
    by_cases h0 : layer = 0
    · simp only [Call.steps, h0, if_true]
      exact good_nil
    · simp only [Call.steps, h0, if_false]
      exact good_cons (act_good fun d => .onValid (inverse_lowerLayer d layer)) (good_cons (fun _ => rfl) good_nil)
  | clearLayer layer =>
    exact good_cons (act_good fun d => .onValid (inverse_clearLayer d layer [])) (good_cons (fun _ => rfl) good_nil)
  | mergeLayerDown layer => exact good_cons (edit_good fun d => .ofBuilds (.merge d layer) id fun _ _ _ h => h) good_nil
  | anchorLayer =>
    refine good_cons trivial (good_cons (edit_good fun d => ?_) good_nil)
    unfold anchorEdit
    split
    · trivial
    · exact of_ite (fun _ => trivial) fun _ => .ofBuilds (.merge d _) (fun o => .atomic [o]) fun _ _ _ h => undoable_atomic (.cons h (.nil _))
  | toggleVisibility layer => exact good_cons (act_good fun d => .onValid (inverse_toggleVisibility d layer)) good_nil
  | moveLayer x y =>
    refine good_cons (act_good fun d => ?_) good_nil
    split
    · trivial
    · rename_i i l hc
      refine inverse_moveLayer d _ _ _ _ _ fun l' hl' => ?_
      rw [curLayer_of_valid hl'] at hc
      cases hc
      exact ⟨rfl, rfl⟩
  | setLayerSize layer w h => exact good_cons (act_good fun d => .onValid (inverse_setLayerSize d layer w h w h)) good_nil
  | updateLayerProps layer flags =>
    refine good_cons (act_good fun d => ?_) good_nil
    split
    · trivial
    · exact inverse_updateLayerProps d layer _ _ (at_layer ‹_› rfl)
  | rotateLayer =>
    refine good_cons (act_good fun d => ?_) good_nil
    unfold rotateBuild
    split
    · trivial
    · split
      · trivial
      · exact inverse_rotateLayer d d.cur _ _ (at_layer ‹_› rfl)
  | makeTransparent => exact good_cons trivial (good_cons makeTransparent_good (good_cons trivial good_nil))
  | stampDown => exact good_cons trivial (good_cons stampDown_good (good_cons trivial good_nil))
  | paste layer => exact good_cons (act_good fun d => .paste d layer) (good_cons (fun _ => rfl) good_nil)
  | addFloatingLayer =>
    refine good_cons (act_good fun d => ?_) good_nil
    unfold floatBuild
    split
    · trivial
    · exact of_ite (fun h => inverse_addFloatingLayer d _ (at_layer (curLayer_some ‹_›) h)) fun _ => trivial
  | resizeBuffer w h => exact good_cons (act_good fun d => inverse_resizeBuffer d w h) good_nil
  | resizeBufferLayers w h =>
    refine good_cons (edit_good fun d => ?_) good_nil
    split
    · trivial
    · exact inverse_crop d w h _
  | cropRect r => exact good_cons (edit_good fun d => inverse_crop d r.w r.h _) good_nil
  | crop =>
    refine good_cons (edit_good fun d => ?_) good_nil
    split
    · exact inverse_crop d _ _ _
    · trivial
  | deleteRow => exact good_cons (act_good fun d => .onCurrent fun i => inverse_deleteRow d i _ _) good_nil
  | insertRow => exact good_cons (act_good fun d => .onCurrent fun i => inverse_insertRow d i _ _) good_nil
  | deleteColumn => exact good_cons (act_good fun d => .onCurrent fun i => inverse_deleteColumn d i _ _) good_nil
  | insertColumn => exact good_cons (act_good fun d => .onCurrent fun i => inverse_insertColumn d i _) good_nil
  | setSelection sl => exact good_cons (act_good fun d => .setSelection d _) good_nil
  | clearSelection => exact good_cons (act_good .clearSelection) good_nil
  | deselect =>
    refine good_cons (act_good fun d => ?_) good_nil
    split
    · exact inverse_deselect d _
    · trivial
  | addSelectionToMask =>
    refine good_cons (act_good fun d => ?_) good_nil
    split
    · exact inverse_addSelectionToMask d _ _
    · trivial
  | inverseSelection => exact good_cons (edit_good fun d => inverse_inverseSelection d _ _ _) good_nil
  | enumerateSelections kind =>
    refine good_cons (edit_good fun d => ?_) good_nil
    unfold enumerateEdit
    split
    · trivial
    · dsimp only
      generalize List.foldl _ d.mask (intRange 0 d.h) = m
      exact of_ite (fun _ => trivial) fun _ => undoable_fun _ id id (fun _ => rfl) (fun _ => rfl) rfl
  | eraseSelection => exact good_cons erase_good good_nil
  | eraseLine kind =>
    exact good_cons trivial (good_cons (act_good fun d => .setSelection d _) (good_cons erase_good (good_cons trivial good_nil)))
  | flipX => exact areaSteps_good flipXF (fun d l => flipX_frame d l _)
  | flipY => exact areaSteps_good flipYF (fun d l => flipY_frame d l _)
  | justifyLeft => exact justifyLeftSteps_good
  | justifyRight => exact areaSteps_good justifyRightF (fun d l => justifyRight_frame d l _)
  | center => exact centerSteps_good
  | lineOp kind =>
    refine List.forall_mem_append.mpr ⟨List.forall_mem_append.mpr ⟨good_cons trivial (good_cons (act_good fun d => .setSelection d _) good_nil), ?_⟩,
      good_cons (act_good .clearSelection) (good_cons trivial good_nil)⟩
    split
    · exact justifyLeftSteps_good
    · split
      · exact areaSteps_good justifyRightF (fun d l => justifyRight_frame d l _)
      · exact centerSteps_good
  | scrollUp => exact good_cons trivial (good_cons (scroll_good true) (good_cons trivial good_nil))
  | scrollDown => exact good_cons trivial (good_cons (scroll_good false) (good_cons trivial good_nil))
  | scrollLeft => exact good_cons trivial (good_cons (scrollLR_good true) (good_cons trivial good_nil))
  | scrollRight => exact good_cons trivial (good_cons (scrollLR_good false) (good_cons trivial good_nil))
  | switchToFontPage page => exact good_cons (act_good fun d => inverse_switchToFontPage d _ page) good_nil
  | setFont kind font =>
    refine good_cons (act_good fun d => ?_) good_nil
    unfold setFontBuild
    refine of_ite (fun _ => trivial) fun _ => ?_
    split
    · trivial
    · exact of_ite (fun _ => .setFontInSlot ..) fun _ => .setFontInSlot ..
  | addFont slot font =>
    refine good_cons (act_good fun d => ?_) good_nil
    unfold addFontBuild
    refine of_ite (fun _ => trivial) fun _ => ?_
    split
    · trivial
    · exact inverse_addFont d _ _ _ _
  | replaceFontUsage src dst => exact good_cons (replaceFontUsage_good src dst) good_nil
  | changeFontSlot src dst =>
    exact good_cons trivial (good_cons (act_good fun d => of_ite (fun _ => inverse_changeFontSlot d src dst none) fun _ => trivial)
      (good_cons (replaceFontUsage_good src dst) (good_cons trivial good_nil)))
  | removeFont slot =>
    exact good_cons trivial (good_cons (replaceFontUsage_good slot 0)
      (good_cons (act_good fun d => inverse_removeFont d slot none) (good_cons trivial good_nil)))
  | setIceMode mode =>
    exact good_cons (act_good fun d op' d' hr => by cases hr; exact inverse_setIceMode d mode _) good_nil
  | setPaletteMode mode =>
    refine good_cons (act_good fun d => ?_) good_nil
    unfold paletteModeBuild
    dsimp only
    generalize (if mode = 0 then _ else _ : Except Err (List Nat)) = np
    cases np with
    | error e => trivial
    | ok np => exact of_ite (fun _ => trivial) fun _ op' d' hr => by cases hr; exact inverse_switchPalette d mode _ _
  | copyPaste =>
    refine good_cons (act_good fun d => ?_) (good_cons (fun _ => rfl) good_nil)
    split
    · trivial
    · exact .paste d _
  | switchToPalette pal => exact good_cons (act_good fun d => inverse_switchPalettte d pal) good_nil
  | updateSauce data => exact good_cons (act_good fun d => inverse_setSauceData d data) good_nil
  | undoCaretPosition => exact good_cons (edit_good fun d => inverse_reverseCaret d _ _ _ _) good_nil
  | pushReverseResize w h =>
    refine good_cons (act_good fun d => ?_) good_nil
    -- the inner record leads from the resized document up to `d`
    let d0 : Doc := ({ d with w := w, h := h } : Doc).setMaskSize
    have hin : Undoable (.resizeBuffer w h d.w d.h) d0.obs d.obs :=
      inverse_resizeBuffer d0 d.w d.h _ (({ d0 with w := d.w, h := d.h } : Doc).setMaskSize) rfl
    exact inverse_reversed d _ d0.obs hin
  | beginAtomic => exact good_cons trivial good_nil
  | endAtomic => exact good_cons trivial good_nil
  | undo => exact good_cons trivial good_nil
  | redo => exact good_cons trivial good_nil

end IcyVerif.C08
