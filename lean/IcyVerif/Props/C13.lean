import IcyVerif.Lemmas.Comp
import IcyVerif.Lemmas.CompTop
import IcyVerif.Lemmas.CompLayer
import IcyVerif.Model.CompHalf
/-! # C13 — layer compositing obeys the stacking laws

`getChar hb isTerm S x y` is `Buffer::get_char((x, y))` for the layer stack `S` (bottom layer first, as in
`buffer.layers`), `hb` the half-block classifier of `make_solid_color` (arbitrary: the laws hold for every
font table), `isTerm = buffer.is_terminal_buffer`.  Every theorem quantifies over ALL stacks, positions,
classifiers and both buffer kinds; they are proved by induction over the stack with the loop state
generalised (Lemmas/Comp.lean).

`=` is structural equality of cells (font page included); `≈` (`Cell.eqv`) is Rust's `PartialEq for
AttributedChar`, which ignores the font page — the observation the property talks about.  `≈` is needed
exactly where a silent layer is inserted/removed *inside the rectangle it covers*: the loop copies
`default_font_page` from every covering visible layer, so the fall-through cell's font page is that of the
lowest covering visible layer.

Beyond the stacking laws the file states "topmost first" (`topmost_first`, `topmost_opaque_blank`, `nothing_visible`:
a complete case split of what the walk displays), the laws of the layer's offset state machine (`set_offset_places` …
`translate_stack_api`: `getCharS` over layers with base offset / pending preview / position lock, the compositor reading
`get_offset()`), and facts about the transcribed half-block classifier on the regenerated CP437 bitmaps.

Semantics copied from the code, not "fixed":
* a Chars layer over a Chars layer: the LOWER one's character wins (the loop overwrites `ch_opt` on the way down);
* `has_alpha_channel` is consulted only for `Mode::Normal` layers (`modifier_alpha_flag_irrelevant`): char-only
  and attribute-only layers never produce a cell of their own, so "opaque" is stated for Normal layers;
* what makes a cell "not there" is tested per mode (`Layer.silentAt`). -/
namespace IcyVerif.C13
open IcyVerif.Comp

variable (hb : Cell → Nat × Nat) (isTerm : Bool)

local infix:50 " ≈ " => Cell.eqv

/-- The displayed cell is determined only by the visible layers covering the position (in stack order). -/
theorem determined_by_visible_covering (S : List Layer) (x y : Int) :
    getChar hb isTerm S x y = getChar hb isTerm (S.filter fun l => l.visible && l.covers x y) x y :=
  getChar_filter hb isTerm x y [] S

/-- A hidden layer may be replaced by any other hidden layer (content, size, offset, mode, alpha). -/
theorem hidden_irrelevant (A B : List Layer) (l l' : Layer) (x y : Int)
    (h : l.visible = false) (h' : l'.visible = false) :
    getChar hb isTerm (A ++ l :: B) x y = getChar hb isTerm (A ++ l' :: B) x y :=
  getChar_replace hb isTerm x y l l'
    (fun st => by rw [layerStep_hidden hb x y l st h, layerStep_hidden hb x y l' st h']) A B

/-- A hidden layer may be removed. -/
theorem hidden_removable (A B : List Layer) (l : Layer) (x y : Int) (h : l.visible = false) :
    getChar hb isTerm (A ++ l :: B) x y = getChar hb isTerm (A ++ B) x y :=
  getChar_drop hb isTerm x y l (fun st => layerStep_hidden hb x y l st h) A B

/-- A layer does not influence a position it does not cover. -/
theorem uncovered_irrelevant (A B : List Layer) (l : Layer) (x y : Int) (h : l.covers x y = false) :
    getChar hb isTerm (A ++ l :: B) x y = getChar hb isTerm (A ++ B) x y :=
  getChar_drop hb isTerm x y l (fun st => layerStep_uncovered hb x y l st h) A B

/-- An invisible cell of an alpha layer (Normal mode) and an invisible cell of a Chars / Attributes layer
    never influence the displayed cell (`silentAt`; for a Chars layer a blank character on background 0 is
    silent too). -/
theorem invisible_alpha_cell_irrelevant (A B : List Layer) (l : Layer) (x y : Int)
    (hv : l.visible = true) (hc : l.covers x y = true) (hs : l.silentAt x y = true) :
    getChar hb isTerm (A ++ l :: B) x y ≈ getChar hb isTerm (A ++ B) x y := by
  rw [getChar_insert, getChar_append]
  -- the iteration of `l` only sets the default font page, which shows in the font page of the result alone
  exact go_prefix hb isTerm x y Cell.eqv_refl _ (fun st => by
    rw [go_cons, layerStep_silent hb x y l st hv hc hs]
    exact go_dflt_eqv hb isTerm x y _ st l.dfltPage) _

/-- The same law with the hypothesis spelled out: a cell carrying the INVISIBLE attribute, on an alpha layer
    or on a Chars / Attributes layer, never influences the displayed cell. -/
theorem invisible_cell_irrelevant (A B : List Layer) (l : Layer) (x y : Int)
    (hv : l.visible = true) (hc : l.covers x y = true) (ha : l.mode = .normal → l.alpha = true)
    (hi : (l.cellAt x y).isVisible = false) :
    getChar hb isTerm (A ++ l :: B) x y ≈ getChar hb isTerm (A ++ B) x y := by
  apply invisible_alpha_cell_irrelevant hb isTerm A B l x y hv hc
  unfold Layer.silentAt
  cases hm : l.mode with
  | normal => simp [hi, ha hm]
  | chars => simp [hi]
  | attributes => simp [hi]

/-- An opaque Normal layer hides everything beneath it inside its rectangle. -/
theorem opaque_cuts (below below' above : List Layer) (l : Layer) (x y : Int)
    (hv : l.visible = true) (hm : l.mode = .normal) (ha : l.alpha = false) (hc : l.covers x y = true) :
    getChar hb isTerm (below ++ l :: above) x y = getChar hb isTerm (below' ++ l :: above) x y :=
  getChar_cut hb isTerm x y l (fun st => layerStep_opaque hb x y l st hv hc hm ha) below below' above

/-- `has_alpha_channel` of a Chars / Attributes layer is never looked at. -/
theorem modifier_alpha_flag_irrelevant (A B : List Layer) (l : Layer) (a : Bool) (x y : Int)
    (hm : l.mode ≠ .normal) :
    getChar hb isTerm (A ++ { l with alpha := a } :: B) x y = getChar hb isTerm (A ++ l :: B) x y :=
  getChar_replace hb isTerm x y _ l (fun st => layerStep_modifier_alpha hb x y l st a hm) A B

/-- Moving one layer by an offset moves its contribution (one loop iteration, any loop state) by exactly
    that offset. -/
theorem layer_contribution_translates (l : Layer) (st : St) (x y dx dy : Int) :
    layerStep hb (x + dx) (y + dy) (l.shift dx dy) st = layerStep hb x y l st :=
  layerStep_shift hb x y dx dy l st

/-- Translating every layer by `(dx, dy)` translates the picture by `(dx, dy)` and changes nothing else. -/
theorem translate (S : List Layer) (x y dx dy : Int) :
    getChar hb isTerm (S.map (Layer.shift dx dy)) (x + dx) (y + dy) = getChar hb isTerm S x y := by
  unfold getChar
  rw [← List.map_reverse]
  exact go_shift hb isTerm x y dx dy _ _

/-! ## the "consequently" part of the property -/

/-- an empty layer: no visible cell anywhere (what `Layer::new` creates) -/
def EmptyLayer (l : Layer) : Prop := ∀ x y : Int, (l.getChar x y).isVisible = false

/-- Inserting an empty alpha layer (hidden or visible, any size / offset / mode / default font page)
    anywhere in the stack changes no displayed cell. -/
theorem insert_empty_alpha (A B : List Layer) (l : Layer) (x y : Int)
    (he : EmptyLayer l) (ha : l.alpha = true) :
    getChar hb isTerm (A ++ l :: B) x y ≈ getChar hb isTerm (A ++ B) x y := by
  cases hv : l.visible with
  | false => exact Cell.eqv_of_eq (hidden_removable hb isTerm A B l x y hv)
  | true =>
    cases hc : l.covers x y with
    | false => exact Cell.eqv_of_eq (uncovered_irrelevant hb isTerm A B l x y hc)
    | true =>
      apply invisible_alpha_cell_irrelevant hb isTerm A B l x y hv hc
      have h := he (x - l.offX) (y - l.offY)
      unfold Layer.silentAt Layer.cellAt
      cases l.mode <;> simp [ha, h]

/-- Editing a hidden layer changes no displayed cell (not even its font page). -/
theorem edit_hidden (A B : List Layer) (l l' : Layer) (x y : Int)
    (h : l.visible = false) (h' : l'.visible = false) :
    getChar hb isTerm (A ++ l :: B) x y = getChar hb isTerm (A ++ l' :: B) x y :=
  hidden_irrelevant hb isTerm A B l l' x y h h'

/-- Translating the whole stack changes no displayed cell other than by that translation. -/
theorem translate_stack (S : List Layer) (dx dy : Int) :
    ∀ x y : Int, getChar hb isTerm (S.map (Layer.shift dx dy)) (x + dx) (y + dy) = getChar hb isTerm S x y :=
  fun x y => translate hb isTerm S x y dx dy

/-- The `i32` walk of the implementation (debug profile: `pos - offset` is overflow-checked) is the
    unbounded walk the laws are about whenever no subtraction for a visible layer leaves `i32` — in
    particular on the whole quantifier of the property (offsets −4..=6, sizes ≤ 12). -/
theorem getCharC_eq_getChar (S : List Layer) (x y : Int)
    (h : ∀ l ∈ S, l.visible = true → inI32 (x - l.offX) = true ∧ inI32 (y - l.offY) = true) :
    getCharC hb isTerm S x y = some (getChar hb isTerm S x y) := by
  unfold getCharC getChar
  exact goC_eq hb isTerm x y _ _ (fun l hl => h l (List.mem_reverse.mp hl))

/-! ## "topmost first"

Walking down from the top, the layers that *pass* at the position (`Layer.passes`: hidden, not covering, Chars /
Attributes layers, alpha Normal layers with an invisible cell) only leave the modifiers `charFrom` / `attrFrom` (the
LOWEST Chars / Attributes cell above wins — the loop overwrites `ch_opt` / `attr_opt` on the way down).  The first
layer that does not pass decides: a Normal layer with a visible cell shows that cell (merged with the modifiers above
it), and the layers beneath may only fill its transparent colours in (`Cell.fills`); an opaque Normal layer with an
invisible cell shows the default cell merged with the modifiers; if every layer passes the fall-through cell is shown.
`S = below ++ l :: above` is `buffer.layers` (bottom first).

True of the repaired code only: before `fix: Buffer::get_char keeps a pending transparent-colour cell …` the opaque
branch overwrote the remembered cell and `topmost_first` was false for a stack `[opaque Normal, Attributes cell,
transparent-colour half block]` (known_findings.txt). -/

/-- The first Normal layer with a visible cell (from the top) decides the character, the flags, the font page and
    every colour that is not `TRANSPARENT_COLOR`; without a transparent colour it is displayed exactly. -/
theorem topmost_first (below above : List Layer) (l : Layer) (x y : Int)
    (hp : ∀ a ∈ above, a.passes x y = true)
    (hv : l.visible = true) (hc : l.covers x y = true) (hm : l.mode = .normal)
    (hcell : (l.cellAt x y).isVisible = true) :
    (merge (l.cellAt x y) (charFrom x y above) (attrFrom x y above)).fills (getChar hb isTerm (below ++ l :: above) x y)
    ∧ ((merge (l.cellAt x y) (charFrom x y above) (attrFrom x y above)).hasTransparentColor = false →
        getChar hb isTerm (below ++ l :: above) x y = merge (l.cellAt x y) (charFrom x y above) (attrFrom x y above)) := by
  have key : (merge (l.cellAt x y) (charFrom x y above) (attrFrom x y above)).fills
      (getChar hb isTerm (below ++ l :: above) x y) := by
    obtain ⟨d, h⟩ := getChar_passes hb isTerm (below ++ [l]) above x y hp
    rw [List.append_assoc, List.reverse_append] at h
    rw [show below ++ l :: above = below ++ ([l] ++ above) from rfl, h]
    exact go_decider hb isTerm x y l below.reverse _ hv hc hm hcell rfl
  exact ⟨key, fun ht => Cell.fills_solid key ht⟩

/-- The special case without merging layers: no Chars / Attributes cell above → the topmost visible cell itself. -/
theorem topmost_first_plain (below above : List Layer) (l : Layer) (x y : Int)
    (hp : ∀ a ∈ above, a.passes x y = true)
    (hn : ∀ a ∈ above, a.givesChar x y = false ∧ a.givesAttr x y = false)
    (hv : l.visible = true) (hc : l.covers x y = true) (hm : l.mode = .normal)
    (hcell : (l.cellAt x y).isVisible = true) :
    (l.cellAt x y).fills (getChar hb isTerm (below ++ l :: above) x y) := by
  have h := (topmost_first hb isTerm below above l x y hp hv hc hm hcell).1
  rwa [charFrom_none fun a ha => (hn a ha).1, attrFrom_none fun a ha => (hn a ha).2, merge_none] at h

/-- An opaque Normal layer whose cell is invisible, reached first: the default cell (on the layer's default font
    page) merged with the modifiers above it; its own transparent colours (an Attributes cell may carry one) are
    resolved against the plain default cell. -/
theorem topmost_opaque_blank (below above : List Layer) (l : Layer) (x y : Int)
    (hp : ∀ a ∈ above, a.passes x y = true)
    (hv : l.visible = true) (hc : l.covers x y = true) (hm : l.mode = .normal) (ha : l.alpha = false)
    (hcell : (l.cellAt x y).isVisible = false) :
    getChar hb isTerm (below ++ l :: above) x y =
      (let res := merge (defaultCell.withPage l.dfltPage) (charFrom x y above) (attrFrom x y above)
       if (charFrom x y above).isSome || (attrFrom x y above).isSome then makeSolid hb res defaultCell else res) := by
  obtain ⟨d, h⟩ := getChar_passes hb isTerm (below ++ [l]) above x y hp
  rw [List.append_assoc, List.reverse_append] at h
  rw [show below ++ l :: above = below ++ ([l] ++ above) from rfl, h]
  exact go_opaque_blank hb isTerm x y l below.reverse _ hv hc hm ha hcell

/-- No layer produces a cell: the fall-through cell — the default cell merged with the modifiers (always on a terminal
    buffer), else `AttributedChar::invisible()`. -/
theorem nothing_visible (S : List Layer) (x y : Int) (hp : ∀ a ∈ S, a.passes x y = true) :
    getChar hb isTerm S x y ≈
      (if isTerm || (charFrom x y S).isSome || (attrFrom x y S).isSome
       then merge defaultCell (charFrom x y S) (attrFrom x y S) else invisibleCell) := by
  obtain ⟨d, h⟩ := getChar_passes hb isTerm [] S x y hp
  rw [show S = [] ++ S from rfl, h]
  unfold go finish
  exact ⟨rfl, rfl, rfl, rfl⟩

/-! ## where a layer is shown: the offset state machine of `Layer` (Model/CompLayer.lean)

`getCharS` is `Buffer::get_char` over layers with position state (`properties.offset`, `preview_offset`,
`is_position_locked`); the compositor reads `Layer::get_offset()`. -/

/-- After `set_offset(q)` on an unlocked layer the layer contributes its (unchanged) content at exactly `q` — after
    EVERY history `ops` of `set_offset` / `set_preview_offset` / lock / direct writes of `properties.offset`, whatever
    preview was pending. -/
theorem set_offset_places (l : LayerS) (ops : List LOp) (q : Int × Int) (h : (l.run ops).posLocked = false) :
    ((l.run ops).setOffset q).view = l.body.placedAt q := by
  obtain ⟨q', hq'⟩ := l.run_body ops
  rw [LayerS.view_setOffset _ q h, hq', Layer.placedAt_placedAt]

/-- The same, as a statement about pictures: the stack shows what a stack built from scratch with that layer at `q`
    shows (the oracle the harness runs on real `Layer`s). -/
theorem set_offset_shows_at (A B : List LayerS) (l : LayerS) (ops : List LOp) (q : Int × Int) (x y : Int)
    (h : (l.run ops).posLocked = false) :
    getCharS hb isTerm (A ++ (l.run ops).setOffset q :: B) x y
      = getCharS hb isTerm (A ++ LayerS.fresh (l.body.placedAt q) :: B) x y := by
  unfold getCharS
  simp only [List.map_append, List.map_cons]
  rw [set_offset_places l ops q h, LayerS.view_fresh]

/-- `set_offset` on a position-locked layer changes nothing. -/
theorem set_offset_locked_ignored (l : LayerS) (q : Int × Int) (h : l.posLocked = true) : l.setOffset q = l :=
  LayerS.setOffset_locked l q h

/-- While a preview is pending the layer is shown at the preview offset, and cancelling it shows the layer at its base
    offset again — after every history. -/
theorem preview_shows_at (l : LayerS) (ops : List LOp) (p : Int × Int) :
    ((l.run ops).setPreviewOffset (some p)).view = l.body.placedAt p
    ∧ ((l.run ops).setPreviewOffset none).view = l.body.placedAt (l.run ops).getBaseOffset := by
  obtain ⟨q', hq'⟩ := l.run_body ops
  constructor
  · rw [LayerS.view_setPreview_some, hq', Layer.placedAt_placedAt]
  · rw [LayerS.view_setPreview_none]
    show (l.run ops).body = l.body.placedAt ((l.run ops).body.offX, (l.run ops).body.offY)
    rw [hq']; rfl

/-- Operations on one layer do not touch another: layer `i` after a stack history is layer `i` after the operations
    addressed to it. -/
theorem layers_independent (S : List LayerS) (ops : List (Nat × LOp)) (i : Nat) :
    (runStack S ops)[i]? = (S[i]?).map (fun l => l.run (opsFor i ops)) := by
  induction ops generalizing S with
  | nil =>
    rw [runStack_nil]
    cases h : S[i]? <;> simp [opsFor, LayerS.run]
  | cons o ops ih =>
    rw [runStack_cons, ih, applyAt_getElem?]
    by_cases h : o.1 = i
    · have : opsFor i (o :: ops) = o.2 :: opsFor i ops := by simp [opsFor, h]
      rw [this]
      simp only [h, if_true]
      cases S[i]? <;> rfl
    · have : opsFor i (o :: ops) = opsFor i ops := by simp [opsFor, h]
      rw [this]
      simp only [h, if_false]

/-- Invariant over ALL stack histories: the picture is that of the original contents, each placed at its layer's
    `get_offset()` — no operation of the position API changes what a layer contributes, only where. -/
theorem picture_after_history (S : List LayerS) (ops : List (Nat × LOp)) (x y : Int) :
    getCharS hb isTerm (runStack S ops) x y
      = getChar hb isTerm
          (List.zipWith (fun (l l' : LayerS) => l.body.placedAt l'.getOffset) S (runStack S ops)) x y := by
  unfold getCharS
  congr 1
  apply List.ext_getElem?
  intro i
  rw [List.getElem?_map, List.getElem?_zipWith, layers_independent]
  cases S[i]? with
  | none => rfl
  | some l => simp only [Option.map_some]; rw [LayerS.view_run]

/-- "Moving a layer by an offset moves its contribution by exactly that offset", over the API: `set_offset(get_offset()
    + d)` on an unlocked layer (any pending preview), and `set_preview_offset(Some(get_offset() + d))` on any layer. -/
theorem move_layer_by (l : LayerS) (st : St) (x y dx dy : Int) :
    (l.posLocked = false →
      layerStep hb (x + dx) (y + dy) (l.setOffset (l.getOffset.1 + dx, l.getOffset.2 + dy)).view st
        = layerStep hb x y l.view st)
    ∧ layerStep hb (x + dx) (y + dy) (l.setPreviewOffset (some (l.getOffset.1 + dx, l.getOffset.2 + dy))).view st
        = layerStep hb x y l.view st := by
  constructor
  · intro h
    rw [LayerS.view_setOffset _ _ h, ← layerStep_shift hb x y dx dy l.view st]
    rfl
  · rw [LayerS.view_setPreview_some, ← layerStep_shift hb x y dx dy l.view st]
    rfl

/-- Moving every (unlocked) layer of a stack by `d` through `set_offset` translates the picture by `d`. -/
theorem translate_stack_api (S : List LayerS) (dx dy : Int) (hu : ∀ l ∈ S, l.posLocked = false) (x y : Int) :
    getCharS hb isTerm (S.map fun l => l.setOffset (l.getOffset.1 + dx, l.getOffset.2 + dy)) (x + dx) (y + dy)
      = getCharS hb isTerm S x y := by
  unfold getCharS
  rw [← translate hb isTerm (S.map LayerS.view) x y dx dy]
  simp only [List.map_map]
  congr 1
  apply List.map_congr_left
  intro l hl
  show (l.setOffset (l.getOffset.1 + dx, l.getOffset.2 + dy)).view = l.view.shift dx dy
  rw [LayerS.view_setOffset _ _ (hu l hl)]
  rfl

/-! ## the half-block classifier (Model/CompHalf.lean) on the regenerated CP437 8x16 bitmaps

`HalfBlock::from` on the default font: a full block shows the foreground in both halves, a blank the background, the
upper / lower half block one each — so a transparent-colour half block composited over a half block keeps both
colours.  (`221`, the left half block, has exactly a quarter of the cell set in each half and counts as background:
the comparison is `>`.) -/

theorem halfblock_cp437_shapes :
    (ansiFont 0).map (fun f => (f.w * f.h / IcyVerif.Gen.CompFonts.halfThresholdDiv,
        [32, 219, 220, 223, 221].map fun c => (f.glyph c).map halfOnes))
      = some (32, [some (0, 0), some (64, 64), some (8, 64), some (56, 0), some (32, 32)]) := by
  -- glyph `c` starts at row `16 * c` and a chunk holds 256 rows: glyph 32 stands in chunk 2, glyphs 219..223 in chunk 13
  -- (0-based); skip the chunks in front of them by their length (`l0`..`l12`), evaluate the rest
  open IcyVerif.Gen.CompFonts in
  (have l0 : g_cp437_rows_0.length = 256 := by decide +kernel
   have l1 : g_cp437_rows_1.length = 256 := by decide +kernel
   have l2 : g_cp437_rows_2.length = 256 := by decide +kernel
   have l3 : g_cp437_rows_3.length = 256 := by decide +kernel
   have l4 : g_cp437_rows_4.length = 256 := by decide +kernel
   have l5 : g_cp437_rows_5.length = 256 := by decide +kernel
   have l6 : g_cp437_rows_6.length = 256 := by decide +kernel
   have l7 : g_cp437_rows_7.length = 256 := by decide +kernel
   have l8 : g_cp437_rows_8.length = 256 := by decide +kernel
   have l9 : g_cp437_rows_9.length = 256 := by decide +kernel
   have l10 : g_cp437_rows_10.length = 256 := by decide +kernel
   have l11 : g_cp437_rows_11.length = 256 := by decide +kernel
   have l12 : g_cp437_rows_12.length = 256 := by decide +kernel
   rw [show ansiFont 0 = some ⟨8, 16, 256, g_cp437_rows⟩ from rfl]
   simp only [Option.map_some, List.map_cons, List.map_nil, BFont.glyph, g_cp437_rows, List.append_assoc, Nat.reduceMul,
     Nat.reduceLT, if_true, drop_chunk l0, drop_chunk l1, drop_chunk l2, drop_chunk l3, drop_chunk l4, drop_chunk l5,
     drop_chunk l6, drop_chunk l7, drop_chunk l8, drop_chunk l9, drop_chunk l10, drop_chunk l11, drop_chunk l12,
     Nat.reduceLeDiff, Nat.reduceSub]
   decide +kernel)

/-- on a buffer whose slot `p` holds CP437 8x16 -/
theorem halfblock_cp437_blocks (fonts : Nat → Option BFont) (p : Nat) (hf : fonts p = ansiFont 0) (fg bg fl : Nat) :
    halfBlockOf fonts ⟨219, ⟨fg, bg, fl, p⟩⟩ = (fg, fg) ∧ halfBlockOf fonts ⟨32, ⟨fg, bg, fl, p⟩⟩ = (bg, bg)
    ∧ halfBlockOf fonts ⟨223, ⟨fg, bg, fl, p⟩⟩ = (fg, bg) ∧ halfBlockOf fonts ⟨220, ⟨fg, bg, fl, p⟩⟩ = (bg, fg) := by
  have hs := halfblock_cp437_shapes
  obtain ⟨f, hfont, hs⟩ := Option.map_eq_some_iff.mp hs
  simp only [Prod.mk.injEq, List.map_cons, List.map_nil, List.cons.injEq, and_true] at hs
  obtain ⟨hthr, h32, h219, h220, h223, _⟩ := hs
  obtain ⟨d32, g32, e32⟩ := Option.map_eq_some_iff.mp h32
  obtain ⟨d219, g219, e219⟩ := Option.map_eq_some_iff.mp h219
  obtain ⟨d220, g220, e220⟩ := Option.map_eq_some_iff.mp h220
  obtain ⟨d223, g223, e223⟩ := Option.map_eq_some_iff.mp h223
  unfold halfBlockOf
  simp only [hf, hfont, g32, g219, g220, g223, hthr, e32, e219, e220, e223]
  refine ⟨?_, ?_, ?_, ?_⟩ <;> simp

/-- non-vacuity: a transparent-background upper half block over a lower half block keeps both colours (real bitmaps) -/
example : makeSolidF (fontTable [(0, 0)]) ⟨223, ⟨3, IcyVerif.Gen.Comp.transparentColor, 0, 0⟩⟩ ⟨220, ⟨5, 6, 0, 0⟩⟩
    = ⟨223, ⟨3, 5, 0, 0⟩⟩ := by
  unfold makeSolidF makeSolid
  rw [(halfblock_cp437_blocks (fontTable [(0, 0)]) 0 rfl 5 6 0).2.2.2]
  decide
example : fontTable [(0, 0)] 0 = ansiFont 0 := rfl

/-! ## why the hypotheses are there (facts about the code, by evaluation) -/
section witnesses
def hb0 : Cell → Nat × Nat := fun c => (c.attr.bg, c.attr.bg)
def cA : Cell := ⟨65, ⟨7, 0, 0, 0⟩⟩
def cB : Cell := ⟨66, ⟨2, 1, 0, 0⟩⟩
def base : Layer := ⟨true, false, .normal, 0, 0, 1, 1, 0, [[⟨68, ⟨3, 5, 0, 0⟩⟩]]⟩
def opaqueChars : Layer := ⟨true, false, .chars, 0, 0, 1, 1, 0, [[cB]]⟩

/-- an "opaque" Chars layer does not cut: `opaque_cuts` needs `mode = normal` -/
example : getChar hb0 false ([base] ++ opaqueChars :: []) 0 0 ≠ getChar hb0 false ([] ++ opaqueChars :: []) 0 0 := by
  decide +kernel

/-- with structural equality `insert_empty_alpha` is false: the font page of the fall-through cell changes -/
example : getChar hb0 false ([] ++ (⟨true, true, .normal, 0, 0, 1, 1, 3, []⟩ : Layer) :: []) 0 0
    ≠ getChar hb0 false ([] ++ []) 0 0 := by decide +kernel
end witnesses

/-! ## non-vacuity: a 3-layer stack with a Chars layer and a transparent-colour half block -/
-- The displayed cells below are computed by running the model, so that the concrete values can be read off; the hypotheses
-- of the theorems are evaluated on the same stack.
section nonvacuity
open IcyVerif.Gen.Comp
/-- lower half block, background = TRANSPARENT_COLOR -/
def halfT : Cell := ⟨220, ⟨4, transparentColor, 0, 0⟩⟩
def bottom : Layer := ⟨true, false, .normal, 0, 0, 3, 2, 0, [[cA, cB, cA], [cB]]⟩
def mid : Layer := ⟨true, true, .chars, 1, 0, 2, 2, 1, [[⟨67, ⟨0, 0, 0, 0⟩⟩]]⟩
def top : Layer := ⟨true, true, .normal, -1, 0, 3, 1, 2, [[invisibleCell, halfT, halfT]]⟩
def hidden1 : Layer := ⟨false, false, .normal, 0, 0, 3, 2, 0, [[cB, cB, cB]]⟩
def emptyAlpha : Layer := ⟨true, true, .normal, 0, 0, 3, 2, 3, []⟩
def hbT : Cell → Nat × Nat := fun c => (c.attr.bg, c.attr.fg)

-- the half block over 'A' resolves its transparent background through the classifier
example : getChar hbT false [bottom, mid, top] 0 0 = ⟨220, ⟨4, 0, 0, 0⟩⟩ := by decide +kernel
-- the Chars layer replaces the character of the cell below ('B' → 'C'), the half block resolves over it
example : getChar hbT false [bottom, mid, top] 1 0 = ⟨220, ⟨4, 1, 0, 0⟩⟩ := by decide +kernel
example : getChar hbT false [bottom, mid] 1 0 = ⟨67, ⟨2, 1, 0, 0⟩⟩ := by decide +kernel
-- outside every layer: invisible on a non-terminal buffer, default cell on a terminal buffer
example : getChar hbT false [bottom, mid, top] 5 5 = invisibleCell := by decide +kernel
example : getChar hbT true [bottom, mid, top] 5 5 = defaultCell := by decide +kernel
-- the hypotheses of the theorems are satisfiable on this stack
example : EmptyLayer emptyAlpha := by
  intro x y
  unfold Layer.getChar emptyAlpha
  split
  · decide
  · simp only [List.getElem?_nil]; decide
example : top.visible = true ∧ top.covers (-1) 0 = true ∧ top.silentAt (-1) 0 = true := by decide +kernel
example : bottom.visible = true ∧ bottom.mode = .normal ∧ bottom.alpha = false ∧ bottom.covers 2 1 = true := by decide +kernel
example : hidden1.visible = false := rfl
example : getChar hbT false ([bottom] ++ emptyAlpha :: [mid, top]) 1 0 = getChar hbT false [bottom, mid, top] 1 0 := by
  decide +kernel
example : getChar hbT false ([bottom, mid, top].map (Layer.shift 3 (-2))) (1 + 3) (0 + -2) = ⟨220, ⟨4, 1, 0, 0⟩⟩ := by
  decide +kernel

/-! ### topmost first -/
-- no merging layer above: the half block of `top` decides at (0,0); its transparent background is filled from below
example : (∀ a ∈ ([] : List Layer), a.passes 0 0 = true) ∧ top.visible = true ∧ top.covers 0 0 = true ∧ top.mode = .normal
    ∧ (top.cellAt 0 0).isVisible = true ∧ top.cellAt 0 0 = halfT := by decide +kernel
example : halfT.fills (getChar hbT false ([bottom, mid] ++ top :: []) 0 0) := by
  have h := topmost_first_plain hbT false [bottom, mid] [] top 0 0 nofun nofun rfl (by decide) rfl (by decide +kernel)
  rwa [show top.cellAt 0 0 = halfT by decide +kernel] at h
-- a Chars layer above the deciding cell: `mid` passes at (1,0) and imposes 'C' on the 'B' of `bottom`
example : (∀ a ∈ [mid], a.passes 1 0 = true) ∧ charFrom 1 0 [mid] = some 67 ∧ attrFrom 1 0 [mid] = none
    ∧ bottom.visible = true ∧ bottom.covers 1 0 = true ∧ bottom.mode = .normal ∧ (bottom.cellAt 1 0).isVisible = true := by
  decide +kernel
example : getChar hbT false ([] ++ bottom :: [mid]) 1 0 = merge (bottom.cellAt 1 0) (some 67) none := by decide +kernel
/-- the stack on which the code was repaired (known_findings.txt): opaque Normal layer without a cell, an Attributes cell,
    a transparent-colour upper half block on top.  The half block is displayed (before the repair: `' '/4/6`). -/
def opaqueBlank : Layer := ⟨true, false, .normal, 0, 0, 1, 1, 0, []⟩
def attrL : Layer := ⟨true, true, .attributes, 0, 0, 1, 1, 0, [[⟨219, ⟨4, 6, 0, 0⟩⟩]]⟩
def halfTop : Layer := ⟨true, true, .normal, 0, 0, 1, 1, 0, [[⟨223, ⟨3, transparentColor, 0, 0⟩⟩]]⟩
example : getChar hb0 false ([opaqueBlank, attrL] ++ halfTop :: []) 0 0 = ⟨223, ⟨3, 6, 0, 0⟩⟩ := by decide +kernel
example : (⟨223, ⟨3, transparentColor, 0, 0⟩⟩ : Cell).fills (getChar hbT false ([opaqueBlank, attrL] ++ halfTop :: []) 0 0) := by
  decide +kernel
-- `topmost_opaque_blank` and `nothing_visible`: hypotheses satisfiable with a modifier present
example : (∀ a ∈ [attrL], a.passes 0 0 = true) ∧ attrFrom 0 0 [attrL] = some ⟨4, 6, 0, 0⟩ ∧ opaqueBlank.alpha = false
    ∧ (opaqueBlank.cellAt 0 0).isVisible = false := by decide +kernel
example : getChar hbT false ([] ++ opaqueBlank :: [attrL]) 0 0 = ⟨32, ⟨4, 6, 0, 0⟩⟩ := by decide +kernel
example : (∀ a ∈ [attrL, emptyAlpha], a.passes 0 0 = true) ∧ getChar hbT false [attrL, emptyAlpha] 0 0 = ⟨32, ⟨4, 6, 0, 0⟩⟩ := by
  decide +kernel

/-! ### the offset state machine -/
/-- a layer dragged to (5,3), locked, `set_offset` ignored, unlocked again: a preview is still pending -/
def dragged : LayerS := (LayerS.fresh top).run [.setPreview (some (5, 3)), .setLocked true, .setOffset (9, 9), .setLocked false]
example : dragged.posLocked = false ∧ dragged.getPreviewOffset = some (5, 3) ∧ dragged.getOffset = (5, 3)
    ∧ dragged.getBaseOffset = (-1, 0) := by decide +kernel
-- dropping it where it started: `set_offset` shows it at the base offset and cancels the pending preview
example : (dragged.setOffset (-1, 0)).getOffset = (-1, 0) ∧ (dragged.setOffset (-1, 0)).getPreviewOffset = none := by decide +kernel
example : getCharS hbT false ([LayerS.fresh bottom, LayerS.fresh mid] ++ dragged.setOffset (-1, 0) :: []) 0 0
    = getChar hbT false [bottom, mid, top] 0 0 := by decide +kernel
example : getCharS hbT false [LayerS.fresh bottom, LayerS.fresh mid, dragged] 6 3
    = getChar hbT false [bottom, mid, top.placedAt (5, 3)] 6 3 := by decide +kernel
-- a stack history: operations on layer 2 leave layer 0 alone
example : opsFor 0 [(2, LOp.setOffset (1, 1)), (0, .setPreview (some (2, 2))), (2, .setLocked true)] = [.setPreview (some (2, 2))] := by
  decide +kernel
end nonvacuity

end IcyVerif.C13
