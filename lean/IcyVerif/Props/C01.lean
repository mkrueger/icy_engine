import IcyVerif.Lemmas.TermWrap
import IcyVerif.Lemmas.TermOther
import IcyVerif.Lemmas.TermSize
/-! # C01 — no byte stream can crash a terminal emulation
Theorems for all ten text-mode emulations on a terminal buffer with scrollback, after the repairs recorded in
`known_findings.txt`: the ANSI parser (CSI/ESC tables, DCS incl. macro definition/invocation and hex macros, OSC/APS
framing, the complete ANSI music machine of `sound.rs`), its four wrappers, and the five byte-oriented emulations.
The model represents every Rust panic it knows about as a `Panic` value: `clampMinMax` (`clamp` with min > max),
`negIndex` (a negative cursor coordinate or margin used as an index: insert-mode print, ECH, IL, DL and the
PETSCII / ATASCII line operations), and `overflow`, which the model raises *conservatively* whenever a plain `+`/`-`
on the cursor or the buffer height could leave `i32`, and for the one plain multiplication of `sound.rs`.  Every
"no panic" theorem of C01 excludes every panic but this one: the three named `_partial` here, `errors_recoverable`, and
`rows_total`, `rows_total_from`, `rows_total_wrapped`, `rows_total_bytes` in `Props/C01Rows` (their conclusions spell the
exception out).

Outside the model (oracle run of `harness/src/c01.rs` only): what OSC execution, custom font loading and the sixel
decoder do; cell contents. -/
namespace IcyVerif.C01
open IcyVerif.Term

/-- no stream makes the model panic, except by exhausting `i32` row numbers -/
theorem no_panic_partial (w h : Int) (hw1 : 1 ≤ w) (hw2 : w ≤ 132) (hh1 : 1 ≤ h) (hh2 : h ≤ 60)
    (cfg : Cfg) (o : Nat → Orc) (bytes : List Char) (e : Panic)
    (hrun : run cfg o (initSt w h) bytes = .error e) : ∃ site, e = Panic.overflow site :=
  (okOrOv_iff.1 (run_good cfg o bytes (initSt w h) (initSt_good w h hw1 hw2 hh1 hh2))).err hrun

/-- the same for Avatar, PCBoard, Ctrl-A and Renegade -/
theorem no_panic_wrapped_partial (em : Emu) (w h : Int) (hw1 : 1 ≤ w) (hw2 : w ≤ 132) (hh1 : 1 ≤ h) (hh2 : h ≤ 60)
    (o : Nat → Orc) (bytes : List Char) (e : Panic)
    (hrun : wrun em o (initW w h) bytes = .error e) : ∃ site, e = Panic.overflow site :=
  (wrun_good em o bytes (initW w h) (initSt_good w h hw1 hw2 hh1 hh2)).err hrun

/-- the same for ASCII, ATASCII, PETSCII, Viewdata and Mode 7 -/
theorem no_panic_bytes_partial (em : Emu2) (w h : Int) (hw1 : 1 ≤ w) (hw2 : w ≤ 132) (hh1 : 1 ≤ h) (hh2 : h ≤ 60)
    (bytes : List Char) (e : Panic) (hrun : orun em (initO w h) bytes = .error e) : ∃ site, e = Panic.overflow site :=
  have hi := initO_good w h hw1 hw2 hh1 hh2
  (orun_good em bytes (initO w h) hi.1 (fun _ => hi.2)).err hrun

/-- PETSCII: `handle_reverse_mode` adds 0x80 to a `u8`; the stored byte is at most 0x7F, so it cannot overflow -/
theorem petscii_reverse_no_overflow : ∀ b, b < 256 → ∀ t, petsciiTch b = some t → t + 128 ≤ 255 := by decide +kernel

/-- the `overflow` guard that these theorems except only fires once the scrollback has grown beyond 2^30 rows (tens of gigabytes of cells);
    1073741000 is a round number below 2^30 = 1073741824 (`rangeOk_bh` has the exact bound) -/
theorem overflow_guard_needs_2_30_rows (st : St) (hg : GoodSt st) (hb : st.s.bh ≤ 1073741000) :
    RangeOk st.s st.c := rangeOk_of_small st.s st.c hg.scr hg.cur hb

/-- after any character — also one that reported an error — the emulation is in a state from which every further
    character is again processed without panic other than the `overflow` guard ("keeps accepting further characters"); one
    further character is stated, the invariant carries it to all -/
theorem errors_recoverable (cfg : Cfg) (o : Nat → Orc) (st st' : St) (ch : Char) (out : Out)
    (hg : GoodSt st) (hstep : step cfg o st ch = .ok (st', out)) (ch2 : Char) :
    match step cfg o st' ch2 with
    | .ok (st'', _) => GoodSt st''
    | .error e => ∃ site, e = Panic.overflow site := by
  have h := step_good cfg o st ch hg
  rw [hstep] at h
  have h2 := step_good cfg o st' ch2 h
  generalize step cfg o st' ch2 = x at h2 ⊢
  cases x <;> exact h2

/-- every reachable state satisfies the invariant (sizes and margins sane, cursor non-negative) -/
theorem reachable_good (w h : Int) (hw1 : 1 ≤ w) (hw2 : w ≤ 132) (hh1 : 1 ≤ h) (hh2 : h ≤ 60)
    (cfg : Cfg) (o : Nat → Orc) (bytes : List Char) (st : St)
    (hrun : run cfg o (initSt w h) bytes = .ok st) : GoodSt st :=
  run_reach w h hw1 hw2 hh1 hh2 cfg o bytes st hrun

/-- ANSI music (`sound.rs`): in every reachable state the music fields are in range — tempo 32..=255, octave 0..=6,
    default length 1..=64 — whatever digits the stream supplied -/
theorem music_fields_in_range (w h : Int) (cfg : Cfg) (o : Nat → Orc) (bytes : List Char) (st : St)
    (hrun : run cfg o (initSt w h) bytes = .ok st) :
    32 ≤ st.p.mus.tempo ∧ st.p.mus.tempo ≤ 255 ∧ st.p.mus.oct ≤ 6 ∧ 1 ≤ st.p.mus.mlen ∧ st.p.mus.mlen ≤ 64 := by
  have hm := (run_keeps cfg o bytes (initSt w h) st hrun).mus musOk_init
  exact ⟨hm.t1, hm.t2, hm.o, hm.l1, hm.l2⟩

/-- …hence the only plain `i32` multiplication of `sound.rs` (`cur_tempo * pause`) cannot overflow: the music part
    of the step guard never fires, for any next character (what remains of the guard is `RangeOk`, see
    `overflow_guard_needs_2_30_rows`) -/
theorem music_arith_safe (w h : Int) (cfg : Cfg) (o : Nat → Orc) (bytes : List Char) (st : St)
    (hrun : run cfg o (initSt w h) bytes = .ok st) (ch : Char) : MusicSafe st.p.st st.p.mus ch :=
  musicSafe_of_ok _ _ _ ((run_keeps cfg o bytes (initSt w h) st hrun).mus musOk_init)

/-- the note that is played is always an entry of the 84-entry frequency table (`FREQ[min(n + 12·octave, 83)]`) -/
theorem note_index_in_table (n oct : Nat) : freqIdx n oct < 84 := freqIdx_lt n oct

/-- non-vacuity: a tune in the "conflicting" music mode — style, tempo, octave 6, B sharpened twice (index pinned
    to 83), a dotted quarter pause (emitted three times: `Pause` is not left on an ignored character), default length 8 -/
example : (match run { musicOpt := 1, bsCtrl := true } (fun _ => { lineLen := 0, extOk := true }) (initSt 80 25)
      "\x1b[MFT200O6B++L8P4.  C\x0eA".toList with
    | .ok st => (st.p.mus.last, st.p.mus.tunes, st.p.mus.oct, st.c.x) | .error _ => ([], 0, 0, -1)) =
    ([.style 0, .note 83 800 false, .pause 1200, .pause 1200, .pause 1200, .note 72 1600 false], 1, 3, 1) := by decide +kernel

/-- a macro that invokes itself: `step` is a total function whose macro nesting is the structural recursion depth
    `MAX_MACRO_DEPTH`, so the replay is cut off (the pinned tree recursed until abort) -/
def selfMacro : List Char := "\x1bP1;0;1!z581B5B312A7A\x1b\\\x1b[1*z".toList   -- hex macro 1 = "X ESC[1*z", then invoke it
example : (match run { musicOpt := 0, bsCtrl := true } (fun _ => { lineLen := 0, extOk := true }) (initSt 80 25) selfMacro with
    | .ok st => (st.c.x, st.c.y) | .error _ => (-1, -1)) = (8, 0) := by decide +kernel

/-- the panics of the pinned tree that the model could exhibit are gone: e.g. `CSI 0;0 r` then `CSI L` -/
example : (match run { musicOpt := 0, bsCtrl := true } (fun _ => { lineLen := 0, extOk := true }) (initSt 80 25)
      "\x1b[0;0r\x1b[L\x1b[2147483647B\x1b[99999999999;5H".toList with
    | .ok st => (st.c.x, st.c.y, st.s.mtb) | .error _ => (-1, -1, none)) = (4, 24, none) := by decide +kernel

end IcyVerif.C01
