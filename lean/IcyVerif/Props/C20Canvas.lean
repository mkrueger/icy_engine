import IcyVerif.Props.C20
import IcyVerif.Lemmas.RipExecTotal
/-!
# C20, RIP canvas part — flood fill, the exposed picture, and the commands that draw with modelled primitives

Property sentences addressed here: "every command finishes in time bounded by the canvas size rather than by its
coordinate values" (flood fill: termination and step bound for EVERY seed, border colour and viewport a stream can set),
"it never panics" (flood fill: every index into the screen and into the span lists is in range, no i32 overflow), and
"the pixel canvas the emulation exposes is always a complete width x height image" (`get_picture_data`: four bytes per
screen cell for EVERY palette, and the screen stays 640 x 350 along every stream of modelled commands).

The model is of the REPAIRED flood fill (three `fix:` commits: seed / rows clipped to viewport ∩ window with exclusive
right and bottom edge, one span list per screen row, `find_line` bounded by the window width).
-/
namespace IcyVerif.C20
open IcyVerif

/-- `get_picture_data` pushes exactly four bytes per screen cell — for every canvas content and EVERY palette (shorter
than the colour numbers on the screen, empty, longer than 256): a colour number without palette entry is black. -/
theorem picture_complete (s : Bgi.Bgi) : (Bgi.pictureData s).length = s.screen.size * 4 := by
  unfold Bgi.pictureData
  simp [List.length_flatMap, Bgi.pixelBytes_length, List.map_const']

/-- on a complete canvas that is width x height x 4 = 640 x 350 x 4 bytes -/
theorem picture_complete_rip (s : Bgi.Bgi) (hc : Complete s) : (Bgi.pictureData s).length = 640 * 350 * 4 := by
  rw [picture_complete, hc.2.2]

/-- non-vacuity: a canvas with colour 9 on it and an EMPTY palette still yields a complete picture -/
example : (Bgi.pixelBytes [] 9) = [0, 0, 0, 255] := by decide
example : Complete Bgi.Bgi.new := complete_new

/-- `flood_fill` on a complete canvas, for EVERY seed (all of ℤ × ℤ), every border colour, every fill colour / style and
every viewport a RIP stream can set (`StreamState`): the command returns — it neither panics (no screen or span-list
index out of range, no i32 overflow) nor stalls (both loops end within their fuel) — the collecting phase takes at most
`ffBound` steps (loop iterations + pixels read by `find_line`; a function of the canvas size 640 x 350 only), the
drawing pass issues at most one `bar` per collected span, at most 224001 of them (each bounded by `bar_rect_cost`),
and the canvas is complete afterwards. -/
theorem flood_fill_terminates (s : Bgi.Bgi) (hs : Bgi.StreamState s) (hc : Complete s) (x y : Int) (border : Nat) :
    ∃ s' n k, Bgi.floodFill s x y border = .ok (s', n, k) ∧ Complete s' ∧ Bgi.StreamState s' ∧
      n ≤ Bgi.ffBound ∧ k ≤ 224001 := by
  obtain ⟨s', n, k, h, hd, hn, hk⟩ := Bgi.floodFill_spec s (.of_canvas hs hc) x y border
  exact ⟨s', n, k, h, hd.canvas, hd.1, hn, hk⟩

/-- the step bound spelled out: 1280 + (3·640·350 + 2)·(1 + 640·(1 + 1280)) -/
theorem flood_fill_bound_value : Bgi.ffBound = 1280 + (3 * (640 * 350) + 2) * (1 + 640 * (1 + 1280)) := by decide

/-- `find_line` at any pixel of the screen: no index out of range, at most 1280 pixels read, the span lies in its row
and inside the scanned range (used by `flood_fill_terminates`; stated separately because the real scan loop relies on
`li.x2 >= cx` to make progress). -/
theorem find_line_in_range (s : Bgi.Bgi) (hc : Bgi.FillCtx s) (x y : Int) (b : Nat)
    (hx : 0 ≤ x ∧ x ≤ 639) (hy : 0 ≤ y ∧ y < 350) :
    ∃ r c, Bgi.findLine s x y b = some (r, c) ∧ c ≤ 1280 ∧
      ∀ li, r = some li → li.y = y ∧ 0 ≤ li.x1 ∧ li.x1 ≤ x ∧ li.x2 ≤ 639 := by
  obtain ⟨r, c, h, hcl, hli⟩ := Bgi.findLine_spec hc x y b hx.1 hx.2 hy.1 hy.2
  refine ⟨r, c, h, hcl, fun li hr => ?_⟩
  obtain ⟨a1, a2, a3, a4, a5, _⟩ := hli li hr
  exact ⟨a1, a2, a3, by omega⟩

/-- whatever the state (also outside `StreamState`): if `flood_fill` returns at all, the canvas keeps its size -/
theorem flood_fill_keeps_canvas (s s' : Bgi.Bgi) (x y : Int) (b n k : Nat) (hc : Complete s)
    (h : Bgi.floodFill s x y b = .ok (s', n, k)) : Complete s' :=
  Bgi.Canvas.of_geom hc (Bgi.floodFill_framed h).geom

/-- non-vacuity: the fresh state satisfies the hypotheses -/
example : ∃ s' n k, Bgi.floodFill Bgi.Bgi.new 320 175 15 = .ok (s', n, k) ∧ Complete s' := by
  obtain ⟨s', n, k, h, hc, _⟩ := flood_fill_terminates Bgi.Bgi.new
    Bgi.streamState_new complete_new 320 175 15
  exact ⟨s', n, k, h, hc⟩

/-- a whole stream through lexer + canvas; `none` = a panic, a stall or a command outside the modelled set -/
def ripCanvasRun (T : Rip.Table) : RipCanvas.St → List (Nat × Rip.Fb) → Option RipCanvas.St
  | s, [] => some s
  | s, (ch, fb) :: rest =>
    match RipCanvas.step T s ch fb with
    | .ok s' _ => ripCanvasRun T s' rest
    | _ => none

/-- Along EVERY character stream (any mixture of the modelled commands — viewport, colours, palettes of any length,
write mode, styles, pixel, line, rectangle, bar, polygon, poly-line, flood fill, erase view — with any parameters,
truncated or over-long lists, text, with any behaviour of the ANSI fallback), as long as the model run continues, the
canvas stays 640 x 350 and the picture `get_picture_data` exposes is complete: 640·350·4 bytes. -/
theorem rip_stream_picture_complete (cs : List (Nat × Rip.Fb)) : ∀ (s s' : RipCanvas.St), Bgi.Canvas s.bgi →
    ripCanvasRun Rip.genTable s cs = some s' → (Bgi.pictureData s'.bgi).length = 640 * 350 * 4 := by
  induction cs with
  | nil =>
    intro s s' hc h
    simp [ripCanvasRun] at h
    subst h
    rw [picture_complete, hc.2.2]
  | cons c rest ih =>
    intro s s' hc h
    obtain ⟨ch, fb⟩ := c
    unfold ripCanvasRun at h
    split at h
    · rename_i s1 o hs
      exact ih s1 s' (RipCanvas.step_canvas _ _ _ _ _ _ hc hs) h
    · cases h

/-- non-vacuity: the start state has a complete canvas, and "!|Q0102|c07|" (a two-entry palette, then a colour beyond
it) runs through the model -/
example : Bgi.Canvas RipCanvas.St.init.bgi := complete_new
example : ((ripCanvasRun Rip.genTable RipCanvas.St.init
    ("!|Q0102|c07|".toList.map fun c => (c.toNat, Rip.Fb.dflt))).map fun s => (s.bgi.pal.length, s.bgi.color, s.lex.counter)) = some (2, 7, 2) := by
  decide +kernel

/-- `Bgi::line` of the model for ALL end points in ℤ^4, in a state whose viewport a stream can set: it returns; every
`put_pixel` it issues is in range.  (The model of `line` computes in unbounded `Int`: it agrees with the i32 code only for
|coordinates| <= 4000, see Model/BgiLine.lean; overflow of `line`'s own arithmetic is outside this statement.) -/
theorem bgi_line_total (s : Bgi.Bgi) (hd : Bgi.DrawState s) (x1 y1 x2 y2 : Int) :
    ∃ s', Bgi.line s x1 y1 x2 y2 = some s' ∧ Bgi.DrawState s' :=
  (Bgi.line_draws s x1 y1 x2 y2).draw hd hd.putOk

/-- EVERY modelled RIP command (viewport, erase view, colours, palette and single palette entry, write mode, move,
pixel, line, rectangle, bar, polygon, poly-line, flood fill, line style, fill style, fill pattern — kinds 1..=17 of the
regenerated `Gen.RipRun.runKind`), in every state a stream can reach, with parameters as the lexer delivers them
(`ParamsOk`: non-negative base-36 numbers, two digits per field, four for the user line pattern; ANY number of polygon
points / palette entries, also truncated lists): `Command::run` answers `Ok` or `Err` — it does not panic and does not
stall — and leaves a state of the same kind.  (That the parameters the lexer hands over satisfy `ParamsOk` is not
proved; no theorem joins this statement with `rip_lex_total`.) -/
theorem rip_command_total (b : Bgi.Bgi) (hd : Bgi.DrawState b) (k : Nat) (hk : 1 ≤ k ∧ k ≤ 17) (c : Rip.CmdSt) (hp : RipCanvas.ParamsOk k c) :
    ∃ b', (RipCanvas.execCmd b k c).state? = some b' ∧ Bgi.DrawState b' := (RipCanvas.execCmd_post b k c).draw hd hk hp

/-- the kinds are exactly those of the regenerated table -/
theorem rip_run_kinds : (Gen.RipRun.runKind.map (·.2)) = [1, 2, 3, 4, 5, 6, 7, 8, 9, 10, 11, 12, 13, 14, 15, 16, 17] := by decide

/-- non-vacuity: the fresh state is a `DrawState` -/
example : Bgi.DrawState Bgi.Bgi.new := Bgi.drawState_new

end IcyVerif.C20
