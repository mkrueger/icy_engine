import IcyVerif.Lemmas.XbCompressImage
/-!
# C06 — XBin compression is transparent and conforms to the XBin specification

Property (properties.jsonl): for every buffer, the compressed and the uncompressed XBin encodings decode to
identical pictures, including the font page of every cell in 512-character mode; every compressed stream the
writer emits is valid for an independent decoder built from the XBin specification: each run covers 1 to 64
cells, runs never cross a row boundary, every row decodes to exactly the image width, and nothing but the
optional SAUCE record follows the last row.

Model: `Model/XbCompress.lean` (`compress_backtrack` incl. `count_length`, `encode_attr`, the spec decoder
`parseRun/parseRow/parseImage/expand`).  The model follows the repaired tree (a Full run ends when the font page changes);
on the pinned tree the property is false (`pinned_tree_violates` below is the witness).

All statements are at full strength (every attribute encoding, every row of every width, every image, any
trailing bytes): no `_partial` theorem.
-/
namespace IcyVerif.C06
open IcyVerif.XbCompress IcyVerif.Gen

/-! ## the generic lemma and its instance -/

/-- (The decoding form of `XbCompress.run_builder_sound`.)
    For ANY end-of-run decision function that fires whenever the forced conditions hold, the emitted stream decodes
    (with the specification decoder) to the row, every run has 1..=64 cells, and the stream ends at the row end:
    the decoder consumes exactly the emitted bytes and leaves any following bytes `tl` untouched. -/
theorem run_builder_sound (enc : Attr → Nat) (dec : Decision) (hd : Forced enc dec) (row : List Cell)
    (tl : List Nat) :
    ∃ runs : List Run,
      parseRow row.length row.length (compressRowWith enc dec row ++ tl) = some (runs, tl) ∧
      expand runs = row.map (encCell enc) ∧ (∀ r ∈ runs, 1 ≤ r.len ∧ r.len ≤ 64) := by
  obtain ⟨runs, hser, hok, hcells⟩ := XbCompress.run_builder_sound enc dec hd row
  have hlen : (expand runs).length = row.length := by rw [hcells]; simp
  have := parseRow_sers runs hok tl row.length (by omega)
  rw [hlen] at this
  exact ⟨runs, by rw [hser]; exact this, hcells, fun r hr => ⟨r.len_pos, r.ok_len (hok r hr)⟩⟩

/-- `compress_backtrack`'s own heuristic (look-ahead included) is such a decision function. -/
theorem real_heuristic_forced (enc : Attr → Nat) : Forced enc realEndRun := realEndRun_forced enc

/-- non-vacuity of `Forced`: a second, very different decision function (close every run at once) -/
example (enc : Attr → Nat) : Forced enc (fun _ _ _ _ _ => true) := by
  intro _ _ _ _ _ _ _ _; rfl

/-- **Transparency, one row.**  For every attribute encoding and every row of every width, the bytes the writer
    emits for the row decode to exactly the row's (character, attribute byte) pairs; every run covers 1..=64
    cells; no run crosses the row end; decoding stops exactly where the row's bytes stop. -/
theorem compress_transparent (enc : Attr → Nat) (row : List Cell) (tl : List Nat) :
    ∃ runs : List Run,
      parseRow row.length row.length (compressRow enc row ++ tl) = some (runs, tl) ∧
      expand runs = row.map (encCell enc) ∧ (∀ r ∈ runs, 1 ≤ r.len ∧ r.len ≤ 64) :=
  run_builder_sound enc realEndRun (realEndRun_forced enc) row tl

/-! ## whole images -/

/-- **Conformance, whole image.**  For every image (rows of one width `w`), the compressed image data parses, row by
    row, with the specification decoder: every row decodes to exactly `w` cells which are the row's cells, every
    run covers 1..=64 cells, and the image data ends exactly with the last row — whatever follows (`tl`: nothing,
    or the SAUCE record) is not touched. -/
theorem compress_image_conforms (enc : Attr → Nat) (w : Nat) (rows : List (List Cell))
    (hw : ∀ row ∈ rows, row.length = w) (tl : List Nat) :
    ∃ rr : List (List Run),
      parseImage w rows.length (rows.flatMap (compressRow enc) ++ tl) = some (rr, tl) ∧
      rr.map expand = rows.map (fun row => row.map (encCell enc)) ∧
      (∀ rs ∈ rr, (expand rs).length = w) ∧
      (∀ rs ∈ rr, ∀ r ∈ rs, 1 ≤ r.len ∧ r.len ≤ 64) := by
  obtain ⟨rr, h1, h2, h3⟩ := rows_as_runs enc rows
  have hlen : rr.length = rows.length := by
    have := congrArg List.length h3; simpa using this
  have hwid : ∀ rs ∈ rr, (expand rs).length = w := by
    intro rs hrs
    have : expand rs ∈ rows.map (fun row => row.map (encCell enc)) := by
      rw [← h3]; exact List.mem_map.mpr ⟨rs, hrs, rfl⟩
    obtain ⟨row, hrow, he⟩ := List.mem_map.mp this
    rw [← he]; simp [hw row hrow]
  refine ⟨rr, ?_, h3, hwid, fun rs hrs r hr => ⟨r.len_pos, r.ok_len (h2 rs hrs r hr)⟩⟩
  rw [h1, ← hlen]
  exact parseImage_rows w rr h2 hwid tl

/-- the uncompressed image data is the plain sequence of the cells' pairs -/
theorem raw_image_decodes (enc : Attr → Nat) (rows : List (List Cell)) (tl : List Nat) :
    parseRaw rows.flatten.length (rows.flatMap (rawRow enc) ++ tl) = some (rows.flatten.map (encCell enc), tl) := by
  rw [raw_flat]
  exact takePairs_raw enc rows.flatten tl

/-- **Compressed = uncompressed.**  Whenever `XBin::to_bytes` succeeds (ice mode, fonts and cells arbitrary), the
    compressed image data — read by the specification decoder — and the uncompressed image data denote the same
    sequence of (character, attribute byte) pairs, and both are followed by the same tail.  Any loader that maps
    pairs to cells position by position (as `decode_char` does) therefore produces identical pictures. -/
theorem compressed_eq_uncompressed (im : IceMode) (w : Nat) (rows : List (List Cell))
    (hw : ∀ row ∈ rows, row.length = w) (c u tl : List Nat)
    (hc : imageData im true rows = some c) (hu : imageData im false rows = some u) :
    ∃ rr : List (List Run),
      parseImage w rows.length (c ++ tl) = some (rr, tl) ∧
      parseRaw rows.flatten.length (u ++ tl) = some (rr.flatMap expand, tl) ∧
      (∀ rs ∈ rr, (expand rs).length = w) ∧ (∀ rs ∈ rr, ∀ r ∈ rs, 1 ≤ r.len ∧ r.len ≤ 64) := by
  rw [imageData_some hc, imageData_some hu]
  obtain ⟨rr, p1, p2, p3, p4⟩ := compress_image_conforms (encodeAttr im (analyzeFontUsage rows.flatten)) w rows hw tl
  refine ⟨rr, p1, ?_, p3, p4⟩
  rw [flatMap_expand p2, ← List.map_flatten]
  exact raw_image_decodes (encodeAttr im (analyzeFontUsage rows.flatten)) rows tl

/-- both save paths refuse the same buffers (a character above 255, more than two fonts) -/
theorem refusal_agrees (im : IceMode) (rows : List (List Cell)) :
    imageData im true rows = none ↔ imageData im false rows = none := by
  unfold imageData
  by_cases hf : (analyzeFontUsage rows.flatten).length > 2
  · simp [hf]
  · by_cases h8 : fits8 rows = true <;> simp [hf, h8]

/-! ## the font page in 512-character mode -/

/-- with two fonts `[p0, p1]` in use, bit 3 of the stored attribute byte is exactly "the cell uses `p1`" -/
theorem font_page_in_attribute_byte (im : IceMode) (p0 p1 : Nat) (a : Attr) :
    (encodeAttr im [p0, p1] a).testBit 3 = decide (a.page = p1) := by
  have h247 : Nat.testBit 247 3 = false := by decide
  have h8 : Nat.testBit 8 3 = true := by decide
  have hkeep : Xb.encKeepMask = 247 := by decide
  have hbit : Xb.encPageBit = 8 := by decide
  unfold encodeAttr
  simp only [List.length_cons, List.length_nil, if_true, List.getD_cons_succ, List.getD_cons_zero, hkeep, hbit,
    Nat.testBit_or, Nat.testBit_and, h247, Bool.and_false, Bool.false_or]
  by_cases h : a.page = p1 <;> simp [h, h8]

/-- hence two cells on different font pages never share their stored attribute byte (the pinned tree merged
    them into one run) -/
theorem distinct_pages_distinct_bytes (im : IceMode) (p0 p1 : Nat) (a b : Attr)
    (ha : a.page ≠ p1) (hb : b.page = p1) : encodeAttr im [p0, p1] a ≠ encodeAttr im [p0, p1] b := by
  intro h
  have h1 := font_page_in_attribute_byte im p0 p1 a
  have h2 := font_page_in_attribute_byte im p0 p1 b
  rw [h] at h1
  rw [h1] at h2
  simp [ha, hb] at h2

/-- **Font pages survive compression.**  In 512-character mode (`analyze_font_usage = [p0, p1]`) the pair decoded
    from the compressed data for cell number `i` carries the cell's font page in attribute bit 3. -/
theorem font_page_preserved (im : IceMode) (w : Nat) (rows : List (List Cell)) (hw : ∀ row ∈ rows, row.length = w)
    (p0 p1 : Nat) (hfonts : analyzeFontUsage rows.flatten = [p0, p1]) (c tl : List Nat)
    (hc : imageData im true rows = some c) :
    ∃ rr : List (List Run), parseImage w rows.length (c ++ tl) = some (rr, tl) ∧
      (rr.flatMap expand).length = rows.flatten.length ∧
      ∀ i (hi : i < rows.flatten.length) (hj : i < (rr.flatMap expand).length),
        ((rr.flatMap expand)[i]).1 = (rows.flatten[i]).ch ∧
        ((rr.flatMap expand)[i]).2.testBit 3 = decide ((rows.flatten[i]).attr.page = p1) := by
  rw [imageData_some hc, hfonts]
  obtain ⟨rr, p1', p2, p3, p4⟩ := compress_image_conforms (encodeAttr im [p0, p1]) w rows hw tl
  have hflat : rr.flatMap expand = rows.flatten.map (encCell (encodeAttr im [p0, p1])) := by
    rw [flatMap_expand p2, ← List.map_flatten]
  refine ⟨rr, p1', by rw [hflat, List.length_map], ?_⟩
  intro i hi hj
  simp only [hflat, List.getElem_map, encCell, true_and]
  exact font_page_in_attribute_byte im p0 p1 _

/-! ## through the crate's own loader -/

/-- **Identical pictures, real loader.**  Whenever the save succeeds, the model of `read_data_compressed` on the
    compressed image data does not fail and hands `decode_char` exactly the pair sequence that
    `read_data_uncompressed` hands it on the uncompressed image data — the cells of the buffer, row-major. -/
theorem loader_reads_same_pairs (im : IceMode) (rows : List (List Cell)) (c u : List Nat)
    (hc : imageData im true rows = some c) (hu : imageData im false rows = some u) :
    readCompressed c = some (readUncompressed u) ∧
    readUncompressed u = rows.flatten.map (encCell (encodeAttr im (analyzeFontUsage rows.flatten))) := by
  have hc' := loader_pairs hc
  have hu' := loader_pairs hu
  rw [if_pos rfl] at hc'
  rw [if_neg Bool.false_ne_true, Option.some.injEq] at hu'
  exact ⟨by rw [hc', hu'], hu'⟩

/-- … so both files load to the same cells, whatever the header's ice / 512-character flags are. -/
theorem loaded_pictures_identical (im : IceMode) (rows : List (List Cell)) (c u : List Nat)
    (hc : imageData im true rows = some c) (hu : imageData im false rows = some u) (ice ext : Bool) :
    (readCompressed c).map (fun ps => ps.map (decodeChar ice ext)) =
      some ((readUncompressed u).map (decodeChar ice ext)) := by
  rw [(loader_reads_same_pairs im rows c u hc hu).1]; rfl

/-- **What the loader makes of the font page in 512-character mode**: a cell saved from page `p1` (the larger
    of the two pages in use) is loaded on page 1, a cell saved from the other page on page 0 — distinct pages stay
    distinct; the slot NUMBERS are not kept (C05's business). -/
theorem loaded_font_page (im : IceMode) (p0 p1 : Nat) (cell : Cell) (ice : Bool) :
    (decodeChar ice true (encCell (encodeAttr im [p0, p1]) cell)).attr.page = if cell.attr.page = p1 then 1 else 0 := by
  unfold encCell
  rw [decodeChar_page _ (encodeAttr_lt im p0 p1 cell.attr) ice, font_page_in_attribute_byte]
  by_cases h : cell.attr.page = p1 <;> simp [h]

/-! ## non-vacuity: concrete buffers, and the pinned tree's defect -/

def cA0 : Cell := ⟨0x41, ⟨7, 0, 0, 0⟩⟩
def cA1 : Cell := ⟨0x41, ⟨7, 0, 0, 1⟩⟩
def cB0 : Cell := ⟨0x42, ⟨7, 0, 0, 0⟩⟩
def cAx : Cell := ⟨0x41, ⟨15, 1, 0, 0⟩⟩

/-- the witness row of `pinned_tree_violates` on the repaired tree: two runs, the second cell keeps page 1 (attribute 0x0F) -/
example : imageData .blink true [[cA0, cA1]] = some [0xC0, 0x41, 0x07, 0x00, 0x41, 0x0F] := by decide +kernel
example : imageData .blink false [[cA0, cA1]] = some [0x41, 0x07, 0x41, 0x0F] := by decide +kernel
example : parseImage 2 1 [0xC0, 0x41, 0x07, 0x00, 0x41, 0x0F] =
    some ([[⟨.full, (0x41, 0x07), []⟩, ⟨.off, (0x41, 0x0F), []⟩]], []) := by decide +kernel
/-- all four run types occur, and rows are compressed independently -/
example : imageData .blink true [[cA0, cA0, cA0, cB0, cAx], [cA0, cB0, cA0, cAx, cA0]] =
    some [0xC2, 0x41, 0x07, 0x01, 0x42, 0x07, 0x41, 0x1F,
          0x82, 0x07, 0x41, 0x42, 0x41, 0x41, 0x41, 0x1F, 0x07] := by decide +kernel
/-- a row of 130 equal cells: runs of 64, 64 and 2 -/
example : compressRow (encodeAttr .blink [0]) (List.replicate 130 cA0) =
    [0xFF, 0x41, 0x07, 0xFF, 0x41, 0x07, 0xC1, 0x41, 0x07] := by decide +kernel
/-- the hypotheses of `compressed_eq_uncompressed` / `font_page_preserved` are satisfiable -/
example : analyzeFontUsage [[cA0, cA1], [cA1, cB0]].flatten = [0, 1] := by decide +kernel
example : ∀ row ∈ [[cA0, cA1], [cA1, cB0]], row.length = 2 := by decide +kernel
example : (imageData .ice true [[cA0, cA1], [cA1, cB0]]).isSome = true := by decide +kernel
/-- refused saves -/
example : imageData .blink true [[cA0, ⟨0x263A, ⟨7, 0, 0, 0⟩⟩]] = none := by decide +kernel
example : imageData .blink true [[cA0, cA1, ⟨0x41, ⟨7, 0, 0, 2⟩⟩]] = none := by decide +kernel

/-- `end_run` as the pinned tree computes it for a Full run: `cur != run_ch` (Rust `PartialEq`, no font page) -/
def pinnedEndRun : Decision := fun mode runCh runCount row x =>
  match mode with
  | .full => if runCount ≥ Xb.runLimit then true else !((getChar row x).eqv runCh)
  | m => realEndRun m runCh runCount row x

/-- **The property is false on the pinned tree**: with the pinned decision function the row `A/page 0, A/page 1`
    becomes ONE Full run, which decodes to two cells of page 0 — not to the row. -/
theorem pinned_tree_violates :
    compressRowWith (encodeAttr .blink [0, 1]) pinnedEndRun [cA0, cA1] = [0xC1, 0x41, 0x07] ∧
    (parseRow 2 2 [0xC1, 0x41, 0x07]).map (fun p => expand p.1) = some [(0x41, 0x07), (0x41, 0x07)] ∧
    [cA0, cA1].map (encCell (encodeAttr .blink [0, 1])) = [(0x41, 0x07), (0x41, 0x0F)] ∧
    ¬ Forced (encodeAttr .blink [0, 1]) pinnedEndRun := by
  refine ⟨by decide, by decide, by decide, ?_⟩
  intro h
  have := h .full cA0 1 [cA0, cA1] 1 (by decide) (by decide) (Or.inr (Or.inr (Or.inr ⟨rfl, by decide⟩)))
  revert this
  decide

end IcyVerif.C06
