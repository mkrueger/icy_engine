import IcyVerif.Lemmas.TextLoad
import IcyVerif.Lemmas.SixelShadow
import IcyVerif.Props.C14
/-! # C02 — the text-format loaders (`ans ice diz pcb avt asc msg an1-an9 seq ata` and unknown extensions)
`Buffer::from_bytes` → `load_buffer` → `parse_with_parser` runs a terminal emulation on a FILE buffer
(`is_terminal_buffer = false`): `limit_caret_pos` clamps the row only to `0 ..= MAX_FILE_BUFFER_HEIGHT - 1`, `Caret::lf` and
`Buffer::print_char` grow the row table, `get_last_editable_line` reads it.  Models: `Model/TermFile.lean` (ANSI parser on a
file buffer with the row table), `TermFileWrap.lean`, `TermFileOther.lean`, `TextLoad.lean` (the loaders); every plain `i32`
`+ 1` / `*` on a cursor row is an explicit check there.

The theorems hold on the tree WITH the two row clamps (`fix:` commits: `limit_caret_pos` for file buffers, `Caret::lf`); the
facts "the clamps are in the source, the bound is at most 2·10^6" are regenerated constants (`text_row_clamps_present`),
and every proof below goes through them.  On the pinned tree the cursor row reached `i32::MAX` (`ESC[2147483599B` twice)
and LF / IND / NEL / print / DSR / Avatar `^V^D` / closing a hyperlink panicked with an arithmetic overflow.

The main theorem is `text_loader_total` (every text loader, any file content: a buffer or an error); `file_stream_*` are the
character loops, `text_parse_total` / `text_finish_total` the two halves of a load, `shadow_loop_*` / `sixel_*` the sixel
placement at its end. -/
namespace IcyVerif.C02
open IcyVerif.Term IcyVerif.TermFile IcyVerif.TextLoad IcyVerif.Gen.TextLoad IcyVerif.Bytes IcyVerif.Loaders

/-- the source facts the proofs rest on: both row clamps are present and the row bound keeps `row · width` inside `i32` -/
theorem text_row_clamps_present : TermFile.limitRowClamped = true ∧ TermFile.lfClamped = true ∧ 0 ≤ capY ∧ capY ≤ 2000000 :=
  ⟨limitRowClamped_true, lfClamped_true, capY_lo, capY_hi⟩

/-- ANSI parser (as the loaders configure it: music off; `bs_is_ctrl_char` either way) on a file buffer of any size a
    SAUCE record or a resize can produce, any row table to start from, any text, any oracle: no panic -/
theorem file_stream_no_panic (cfg : Cfg) (hm : cfg.musicOpt = 0) (w h tabW : Int) (rows : Array Nat)
    (hw1 : 1 ≤ w) (hw2 : w ≤ 1000) (hh0 : 0 ≤ h) (hh2 : h ≤ 65535) (o : Nat → Orc) (text : List Char) (e : Panic) :
    runF cfg o (initF w h tabW rows) text ≠ .error e :=
  Holds.ne_error (runF_good cfg o hm text _ (initF_good w h tabW rows hw1 hw2 hh0 hh2)) e

/-- the same for Avatar, PCBoard, Ctrl-A and Renegade files -/
theorem file_stream_wrapped_no_panic (em : Emu) (w h tabW : Int) (rows : Array Nat)
    (hw1 : 1 ≤ w) (hw2 : w ≤ 1000) (hh0 : 0 ≤ h) (hh2 : h ≤ 65535) (o : Nat → Orc) (text : List Char) (e : Panic) :
    fwrun em o (initFW w h tabW rows) text ≠ .error e :=
  Holds.ne_error (fwrun_good em o text (initFW w h tabW rows) (initF_good w h tabW rows hw1 hw2 hh0 hh2)) e

/-- the same for ASCII, ATASCII and PETSCII files -/
theorem file_stream_bytes_no_panic (em : FEmu2) (w h tabW : Int) (rows : Array Nat)
    (hw1 : 1 ≤ w) (hw2 : w ≤ 1000) (hh0 : 0 ≤ h) (hh2 : h ≤ 65535) (text : List Char) (e : Panic) :
    forun em (initFO w h tabW rows) text ≠ .error e :=
  Holds.ne_error (forun_good em text _ (initFO_good w h tabW rows hw1 hw2 hh0 hh2)) e

/-- after any text the cursor of a file buffer is on a row `0 ..= MAX_FILE_BUFFER_HEIGHT - 1` and a column `0 ..= 1000`,
    the terminal size is 1..=1000 x 0..=65535 with margins inside it: the invariant every no-overflow argument uses -/
theorem file_stream_reachable (cfg : Cfg) (hm : cfg.musicOpt = 0) (w h tabW : Int) (rows : Array Nat)
    (hw1 : 1 ≤ w) (hw2 : w ≤ 1000) (hh0 : 0 ≤ h) (hh2 : h ≤ 65535) (o : Nat → Orc) (text : List Char) (st : FSt)
    (hr : runF cfg o (initF w h tabW rows) text = .ok st) :
    0 ≤ st.c.x ∧ st.c.x ≤ 1000 ∧ 0 ≤ st.c.y ∧ st.c.y ≤ capY ∧ 1 ≤ st.s.tw ∧ st.s.tw ≤ 1000 ∧ 0 ≤ st.s.th ∧ st.s.th ≤ 65535 := by
  have hg := runF_good cfg o hm text _ (initF_good w h tabW rows hw1 hw2 hh0 hh2)
  rw [hr] at hg
  obtain ⟨g1, g2, _, _, _⟩ := hg
  exact ⟨g2.1, g2.2.1, g2.2.2.1, g2.2.2.2, g1.tw1, g1.tw2, g1.th0, g1.th2⟩

/-- closing a hyperlink: `width - p.x + (cp.y - p.y) * width + p.x` stays inside `i32` for every pair of reachable positions -/
theorem hyperlink_length_no_overflow (tw cx cy px py : Int) (ht1 : 1 ≤ tw) (ht2 : tw ≤ 1000) (hcx : 0 ≤ cx ∧ cx ≤ 1000)
    (hcy : 0 ≤ cy ∧ cy ≤ capY) (hpx : 0 ≤ px ∧ px ≤ 1000) (hpy : 0 ≤ py ∧ py ≤ capY) : ∃ v, hyperLen tw cx cy px py = .ok v :=
  ⟨_, hyperLen_eq tw cx cy px py ht1 ht2 hcx hcy hpx hpy⟩

/-- every text loader, up to the end of its character loop (`parse_with_parser`'s loop with `skip_errors = true`, the byte
    loops of seq / atascii), any content, any SAUCE size with a 16-bit height, any oracle: a parsed state, never a panic -/
theorem text_parse_total (m : String) (data : List Nat) (sauce : Option (Nat × Nat)) (o : Nat → Orc)
    (hs : ∀ w h, sauce = some (w, h) → h ≤ 65535) (what : String) : parseText m data sauce o ≠ some (.panic what) := by
  intro hp
  obtain ⟨p, pwp, hh⟩ := parseText_parsed m data sauce o hs _ hp
  cases hh

/-- the join loop + image layers + `crop_loaded_file` after the character loop: no panic when font 0 has a size
    (`BitFont` loaders never produce a zero dimension: PSF2 checks `charsize == height * ((width + 7) / 8) > 0`, C02 / C17) -/
theorem text_finish_total (p : Parsed) (fw fh : Int) (hfw : fw ≠ 0) (hfh : fh ≠ 0) (dec : Decoder) (what : String) :
    finish p fw fh dec ≠ .panic what := by
  unfold finish joinSixels
  rw [IcyVerif.SixelShadow.loadSixelsX_eq]
  simp only []
  have hc : ∀ id ∈ List.range p.sixq.length, id ∈ [List.range p.sixq.length].flatten := by
    intro id hid; simpa using hid
  rw [IcyVerif.C14.load_schedule_independent _ _ _ hc]
  -- `loadRef` ends with `.err` or `.ok _`: its third exit needs a zero font dimension
  have hr : ∀ (cfg : IcyVerif.SixelQueue.Cfg) (arr : List Nat), cfg.fw ≠ 0 → cfg.fh ≠ 0 →
      IcyVerif.C14.loadRef cfg arr = .err ∨ ∃ l, IcyVerif.C14.loadRef cfg arr = .ok l := by
    intro cfg arr h1 h2
    unfold IcyVerif.C14.loadRef
    split
    · exact Or.inl rfl
    · rw [if_neg (fun hz => by rcases hz.1 with hz | hz <;> contradiction)]
      exact Or.inr ⟨_, rfl⟩
  rcases hr { fw := fw, fh := fh, res := resOf dec p.sixq } (List.range p.sixq.length) hfw hfh with h | ⟨l, h⟩
  · rw [h]; intro hh; cases hh
  · rw [h]; intro hh; cases hh

/-! ## the shadow-removal loop of `Buffer::update_sixel_threads` (runs at the end of every text-format load) -/

/-- the source still has the loop the model transcribes (`Model/SixelShadow.lean: shadowLoop`): count taken once, index
    advanced only when nothing was removed, count decremented on removal, push at the end.  A rewrite (e.g. "collect the
    indices, then remove them") fails this check and needs a new model. -/
def shadowLoopSrc : List String := [
  "let vec = &mut self.layers[0].sixels;",
  "let mut sixel_count = vec.len();",
  "let mut i = 0;",
  "while i < sixel_count {",
  "let old_rect = vec[i].get_screen_rect(font_dims);",
  "if screen_rect.contains_rect(&old_rect) {",
  "vec.remove(i);",
  "sixel_count -= 1;",
  "} else {",
  "i += 1;",
  "}",
  "}",
  "vec.push(sixel);"]

def infixOf (a : List String) : List String → Bool
  | [] => a.isEmpty
  | x :: xs => a.isPrefixOf (x :: xs) || infixOf a xs

theorem shadow_loop_pinned :
    infixOf shadowLoopSrc (IcyVerif.Gen.Sixel.src_update_sixel_threads.filter (fun l => !l.startsWith "//")) = true := by decide +kernel

/-- **the removal loop is total for every list of images**: with the state `(vec, i, sixel_count)` explicit — `vec[i]` and
    `vec.remove(i)` panic beyond the end, `sixel_count -= 1` panics at 0, running out of `len + 1` iterations is divergence —
    the loop ends normally for every layer content, every new image and every font size, and leaves exactly the images the new
    one does not cover, in their order (the C14 list function) -/
theorem shadow_loop_total (cfg : IcyVerif.SixelQueue.Cfg) (new : IcyVerif.SixelQueue.Img) (vec : List IcyVerif.SixelQueue.Img) :
    IcyVerif.SixelShadow.shadowLoop cfg new (vec.length + 1) vec 0 vec.length = .ok (IcyVerif.SixelQueue.removeShadowed cfg new vec) :=
  IcyVerif.SixelShadow.shadowLoop_total cfg new vec

/-- the loop invariant behind it, from ANY reachable loop state: `vec = pre ++ suf`, `i = |pre|`, `sixel_count = |vec|` -/
theorem shadow_loop_invariant (cfg : IcyVerif.SixelQueue.Cfg) (new : IcyVerif.SixelQueue.Img) (pre suf : List IcyVerif.SixelQueue.Img)
    (fuel : Nat) (hf : suf.length < fuel) :
    IcyVerif.SixelShadow.shadowLoop cfg new fuel (pre ++ suf) pre.length (pre.length + suf.length)
      = .ok (pre ++ IcyVerif.SixelQueue.removeShadowed cfg new suf) :=
  IcyVerif.SixelShadow.shadowLoop_spec cfg new suf pre fuel hf

/-- the whole sixel join of a text load (any number of queued decodes, any decode results, any font size) never takes the
    panic exit of the indexed loop, and is the C14 model of the join -/
theorem sixel_join_total (fw fh : Int) (res : Nat → IcyVerif.SixelQueue.Res) (n : Nat) :
    joinSixels fw fh res n = .ok (IcyVerif.SixelLoad.loadSixels { fw := fw, fh := fh, res := res } (List.range n) [List.range n]) :=
  IcyVerif.SixelShadow.loadSixelsX_eq _ _ _

/-- `update_sixel_threads` itself, from any queue / layer state (not only the one a load produces) -/
theorem sixel_poll_total (cfg : IcyVerif.SixelQueue.Cfg) (s : IcyVerif.SixelQueue.St) (e : String) :
    IcyVerif.SixelShadow.pollX cfg s ≠ .error e := by
  rw [IcyVerif.SixelShadow.pollX_eq]; intro h; cases h

/-- **No file content can crash a text loader.** `Buffer::from_bytes` for every extension that selects a text loader —
    `ans ice diz pcb avt asc msg an1..an9 seq ata`, any capitalisation, and every unknown extension (ANSI fallback) —
    any bytes with or without a SAUCE record and comment block, any date-parser verdict, any oracle values (row lengths
    for HPA/HPR, Ok/Err of palette / font sub-languages), any sixel decode results: a buffer or an error, never a panic
    (font 0 with a non-zero size).  The model joins the decodes in one fixed order; that the order does not matter is
    `C14.load_schedule_independent`, used inside `text_finish_total`. -/
theorem text_loader_total (d : List Nat) (ext : String) (dateOk : Bool) (o : Nat → Orc) (fw fh : Int) (hfw : fw ≠ 0) (hfh : fh ≠ 0)
    (dec : Decoder) (what : String) : fromBytesText d.toArray ext dateOk o fw fh dec ≠ some (.panic what) := by
  unfold fromBytesText fromBytesParse
  obtain ⟨⟨len, sauce⟩, hd⟩ := dispatchLen_is_ok d.toArray dateOk
  rw [hd]
  simp only []
  intro hp
  cases hpt : parseText (loaderFor ext) ((d.toArray.extract 0 len).toList) sauce o with
  | none => rw [hpt] at hp; cases hp
  | some st =>
    rw [hpt] at hp
    simp only [Option.map, Option.some.injEq] at hp
    have hs : ∀ w h, sauce = some (w, h) → h ≤ 65535 := by
      intro w h hh; subst hh; exact dispatchLen_height d.toArray dateOk len w h hd
    obtain ⟨p, pwp, hst⟩ := parseText_parsed _ _ sauce o hs st hpt
    subst hst
    cases pwp with
    | true => exact text_finish_total p fw fh hfw hfh dec what hp
    | false => cases hp

/-- the extensions of the property's list select text loaders the model has (the others — `icy idf bin xb tnd adf` —
    are the binary loaders of `from_bytes_total` and the `.icy` container), and so does every unknown extension -/
theorem text_extensions_covered :
    (∀ ext ∈ ["ans", "ice", "diz", "pcb", "avt", "asc", "msg", "an1", "an2", "an3", "an4", "an5", "an6", "an7", "an8", "an9", "seq", "ata",
        "ANS", "Pcb", "zzz", "txt", ""], (loaderEntry (loaderFor ext)).isSome = true) ∧
    (∀ ext, IcyVerif.Gen.Loaders.extTable.find? (fun p => p.1 == lowerAscii ext) = none → (loaderEntry (loaderFor ext)).isSome = true) ∧
    (∀ m ∈ IcyVerif.Gen.Loaders.extTable.map Prod.snd, (loaderEntry m).isSome = true ∨ m ∈ ["icy_draw", "ice_draw", "bin", "xbinary", "tundra", "artworx"]) := by
  refine ⟨by decide +kernel, ?_, by decide +kernel⟩
  intro ext h
  unfold loaderFor
  rw [h]
  decide +kernel

/-- every line of the functions a file load reaches that does plain `i32` arithmetic on a cursor row (regenerated inventory)
    is a site the model accounts for: an `add1` / `hyperLen` check, or code behind `if !buf.is_terminal_buffer { return; }` /
    `self.is_terminal_buffer &&` that a file buffer never executes, or `y - 1` on a non-negative row -/
def knownRowSites : List (String × String) := [
  ("parsers/mod.rs::lf", "self.pos.y += 1;"),                                              -- lfF: add1
  ("parsers/mod.rs::lf", "if self.pos.y + 1 > buf.get_height() {"),                         -- after the early return: terminal buffers only
  ("parsers/mod.rs::lf", "buf.set_height(self.pos.y + 1);"),                                -- ditto
  ("parsers/mod.rs::index", "self.pos.y += 1;"),                                           -- indexF: add1
  ("parsers/mod.rs::reverse_index", "self.pos.y -= 1;"),                                   -- reverseIndexF: checked
  ("parsers/mod.rs::next_line", "self.pos.y += 1;"),                                       -- nextLineF: add1
  ("parsers/mod.rs::check_scrolling_on_caret_down", "self.pos.y -= 1;"),                   -- scrollDownForce: y > last editable line ≥ 0
  ("parsers/mod.rs::print_char", "if caret.pos.y + 1 > self.layers[layer].get_height() {"), -- printCharF: add1
  ("parsers/mod.rs::print_char", "self.layers[layer].set_height(caret.pos.y + 1);"),        -- same value
  ("parsers/mod.rs::print_char", "if self.is_terminal_buffer && caret.pos.y + 1 > self.get_height() {"),   -- short-circuit: not evaluated
  ("parsers/mod.rs::print_char", "self.set_height(caret.pos.y + 1);"),                      -- terminal buffers only
  ("parsers/ansi/mod.rs::print_char", "min(buf.terminal_state.get_height(), caret.pos.y + 1),"),           -- DSR 6: add1
  ("parsers/ansi/osc.rs::handle_osc_hyperlinks", "p.length = buf.terminal_state.get_width() - p.position.x + (cp.y - p.position.y) * buf.terminal_state.get_width() + p.position.x;"),  -- hyperLen
  ("parsers/avatar/mod.rs::print_char", "caret.pos.y = max(0, caret.pos.y - 1);"),          -- avatarStepF 3: checked
  ("parsers/avatar/mod.rs::print_char", "caret.pos.y += 1;")]                               -- avatarStepF 4: add1

/- the regenerated inventory is the list above entry for entry, so membership carries over as it is; an inventory with a
   new (or a vanished) line no longer unfolds to `knownRowSites` and this stops checking -/
theorem text_row_sites_known : ∀ s ∈ rowArithSites, s ∈ knownRowSites := fun _ h => h

/-- `CSI Pn M` (DL) on a file buffer: the model removes the rows `y .. y + k` in one step when there are no top/bottom margins;
    that is exactly `k` times `remove_terminal_line(y)` as the code loops (the loop is quadratic in the row count, the closed form is
    what keeps the model run fast on 65535-row tables) -/
theorem dl_closed_form_is_the_loop (s : Scr) (y : Int) (hy : 0 ≤ y) (k : Nat) (r : Rows) :
    removeTermLines s r y k = iterN (fun r => removeTermLine s r y) k r := by
  unfold removeTermLines
  cases hm : s.mtb with
  | some p => rfl
  | none =>
    simp only [if_neg (show ¬ y < 0 by omega)]
    induction k generalizing r with
    | zero =>
      simp only [iterN]
      have : r.lens.extract 0 y.toNat ++ r.lens.extract (y.toNat + 0) r.lens.size = r.lens := by
        apply Array.ext'
        rw [extract_toList]; simp
      rw [this]
    | succ k ih =>
      simp only [iterN]
      rw [← ih]
      unfold removeTermLine
      rw [hm]
      by_cases hge : y ≥ r.nl
      · simp only [hge, if_true]
        congr 1
        apply Array.ext'
        rw [extract_toList, extract_toList]
        have : r.lens.toList.length ≤ y.toNat := by
          have : (r.lens.size : Int) ≤ y := hge
          simp only [Array.length_toList]; omega
        rw [List.drop_eq_nil_of_le (by omega), List.drop_eq_nil_of_le (by omega)]
      · simp only [hge, if_false]
        congr 1
        apply Array.ext'
        have hlt : y.toNat < r.lens.toList.length := by
          have : ¬ ((r.lens.size : Int) ≤ y) := hge
          simp only [Array.length_toList]; omega
        rw [extract_toList, extract_toList, Array.toList_eraseIdxIfInBounds]
        exact (list_erase_closed r.lens.toList y.toNat k hlt).symm

/-- `crop_loaded_file` keeps one row (`while lines.len() > 1 && …`), as transcribed -/
theorem crop_constant_pinned : cropKeepRows = 1 := by decide

/-- the input that crashed the pinned tree — cursor down to the bound twice, then a cursor position report and a
    hyperlink closed 65534 rows below its start — runs through; the cursor stops on the last addressable row -/
example : (match runF fileCfg (fun _ => { lineLen := 0, extOk := true }) (initF 80 25 80 #[])
      "\x1b]8;;http://a\x1b\\\x1b[2147483599B\x1b[2147483599B\x1b[6n\x1b]8;;\x1b\\".toList with
    | .ok st => (st.c.x, st.c.y, st.hlDone, st.r.lens.size) | .error _ => (-1, -1, [], 0)) = (0, 65534, [65534 * 80 + 80], 0) := by
  decide +kernel

/-- a whole file: text, two line feeds, a SAUCE-less `.ans`: three rows are made, the two empty ones are cropped -/
example : (match fromBytesText #[65, 66, 10, 10] "ans" true (fun _ => { lineLen := -1, extOk := true }) 8 16
      (fun _ _ _ _ => .err) with
    | some (.ok l) => (l.bw, l.bh, l.rows.toList, l.images.length) | _ => (0, 0, [], 99)) = (80, 1, [80], 0) := by
  decide +kernel

/-- PETSCII (`.seq`): the 25 rows of 40 cells `Buffer::new((40, 25))` made are kept, nothing is cropped -/
example : (match fromBytesText #[65, 13, 66] "seq" true (fun _ => { lineLen := -1, extOk := true }) 8 8 (fun _ _ _ _ => .err) with
    | some (.ok l) => (l.bw, l.bh, l.rows.size, l.cx, l.cy) | _ => (0, 0, 0, 0, 0)) = (40, 25, 25, 1, 1) := by
  decide +kernel

/-- three images, the third covers both earlier ones (the input class of the stale-index regression): both are removed,
    one image is left; with an uncovered image between them it is the one that stays -/
example : (IcyVerif.SixelShadow.placeX { fw := 8, fh := 16, res := fun _ => .err } [⟨0, 0, 0, 6, 6⟩, ⟨1, 2, 0, 6, 6⟩] ⟨2, 0, 0, 30, 30⟩).toOption
    = some [⟨2, 0, 0, 30, 30⟩] := by decide +kernel
example : (IcyVerif.SixelShadow.placeX { fw := 8, fh := 16, res := fun _ => .err } [⟨0, 0, 0, 6, 6⟩, ⟨1, 40, 0, 6, 6⟩, ⟨2, 2, 0, 6, 6⟩] ⟨3, 0, 0, 30, 30⟩).toOption
    = some [⟨1, 40, 0, 6, 6⟩, ⟨3, 0, 0, 30, 30⟩] := by decide +kernel
/-- the panic exits of the state machine are real outcomes: a count that is too large indexes beyond the vector, too little
    fuel is divergence -/
example : (match IcyVerif.SixelShadow.shadowLoop { fw := 8, fh := 16, res := fun _ => .err } ⟨9, 0, 0, 30, 30⟩ 9 [⟨0, 0, 0, 6, 6⟩] 0 2 with
    | .error e => some e | .ok _ => none) = some IcyVerif.SixelShadow.sUpdate := by decide +kernel
example : (match IcyVerif.SixelShadow.shadowLoop { fw := 8, fh := 16, res := fun _ => .err } ⟨9, 0, 0, 30, 30⟩ 1 [⟨0, 0, 0, 6, 6⟩] 0 1 with
    | .error e => some e | .ok _ => none) = some IcyVerif.SixelShadow.sDiverge := by decide +kernel

end IcyVerif.C02
