import IcyVerif.Lemmas.ColorOptDoc
import IcyVerif.Lemmas.CompVisible
/-! # C12 — default (colour-optimised) saving never changes the rendered picture

Objects (Model/ColorOpt.lean): `optCell / optimizeRow / optimizeRows` = the loops of `ColorOptimizer::optimize`
with the carried attribute; `flatCells / flatLayer` = `Buffer::flat_clone(false)` built on C13's `getChar`;
`renderCell` = the pixel block one cell contributes to `Buffer::render_to_rgba`, `renderDoc` the blocks of the
whole buffer rectangle (`imageBytes` lays them out as the RGBA vector, so equal blocks = equal bytes).
Fonts (`Nat → Option Font`), the palette (`Nat → Rgb`), the half-block classifier `hb`, the stack, the buffer
size, `is_terminal_buffer` and `normalize_whitespaces` are universally quantified everywhere.

`FontOk` is what the proof needs from a font (every glyph has `height` data bytes, bit count
= width·height ≠ 0 ⇒ at most 8 columns and every in-range bit set, the glyph of `' '` blank when any glyph is); `builtin_fonts_ok` discharges it for
every built-in font from the regenerated summaries (`Gen/Fonts.lean`, cross-checked against the compiled
crate by the harness on every run).

## The whole-document theorem (`optimize_preserves_document`)

For every document, `renderDoc (getChar [flatLayer (optimizeDoc S)]) = renderDoc (getChar S)` with `FontsOk` as the only
hypothesis.  The model follows the repaired `Buffer::flat_clone(false)` (known_findings.txt, `flat_clone_resolves_transparent`,
`flat_clone_invisible_font_page`; on the pinned tree the statement is false at these two sites):
  (1) the flat layer has an alpha channel, so `Buffer::get_char` of the clone returns a visible cell that still carries
      `TRANSPARENT_COLOR` unresolved, exactly as the stack does (an opaque flat layer resolves it against a default cell);
  (2) an invisible composited cell carries the `default_font_page` p of the lowest covering layer and is rendered with font p:
      it is stored as a default blank ON PAGE p (`flatStore`), which renders exactly like the invisible cell
      (`flat_store_renders_same`).
`docT` and `docP` below are the two witness documents.  `tools/gens/coloropt.py` pins both lines of `flat_clone` (the
translator fails if one goes).
`FontsOk` itself is needed (`space_not_blank_changes_picture`, `stray_bits_changes_picture`): it excludes only
fonts that are not built in (see Props/C12Fonts.lean for the exact characterisation on loaded fonts). -/
namespace IcyVerif.C12
open IcyVerif.Comp IcyVerif.ColorOpt IcyVerif.Gen.Fonts

variable (fonts : Nat → Option Font) (pal : Nat → Rgb) (w0 h0 : Nat)

/-- Foreground (and flags, i.e. bold) of a blank glyph are invisible. -/
theorem blank_fg_irrelevant (c : Cell) (f : Font) (rows : List Nat)
    (hfont : fonts c.attr.page = some f) (hg : f.glyph c.ch = some rows) (hb : ones rows = 0) (fg flags : Nat) :
    renderCell fonts pal w0 h0 { c with attr := { c.attr with fg := fg, flags := flags } }
      = renderCell fonts pal w0 h0 c :=
  renderCell_blank fonts pal w0 h0 c _ f rows rows hfont hg hg hb hb rfl rfl rfl

/-- Background of a glyph with every in-range bit set is invisible. -/
theorem solid_bg_irrelevant (c : Cell) (f : Font) (rows : List Nat)
    (hfont : fonts c.attr.page = some f) (hg : f.glyph c.ch = some rows) (hw : f.w ≤ 8)
    (hfull : isFull f.w f.h rows = true) (bg : Nat) :
    renderCell fonts pal w0 h0 { c with attr := { c.attr with bg := bg } } = renderCell fonts pal w0 h0 c :=
  renderCell_full fonts pal w0 h0 c _ f rows hfont hg hw hfull rfl rfl rfl rfl

/-- Which blank character is used is invisible (same font, same number of data bytes). -/
theorem blank_char_irrelevant (c : Cell) (f : Font) (rows rows' : List Nat) (ch' : Nat)
    (hfont : fonts c.attr.page = some f) (hg : f.glyph c.ch = some rows) (hg' : f.glyph ch' = some rows')
    (hb : ones rows = 0) (hb' : ones rows' = 0) (hl : rows'.length = rows.length) :
    renderCell fonts pal w0 h0 { c with ch := ch' } = renderCell fonts pal w0 h0 c :=
  renderCell_blank fonts pal w0 h0 c _ f rows rows' hfont hg hg' hb hb' hl rfl rfl

/-- A glyph classified `Block` by `get_shape` in a font that is `FontOk` really has no background pixel (and the font
    has at most 8 columns, so every rendered column is one of the counted bits). -/
theorem block_shape_is_full (f : Font) (hf : FontOk f) (ch : Nat) (rows : List Nat)
    (hg : f.glyph ch = some rows) (hs : shape f rows = .block) : f.w ≤ 8 ∧ isFull f.w f.h rows = true :=
  hf.block_full ch rows hg (shape_block_ne hs) (shape_block hs)

/-- One step of the optimiser, any carried attribute: the cell renders as before. -/
theorem optimize_cell_preserves_render (norm : Bool) (carry : Attr) (c c' : Cell)
    (hok : FontsOk fonts) (h : optCell fonts norm carry c = some c') :
    renderCell fonts pal w0 h0 c' = renderCell fonts pal w0 h0 c :=
  optCell_render pal w0 h0 hok h

/-- `render (optimizeRow norm carry row) = render row` for EVERY row and EVERY carried attribute
    (induction on the row). -/
theorem optimize_preserves_row (norm : Bool) (carry carry' : Attr) (row row' : List Cell)
    (hok : FontsOk fonts) (h : optimizeRow fonts norm carry row = some (row', carry')) :
    row'.map (renderCell fonts pal w0 h0) = row.map (renderCell fonts pal w0 h0) :=
  (optimizeRow_rel h).map_eq _ _ fun _ _ ⟨_, hk⟩ => optCell_render pal w0 h0 hok hk

/-- … and for every list of rows (the carry runs on from row to row). -/
theorem optimize_preserves_rows (norm : Bool) (carry carry' : Attr) (rows rows' : List (List Cell))
    (hok : FontsOk fonts) (h : optimizeRows fonts norm carry rows = some (rows', carry')) :
    rows'.map (List.map (renderCell fonts pal w0 h0)) = rows.map (List.map (renderCell fonts pal w0 h0)) :=
  (optimizeRows_rel h).map_eq _ _ fun _ _ hr =>
    hr.map_eq _ _ fun _ _ ⟨_, hk⟩ => optCell_render pal w0 h0 hok hk

/-- The optimised buffer has the size of the original: `H` rows of `W` cells. -/
theorem optimize_preserves_size (norm : Bool) (hb : Cell → Nat × Nat) (isTerm : Bool) (S : List Layer) (W H : Nat)
    (cells' : List (List Cell)) (hopt : optimizeDoc fonts norm hb isTerm S W H = some cells') :
    cells'.length = H ∧ ∀ (y : Nat) (r : List Cell), cells'[y]? = some r → r.length = W := by
  obtain ⟨k', ho⟩ := optimizeDoc_some.mp hopt
  have hrel := optimizeRows_rel ho
  refine ⟨by rw [hrel.length, flatCells_length], ?_⟩
  intro y r hr
  have hy : y < H := by
    have := (List.getElem?_eq_some_iff.mp hr).1
    rw [hrel.length, flatCells_length] at this
    exact this
  rw [(hrel.get (flatCells_row hb isTerm S W H y hy) hr).length, List.length_map, List.length_range]

/-- `flat_clone(false)`: `Buffer::get_char` of the clone returns what was stored for the composited cell. -/
theorem flat_clone_same_cells (hb : Cell → Nat × Nat) (isTerm : Bool) (S : List Layer) (W H x y : Nat)
    (hx : x < W) (hy : y < H) :
    getChar hb isTerm [flatLayer W H (flatCells hb isTerm S W H)] x y = flatStore (getChar hb isTerm S x y) := by
  obtain ⟨row, hrow, _, hrx⟩ := flatCells_get hb isTerm S W H x y hx hy
  rw [getChar_flatLayer hb isTerm W H _ x y hx hy row _ hrow hrx]
  exact flatView_of_visible isTerm (flatStore_visible _)

/-- … which is the composited cell itself when that is visible (also when it carries a transparent colour). -/
theorem flat_store_id (c : Cell) (hv : c.isVisible = true) : flatStore c = c := by
  unfold flatStore; simp only [hv, if_true]

/-- An invisible composited cell is exactly `AttributedChar::invisible()` with some font page (C13's walk). -/
theorem invisible_composite_is_invisible_cell (hb : Cell → Nat × Nat) (isTerm : Bool) (S : List Layer) (x y : Int)
    (h : (getChar hb isTerm S x y).isVisible = false) : ∃ p, getChar hb isTerm S x y = invisibleCell.withPage p := by
  rcases getChar_shape hb isTerm S x y with hv | he
  · rw [hv] at h; cases h
  · exact he

/-- What the clone stores renders exactly like the composited cell, for every stack and position and for EVERY font
    table and palette (no font hypothesis: an invisible cell and a default blank on the same page are the same glyph in the
    same colours). -/
theorem flat_store_renders_same (hb : Cell → Nat × Nat) (isTerm : Bool) (S : List Layer) (x y : Int) :
    renderCell fonts pal w0 h0 (flatStore (getChar hb isTerm S x y)) = renderCell fonts pal w0 h0 (getChar hb isTerm S x y) := by
  rcases getChar_shape hb isTerm S x y with hv | ⟨p, he⟩
  · rw [flat_store_id _ hv]
  · rw [he, flatStore_invisible]
    exact renderCell_default_invisible fonts pal w0 h0 p

/-- `flat_clone(false)` alone never changes the picture: every stack, size, font table, palette. -/
theorem flat_clone_preserves_picture (hb : Cell → Nat × Nat) (isTerm : Bool) (S : List Layer) (W H : Nat) :
    renderDoc fonts pal w0 h0 (fun x y => getChar hb isTerm [flatLayer W H (flatCells hb isTerm S W H)] x y) W H
      = renderDoc fonts pal w0 h0 (fun x y => getChar hb isTerm S x y) W H := by
  refine renderDoc_congr fun x y hx hy => ?_
  rw [flat_clone_same_cells hb isTerm S W H x y hx hy]
  exact flat_store_renders_same fonts pal w0 h0 hb isTerm S x y

/-- **The property, full strength.**  Whole documents — every layer stack (any number of layers, alpha, offsets, hidden,
    all three modes), every buffer size, both settings of `is_terminal_buffer` and of `normalize_whitespaces`, every
    palette, every half-block classifier, every font table that is `FontsOk` (all built-in fonts: `builtin_font_ok`),
    any colours incl. TRANSPARENT_COLOR, any flags (bold): whenever the optimiser returns (`hopt`: no `unwrap()` on a
    missing font page / glyph, characterised exactly by `optimize_defined_iff`), the optimised buffer renders to the same
    blocks as the original.  (`ice_mode`, `palette_mode`, `font_mode`, `buffer_type` are copied by `flat_clone` and read
    neither by the optimiser nor by `render_to_rgba`; the harness varies the ice mode to tie that.) -/
theorem optimize_preserves_document (norm : Bool) (hb : Cell → Nat × Nat) (isTerm : Bool) (S : List Layer)
    (W H : Nat) (cells' : List (List Cell))
    (hok : FontsOk fonts)
    (hopt : optimizeDoc fonts norm hb isTerm S W H = some cells') :
    renderDoc fonts pal w0 h0 (fun x y => getChar hb isTerm [flatLayer W H cells'] x y) W H
      = renderDoc fonts pal w0 h0 (fun x y => getChar hb isTerm S x y) W H := by
  have hsize := optimize_preserves_size fonts norm hb isTerm S W H cells' hopt
  obtain ⟨k', ho⟩ := optimizeDoc_some.mp hopt
  have hrel := optimizeRows_rel ho
  refine renderDoc_congr fun x y hx hy => ?_
  obtain ⟨row, hrow, hrl, hrx⟩ := flatCells_get hb isTerm S W H x y hx hy
  obtain ⟨r', hr'⟩ : ∃ r', cells'[y]? = some r' := ⟨_, List.getElem?_eq_getElem (by rw [hsize.1]; exact hy)⟩
  obtain ⟨c', hc'⟩ : ∃ c', r'[x]? = some c' := ⟨_, List.getElem?_eq_getElem (by rw [hsize.2 y _ hr']; exact hx)⟩
  obtain ⟨k0, hk0⟩ := (hrel.get hrow hr').get hrx hc'
  rw [getChar_flatLayer hb isTerm W H cells' x y hx hy _ _ hr' hc']
  have hv' : c'.isVisible = true := by rw [optCell_isVisible hk0]; exact flatStore_visible _
  rw [flatView_of_visible isTerm hv', optCell_render pal w0 h0 hok hk0]
  exact flat_store_renders_same fonts pal w0 h0 hb isTerm S x y

/-- The optimiser returns (neither `unwrap()` panics) exactly when every composited cell of the buffer rectangle names a
    font page of the table and a code point of that font. -/
theorem optimize_defined_iff (norm : Bool) (hb : Cell → Nat × Nat) (isTerm : Bool) (S : List Layer) (W H : Nat) :
    (∃ cells', optimizeDoc fonts norm hb isTerm S W H = some cells') ↔
      ∀ x y : Nat, x < W → y < H → HasGlyph fonts (getChar hb isTerm S x y) := by
  have hstore : ∀ x y : Nat, HasGlyph fonts (flatStore (getChar hb isTerm S x y)) ↔ HasGlyph fonts (getChar hb isTerm S x y) := by
    intro x y
    rcases getChar_shape hb isTerm S x y with hv | ⟨p, he⟩
    · rw [flat_store_id _ hv]
    · rw [he, flatStore_invisible]; exact Iff.rfl
  have hdoc : (∃ cells', optimizeDoc fonts norm hb isTerm S W H = some cells') ↔
      ∃ p, optimizeRows fonts norm defaultCell.attr (flatCells hb isTerm S W H) = some p :=
    ⟨fun ⟨_, h⟩ => let ⟨_, hk⟩ := optimizeDoc_some.mp h; ⟨_, hk⟩, fun ⟨⟨c, k⟩, h⟩ => ⟨c, optimizeDoc_some.mpr ⟨k, h⟩⟩⟩
  rw [hdoc, optimizeRows_defined_iff]
  simp only [flatCells, List.forall_mem_map, List.mem_range, hstore]
  exact ⟨fun h x y hx hy => h y hy x hx, fun h y hy x hx => h x y hx hy⟩

/-- equal blocks = equal RGBA bytes (and equal panic behaviour) -/
theorem same_blocks_same_bytes (a b : List (List (List (List Px)))) (h : a = b) (hh : Nat) :
    imageBytes a hh = imageBytes b hh ∧ hasPanic a = hasPanic b := by subst h; exact ⟨rfl, rfl⟩

/-! ## every built-in font is `FontOk` -/

/-- every regenerated summary (ANSI slots 0..=42, Viewdata, every SAUCE font) passes the check, by evaluation -/
theorem builtin_fonts_ok : allFonts.all SummaryOk = true := by decide +kernel

/-- hence every built-in font (a font whose per-glyph summary is one of the regenerated ones) is `FontOk` -/
theorem builtin_font_ok (f : Font) (s : FontSum) (hs : s ∈ allFonts) (hsum : Summarizes f s) : FontOk f :=
  fontOk_of_summary hsum ((List.all_eq_true.mp builtin_fonts_ok) s hs)

/-- **The property on its quantifier**: every font slot holds a built-in font (its per-glyph summary is one of the
    regenerated ones, which the harness cross-checks against the compiled crate on every run). -/
theorem optimize_preserves_document_builtin (norm : Bool) (hb : Cell → Nat × Nat) (isTerm : Bool) (S : List Layer)
    (W H : Nat) (cells' : List (List Cell))
    (hbuiltin : ∀ p f, fonts p = some f → ∃ s ∈ allFonts, Summarizes f s)
    (hopt : optimizeDoc fonts norm hb isTerm S W H = some cells') :
    renderDoc fonts pal w0 h0 (fun x y => getChar hb isTerm [flatLayer W H cells'] x y) W H
      = renderDoc fonts pal w0 h0 (fun x y => getChar hb isTerm S x y) W H := by
  apply optimize_preserves_document fonts pal w0 h0 norm hb isTerm S W H cells' _ hopt
  intro p f hf
  obtain ⟨s, hs, hsum⟩ := hbuiltin p f hf
  exact builtin_font_ok f s hs hsum

/-! ## the two documents that violated the property on the pinned tree (the model of the repaired tree, run on them below,
gives equal pictures), and the
witnesses that `FontsOk` cannot be dropped -/
section witnesses
open IcyVerif.Gen.Comp

/-- an 8x2 font: blank `' '`, an `'A'`-like glyph, a full block -/
def fA : Font := ⟨8, 2, fun ch => if ch = 32 then some [0, 0] else if ch = 65 then some [24, 36]
  else if ch = 219 then some [255, 255] else none⟩
/-- an 8x1 font with a blank `' '` -/
def fSmall : Font := ⟨8, 1, fun ch => if ch = 32 then some [0] else none⟩
def fontsW : Nat → Option Font := fun p => if p = 0 then some fA else if p = 1 then some fSmall else none
/-- DOS-like palette: 0 black, 8 dark grey; RGB-encoded black (= TRANSPARENT_COLOR) is black -/
def palW : Nat → Rgb := fun c => if c = transparentColor then (0, 0, 0) else if c = 0 then (0, 0, 0)
  else if c = 8 then (85, 85, 85) else (c, c, c)
def hbW : Cell → Nat × Nat := fun c => (c.attr.bg, c.attr.bg)

/-- one alpha layer, a bold `'A'` whose foreground is TRANSPARENT_COLOR (= RGB black), nothing beneath -/
def docT : List Layer := [⟨true, true, .normal, 0, 0, 1, 1, 0, [[⟨65, ⟨transparentColor, 1, 1, 0⟩⟩]]⟩]

-- (1) before the repair the clone resolved the foreground to colour 0 and bold made it colour 8 (grey, not black);
-- now the cell is read back unresolved and the picture is the same
example :
    optimizeDoc fontsW false hbW false docT 1 1 = some [[⟨65, ⟨transparentColor, 1, 1, 0⟩⟩]] ∧
    getChar hbW false [flatLayer 1 1 [[⟨65, ⟨transparentColor, 1, 1, 0⟩⟩]]] 0 0 = ⟨65, ⟨transparentColor, 1, 1, 0⟩⟩ ∧
    renderDoc fontsW palW 8 2 (fun x y => getChar hbW false [flatLayer 1 1 [[⟨65, ⟨transparentColor, 1, 1, 0⟩⟩]]] x y) 1 1
      = renderDoc fontsW palW 8 2 (fun x y => getChar hbW false docT x y) 1 1 := by
  refine ⟨?_, ?_, ?_⟩ <;> decide +kernel

/-- one empty alpha layer whose `default_font_page` is 1 (font 8x1), font 0 is 8x2 -/
def docP : List Layer := [⟨true, true, .normal, 0, 0, 1, 1, 1, []⟩]

-- (2) before the repair the clone painted the second pixel row of the invisible cell (font 0 instead of font 1);
-- now the cell is stored as a default blank on page 1 and the second row stays unwritten in both pictures
example :
    getChar hbW false docP 0 0 = invisibleCell.withPage 1 ∧
    optimizeDoc fontsW false hbW false docP 1 1 = some [[defaultCell.withPage 1]] ∧
    renderDoc fontsW palW 8 2 (fun x y => getChar hbW false [flatLayer 1 1 [[defaultCell.withPage 1]]] x y) 1 1
      = renderDoc fontsW palW 8 2 (fun x y => getChar hbW false docP x y) 1 1 := by
  refine ⟨?_, ?_, ?_⟩ <;> decide +kernel

/-! `FontOk` cannot be dropped either (fonts that are NOT built in; recorded as findings
`custom_font_space_not_blank`, `custom_font_stray_bits`): -/

/-- a font whose `' '` shows pixels while NUL is blank -/
def fB : Font := ⟨8, 1, fun ch => if ch = 32 then some [24] else if ch = 0 then some [0] else none⟩
def fontsB : Nat → Option Font := fun p => if p = 0 then some fB else none
def docB : List Layer := [⟨true, false, .normal, 0, 0, 1, 1, 0, [[⟨0, ⟨7, 0, 0, 0⟩⟩]]⟩]

/-- normalisation turns the blank NUL into the non-blank `' '` -/
theorem space_not_blank_changes_picture :
    optimizeDoc fontsB true hbW false docB 1 1 = some [[⟨32, ⟨7, 0, 0, 0⟩⟩]] ∧
    renderDoc fontsB palW 8 1 (fun x y => getChar hbW false [flatLayer 1 1 [[⟨32, ⟨7, 0, 0, 0⟩⟩]]] x y) 1 1
      ≠ renderDoc fontsB palW 8 1 (fun x y => getChar hbW false docB x y) 1 1 := by
  constructor
  · decide +kernel
  · decide +kernel

/-- a 6-wide font; glyph 219 has 6 set bits, two of them outside the width -/
def fC : Font := ⟨6, 1, fun ch => if ch = 32 then some [0] else if ch = 65 then some [48]
  else if ch = 219 then some [243] else none⟩
def fontsC : Nat → Option Font := fun p => if p = 0 then some fC else none
def docC : List Layer := [⟨true, false, .normal, 0, 0, 2, 1, 0, [[⟨65, ⟨7, 5, 0, 0⟩⟩, ⟨219, ⟨1, 2, 0, 0⟩⟩]]⟩]

/-- `get_shape` counts the two stray bits, calls the glyph a Block and replaces its (visible) background -/
theorem stray_bits_changes_picture :
    optimizeDoc fontsC false hbW false docC 2 1 = some [[⟨65, ⟨7, 5, 0, 0⟩⟩, ⟨219, ⟨1, 5, 0, 0⟩⟩]] ∧
    renderDoc fontsC palW 6 1 (fun x y => getChar hbW false
        [flatLayer 2 1 [[⟨65, ⟨7, 5, 0, 0⟩⟩, ⟨219, ⟨1, 5, 0, 0⟩⟩]]] x y) 2 1
      ≠ renderDoc fontsC palW 6 1 (fun x y => getChar hbW false docC x y) 2 1 := by
  constructor
  · decide +kernel
  · decide +kernel
end witnesses

/-! ## non-vacuity -/
section nonvacuity
theorem fA_ok : FontOk fA := by
  refine ⟨?_, ?_, ?_⟩
  · intro ch rows h
    unfold fA at h
    simp only at h
    split at h
    · cases h; rfl
    · split at h
      · cases h; rfl
      · split at h
        · cases h; rfl
        · cases h
  · intro ch rows h _
    unfold fA at h
    simp only at h
    split at h
    · cases h; rename_i hh; revert hh; decide
    · split at h
      · cases h; rename_i hh; revert hh; decide
      · split at h
        · cases h; decide
        · cases h
  · intro _ _ rows _ _ h
    have : fA.glyph spaceCh = some [0, 0] := by decide
    rw [this] at h; cases h; decide

/-- a 3x1 document: 'A' (3 on 1), a blank (5 on 2), a full block (4 on 6) -/
def docN : List Layer :=
  [⟨true, false, .normal, 0, 0, 3, 1, 0, [[⟨65, ⟨3, 1, 0, 0⟩⟩, ⟨32, ⟨5, 2, 1, 0⟩⟩, ⟨219, ⟨4, 6, 0, 0⟩⟩]]⟩]
def fontsN : Nat → Option Font := fun p => if p = 0 then some fA else none

example : FontsOk fontsN := by
  intro p f h
  unfold fontsN at h
  split at h
  · cases h; exact fA_ok
  · cases h

-- the rewrites really happen: the blank inherits foreground 3, the block inherits background 2
example : optimizeDoc fontsN true hbW false docN 3 1 =
    some [[⟨65, ⟨3, 1, 0, 0⟩⟩, ⟨32, ⟨3, 2, 1, 0⟩⟩, ⟨219, ⟨4, 2, 0, 0⟩⟩]] := by decide +kernel
-- and the picture is the same (the conclusion of the theorem, here by evaluation)
example : renderDoc fontsN palW 8 2 (fun x y => getChar hbW false
      [flatLayer 3 1 [[⟨65, ⟨3, 1, 0, 0⟩⟩, ⟨32, ⟨3, 2, 1, 0⟩⟩, ⟨219, ⟨4, 2, 0, 0⟩⟩]]] x y) 3 1
    = renderDoc fontsN palW 8 2 (fun x y => getChar hbW false docN x y) 3 1 := by decide +kernel
-- the hypothesis `hopt` of the theorem is characterised by `optimize_defined_iff`; here: every cell's font page is in the table
example : ∀ x : Nat, x < 3 → ∀ y : Nat, y < 1 →
    (fontsN (getChar hbW false docN x y).attr.page).isSome = true := by decide +kernel
-- a summary in the regenerated table, its check, and a blank / full glyph of the default font
example : 0 < allFonts.length ∧ SummaryOk f_cp437 = true ∧ f_cp437.ones[32]? = some 0 ∧
    f_cp437.ones[219]? = some 128 ∧ f_cp437.full[219]? = some 1 := by decide +kernel
example : shape fA [0, 0] = .whitespace ∧ shape fA [255, 255] = .block ∧ shape fA [24, 36] = .mixed := by decide +kernel
end nonvacuity

end IcyVerif.C12
