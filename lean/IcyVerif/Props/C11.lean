import IcyVerif.Lemmas.SauceRoundTrip
/-! # C11 — SAUCE metadata round-trips and is cut off the content exactly
Property theorems, non-vacuity examples and the definitions the examples need (`written`, `check`, `recordOnly`); the
last sentence of the property composed with the five binary format loaders is in `Props/C11Load.lean`.

Model: `Model/Sauce.lean` (`writeSauceInfo` = `Buffer::write_sauce_info`, `extract` = `SauceData::extract`,
`fromBytesSplit`/`setSauce` = the SAUCE part of `Buffer::from_bytes`/`Buffer::set_sauce`, `strRead`/`strAppend`/
`strLen`/`strEq` = `SauceString`).  chrono is a parameter: `dateOk` is the verdict of the date
parser on the 8 date bytes (universally quantified), the writer's date is an input.

Reading guide: `k` is the index of the `SauceFileType` handed to the writer (`kindNames`: 0 Undefined, 1 Ascii,
2 Ansi, 3 ANSiMation, 4 PCBoard, 5 Avatar, 6 TundraDraw, 7 Bin, 8 XBin; ans/adf/icy write 2, asc 1, avt 5, pcb 4,
bin/idf 7, xb 8, tnd 6), `b` the buffer settings the writer reads, `carry k b` what that SAUCE variant can carry. -/
namespace IcyVerif.C11
open IcyVerif.Sauce IcyVerif.Gen.Sauce

/-! ## 1. `extract` is total: no byte list makes it panic (C02 part) -/

/-- `SauceData::extract` never panics: every `data[a..b]`, `data[i]`, `usize - usize` and the `assert_eq!` is inside
    its bounds for **every** byte list and every behaviour of the date parser -/
theorem extract_total (dateOk : List Nat → Bool) (data : List Nat) (site : String) :
    extract dateOk data ≠ .panic site := by
  rw [extract_eq]
  exact (isPanic_false_iff _).mp (extractOf_np dateOk data) site

/-- a record found by `extract` never claims more bytes than the file has -/
theorem header_len_le (dateOk : List Nat → Bool) (data : List Nat) (s : Sauce)
    (h : extract dateOk data = .ok (some s)) : s.headerLen ≤ data.length :=
  extract_headerLen_le dateOk data s h

/-- the SAUCE part of `Buffer::from_bytes` (`len -= sauce_header_len; &bytes[..len]`) never panics, on any byte list and
    for every behaviour of the date parser (the subtraction and the slice are inside their bounds by `header_len_le`) -/
theorem from_bytes_split_total (dateOk : List Nat → Bool) (bytes : List Nat) (site : String) :
    fromBytesSplit dateOk bytes ≠ .panic site := by
  rw [fromBytesSplit_eq]
  exact nofun

/-- the writer never panics; it refuses exactly: more than 255 comment lines, a .bin width above 511 -/
theorem write_outcome (k : Nat) (b : BufInfo) (date vec : List Nat) :
    (∃ bytes, writeSauceInfo k b date vec = .ok bytes) ∨
    (writeSauceInfo k b date vec = .err .commentLimit ∧ (b.sauce.getD {}).comments.length > commentLimit) ∨
    (writeSauceInfo k b date vec = .err .binWidth ∧ (writerArm k).fileType = none ∧ b.width / 2 > 255) := by
  simp only [writeSauceInfo, writeSauce]
  split
  · rename_i h; right; left; exact ⟨rfl, h⟩
  · split
    · left; exact ⟨_, rfl⟩
    · rename_i hft
      split
      · rename_i hw; right; right; exact ⟨rfl, hft, hw⟩
      · left; exact ⟨_, rfl⟩

/-! ## 2. round trip: for ALL contents and ALL metadata -/

/-- **extract ∘ write**: whatever the vector held before (`content` — any bytes, including bytes that look like
    `SAUCE00…` or `COMNT…`), after `write_sauce_info` the reader finds the record and returns exactly what the variant
    can carry; the header length is exactly the number of bytes appended -/
theorem extract_write (dateOk : List Nat → Bool) (k : Nat) (hk : k < 9) (b : BufInfo) (hv : Valid b)
    (date : List Nat) (hd : date.length = dateLen) (hok : dateOk date = true) (content bytes : List Nat)
    (hw : writeSauceInfo k b date content = .ok bytes) :
    extract dateOk bytes = .ok (some (carry k b (bytes.length - content.length))) := by
  obtain ⟨_, tail, h1, rfl, hl, _⟩ := writeSauceInfo_ok hw
  rw [hl]
  exact extract_writeSauce dateOk hk hv hd hok h1 content

/-- **split_exact**: the file is `content ++ [EOF] ++ tail`; `tail` is the 128-byte record preceded — iff there are
    comment lines — by `COMNT` + 64 bytes per line; `sauce_header_len = |tail| + 1`; cutting that many bytes off the end
    gives back `content` byte for byte — for every `content` -/
theorem split_exact (dateOk : List Nat → Bool) (k : Nat) (hk : k < 9) (b : BufInfo) (hv : Valid b)
    (date : List Nat) (hd : date.length = dateLen) (hok : dateOk date = true) (content bytes : List Nat)
    (hw : writeSauceInfo k b date content = .ok bytes) :
    ∃ tail s, bytes = content ++ [eofByte] ++ tail ∧
      tail.length = sauceLen + (if (b.sauce.getD {}).comments.isEmpty then 0
                                else commentId.length + commentLen * (b.sauce.getD {}).comments.length) ∧
      extract dateOk bytes = .ok (some s) ∧ s.headerLen = tail.length + 1 ∧
      bytes.take (bytes.length - s.headerLen) = content ∧ bytes.drop (bytes.length - s.headerLen) = eofByte :: tail := by
  have hx := extract_write dateOk k hk b hv date hd hok content bytes hw
  obtain ⟨_, tail, h1, rfl, hlen, hcut⟩ := writeSauceInfo_ok hw
  obtain ⟨_, _, ht⟩ := writeSauce_ok h1
  refine ⟨tail, _, rfl, ?_, hx, hlen, ?_, ?_⟩
  · rw [ht, List.length_append, recordBytes_length _ _ _ hv _ hd, commentBlock_eq]
    split
    · simp
    · rw [List.length_append, commentLines_length _ hv.comments]
      simp only [commentLen]; omega
  · show List.take ((content ++ [eofByte] ++ tail).length - ((content ++ [eofByte] ++ tail).length - content.length)) _ = _
    rw [hlen, hcut, List.append_assoc, List.take_left' rfl]
  · show List.drop ((content ++ [eofByte] ++ tail).length - ((content ++ [eofByte] ++ tail).length - content.length)) _ = _
    rw [hlen, hcut, List.append_assoc, List.drop_left' rfl]
    rfl

/-- **load_ignores_sauce (dispatch level)**: `Buffer::from_bytes` hands the format loader exactly `content` — no
    content byte lost, no metadata byte taken for content — together with the record -/
theorem load_ignores_sauce (dateOk : List Nat → Bool) (k : Nat) (hk : k < 9) (b : BufInfo) (hv : Valid b)
    (date : List Nat) (hd : date.length = dateLen) (hok : dateOk date = true) (content bytes : List Nat)
    (hw : writeSauceInfo k b date content = .ok bytes) :
    fromBytesSplit dateOk bytes = .ok (content, some (carry k b (bytes.length - content.length))) := by
  obtain ⟨_, tail, h1, rfl, hl, hcut⟩ := writeSauceInfo_ok hw
  rw [fromBytesSplit_eq, extract_writeSauce dateOk hk hv hd hok h1 content, hl]
  simp only []
  rw [show (carry k b (tail.length + 1)).headerLen = tail.length + 1 from rfl, hcut, List.append_assoc, List.take_left' rfl]

/-- … and when the record's width, ice-colour and font settings are the loader's defaults, `set_sauce` leaves width,
    ice mode and font of the freshly created loader buffer as they are: the loader starts from the same state on the
    same bytes as for the content alone (the height is the record's; the format loaders recompute it from the content —
    that part is the subject of the format properties C04/C05/C15, for the five binary formats of `Props/C11Load.lean`) -/
theorem set_sauce_defaults (knownFont : List Nat → Bool) (st : LoaderState) (s : Sauce) (resize : Bool)
    (hw : s.width = st.width) (hw1 : 0 < st.width) (hw2 : st.width ≤ widthMax) (hice : s.ice = false)
    (hfont : ∀ f, s.font = some f → knownFont f = true → f = st.fontName) :
    (setSauce knownFont st s resize).width = st.width ∧ (setSauce knownFont st s resize).ice = st.ice ∧
    (setSauce knownFont st s resize).fontName = st.fontName := by
  simp only [setSauce]
  split
  · refine ⟨?_, by simp [hice], ?_⟩
    · simp only []
      rw [if_neg (by omega)]; exact hw
    · simp only []
      split
      · rename_i f hf
        split
        · rename_i hk; exact hfont f hf hk
        · rfl
      · rfl
  · exact ⟨rfl, rfl, rfl⟩

/-- widths: the loader keeps every width 1..=1000 and (deliberately) turns 0 and anything larger into 80 -/
theorem loader_width (knownFont : List Nat → Bool) (st : LoaderState) (s : Sauce) :
    (setSauce knownFont st s true).width = if 1 ≤ s.width ∧ s.width ≤ 1000 then s.width else 80 := by
  simp only [setSauce, if_true]
  by_cases h : 1 ≤ s.width ∧ s.width ≤ 1000
  · rw [if_pos h, if_neg (by show ¬(_ ∨ _ > 1000); omega)]
  · rw [if_neg h, if_pos (by show _ ∨ _ > 1000; omega)]
    rfl

/-! ## 3. what each SAUCE variant can carry (the meaning of `carry`) -/

/-- every variant carries the three texts and all comment lines -/
theorem carry_texts (k : Nat) (b : BufInfo) (hl : Nat) :
    (carry k b hl).title = carryPad titleLen titlePad (b.sauce.getD {}).title ∧
    (carry k b hl).author = carryPad authorLen authorPad (b.sauce.getD {}).author ∧
    (carry k b hl).group = carryPad groupLen groupPad (b.sauce.getD {}).group ∧
    (carry k b hl).comments = (b.sauce.getD {}).comments.map carryNul ∧
    (carry k b hl).headerLen = hl := ⟨rfl, rfl, rfl, rfl, rfl⟩

/-- … and under `SauceString`'s own notion of equality (`PartialEq`, `to_string`: trailing blanks and NULs never
    count) title, author and group come back **equal, for every string** of at most 35/20/20 bytes — including
    trailing blanks and NULs; a comment line comes back exactly when it holds no NUL -/
theorem carry_texts_equal (k : Nat) (b : BufInfo) (hv : Valid b) (hl : Nat) :
    strEq (carry k b hl).title (b.sauce.getD {}).title = true ∧ strText (carry k b hl).title = strText (b.sauce.getD {}).title ∧
    strEq (carry k b hl).author (b.sauce.getD {}).author = true ∧ strText (carry k b hl).author = strText (b.sauce.getD {}).author ∧
    strEq (carry k b hl).group (b.sauce.getD {}).group = true ∧ strText (carry k b hl).group = strText (b.sauce.getD {}).group ∧
    (carry k b hl).comments.length = (b.sauce.getD {}).comments.length ∧
    ((∀ c ∈ (b.sauce.getD {}).comments, 0 ∉ c) → (carry k b hl).comments = (b.sauce.getD {}).comments) := by
  have t := carryPad_stripT (pad := titlePad) hv.title (by decide)
  have a := carryPad_stripT (pad := authorPad) hv.author (by decide)
  have g := carryPad_stripT (pad := groupPad) hv.group (by decide)
  refine ⟨(strEq_iff _ _).mpr t, by rw [strText_eq, strText_eq]; exact t, (strEq_iff _ _).mpr a,
    by rw [strText_eq, strText_eq]; exact a, (strEq_iff _ _).mpr g, by rw [strText_eq, strText_eq]; exact g, ?_, ?_⟩
  · simp [carry]
  · intro h
    show List.map carryNul _ = _
    conv => rhs; rw [← List.map_id (b.sauce.getD {}).comments]
    apply List.map_congr_left
    intro c hc
    simp only [carryNul, id]
    exact takeWhile_ne_zero_self c (h c hc)

/-- Character/ANSi (written by ans, adf, icy and for `Undefined`): width and height mod 2^16, ice colours,
    letter spacing, aspect ratio, font name (first 22 bytes, up to a NUL, without trailing blanks) -/
theorem carry_ansi (k : Nat) (hk : k = 0 ∨ k = 2) (b : BufInfo) (hl : Nat) :
    (carry k b hl).width = b.width % 65536 ∧ (carry k b hl).height = b.height % 65536 ∧
    (carry k b hl).ice = b.ice ∧ (carry k b hl).ls = (b.sauce.getD {}).ls ∧ (carry k b hl).ar = (b.sauce.getD {}).ar ∧
    (carry k b hl).font = some (strText (carryNul (strFrom tinfoLen b.fontName))) ∧ (carry k b hl).kind = 2 := by
  rcases hk with rfl | rfl <;> exact ⟨rfl, rfl, rfl, rfl, rfl, rfl, rfl⟩

/-- Character/ASCII (asc) and ANSiMation: size, ice colours, font name — no letter-spacing/aspect-ratio flags -/
theorem carry_ascii (k : Nat) (hk : k = 1 ∨ k = 3) (b : BufInfo) (hl : Nat) :
    (carry k b hl).width = b.width % 65536 ∧ (carry k b hl).height = b.height % 65536 ∧
    (carry k b hl).ice = b.ice ∧ (carry k b hl).ls = false ∧ (carry k b hl).ar = false ∧
    (carry k b hl).font = some (strText (carryNul (strFrom tinfoLen b.fontName))) ∧ (carry k b hl).kind = k := by
  rcases hk with rfl | rfl <;> exact ⟨rfl, rfl, rfl, rfl, rfl, rfl, rfl⟩

/-- PCBoard (pcb), Avatar (avt), TundraDraw (tnd), XBin (xb): size only — no flags, no font.  (On the pinned tree the
    TundraDraw arm of `write_sauce_info` writes `t_info2 = 0`; with the repaired arm — regenerated column `h2` — the Tundra
    record carries its height like the others.) -/
theorem carry_plain (k : Nat) (hk : k = 4 ∨ k = 5 ∨ k = 6 ∨ k = 8) (b : BufInfo) (hl : Nat) :
    (carry k b hl).width = b.width % 65536 ∧ (carry k b hl).height = b.height % 65536 ∧
    (carry k b hl).ice = false ∧ (carry k b hl).ls = false ∧ (carry k b hl).ar = false ∧
    (carry k b hl).font = none ∧ (carry k b hl).kind = k := by
  rcases hk with rfl | rfl | rfl | rfl <;> exact ⟨rfl, rfl, rfl, rfl, rfl, rfl, rfl⟩

/-- BinaryText (bin, idf): the width as a multiple of 2 (the field holds width/2), ice colours, font name -/
theorem carry_bin (b : BufInfo) (hl : Nat) :
    (carry 7 b hl).width = b.width / 2 * 2 ∧ (carry 7 b hl).height = 25 ∧
    (carry 7 b hl).ice = b.ice ∧ (carry 7 b hl).ls = false ∧ (carry 7 b hl).ar = false ∧
    (carry 7 b hl).font = some (strText (carryNul (strFrom tinfoLen b.fontName))) ∧ (carry 7 b hl).kind = 7 :=
  ⟨rfl, rfl, rfl, rfl, rfl, rfl, rfl⟩

/-- widths 1..=1000 survive save + load for every variant that stores the width (for Bin: even widths ≤ 510) -/
theorem width_round_trip (knownFont : List Nat → Bool) (st : LoaderState) (k : Nat) (hk : k < 9) (b : BufInfo) (hl : Nat)
    (h1 : 1 ≤ b.width) (h2 : b.width ≤ 1000) (hbin : k = 7 → b.width % 2 = 0) :
    (setSauce knownFont st (carry k b hl) true).width = b.width := by
  rw [loader_width]
  have hk' : k = 0 ∨ k = 1 ∨ k = 2 ∨ k = 3 ∨ k = 4 ∨ k = 5 ∨ k = 6 ∨ k = 7 ∨ k = 8 := by omega
  -- every variant stores the width mod 2^16, BinaryText (`k = 7`) stores half of it
  have hw : (carry k b hl).width = b.width % 65536 ∨ (k = 7 ∧ (carry k b hl).width = b.width / 2 * 2) := by
    rcases hk' with rfl | rfl | rfl | rfl | rfl | rfl | rfl | rfl | rfl <;> first | exact .inl rfl | exact .inr ⟨rfl, rfl⟩
  have e : (carry k b hl).width = b.width := by
    rcases hw with hw | ⟨h7, hw⟩
    · rw [hw]; omega
    · rw [hw]; have := hbin h7; omega
  rw [e, if_pos ⟨h1, h2⟩]

/-- the ten writers that append SAUCE (table regenerated from `src/formats/*.rs`: extension, loader default size,
    `resize_to_sauce`, variant written): every one writes a variant covered by the theorems above (`k < 9`), and every
    loader's default width lies in 1..=1000, so `set_sauce_defaults` applies to a record carrying that width -/
theorem writers_covered :
    loaders.length = 10 ∧
    loaders.all (fun l => decide (l.2.2.2.2 < 9) && decide (0 < l.2.1) && decide (l.2.1 ≤ widthMax)) = true := by
  decide

/-! ## 4. `SauceString`: the precise statement about padding, trailing blanks and NULs -/

/-- blank-padded field (`EMPTY ≠ 0`; title, author, group): `read (append_to s)` for every `s` that fits -/
theorem string_rt (len pad : Nat) (hp : pad ≠ 0) (s : List Nat) (hs : s.length ≤ len) (rest : List Nat) :
    strRead len pad (strAppend len pad s [] ++ rest) = .ok (carryPad len pad s) := by
  rw [strRead_append hs, if_neg hp]

/-- … which is: `s` without its trailing pad bytes — except that a string consisting of pad bytes only (in particular
    the empty string) comes back as `len` pad bytes (`is_empty()` is then false although `len()` is 0) -/
theorem string_rt_value (len pad : Nat) (s : List Nat) (hs : s.length ≤ len) :
    carryPad len pad s =
      if s.all (· == pad) then List.replicate len pad else (s.reverse.dropWhile (· == pad)).reverse :=
  carryPad_eq hs

/-- no trailing pad byte: the string comes back byte for byte (embedded and trailing NULs included) -/
theorem string_rt_exact (len pad : Nat) (hp : pad ≠ 0) (s : List Nat) (hs : s.length ≤ len) (hne : s ≠ [])
    (hlast : s.getLast? ≠ some pad) (rest : List Nat) :
    strRead len pad (strAppend len pad s [] ++ rest) = .ok s := by
  rw [string_rt len pad hp s hs rest, carryPad_exact hs hne hlast]

/-- trailing blanks and NULs: whatever `s` is, what comes back is equal to it in the sense of `PartialEq` and has the
    same `to_string()` (both ignore trailing blanks/NULs), when the pad byte is a blank or NUL -/
theorem string_rt_equal (len pad : Nat) (hpad : stripSet.contains pad = true) (s : List Nat) (hs : s.length ≤ len) :
    strEq (carryPad len pad s) s = true ∧ strText (carryPad len pad s) = strText s := by
  have t := carryPad_stripT hs hpad
  exact ⟨(strEq_iff _ _).mpr t, by rw [strText_eq, strText_eq]; exact t⟩

/-- NUL-padded field (comment lines, font name): cut at the first NUL, nothing else changes — trailing blanks stay -/
theorem string_rt_nul (len : Nat) (s : List Nat) (hs : s.length ≤ len) (rest : List Nat) :
    strRead len 0 (strAppend len 0 s [] ++ rest) = .ok (s.takeWhile (· != 0)) ∧
    (0 ∉ s → strRead len 0 (strAppend len 0 s [] ++ rest) = .ok s) := by
  have h : strRead len 0 (strAppend len 0 s [] ++ rest) = .ok (carryNul s) := by rw [strRead_append hs, if_pos rfl]
  refine ⟨h, fun h0 => ?_⟩
  rw [h]
  congr 1
  exact takeWhile_ne_zero_self s h0

/-- `read` itself: never panics when the slice holds `LEN` bytes (the only way `extract` calls it) -/
theorem string_read_total (len pad : Nat) (d : List Nat) (h : len ≤ d.length) : ∃ s, strRead len pad d = .ok s :=
  ⟨_, strRead_eq h⟩

/-! ## 5. non-vacuity: concrete files through the model -/

def exMeta : Meta := { title := [72, 105, 32, 32], author := [0], group := [], comments := [[99, 49], [32]], ar := true, ls := false }
def exBuf : BufInfo := { sauce := some exMeta, width := 80, height := 25, ice := true, fontName := [73, 66, 77, 32, 86, 71, 65] }
def exDate : List Nat := [50, 48, 50, 54, 48, 57, 50, 57]
/-- content whose own last bytes are `SAUCE00` -/
def exContentSauce : List Nat := [120, 121] ++ sauceId ++ versionWrite
/-- content whose own last bytes are `COMNT` + 64 bytes -/
def exContentComnt : List Nat := commentId ++ List.replicate 64 65

example : Valid exBuf := ⟨by decide, by decide, by decide, by decide⟩

def written (k : Nat) (content : List Nat) : List Nat :=
  match writeSauceInfo k exBuf exDate content with
  | .ok bytes => bytes
  | _ => []

def check (k : Nat) (content : List Nat) : Bool :=
  match extract (fun _ => true) (written k content), fromBytesSplit (fun _ => true) (written k content) with
  | .ok (some s), .ok (c, some s') =>
    s == carry k exBuf (1 + 5 + 2 * 64 + 128) && s' == s && c == content && s.headerLen == 262 &&
      s.title == [72, 105] && s.comments == [[99, 49], [32]] && (written k content).length == content.length + 262
  | _, _ => false

/-- `check` from the theorems above: only the writer's success and what the variant carries are evaluated -/
theorem check_of_written (k : Nat) (hk : k < 9) (content : List Nat)
    (hw : (match writeSauceInfo k exBuf exDate content with | .ok _ => true | _ => false) = true)
    (hc : ((carry k exBuf 262).title == [72, 105] && (carry k exBuf 262).comments == [[99, 49], [32]]) = true) :
    check k content = true := by
  have hv : Valid exBuf := ⟨by decide, by decide, by decide, by decide⟩
  cases hb : writeSauceInfo k exBuf exDate content with
  | err e => rw [hb] at hw; cases hw
  | panic e => rw [hb] at hw; cases hw
  | ok bytes =>
    obtain ⟨tail, s, rfl, htl, _⟩ := split_exact (fun _ => true) k hk exBuf hv exDate rfl rfl content _ hb
    have ht : tail.length = 261 := htl
    have hlen : (content ++ [eofByte] ++ tail).length - content.length = 262 := by
      simp only [List.length_append, List.length_cons, List.length_nil, ht]; omega
    have hx := extract_write (fun _ => true) k hk exBuf hv exDate rfl rfl content _ hb
    have hs := load_ignores_sauce (fun _ => true) k hk exBuf hv exDate rfl rfl content _ hb
    rw [hlen] at hx hs
    simp only [Bool.and_eq_true, beq_iff_eq] at hc
    have hh : (carry k exBuf 262).headerLen = 262 := rfl
    simp only [check, written, hb, hx, hs, hc.1, hc.2, hh, beq_self_eq_true, Bool.and_true,
      List.length_append, List.length_cons, List.length_nil, ht]

/-- the hypotheses of `extract_write` are satisfiable and the conclusion is what one expects, on content ending in
    `SAUCE00`, in a `COMNT` look-alike block, and on empty content, for the Ansi, Bin and XBin variants -/
example : check 2 exContentSauce = true := check_of_written 2 (by decide) _ (by decide +kernel) (by decide +kernel)
example : check 2 exContentComnt = true := check_of_written 2 (by decide) _ (by decide +kernel) (by decide +kernel)
example : check 7 exContentSauce = true := check_of_written 7 (by decide) _ (by decide +kernel) (by decide +kernel)
example : check 8 [] = true := check_of_written 8 (by decide) _ (by decide +kernel) (by decide +kernel)

/-- a record that announces two comment lines, cut off from its `COMNT` block, is rejected -/
example : (match extract (fun _ => true) ((written 2 []).drop 134) with
    | .err .invalidCommentBlock => true | _ => false) = true := by decide +kernel
/-- the repaired defect: a file that is nothing but an engine-written record (no content, no EOF byte) — the whole
    file is SAUCE, nothing panics (`len - 1` underflowed here on the pinned tree) -/
def recordOnly : List Nat :=
  match writeSauceInfo 2 { exBuf with sauce := none } exDate [] with
  | .ok bytes => bytes.drop 1
  | _ => []
example : recordOnly.length = 128 := by decide +kernel
example : (match extract (fun _ => true) recordOnly, fromBytesSplit (fun _ => true) recordOnly with
    | .ok (some s), .ok (c, some _) => s.headerLen == 128 && c == [] | _, _ => false) = true := by decide +kernel
/-- COMNT block + record without content/EOF: also the whole file -/
example : (match extract (fun _ => true) ((written 2 []).drop 1) with
    | .ok (some s) => s.headerLen == 261 && s.comments.length == 2 | _ => false) = true := by decide +kernel
/-- other outcomes are reachable: a rejected date; a file too short for a record is a file without one -/
example : (match extract (fun _ => false) (written 2 []) with | .err .unsupportedDate => true | _ => false) = true := by
  decide +kernel
example : (match extract (fun _ => true) (List.replicate 127 0) with | .ok none => true | _ => false) = true := by
  decide +kernel
/-- the empty string comes back as 35 blanks, `Hi  ` as `Hi`, `A\0` unchanged -/
example : carryPad 35 32 [] = List.replicate 35 32 := by decide
example : carryPad 35 32 [72, 105, 32, 32] = [72, 105] := by decide
example : carryPad 35 32 [65, 0] = [65, 0] ∧ strEq [65, 0] [65] = true := by decide
/-- a comment with an embedded NUL is cut there -/
example : carryNul [65, 0, 66] = [65] := by decide

end IcyVerif.C11
