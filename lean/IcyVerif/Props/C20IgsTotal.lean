import IcyVerif.Props.C20Igs
import IcyVerif.Lemmas.IgsTotal
/-!
# C20, IGS DrawExecutor part — executor-level totality

Property sentence addressed: "It never panics or aborts" for the IGS executor as a whole.  The full statement would be
`Good p → Aux p → ParamsOk ps → (exec p name ps).Safe` for EVERY command name; what is proved (`igs_exec_total_partial`)
leaves four command names out.

The model (`Model/IgsPaint.lean`) makes every Rust panic of `execute_command` and of the painting primitives (index out
of range, i32 / i64 overflow in the debug profile, division by zero) the explicit outcome `panic` and a loop that runs
out of fuel the outcome `stall`; the theorems below exclude these outcomes arm by arm.
-/
namespace IcyVerif.C20
open IcyVerif

/-- the auxiliary invariant holds in the initial executor -/
theorem igs_aux_initial : IgsPaint.Aux IgsPaint.Paint.new :=
  ⟨by unfold IgsPaint.Bd; decide, by unfold IgsPaint.Bd; decide, by decide, by unfold IgsPaint.Bd2; decide, by unfold IgsPaint.Bd2; decide, by decide⟩

/-- `execute_command` keeps the auxiliary invariant `Aux` (current position within ±2^20 — it is only ever written
from parameter values by DrawLine / LineDrawTo / PolyLine —, a fill pattern with at least one row — every pattern
table AttributeForFills selects from has 8 or 16 rows —, the recorded size of the saved block within ±2^21, a polymarker
type 0..5 — LineMarkerTypes accepts 1..=6 only) for EVERY
command name and EVERY parameter list within `ParamsOk`, whether it answers `Ok` or `Err`.  Together with
`igs_exec_keeps_invariant` this makes the hypotheses of `igs_exec_total_partial` hold along every stream of commands
whose parameters are within `ParamsOk`. -/
theorem igs_exec_keeps_aux (p : IgsPaint.Paint) (name : String) (ps : List Int) (hg : IgsPaint.Good p) (ha : IgsPaint.Aux p)
    (hps : IgsPaint.ParamsOk ps) : (IgsPaint.exec p name ps).All IgsPaint.Aux := (IgsPaint.exec_post hg).aux ha hps

/-- non-vacuity: the hypotheses are satisfied by the initial executor and a parameter list of the property's range -/
example : ∃ (p : IgsPaint.Paint) (ps : List Int), IgsPaint.Good p ∧ IgsPaint.Aux p ∧ IgsPaint.ParamsOk ps ∧ ps.length = 4 :=
  ⟨IgsPaint.Paint.new, [1, 2, 99999, -50], IgsCanvas.paint_new_good, igs_aux_initial,
    (by intro v hv; simp at hv; unfold IgsPaint.BdM; omega), rfl⟩

/-- PARTIAL executor-level totality.  In every state satisfying the executor invariant `Good` and the auxiliary
invariant `Aux`, for every parameter list — ANY length — whose values are within ±(2^20 - 64) (`ParamsOk`: the property's
range -50..=99999 and everything the `&` loop arithmetic `x`, `y`, `+n`, `-n`, `!n` makes of it), `execute_command`
neither panics (no index out of range, no i32 / i64 overflow, no division by zero, no `unwrap` on `None`) nor stalls
(every fuelled loop ends within its fuel), for EVERY command name EXCEPT the four arms of `IgsPaint.hardArms`:

  RoundedRectangles, Circle, Ellipse, PolyFill.

Covered (27 named arms + the `Unimplemented` default): Initialize, AskIG, Cursor, ColorSet, SetPenColor (pen index
guard + sixteen pens), DrawLine, LineDrawTo (current position within range by `Aux`), Box (clipped fill + four border
lines), HollowSet, Pieslice, EllipticalArc, QuickPause, AttributeForFills, FilledRectangle, TimeAPause (as repaired),
PolymarkerPlot (all six stroke tables are well formed — `markerTables_ok`, a `decide` over the regenerated tables: every
count and every coordinate pair is inside its table, offsets at most 64 — so no index panic and every stroke is a
poly-line inside ±2^20), TextEffects, LineMarkerTypes, DrawingMode, SetResolution, FloodFill, VTColor (every entry of the regenerated
REGISTER_TO_PEN table is a pen number), VTPosition, ScreenClear, PolyLine (`points * 2 + 1` cannot overflow; an even
coordinate list), GrabScreen modes 0, 1, 2, 3 and every other mode / length (blit arithmetic within i32, source offset in
i64, destination clipped; `Safe` says nothing about time: the loops of modes 2 / 3 run over the whole requested block,
up to 2^22 x 2^22 rounds for corners within ±2^21, however little of it reaches the screen), and WriteText, whose model outcome is `unmodelled` (f32 glyph scaling: neither
proved nor excluded here; correspondence + oracle only).

MISSING for the full statement — no totality proof exists for these four arms; whether they can panic is not decided here
(they keep only the conditional `igs_exec_keeps_invariant` /
`igs_exec_keeps_aux`): that the scan conversion of `fill_poly` (PolyFill, RoundedRectangles with fill) stays inside
i32 after the i64 division and finds its intersections in pairs, that the products `k * r` of `round_rect` and the
corner sums stay inside i32, and that the ellipse / circle loops (Circle, Ellipse) end within their fuel with their i64 error
terms in range. -/
theorem igs_exec_total_partial (p : IgsPaint.Paint) (name : String) (ps : List Int) (hg : IgsPaint.Good p) (ha : IgsPaint.Aux p)
    (hps : IgsPaint.ParamsOk ps) (hn : name ∉ IgsPaint.hardArms) : (IgsPaint.exec p name ps).Safe :=
  (IgsPaint.exec_post hg).safe ha hps hn

/-- non-vacuity: the hypotheses hold for a Box with corners at the edge of `ParamsOk` on the initial executor -/
example : ∃ (p : IgsPaint.Paint) (ps : List Int), IgsPaint.Good p ∧ IgsPaint.Aux p ∧ IgsPaint.ParamsOk ps ∧ "Box" ∉ IgsPaint.hardArms ∧ ps.length = 5 :=
  ⟨IgsPaint.Paint.new, [-1048512, 1048512, 1048512, -1048512, 0], IgsCanvas.paint_new_good, igs_aux_initial,
    (by intro v hv; simp at hv; unfold IgsPaint.BdM; omega), by decide, rfl⟩

example : "GrabScreen" ∉ IgsPaint.hardArms ∧ "LineDrawTo" ∉ IgsPaint.hardArms ∧ "PolymarkerPlot" ∉ IgsPaint.hardArms ∧ "Circle" ∈ IgsPaint.hardArms := by decide

end IcyVerif.C20
