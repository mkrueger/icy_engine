import IcyVerif.Lemmas.FontRt
/-! # C17 — PSF1 / PSF2 files as the loader really reads them

The engine WRITES only PSF2 with a 32-byte header and flags 0 (`psf2_rt`).  It READS PSF1 (256 or 512 glyphs, mode bits),
and PSF2 with any `headersize` / `flags`.  These theorems say exactly what the loaders accept and what they ignore, and
that everything they accept inside the property's quantifier (width 8, 256 or 512 complete glyphs) survives the engine's
own encoding. -/
namespace IcyVerif.C17
open IcyVerif.Font

/-- **PSF1, exact**: for every mode byte and every char size ≥ 1, the file is accepted; the nominal length is 512 iff mode
    bit 0 is set (HASTAB = 2, HASSEQ = 4 and every other bit are ignored); the glyph table is EVERY complete chunk of
    `charsize` bytes behind the header — however many there are — and a shorter rest is dropped -/
theorem psf1_load_exact (mode cs : Nat) (hcs : 1 ≤ cs) (gs : List (Option Glyph)) (hr : AllRows cs gs)
    (hn : gs.length ≤ 55296) (t : List Nat) (ht : t.length < cs) :
    fromBytes (0x36 :: 0x04 :: mode :: cs :: (flat gs ++ t)) =
      .ok { w := 8, h := cs, length := if mode % 2 = 1 then 512 else 256, glyphs := gs } := by
  rw [fromBytes_psf1 mode cs (by omega), glyphsFromU8_flat_tail cs hcs gs hr hn t ht]

/-- char size 0: rejected for every mode byte and every rest (repair of `BitFont::from_bytes`: a font of height 0 in
    slot 0 made `parse_with_parser` divide by zero when it sized a sixel layer) -/
theorem psf1_charsize_zero (mode : Nat) (rest : List Nat) :
    fromBytes (0x36 :: 0x04 :: mode :: 0 :: rest) = .err := by
  unfold fromBytes
  simp

/-- **PSF1 → the engine's encoding → back**: a PSF1 file that holds exactly the number of glyphs its mode byte announces
    (256, or 512 with mode bit 0) loads as a font that `to_psf2_bytes` / `from_bytes` give back unchanged: the 512-glyph
    fonts of the quantifier ("512 for PSF") enter through PSF1 and survive PSF2 -/
theorem psf1_to_psf2_rt (mode cs : Nat) (hcs : 1 ≤ cs) (h255 : cs ≤ 255) (gs : List (Option Glyph)) (hr : AllRows cs gs)
    (hn : gs.length = if mode % 2 = 1 then 512 else 256) :
    ∃ f, fromBytes (0x36 :: 0x04 :: mode :: cs :: flat gs) = .ok f ∧ f.glyphs = gs ∧ f.length = gs.length ∧
      ∃ bytes, f.toPsf2 = .ok bytes ∧ fromBytes bytes = .ok f := by
  have hn' : gs.length ≤ 55296 := by rw [hn]; split <;> omega
  have h := psf1_load_exact mode cs hcs gs hr hn' [] (by simp; omega)
  rw [List.append_nil] at h
  refine ⟨_, h, rfl, ?_, ?_⟩
  · simp only; rw [hn]; split <;> rfl
  · have wf : WfFont { w := 8, h := cs, length := if mode % 2 = 1 then 512 else 256, glyphs := gs } cs :=
      { w8 := rfl, hh := rfl, h1 := hcs, h255 := h255, n := hn', len := by simp only; rw [hn]; split <;> rfl, rows := hr }
    exact ⟨_, toPsf2_eq _ cs wf.len wf.rows, psf2_roundtrip _ cs wf.toW⟩

/-- **PSF2, exact**: the loader's decision and result for every value of every header field.  `flags` does not occur on
    the right-hand side except through `drop hs` (the loader never reads it; a unicode table is not skipped, it breaks the
    length equation); `headersize` is only the offset of the glyph data and a term of the length equation — values below
    32 are accepted (the glyph data then overlaps the header) -/
theorem psf2_load_exact (version hs flags len cs height width : Nat) (body : List Nat)
    (hv : version < 4294967296) (hhs : hs < 4294967296) (hl : len < 4294967296) (hc : cs < 4294967296)
    (hht : height < 4294967296) (hw : width < 4294967296) :
    fromBytes (psf2File version hs flags len cs height width body) =
      (if version > 0 then .err
       else if asI32 len < 0 ∨ asI32 cs ≤ 0 ∨ asI32 len * asI32 cs + (hs : Int) ≠ ((32 + body.length : Nat) : Int) ∨
           asI32 cs ≠ ((height * ((width + 7) / 8) : Nat) : Int) then .err
       else .ok { w := asI32 width, h := asI32 height, length := asI32 len,
                  glyphs := glyphsFromU8 height ((psf2File version hs flags len cs height width body).drop hs) }) :=
  fromBytes_psf2 version hs flags len cs height width body hv hhs hl hc hht hw

/-- **flags are ignored**: with a header size of at least 16 (so that the glyph data does not overlap the flags field) two
    files that differ only in `flags` load alike -/
theorem psf2_flags_ignored (version hs flags flags' len cs height width : Nat) (body : List Nat) (h16 : 16 ≤ hs)
    (hv : version < 4294967296) (hhs : hs < 4294967296) (hl : len < 4294967296) (hc : cs < 4294967296)
    (hht : height < 4294967296) (hw : width < 4294967296) :
    fromBytes (psf2File version hs flags len cs height width body) = fromBytes (psf2File version hs flags' len cs height width body) := by
  rw [fromBytes_psf2 version hs flags len cs height width body hv hhs hl hc hht hw,
      fromBytes_psf2 version hs flags' len cs height width body hv hhs hl hc hht hw]
  have hd : ∀ fl, (psf2File version hs fl len cs height width body).drop hs =
      (u32le len ++ u32le cs ++ u32le height ++ u32le width ++ body).drop (hs - 16) := by
    intro fl
    have e : psf2File version hs fl len cs height width body =
        (u32le psf2Magic ++ u32le version ++ u32le hs ++ u32le fl) ++ (u32le len ++ u32le cs ++ u32le height ++ u32le width ++ body) := by
      simp [psf2File, List.append_assoc]
    have l : (u32le psf2Magic ++ u32le version ++ u32le hs ++ u32le fl).length = 16 := by simp [u32le]
    rw [e, List.drop_append, l]
    have : List.drop hs (u32le psf2Magic ++ u32le version ++ u32le hs ++ u32le fl) = [] := by
      apply List.drop_eq_nil_of_le; omega
    rw [this, List.nil_append]
  rw [hd flags, hd flags']

/-- **header size**: a PSF2 file whose header announces `hs ≥ 32` bytes and has `hs - 32` bytes of anything between the
    32 fixed bytes and the glyphs (any flags) loads as the font -/
theorem psf2_headersize_rt (f : BitFont) (h : Nat) (wf : WfFont f h) (hs flags : Nat) (pad : List Nat)
    (h32 : 32 ≤ hs) (hhs : hs < 4294967296) (hp : pad.length = hs - 32) :
    fromBytes (psf2File 0 hs flags f.glyphs.length h h 8 (pad ++ flat f.glyphs)) = .ok f := by
  have := psf2File_rt f h wf.toW hs flags pad h32 hhs hp
  rwa [wf.w8] at this

/-- **a unicode table is not understood**: what `to_psf2_bytes` writes, followed by anything (a PSF2 unicode table, with or
    without the HAS_UNICODE_TABLE flag), is rejected — the loader insists on `length * charsize + headersize = file size` -/
theorem psf2_unicode_table_rejected (f : BitFont) (h : Nat) (wf : WfFont f h) (flags : Nat) (t : List Nat) (ht : t ≠ []) :
    fromBytes (psf2File 0 32 flags f.glyphs.length h h 8 (flat f.glyphs ++ t)) = .err := by
  have hn := wf.n
  have h255 := wf.h255
  rw [fromBytes_psf2 0 32 flags f.glyphs.length h h 8 _ (by omega) (by omega) (by omega) (by omega) (by omega) (by omega)]
  rw [if_neg (by omega), asI32_small _ (by omega), asI32_small _ (by omega)]
  have hlen := flat_length h _ wf.rows
  have htl : 0 < t.length := by cases t with | nil => exact absurd rfl ht | cons _ _ => simp
  rw [if_pos (by
    right; right; left
    simp only [List.length_append, hlen]
    rw [← Int.natCast_mul]
    omega)]

/-- what `to_psf2_bytes` writes is the `psf2File` with header size 32 and flags 0 -/
theorem toPsf2_is_psf2File (f : BitFont) (h : Nat) (wf : WfFont f h) :
    f.toPsf2 = .ok (psf2File 0 32 0 f.glyphs.length h h 8 (flat f.glyphs)) := by
  rw [toPsf2_eq f h wf.len wf.rows, psf2Header_eq_w f h wf.toW, wf.w8]
  rfl


/-- a PSF1 file with HASTAB whose unicode table follows 256 one-row glyphs: the two table bytes become glyphs 256 and 257
    of a font whose nominal length is 256; `to_psf2_bytes` writes the nominal 256 glyphs, so the extra entries are gone
    after the engine's own encoding (such fonts are outside the quantifier: their glyph table is not 256 / 512 long) -/
theorem psf1_unicode_table_read_as_glyphs :
    let file : List Nat := [0x36, 0x04, 2, 1] ++ List.replicate 256 7 ++ [0xFF, 0xFF]
    (match fromBytes file with
     | .ok f => decide (f.length = 256) && decide (f.glyphs.length = 258) &&
        (match f.toPsf2 with
         | .ok b => (match fromBytes b with | .ok g => decide (g.glyphs.length = 256) && decide (g ≠ f) | _ => false)
         | _ => false)
     | _ => false) = true := by
  decide +kernel

/-- a PSF2 font 16 pixels wide: accepted with charsize = 2 * height, but the glyph loop cuts the data by `height`, not by
    `charsize` — one glyph of two bytes is read as two glyphs of one byte (width 8 is the only width in the quantifier) -/
theorem psf2_wide_font_quirk :
    fromBytes (psf2File 0 32 0 1 2 1 16 [0xAA, 0xBB]) =
      .ok { w := 16, h := 1, length := 1, glyphs := [some [0xAA], some [0xBB]] } := by
  decide +kernel

example : fromBytes ([0x36, 0x04, 5, 2] ++ (List.replicate 512 [1, 2]).flatten ++ [9]) =
    .ok { w := 8, h := 2, length := 512, glyphs := List.replicate 512 (some [1, 2]) } := by
  have := psf1_load_exact 5 2 (by decide) (List.replicate 512 (some [1, 2]))
    (fun g hg => ⟨[1, 2], List.eq_of_mem_replicate hg, rfl⟩) (by rw [List.length_replicate]; decide) [9] (by decide)
  rw [flat_replicate] at this
  exact this
example : fromBytes (psf2File 0 40 1 256 1 1 8 (List.replicate 8 0xEE ++ List.replicate 256 5)) =
    .ok { w := 8, h := 1, length := 256, glyphs := List.replicate 256 (some [5]) } := by decide +kernel
example : fromBytes (psf2File 0 32 1 256 1 1 8 (List.replicate 256 5 ++ [0xFF])) = .err := by decide +kernel

end IcyVerif.C17
