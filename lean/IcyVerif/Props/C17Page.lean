import IcyVerif.Lemmas.FontBoxPage
import IcyVerif.Props.C07
import IcyVerif.Lemmas.FontRaw
/-!
# C17 — which font goes where: cells on a font page k ≠ 0, fonts in slots other than 0

`Props/C17.lean` states the container round trips for pictures whose cells are on page 0 (XBin 512: pages 0 and 1) — the
identity between the PAGE the cells refer to, the SLOT the font sits in and the slot the loader puts it back into.  The
writers do not assume that identity: `Artworx::to_bytes` / `IceDraw::to_bytes` / `XBin::to_bytes` embed the font of
`analyze_font_usage(buf).first()`, the loaders install it as slot 0; the IcyDraw writer writes a `FONT_k` chunk for EVERY
slot k, the built-in default font included.  Here: which font the file holds (`embedded_font_is_the_font_of_the_page`), the ADF /
IDF round trip of a picture on page k (`adf_idf_font_rt_page`), the IcyDraw chunk of every slot (`icy_every_slot_has_a_chunk`).

XBin pictures on pages other than [0] / [0, 1]: the writer half is `embedded_font_is_the_font_of_the_page`; the loader
half is proved for pages [0] / [0, 1] only (`xb_font_rt`) — C05's `xb_roundtrip` is stated for those; the other pages
are covered by the correspondence run and the oracle (family `page` of `harness/src/fontslot.rs`).
-/
namespace IcyVerif.C17
open IcyVerif.Font IcyVerif.FontBox IcyVerif.BinFormats IcyVerif.XbCompress IcyVerif.Gen

/-- **Which font is embedded** — for EVERY picture the XBin / ADF / IDF writer accepts: if the file has a font block at
    all (`fontBlocks` non-empty: always for ADF / IDF), its first block holds the glyph bytes of the font in the slot of
    the first font page the cells use (`analyze_font_usage(buf).first()`), and a second block (XBin 512) those of the
    second page.  A writer that took `get_font(0)` instead fails this for every picture on a page k ≠ 0 whose slot 0
    holds other glyphs. -/
theorem embedded_font_is_the_font_of_the_page (f : Fmt) (o : Opts) (date : List Nat) (p : Pic) (bytes : List Nat)
    (h : save f o date p = .ok bytes) (i : Nat) (b : Nat × Nat × Nat) (hb : (fontBlocks f o p)[i]? = some b) :
    b.1 = (analyzeFontUsage p.rows.flatten).getD i 0 ∧
      ∃ font, lookupFont p.fonts ((analyzeFontUsage p.rows.flatten).getD i 0) = some font ∧
        (bytes.drop b.2.1).take b.2.2 = font.data := by
  obtain ⟨font, hf1, hf2⟩ := font_blocks_hold f o date p bytes h b (List.mem_of_getElem? hb)
  have hslot := fontBlocks_page f o p i b hb
  exact ⟨hslot, font, by rw [← hslot]; exact hf1, hf2⟩

/-- **ADF / IDF, cells on font page k** (any k; with or without a SAUCE record; IDF raw or run-length coded): the 8x16 font
    in SLOT k — not the one in slot 0 — is embedded and comes back, glyph for glyph, as slot 0 of the loaded buffer,
    whatever font slot 0 holds next to it — of ANY size: `boxOkPage` only asks that slot 0 holds some font (every
    `Buffer::new` has one; `write_sauce_info` takes the font name of the SAUCE record from it).
    FULL strength: the writers test the size of the font they embed (the pinned tree tested slot 0 but embedded slot k;
    `adf_slot0_height_repaired`).  What stays excluded is C05's: saved WITHOUT a SAUCE record, a file whose last 128 bytes
    read as one (`looksLikeSauce bytes = false`, finding `<fmt>:content-reads-as-sauce`, a property of the container). -/
theorem adf_idf_font_rt_page (fm : Fmt) (hfm : fm = .adf ∨ fm = .idf) (o : Opts) (date : List Nat) (k : Nat) (p : Pic)
    (hok : boxOkPage fm k p = true) (hdate : dateOk date = true) (name : List Nat) (f : BitFont) (wf : WfFont f 16)
    (h256 : f.glyphs.length = 256) (hp : lookupFont p.fonts k = boxFont name f) :
    ∃ bytes, save fm o date p = .ok bytes ∧
      ((o.sauce = true ∨ looksLikeSauce bytes = false) → ∃ g, fromBytes fm bytes = .ok g ∧ FontBack g 0 f) :=
  page_font_roundtrip fm hfm o date k p hok (fun _ => hdate) name f wf h256 hp


def pageDate : List Nat := [50, 48, 50, 52, 48, 50, 50, 57]
/-- glyph `g` = sixteen rows of byte `g` -/
def idx16 : BitFont := { w := 8, h := 16, length := 256, glyphs := (List.range 256).map fun g => some (List.replicate 16 g) }
def idx16Box : BinFormats.Font := ⟨[70], 16, (List.range 256).flatMap fun g => List.replicate 16 g⟩
def cellOn (page x : Nat) : Cell := ⟨x % 256, ⟨x % 16, (x / 3) % 16, 0, page⟩⟩
/-- 80 x 1, every cell on page 3; slot 0 = the built-in default font, slot 3 = `idx16` -/
def adfPagePic : Pic := ⟨80, 1, [(List.range 80).map (cellOn 3)], .ice, dosPalette, [(0, defaultFont), (3, idx16Box)], none⟩
/-- 3 x 2 on page 300; slot 0 = an all-zero 8x14 font (not a font the format can hold — it is not the one embedded) -/
def idfPagePic : Pic := ⟨3, 2, [(List.range 3).map (cellOn 300), (List.range 3).map (cellOn 300)], .ice, dosPalette,
  [(300, idx16Box), (0, ⟨[90], 14, List.replicate 3584 0⟩)], none⟩

/-- 256 glyphs of 16 rows -/
theorem idx16Box_length : idx16Box.data.length = 4096 := by
  simp only [idx16Box, List.length_flatMap, List.length_replicate]
  decide +kernel
theorem adfPagePic_ok : boxOkPage .adf 3 adfPagePic = true :=
  (boxOkPage_iff _ _ _).mpr ⟨by decide +kernel, rfl, idx16Box, rfl, rfl, idx16Box_length⟩
theorem idfPagePic_ok : boxOkPage .idf 300 idfPagePic = true :=
  (boxOkPage_iff _ _ _).mpr ⟨by decide +kernel, rfl, idx16Box, rfl, rfl, idx16Box_length⟩
theorem idx16_wf : WfFont idx16 16 :=
  wf_table 16 (by decide) (by decide) (List.replicate 16) fun _ => List.length_replicate
theorem idx16_boxed : boxFont [70] idx16 = some idx16Box := by
  rw [boxFont_wf [70] idx16 16 idx16_wf]
  simp only [idx16, flat_map_some]
  rfl

/-- the last eight glyphs of `idx16Box` apart: behind an IDF image, they and the palette hold the last 128 bytes of the file -/
theorem idx16Box_split : idx16Box.data = (List.range 248).flatMap (fun g => List.replicate 16 g) ++
    (List.range' 248 8).flatMap (fun g => List.replicate 16 g) := by
  rw [← List.flatMap_append, show List.range 248 ++ List.range' 248 8 = List.range 256 by decide +kernel]
  rfl

/-- an IDF file without SAUCE record of a picture with the default palette whose embedded font is `idx16Box`: its length, and
    that its tail does not read as a record (the tail lies in the last glyphs and the palette) -/
theorem idf_idx16_plain (compress : Bool) (date : List Nat) (p : Pic) (img : List Nat) (h1 : p.ice = .ice)
    (h2 : p.h ≤ BinFmt.idfMaxHeight) (hu : (analyzeFontUsage p.rows.flatten).length ≤ 1) (hp : p.pal = dosPalette)
    (himg : idfRows compress p.rows = some img)
    (hf : lookupFont p.fonts ((analyzeFontUsage p.rows.flatten).headD 0) = some idx16Box) :
    ∃ b, save .idf ⟨false, compress⟩ date p = .ok b ∧ b.length = 12 + img.length + 4096 + 48 ∧ looksLikeSauce b = false := by
  have hpal : (asVec63 dosPalette).length = 48 := by decide
  obtain ⟨b, hb, hl, hs⟩ := idf_plain_tail compress date p img idx16Box _ _ h1 h2 hu (by rw [hp]; decide) himg hf rfl idx16Box_split
    (by rw [hp]; decide +kernel) (by rw [hp]; decide +kernel)
  exact ⟨b, hb, by rw [hl, idx16Box_length, hp, hpal], hs⟩

example : boxOkPage .adf 3 adfPagePic = true := adfPagePic_ok
example : boxOkPage .idf 300 idfPagePic = true := idfPagePic_ok
example : boxFont [70] idx16 = some idx16Box := idx16_boxed
example : WfFont idx16 16 := idx16_wf
/-- the hypotheses do not hide the identity: slot 0 holds other glyphs than slot 3, and slot 3 is what comes back -/
example : lookupFont adfPagePic.fonts 0 ≠ lookupFont adfPagePic.fonts 3 := by decide +kernel
example : fontBlocks .adf ⟨true, false⟩ adfPagePic = [(3, 193, 4096)] := by
  have hu : analyzeFontUsage adfPagePic.rows.flatten = [3] := by decide +kernel
  have hl : lookupFont adfPagePic.fonts 3 = some idx16Box := rfl
  simp [fontBlocks, hu, hl, idx16Box_length, BinFmt.adfPaletteSize]
example : (match save .adf ⟨true, false⟩ pageDate adfPagePic with
    | .ok b => (match fromBytes .adf b with
      | .ok g => (lookupFont g.fonts 0).map unboxFont == some idx16
      | _ => false)
    | _ => false) = true := by
  obtain ⟨bytes, h1, h2⟩ := adf_idf_font_rt_page .adf (Or.inl rfl) ⟨true, false⟩ pageDate 3 adfPagePic adfPagePic_ok
    (by decide) [70] idx16 idx16_wf (by decide +kernel) (by rw [idx16_boxed]; rfl)
  simp only [h1]
  exact fontBack_check (h2 (Or.inl rfl))
/-- saved without a SAUCE record: the file is known from the writer's specification, its tail does not read as a record -/
example : (match save .idf ⟨false, true⟩ pageDate idfPagePic with
    | .ok b => (match fromBytes .idf b with
      | .ok g => (lookupFont g.fonts 0).map unboxFont == some idx16
      | _ => false)
    | _ => false) = true := by
  obtain ⟨bytes, h1, h2⟩ := adf_idf_font_rt_page .idf (Or.inr rfl) ⟨false, true⟩ pageDate 300 idfPagePic idfPagePic_ok
    (by decide) [70] idx16 idx16_wf (by decide +kernel) (by rw [idx16_boxed]; rfl)
  have hu : analyzeFontUsage idfPagePic.rows.flatten = [300] := by decide +kernel
  cases hi : idfRows true idfPagePic.rows with
  | none => exact absurd hi (by decide +kernel)
  | some img =>
    obtain ⟨b, hb, _, hs⟩ := idf_idx16_plain true pageDate idfPagePic img rfl (by decide) (by rw [hu]; decide) rfl hi (by rw [hu]; rfl)
    rw [h1] at hb
    cases hb
    simp only [h1]
    exact fontBack_check (h2 (Or.inr hs))

/-- 80 x 1 on page 3; slot 0 = the built-in default font (8x16), slot 3 = an 8x14 font -/
def adfBadPic : Pic := ⟨80, 1, [(List.range 80).map (cellOn 3)], .ice, dosPalette,
  [(0, defaultFont), (3, ⟨[70], 14, List.replicate 3584 7⟩)], none⟩
/-- 80 x 1 on page 3; slot 0 = an 8x14 font, slot 3 = `idx16` (8x16) -/
def adfRefusedPic : Pic := ⟨80, 1, [(List.range 80).map (cellOn 3)], .ice, dosPalette,
  [(0, ⟨[70], 14, List.replicate 3584 7⟩), (3, idx16Box)], none⟩

/-- **The witness of findings `adf_font_height_of_slot0` / `idf_font_height_of_slot0`** (repaired): the size test
    looks at the font that is embedded.  An 8x14 font on page 3 next to an 8x16 font in slot 0 is REFUSED (the pinned tree: a file
    with a 3584-byte font block was written, which the loader rejects); an 8x16 font on page 3 next to an 8x14 font in slot 0
    — a picture the format can hold — is ACCEPTED (the pinned tree: refused) and its font comes back; the same for IDF. -/
theorem adf_slot0_height_repaired :
    (match save .adf ⟨false, false⟩ [] adfBadPic with | .err => true | _ => false) = true ∧
    (match save .adf ⟨false, false⟩ [] adfRefusedPic with
      | .ok b => b.length == 1 + 192 + 4096 + 160 &&
          (match fromBytes .adf b with | .ok g => (lookupFont g.fonts 0).map unboxFont == some idx16 | _ => false)
      | _ => false) = true ∧
    (match save .idf ⟨false, false⟩ [] adfBadPic with | .err => true | _ => false) = true ∧
    (match save .idf ⟨false, false⟩ [] adfRefusedPic with
      | .ok b => b.length == 12 + 160 + 4096 + 48 &&
          (match fromBytes .idf b with | .ok g => (lookupFont g.fonts 0).map unboxFont == some idx16 | _ => false)
      | _ => false) = true := by
  -- without a SAUCE record the file is known from the writer's specification: its length, and that its tail (the cells for
  -- ADF, the last glyphs and the palette for IDF) does not read as a record
  have key : ∀ (fm : Fmt) (n : Nat), fm = .adf ∨ fm = .idf → pageCellsOk fm 3 adfRefusedPic = true →
      (∃ b, save fm ⟨false, false⟩ [] adfRefusedPic = .ok b ∧ b.length = n ∧ looksLikeSauce b = false) →
      (match save fm ⟨false, false⟩ [] adfRefusedPic with
        | .ok b => b.length == n &&
            (match fromBytes fm b with | .ok g => (lookupFont g.fonts 0).map unboxFont == some idx16 | _ => false)
        | _ => false) = true := by
    intro fm n hfm hok ⟨b, hb, hn, hs⟩
    obtain ⟨bytes, h1, h2⟩ := page_font_roundtrip fm hfm ⟨false, false⟩ [] 3 adfRefusedPic
      ((boxOkPage_iff fm 3 _).mpr ⟨hok, rfl, idx16Box, rfl, rfl, idx16Box_length⟩) (fun h => by cases h) [70] idx16 idx16_wf
      (by decide +kernel) (by rw [idx16_boxed]; rfl)
    rw [hb] at h1
    cases h1
    simp only [hb, hn, beq_self_eq_true, Bool.true_and]
    exact fontBack_check (h2 (Or.inr hs))
  have hu : analyzeFontUsage adfRefusedPic.rows.flatten = [3] := by decide +kernel
  have hadf : ∃ b, save .adf ⟨false, false⟩ [] adfRefusedPic = .ok b ∧ b.length = 1 + 192 + 4096 + 160 ∧
      looksLikeSauce b = false := by
    obtain ⟨hc, hl⟩ : (adfRefusedPic.rows.flatMap (fun row => row.flatMap fun c => [c.ch, asU8 .ice c.attr])).length = 160 ∧
        looksLikeSauce (adfRefusedPic.rows.flatMap (fun row => row.flatMap fun c => [c.ch, asU8 .ice c.attr])) = false := by
      decide +kernel
    refine ⟨_, (adfSave_ok_iff [] adfRefusedPic _).mpr ⟨rfl, rfl, by decide, by rw [hu]; decide, idx16Box, by rw [hu]; rfl, rfl,
      by decide +kernel, rfl⟩, ?_, ?_⟩
    · simp only [List.length_append, toEgaData_length, idx16Box_length, hc, List.length_singleton]
    · rw [looksLikeSauce_append _ _ (by rw [hc]; decide), hl]
  have hidf : ∃ b, save .idf ⟨false, false⟩ [] adfRefusedPic = .ok b ∧ b.length = 12 + 160 + 4096 + 48 ∧
      looksLikeSauce b = false := by
    have himg : (idfRows false adfRefusedPic.rows).map List.length = some 160 := by decide +kernel
    cases hi : idfRows false adfRefusedPic.rows with
    | none => rw [hi] at himg; cases himg
    | some img =>
      rw [hi] at himg
      obtain ⟨b, hb, hn, hs⟩ := idf_idx16_plain false [] adfRefusedPic img rfl (by decide) (by rw [hu]; decide) rfl hi
        (by rw [hu]; rfl)
      exact ⟨b, hb, by rw [hn, Option.some.inj himg], hs⟩
  exact ⟨by decide +kernel, key .adf _ (Or.inl rfl) (by decide +kernel) hadf,
    by decide +kernel, key .idf _ (Or.inr rfl) (by decide +kernel) hidf⟩

/-- **IcyDraw writes a `FONT_k` chunk for EVERY font slot** of the document — no hypothesis on the font: also for the built-in
    default font (`is_default()`), also in slots other than 0, where the loader's pre-filled slot 0 cannot stand in for it.
    (With `icy_font_rt`: that chunk is read back into slot k as the font that was saved.) -/
theorem icy_every_slot_has_a_chunk {S : Type} (palEnc : List IcyDraw.RGB → List Nat) (palDec : List Nat → IcyDraw.Res (List IcyDraw.RGB))
    (sauceDec : List Nat → IcyDraw.Res (Option S)) (dflt : IcyFont) (d : IcyDraw.Doc IcyFont S) (cs : List (IcyDraw.Key × List Nat))
    (h : IcyDraw.encodeDoc (icyCodecs palEnc palDec sauceDec dflt) d = some cs) :
    ∀ kf ∈ d.fonts, (IcyDraw.Key.font kf.1, IcyDraw.fontPayload (icyCodecs palEnc palDec sauceDec dflt) kf.2) ∈ cs := by
  intro kf hkf
  unfold IcyDraw.encodeDoc at h
  cases hl : IcyDraw.encodeAllLayers d.layers with
  | none => rw [hl] at h; cases h
  | some ls =>
    rw [hl] at h
    simp only [Option.map_some, Option.some.injEq] at h
    rw [← h]
    unfold IcyDraw.assemble
    simp only [List.mem_append, List.mem_map]
    exact Or.inl (Or.inl (Or.inr ⟨kf, hkf, rfl⟩))

/-- `BitFont::default()` as an IcyDraw font slot: name "Codepage 437 English", the built-in 8x16 glyphs -/
def icyDefault : IcyFont := ⟨BinFmt.defaultFontName, fromBasic 8 16 BinFmt.defaultFontData⟩
def icyCd : IcyDraw.Codecs IcyFont Unit := icyCodecs (fun _ => []) (fun _ => .ok []) (fun _ => .ok none) ⟨[], fromBasic 8 0 []⟩
/-- the custom font `idx16` in slot 0, the built-in default font in slots 1 and 300 -/
def icySlotDoc : IcyDraw.Doc IcyFont Unit :=
  { hdr := ⟨1, 0, 1, 1, 80, 25⟩, sauce := none, palette := [(1, 2, 3)],
    fonts := [(0, ⟨[70], idx16⟩), (1, icyDefault), (300, icyDefault)], layers := [] }

/-- the default font in slots 1 and 300 next to another font in slot 0: three chunks, and each slot reads back as saved -/
example : ((IcyDraw.assemble icyCd icySlotDoc []).filterMap fun c => match c.1 with | .font n => some n | _ => none) = [0, 1, 300] := by
  decide +kernel
example : (match IcyDraw.decodeDoc icyCd (IcyDraw.assemble icyCd icySlotDoc []) with
    | .ok st => decide (st.fontAt 0 = some ⟨[70], idx16⟩) && decide (st.fontAt 1 = some icyDefault) &&
                decide (st.fontAt 300 = some icyDefault) && decide (st.fontAt 5 = none)
    | .fail _ => false) = true := by
  -- the palette codec of `icyCd` loses the palette; the chunks are those of the same document with the palette it decodes to
  have hl : BinFmt.defaultFontData.length = 256 * 16 := by
    simp only [BinFmt.defaultFontData, List.length_append]
    decide +kernel
  have hdef : WfIcyFont icyDefault :=
    ⟨⟨BinFmt.defaultFontName, by decide, by decide⟩, by decide, 16, fromBasic_wf 16 (by decide) (by decide) _ hl⟩
  have hfonts : ∀ kf ∈ icySlotDoc.fonts, WfIcyFont kf.2 := by
    intro kf hkf
    simp only [icySlotDoc, List.mem_cons, List.not_mem_nil, or_false] at hkf
    rcases hkf with rfl | rfl | rfl
    · exact ⟨⟨[70], by decide, by decide⟩, by decide, 16, idx16_wf⟩
    · exact hdef
    · exact hdef
  obtain ⟨cs, st, h1, h2, _, _, h3, _, _⟩ := IcyVerif.C07.doc_rt icyCd (fun _ _ => True) { icySlotDoc with palette := [] }
    ⟨by decide, fun _ h => (nomatch h), by decide, rfl⟩
    ⟨rfl, fun kf hkf => icy_font_codec _ _ _ _ kf.2 (hfonts kf hkf), fun _ _ h => (nomatch h)⟩
  have e : cs = IcyDraw.assemble icyCd icySlotDoc [] := (Option.some.inj h1).symm
  have l0 : ({ icySlotDoc with palette := [] } : IcyDraw.Doc IcyFont Unit).fonts.lookup 0 = some ⟨[70], idx16⟩ := rfl
  have l1 : ({ icySlotDoc with palette := [] } : IcyDraw.Doc IcyFont Unit).fonts.lookup 1 = some icyDefault := rfl
  have l300 : ({ icySlotDoc with palette := [] } : IcyDraw.Doc IcyFont Unit).fonts.lookup 300 = some icyDefault := rfl
  have l5 : ({ icySlotDoc with palette := [] } : IcyDraw.Doc IcyFont Unit).fonts.lookup 5 = none := rfl
  rw [← e, h2]
  simp only [h3, l0, l1, l300, l5, decide_true, Bool.and_self]

end IcyVerif.C17
