import IcyVerif.Props.C12
import IcyVerif.Props.C05
import IcyVerif.Lemmas.ColorOptWriters
/-! # C12 (c): the colour optimiser inside the format writers

`Buffer::to_bytes(ext, options)` is the only place the optimiser is used (`source_skeleton_unchanged` pins the body,
`optimizerCallSites = 1`): with `options.lossles_output = false` (the default) the writer of the format is handed
`ColorOptimizer::optimize(self)` instead of `self`.  `toBytes` is that dispatch, for ANY writer.

* `default_save_is_lossless_save_of_optimised` — what the default save writes is, byte for byte, what the lossless save of
  the optimised buffer writes (tied on the real crate for all 14 writers of the FORMATS table: harness `c12w.rs`, key
  `writer:<ext>:callsite_differs`).
* `default_save_preserves_picture` — the composition every writer needs: a loader/writer pair with a round-trip law at the
  level of the rendered picture on a domain `D`, and `optimize b ∈ D`, gives: the file written by the DEFAULT save loads back
  to a picture that renders identically to the ORIGINAL.  The two premises are exactly what has to be discharged per
  format; `render (optimize b) = render b` is `optimize_preserves_document`.
* `optPic` (Lemmas/ColorOptWriters.lean) is `ColorOptimizer::optimize` on C05's pictures.
* `binary_default_save` — the instance for the five binary formats of C05 (XBin, BIN, ADF, IDF, Tundra), on C05's file
  models: for a picture `p` whose optimised version `p'` is representable in the format, the bytes of the default save load
  back to a buffer that shows `p'` (C05's `SamePicture`: same characters, same displayed colours, blink, font pages,
  embedded fonts and palette) and `p'` renders, cell for cell, like `p` (C12).
* `representable_optPic` — C05's domain is CLOSED under the optimiser (the rewritten fields are inherited from another cell
  of the picture or from the default attribute, all domain conditions are per-field), hence
  `binary_default_save_of_representable`: the hypothesis is the one of the C05 round-trip theorem for `p` ITSELF.
For the text formats (ANSI, PCBoard, Avatar, ASCII, Ctrl-A, Renegade, ATASCII) and IcyDraw the same composition is checked by
the oracle of `c12w.rs` on the real crate: whenever the lossless file reloads to the original picture, the default file does. -/
namespace IcyVerif.C12
open IcyVerif.Comp IcyVerif.ColorOpt IcyVerif.Gen.Fonts

/-! ## the dispatch in `Buffer::to_bytes` -/

/-- `Buffer::to_bytes` after the format was found: `write` is `fmt.to_bytes(·, options)`, `opt` is
    `ColorOptimizer::new(self, options).optimize` -/
def toBytes {Buf Bytes : Type} (write : Buf → Bytes) (opt : Buf → Buf) (lossless : Bool) (b : Buf) : Bytes :=
  if lossless then write b else write (opt b)

theorem default_save_is_lossless_save_of_optimised {Buf Bytes : Type} (write : Buf → Bytes) (opt : Buf → Buf) (b : Buf) :
    toBytes write opt false b = toBytes write opt true (opt b) := rfl

/-- **Composition.**  `rt`: on the domain `D` the writer/loader pair reproduces the rendered picture; `hD`: the optimised
    buffer is in `D`; `hopt`: the optimiser preserves the rendered picture (C12).  Then the DEFAULT save of `b` loads back to
    a buffer that renders like `b` itself. -/
theorem default_save_preserves_picture {Buf Bytes Img : Type} (write : Buf → Bytes) (load : Bytes → Option Buf)
    (render : Buf → Img) (opt : Buf → Buf) (D : Buf → Prop)
    (rt : ∀ b, D b → ∃ g, load (write b) = some g ∧ render g = render b)
    (hopt : ∀ b, render (opt b) = render b) (b : Buf) (hD : D (opt b)) :
    ∃ g, load (toBytes write opt false b) = some g ∧ render g = render b := by
  obtain ⟨g, hl, hr⟩ := rt (opt b) hD
  exact ⟨g, hl, by rw [hr, hopt]⟩

/-! ## the binary formats of C05 -/
section binary
open IcyVerif.BinFormats

/-- the optimised picture renders, cell for cell, like the original — every palette, every font-0 size -/
theorem optPic_renders_same (norm : Bool) (p p' : Pic) (hopt : optPic norm p = some p') (hfonts : FontsOk (fontsOf p))
    (pal : Nat → ColorOpt.Rgb) (w0 h0 : Nat) :
    p'.rows.map (·.map (fun c => renderCell (fontsOf p) pal w0 h0 (toC c))) =
      p.rows.map (·.map (fun c => renderCell (fontsOf p) pal w0 h0 (toC c))) := by
  obtain ⟨rows', k, ho, rfl⟩ := optPic_some hopt
  have h := optimize_preserves_rows (fontsOf p) pal w0 h0 norm _ _ _ _ hfonts ho
  simpa [List.map_map, Function.comp_def, toC_ofC] using h

/-- **Default saving in the five binary formats.**  (The optimiser handed to `toBytes` is `(optPic norm q).getD q`: a
    panicking `unwrap()` is modelled as "picture unchanged", which `hopt` excludes.)  `hrt` is the conclusion of the C05 round-trip theorem of the format for
    the optimised picture (`xb_rt`, `bin_rt`, `adf_rt`, `idf_rt`, `tnd_rt` — see the corollaries below). -/
theorem binary_default_save (f : Fmt) (o : Opts) (date : List Nat) (norm : Bool) (p p' : Pic)
    (hopt : optPic norm p = some p') (hfonts : FontsOk (fontsOf p))
    (hrt : ∃ bytes g, save f o date p' = .ok bytes ∧ fromBytes f bytes = .ok g ∧ SamePicture f p' g) :
    ∃ bytes g, toBytes (save f o date) (fun q => (optPic norm q).getD q) false p = .ok bytes ∧
      fromBytes f bytes = .ok g ∧ SamePicture f p' g ∧
      ∀ (pal : Nat → ColorOpt.Rgb) (w0 h0 : Nat),
        p'.rows.map (·.map (fun c => renderCell (fontsOf p) pal w0 h0 (toC c))) =
          p.rows.map (·.map (fun c => renderCell (fontsOf p) pal w0 h0 (toC c))) := by
  obtain ⟨bytes, g, h1, h2, h3⟩ := hrt
  refine ⟨bytes, g, ?_, h2, h3, optPic_renders_same norm p p' hopt hfonts⟩
  show save f o date ((optPic norm p).getD p) = .ok bytes
  rw [hopt]; exact h1

theorem xb_default_save (o : Opts) (date : List Nat) (norm : Bool) (p p' : Pic) (hs : o.sauce = true)
    (hopt : optPic norm p = some p') (hfonts : FontsOk (fontsOf p)) (hrep : Representable .xb o p' = true)
    (hdate : dateOk date = true) :
    ∃ bytes g, toBytes (save .xb o date) (fun q => (optPic norm q).getD q) false p = .ok bytes ∧
      fromBytes .xb bytes = .ok g ∧ SamePicture .xb p' g ∧
      ∀ (pal : Nat → ColorOpt.Rgb) (w0 h0 : Nat),
        p'.rows.map (·.map (fun c => renderCell (fontsOf p) pal w0 h0 (toC c))) =
          p.rows.map (·.map (fun c => renderCell (fontsOf p) pal w0 h0 (toC c))) :=
  binary_default_save .xb o date norm p p' hopt hfonts (IcyVerif.C05.xb_rt o date p' hs hrep hdate)

theorem bin_adf_idf_tnd_default_save (f : Fmt) (hf : f ≠ .xb) (o : Opts) (date : List Nat) (norm : Bool) (p p' : Pic)
    (hs : o.sauce = true) (hopt : optPic norm p = some p') (hfonts : FontsOk (fontsOf p))
    (hrep : Representable f o p' = true) (hdate : dateOk date = true) :
    ∃ bytes g, toBytes (save f o date) (fun q => (optPic norm q).getD q) false p = .ok bytes ∧
      fromBytes f bytes = .ok g ∧ SamePicture f p' g ∧
      ∀ (pal : Nat → ColorOpt.Rgb) (w0 h0 : Nat),
        p'.rows.map (·.map (fun c => renderCell (fontsOf p) pal w0 h0 (toC c))) =
          p.rows.map (·.map (fun c => renderCell (fontsOf p) pal w0 h0 (toC c))) := by
  apply binary_default_save f o date norm p p' hopt hfonts
  cases f with
  | xb => exact absurd rfl hf
  | bin => exact IcyVerif.C05.bin_rt o date p' hrep hdate
  | adf => exact IcyVerif.C05.adf_rt o date p' hs hrep hdate
  | idf => exact IcyVerif.C05.idf_rt o date p' hs hrep hdate
  | tnd => exact IcyVerif.C05.tnd_rt o date p' hs hrep hdate

/-! ### C05's domain is closed under the optimiser -/

/-- **C05's domain is closed under the colour optimiser**: if a picture is representable in one of the five binary formats,
    so is its optimised version (same size, mode, palette and fonts; per-cell conditions are per-field conditions that
    the rewritten fields inherit from another cell of the picture or from the default attribute 7 on 0). -/
theorem representable_optPic (f : Fmt) (o : Opts) (norm : Bool) (p p' : Pic) (hopt : optPic norm p = some p')
    (h : Representable f o p = true) : Representable f o p' = true := by
  have hwf := optPic_wellFormed norm p p' hopt (Representable.wf h)
  have hpg := optPic_pages norm p p' hopt
  -- `p'` is `p` with other rows: size, mode, palette, fonts and SAUCE data are those of `p`
  obtain ⟨rows', k', _, rfl⟩ := optPic_some hopt
  cases f with
  | xb =>
    obtain ⟨hm, two, f0, f1, d⟩ := (representable_xb o p).mp h
    exact (representable_xb o _).mpr ⟨hm, two, f0, f1,
      { d with wf := hwf, cells := optPic_attrCells norm _ p _ hopt d.cells, pages := hpg.trans d.pages,
               font1 := fun h2 => let ⟨a, b, c, e⟩ := d.font1 h2; ⟨a, b, c, optPic_lowCells norm p _ hopt e⟩ }⟩
  | bin =>
    obtain ⟨hm, f0, d⟩ := (representable_bin o p).mp h
    exact (representable_bin o _).mpr ⟨hm, f0,
      { d with wf := hwf, cells := optPic_attrCells norm _ p _ hopt d.cells, pages := hpg.trans d.pages }⟩
  | adf =>
    obtain ⟨hm, hw, hh, f0, d⟩ := (representable_adf o p).mp h
    exact (representable_adf o _).mpr ⟨hm, hw, hh, f0,
      { d with wf := hwf, cells := optPic_attrCells norm _ p _ hopt d.cells, pages := hpg.trans d.pages }⟩
  | idf =>
    obtain ⟨hm, hw1, hw2, hh, f0, d⟩ := (representable_idf o p).mp h
    exact (representable_idf o _).mpr ⟨hm, hw1, hw2, hh, f0,
      { d with wf := hwf, cells := optPic_attrCells norm _ p _ hopt d.cells, pages := hpg.trans d.pages }⟩
  | tnd =>
    obtain ⟨hm, d⟩ := (representable_tnd o p).mp h
    exact (representable_tnd o _).mpr ⟨hm,
      { d with wf := hwf, cells := optPic_tndCells norm p _ hopt d.cells, pages := hpg.trans d.pages }⟩

/-- **Default saving in the five binary formats, unconditional on the optimised picture**: for every picture `p`
    representable in the format (the hypothesis of the C05 round-trip theorem for `p` itself) whose fonts are `FontsOk`, the
    DEFAULT save writes a file that loads back to a buffer showing the optimised picture `p'`, and `p'` renders like `p`.
    (`hopt`: the optimiser returns — every cell's code point has a glyph, `optimize_defined_iff`.) -/
theorem binary_default_save_of_representable (f : Fmt) (o : Opts) (date : List Nat) (norm : Bool) (p p' : Pic)
    (hs : o.sauce = true) (hopt : optPic norm p = some p') (hfonts : FontsOk (fontsOf p))
    (hrep : Representable f o p = true) (hdate : dateOk date = true) :
    ∃ bytes g, toBytes (save f o date) (fun q => (optPic norm q).getD q) false p = .ok bytes ∧
      fromBytes f bytes = .ok g ∧ SamePicture f p' g ∧
      ∀ (pal : Nat → ColorOpt.Rgb) (w0 h0 : Nat),
        p'.rows.map (·.map (fun c => renderCell (fontsOf p) pal w0 h0 (toC c))) =
          p.rows.map (·.map (fun c => renderCell (fontsOf p) pal w0 h0 (toC c))) := by
  have hrep' := representable_optPic f o norm p p' hopt hrep
  by_cases hf : f = .xb
  · subst hf; exact xb_default_save o date norm p p' hs hopt hfonts hrep' hdate
  · exact bin_adf_idf_tnd_default_save f hf o date norm p p' hs hopt hfonts hrep' hdate

/-! ### non-vacuity -/

/-- the 8x8 test font of C05 with a blank `' '`, a blank NUL and a full block at 219 -/
def fntW : BinFormats.Font :=
  ⟨[70], 8, (List.range 256).flatMap fun ch => if ch = 0 ∨ ch = 32 then List.replicate 8 0 else if ch = 219 then List.replicate 8 255
    else List.replicate 8 0x55⟩

/-- 'A' (12 on 1), a NUL (3 on 1) and a block (5 on 2): the NUL inherits foreground 12 and becomes `' '`, the block
    inherits background 1 -/
def picW : Pic := ⟨3, 1, [[⟨0x41, ⟨12, 1, 0, 0⟩⟩, ⟨0, ⟨3, 1, 0, 0⟩⟩, ⟨219, ⟨5, 2, 0, 0⟩⟩]], .ice, dosPalette, [(0, fntW)], none⟩
def picW' : Pic := { picW with rows := [[⟨0x41, ⟨12, 1, 0, 0⟩⟩, ⟨32, ⟨12, 1, 0, 0⟩⟩, ⟨219, ⟨5, 1, 0, 0⟩⟩]] }

example : (optPic true picW).map (·.rows) = some picW'.rows := by decide +kernel
example : Representable .xb ⟨true, true⟩ picW = true ∧ Representable .xb ⟨true, true⟩ picW' = true := by
  decide +kernel

end binary

end IcyVerif.C12
