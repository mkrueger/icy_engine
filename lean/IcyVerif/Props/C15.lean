import IcyVerif.Lemmas.ArtShows
import IcyVerif.Lemmas.ArtFormats
import IcyVerif.Lemmas.ArtCtrlA
import IcyVerif.Lemmas.ArtAtascii
import IcyVerif.Lemmas.ArtAvatar
/-! # C15 — Avatar, PCBoard, Ctrl-A, Renegade, ASCII, ATASCII files parse back as saved

FULL STATEMENT (per format `fmt`; PCBoard, Ctrl-A and Avatar for all three screen preparations `prep`, the ASCII, Renegade and ATASCII
writers take none):
  for every picture `p` of the format's width (80; ATASCII 40) whose rows fit (`p.WF`), whose last row is not empty
  (`p.LastRowNonEmpty`), whose cells avoid the format's own escape characters (`p.AllCells (Dom fmt)`) and — PCBoard, Renegade, Ctrl-A,
  Avatar — whose palette has 16 entries (`p.pal.length = 16`: with any other palette these four writers return `Err`):
      `write fmt prep p = ok bytes  ∧  Shows (load fmt none bytes) p (img fmt)`
  i.e. the reader never leaves the modelled sub-language, the loaded picture has the same size, every cell inside a
  row's length (`get_line_length`) is the saved cell — same character, same 16 foreground / 8 background colour, no
  flags (`img = id`; ASCII `ascImg`: the character in the default colours; ATASCII `ataImg`: character and inverse
  flag) — and every cell after the end of a row is the default cell where the saved cell is itself blank on colour 0
  ("blank cells on black after the end of a row are not significant").
  ATASCII: `ShowsIn` instead of `Shows` — the same, except that the loaded layer may be higher than the picture (the loader
  starts from 24 rows and crops nothing); the buffer's type is Atascii (`writeAtascii true`; for any other type the writer returns `Err`).
  `Dom fmt` contains the property's "printable CP437 minus lead-in characters" (`*_dom_of_printable` below; ATASCII: the range
  0x20 … 0x7C, `ata_dom_of_printable`).

PROVED, for ALL such pictures: the six theorems are instances of one, `rt_rows` (Lemmas/ArtShows): every writer is the row loop `rowsLoop`
(Lemmas/ArtSim) over its row writer, and each format contributes what its reader does on the bytes of a row (`RowSim`: from a cell
lemma by `cellsRow_sim` — for PCBoard, Renegade and Ctrl-A from the colour codes alone by `fronted_sim` —, Avatar's run-length rows by
`avt_row`) and of an end of row.  Induction over rows and cells — Lemmas/ArtScreen,
ArtPic, ArtSim, assembled in ArtFinish and ArtShows (`assemble`); the full-width-row case, where the writer omits CR LF and the
reader's auto-wrap takes over, is the wrap case of `steps_spec` / `row_spec`:
  * `pcboard_rt`, `avatar_rt`, `atascii_rt`      — the full statement (`pcboard_rt`, `avatar_rt`: all three screen preparations);
  * `ascii_rt_partial`, `renegade_rt_partial`, `ctrla_rt_partial`
                                                  — the full statement under the extra hypothesis that the written
    file does not start with the bytes EF BB BF.  That exclusion is exactly the known finding `<fmt>:utf8-bom-prefix`
    (the loader takes such a file for UTF-8; `bom_counterexample` below is the model-level witness); PCBoard, Avatar
    and ATASCII files cannot start with these bytes (`pcb_noBom`, `avt_noBom`; the ATASCII loader has no such rule).
NOT under a theorem: saving through the colour optimiser (`lossles_output = false`; C12's subject) — the harness
hands the model the optimised picture; pictures outside `Dom` (colour index >= 16, blink, control characters).
-/
namespace IcyVerif.C15
open IcyVerif.ArtIO IcyVerif.Gen.Art

/-- ASCII, for every picture: the characters come back (in the default attribute — the format has no colours). -/
theorem ascii_rt_partial (p : Pic) (hw : p.w = 80) (hwf : p.WF) (hlast : p.LastRowNonEmpty) (hdom : p.AllCells AscDom) :
    ∃ bytes, writeAscii p = .ok bytes ∧ (bomPrefixed bytes = false → Shows (load .ascii none bytes) p ascImg) := by
  obtain ⟨b, e, h⟩ := rt_rows .ascii ascImg _ crlf AscR AscDom p (cellsRow_sim _ _ _ _ _ ascEmit p.w asc_cell) asc_eol (fun _ _ h => h.1)
    (fun _ _ => ⟨rfl, rfl⟩) hw (by omega) hwf hlast hdom [] () ⟨rfl, rfl⟩ rfl
  rw [← writeRows_eq] at e
  exact ⟨b, by simp [writeAscii, e, WOut.ofOption], fun hb => have hs := h fun _ => hb; .of_in hs.1 (hs.2 (by decide))⟩

/-- PCBoard, full statement, for every picture and every screen preparation: a PCBoard file starts with `@` or CR, never
    with a UTF-8 BOM. -/
theorem pcboard_rt (prep : Prep) (p : Pic) (hw : p.w = 80) (hpal : p.pal.length = 16) (hwf : p.WF)
    (hlast : p.LastRowNonEmpty) (hdom : p.AllCells PcbDom) :
    ∃ bytes, writePcb prep p = .ok bytes ∧ Shows (load .pcboard none bytes) p id := by
  obtain ⟨R1, s1⟩ := pcb_prep prep (initial .pcboard none) ⟨⟨rfl, ⟨rfl, rfl⟩, rfl, rfl⟩, rfl, fun h => by cases h⟩
  obtain ⟨hrow, heol⟩ := fronted_sim .pcboard trivial pcbEmit (AttrR .pcboard) p.w (fun _ _ h => h.idle) (fun _ _ _ _ h => h.frame _ _) pcb_codes
  obtain ⟨b, e, h⟩ := rt_rows .pcboard id _ crlf _ _ p hrow heol (fun _ _ h => h.idle.ns) (fun _ hc => plain_flags hc.2.2.1)
    hw (by omega) hwf hlast (pcbDom_eq ▸ hdom) (pcbPrep prep) (defaultAttr, true) R1 s1
  have hs := h fun _ => pcb_noBom prep p.w p.rows b e
  rw [← writeRows_eq] at e
  exact ⟨pcbPrep prep ++ b, by simp [writePcb, hpal, e], .of_in hs.1 (hs.2 (by decide))⟩

/-- Renegade, for every picture. -/
theorem renegade_rt_partial (p : Pic) (hw : p.w = 80) (hpal : p.pal.length = 16) (hwf : p.WF)
    (hlast : p.LastRowNonEmpty) (hdom : p.AllCells RenDom) :
    ∃ bytes, writeRenegade p = .ok bytes ∧ (bomPrefixed bytes = false → Shows (load .renegade none bytes) p id) := by
  obtain ⟨hrow, heol⟩ := fronted_sim .renegade trivial renEmit RenR p.w (fun _ _ h => h.idle)
    (fun _ _ _ _ h => ⟨h.idle.frame _ _, h.attr, h.fl⟩) ren_codes
  obtain ⟨b, e, h⟩ := rt_rows .renegade id _ crlf _ _ p hrow heol (fun _ _ h => h.idle.ns)
    (fun _ hc => plain_flags hc.2.2.1) hw (by omega) hwf hlast (renDom_eq ▸ hdom) [] defaultAttr ⟨⟨rfl, rfl, rfl, rfl⟩, rfl, rfl⟩ rfl
  rw [← writeRows_eq] at e
  exact ⟨b, by simp [writeRenegade, hpal, e, WOut.ofOption], fun hb => have hs := h fun _ => hb; .of_in hs.1 (hs.2 (by decide))⟩

/-- Ctrl-A, for every picture and every screen preparation. -/
theorem ctrla_rt_partial (prep : Prep) (p : Pic) (hw : p.w = 80) (hpal : p.pal.length = 16) (hwf : p.WF)
    (hlast : p.LastRowNonEmpty) (hdom : p.AllCells CtrlDom) :
    ∃ bytes, writeCtrlA prep p = .ok bytes ∧ (bomPrefixed bytes = false → Shows (load .ctrla none bytes) p id) := by
  obtain ⟨R1, s1⟩ := ctrla_prep prep (initial .ctrla none)
    ⟨⟨⟨rfl, rfl, rfl, rfl⟩, rfl, rfl, rfl, rfl⟩, rfl, by decide, by decide, by decide, rfl, rfl⟩ ⟨rfl, rfl, rfl⟩
  obtain ⟨hrow, heol⟩ := fronted_sim .ctrla trivial ctrlaEmit CtrlR p.w (fun _ _ h => h.mid.idle)
    (fun _ _ _ _ h => h.frame _ _) ctrla_codes
  obtain ⟨b, e, h⟩ := rt_rows .ctrla id _ crlf _ _ p hrow heol (fun _ _ h => h.mid.idle.ns) (fun _ hc => plain_flags hc.2.2.1)
    hw (by omega) hwf hlast (ctrlDom_eq ▸ hdom) (ctrlaPrep prep) {} R1 s1
  rw [← writeRows_eq] at e
  exact ⟨ctrlaPrep prep ++ b, by simp [writeCtrlA, hpal, e], fun hb => have hs := h fun _ => hb; .of_in hs.1 (hs.2 (by decide))⟩

/-- ATASCII (width 40), full statement: characters and inverse-video cells come back (`ataImg`: inverse = black on
    white); the loaded layer keeps the loader's 24 rows, so it may be taller than the picture (`ShowsIn`). -/
theorem atascii_rt (p : Pic) (hw : p.w = 40) (hwf : p.WF) (hlast : p.LastRowNonEmpty) (hdom : p.AllCells AtaDom) :
    ∃ bytes, writeAtascii true p = .ok bytes ∧ ShowsIn (load .atascii none bytes) p ataImg := by
  obtain ⟨b, e, h⟩ := rt_rows .atascii ataImg _ [atasciiEol] AtaR AtaDom p (cellsRow_sim _ _ _ _ _ ataEmit p.w ata_cell) ata_eol
    (fun _ _ h => h.1) (fun _ _ => ⟨rfl, rfl⟩) hw (by omega) hwf hlast hdom [] () ⟨rfl, rfl, rfl⟩ rfl
  rw [← writeRows_eq] at e
  exact ⟨b, by simp [writeAtascii, e, WOut.ofOption], (h fun n => absurd rfl n).1⟩

/-- Avatar, full statement, for every picture, every screen preparation and every ice mode of the saved buffer
    (an Avatar file starts with ^V, ^L or CR, never with a UTF-8 BOM).  The run-length look-ahead of the writer
    (`pos.x + 3 < width`) only limits how long a run gets; `run_stays_inside` shows a run never crosses the end of a
    row. -/
theorem avatar_rt (prep : Prep) (p : Pic) (hw : p.w = 80) (hpal : p.pal.length = 16) (hwf : p.WF)
    (hlast : p.LastRowNonEmpty) (hdom : p.AllCells AvtDom) :
    ∃ bytes, writeAvatar prep p = .ok bytes ∧ Shows (load .avatar none bytes) p id := by
  obtain ⟨R1, s1⟩ := avt_prep prep (initial .avatar none) ⟨⟨rfl, rfl, rfl, rfl⟩, rfl, fun h => by cases h⟩ ⟨rfl, rfl, rfl⟩
  obtain ⟨b, e, h⟩ := rt_rows .avatar id _ crlf _ AvtDom p (avt_row p.ice p.w (by omega)) avt_eol (fun _ _ h => h.idle.ns)
    (fun _ hc => plain_flags hc.2.2.1) hw (by omega) hwf hlast hdom (avtPrep prep) (defaultAttr, true) R1 s1
  rw [← avtRows_eq] at e
  cases e
  have hs := h fun _ => avt_noBom prep p.ice p.w p.rows
  exact ⟨_, by simp [writeAvatar, hpal], .of_in hs.1 (hs.2 (by decide))⟩

/-! ### the property's character domain is inside each format's `Dom` -/

/-- printable CP437: 0x20..0x7E and 0x80..0xFE -/
def Printable (ch : Nat) : Prop := (32 ≤ ch ∧ ch ≤ 126) ∨ (128 ≤ ch ∧ ch ≤ 254)
/-- the 16 x 8 colour domain, no attribute flags -/
def Colour16x8 (c : Cell) : Prop := c.attr.fg < 16 ∧ c.attr.bg < 8 ∧ c.attr.fl = Flags.none

/-- a printable character is a byte the ANSI parser prints, and none of the lead-in characters below 0x20 -/
theorem printable_plain {ch : Nat} (h : Printable ch) : 0 < ch ∧ ch < 255 ∧ 31 < ch ∧ ch ≠ 127 ∧ AnsiPrintable ch := by
  unfold Printable at h; unfold AnsiPrintable; omega

theorem asc_dom_of_printable (c : Cell) (h : Printable c.ch) : AscDom c := by
  unfold Printable at h; unfold AscDom; omega
/-- PCBoard, Renegade and Ctrl-A at once: printable, 16 × 8 colours, not the format's lead-in -/
theorem frontDom_of_printable (f : Fmt) (c : Cell) (h : Printable c.ch) (hc : Colour16x8 c) (hl : ¬ leadIn f c.ch) : FrontDom f c := by
  obtain ⟨h0, h255, _, _, hpr⟩ := printable_plain h
  exact ⟨hc.1, hc.2.1, hc.2.2, h0, Nat.lt_succ_of_lt h255, hl, hpr⟩
theorem pcb_dom_of_printable (c : Cell) (h : Printable c.ch) (hc : Colour16x8 c) (h64 : c.ch ≠ 64) : PcbDom c :=
  pcbDom_eq ▸ frontDom_of_printable .pcboard c h hc h64
theorem ren_dom_of_printable (c : Cell) (h : Printable c.ch) (hc : Colour16x8 c) (h124 : c.ch ≠ 124) : RenDom c :=
  renDom_eq ▸ frontDom_of_printable .renegade c h hc h124
theorem ctrla_dom_of_printable (c : Cell) (h : Printable c.ch) (hc : Colour16x8 c) : CtrlDom c :=
  ctrlDom_eq ▸ frontDom_of_printable .ctrla c h hc (fun e : c.ch = 1 => by have := (printable_plain h).2.2.1; omega)
theorem avt_dom_of_printable (c : Cell) (h : Printable c.ch) (hc : Colour16x8 c) : AvtDom c := by
  obtain ⟨h0, h255, h31, _, hpr⟩ := printable_plain h
  exact ⟨hc.1, hc.2.1, hc.2.2, h0, Nat.lt_succ_of_lt h255, by omega, by omega, hpr⟩
/-- ATASCII: the printable 7-bit range below the cursor / edit codes 0x7D..0x7F -/
theorem ata_dom_of_printable (c : Cell) (h : 32 ≤ c.ch ∧ c.ch ≤ 124) : AtaDom c := by
  unfold AtaDom; omega

/-! ### non-vacuity: a two-row picture with a full-width first row, colour changes and a bright colour satisfies every
    hypothesis, and the theorems' conclusions can be run -/

def demoRow (w : Nat) : List Cell := List.replicate (w - 1) ⟨65, ⟨14, 1, Flags.none⟩⟩ ++ [⟨66, ⟨2, 0, Flags.none⟩⟩]
def demoPic : Pic := { w := 80, rows := [demoRow 80, [⟨67, ⟨9, 4, Flags.none⟩⟩, ⟨32, ⟨7, 0, Flags.none⟩⟩]], ice := .unlimited, pal := dosPalette }
def demoAta : Pic := { w := 40, rows := [List.replicate 40 ⟨65, ⟨0, 7, Flags.none⟩⟩, [⟨66, ⟨7, 0, Flags.none⟩⟩]], ice := .unlimited, pal := dosPalette }

example : demoPic.w = 80 ∧ demoPic.pal.length = 16 ∧ demoPic.WF ∧ demoPic.LastRowNonEmpty ∧ demoPic.AllCells PcbDom ∧
    demoPic.AllCells AvtDom ∧ demoPic.AllCells CtrlDom ∧ demoPic.AllCells RenDom ∧ demoPic.AllCells AscDom := by
  refine ⟨rfl, rfl, ?_, ?_, ?_, ?_, ?_, ?_, ?_⟩
  · unfold Pic.WF; decide +kernel
  · unfold Pic.LastRowNonEmpty; decide +kernel
  all_goals (simp only [Pic.AllCells, PcbDom, AvtDom, CtrlDom, RenDom, AscDom, AnsiPrintable]; decide +kernel)

example : demoAta.w = 40 ∧ demoAta.WF ∧ demoAta.LastRowNonEmpty ∧ demoAta.AllCells AtaDom := by
  refine ⟨rfl, ?_, ?_, ?_⟩
  · unfold Pic.WF; decide +kernel
  · unfold Pic.LastRowNonEmpty; decide +kernel
  · simp only [Pic.AllCells, AtaDom]; decide +kernel

/-- the full-width first row is written without CR LF: 79 x `A` in one colour command, then `B`, then the next row -/
example : ∃ b, writePcb .clear demoPic = .ok b ∧ b.length = 5 + (5 + 78) + 5 + 5 ∧ ¬ (13 ∈ b) := by
  refine ⟨_, rfl, ?_, ?_⟩ <;> decide +kernel

/-- the known finding at model level: a row that starts with the CP437 characters EF BB BF is written as a file the
    loader decodes as UTF-8, so cell (0,0) comes back as U+FEFF -/
def bomPic : Pic := { w := 80, rows := [[⟨239, defaultAttr⟩, ⟨187, defaultAttr⟩, ⟨191, defaultAttr⟩, ⟨65, defaultAttr⟩]], ice := .unlimited, pal := dosPalette }
theorem bom_counterexample :
    bomPic.WF ∧ bomPic.LastRowNonEmpty ∧ bomPic.AllCells AscDom ∧
    writeAscii bomPic = .ok [239, 187, 191, 65] ∧
    (load .ascii none [239, 187, 191, 65]).cellAt 0 0 = ⟨65279, defaultAttr⟩ ∧ bomPic.get 0 0 = ⟨239, defaultAttr⟩ := by
  refine ⟨?_, ?_, ?_, ?_, ?_, ?_⟩
  · unfold Pic.WF; decide
  · unfold Pic.LastRowNonEmpty; decide
  · unfold Pic.AllCells AscDom; decide
  all_goals decide

end IcyVerif.C15
