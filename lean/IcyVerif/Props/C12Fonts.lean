import IcyVerif.Props.C12
import IcyVerif.Lemmas.ColorOptLoaded
/-! # C12, fonts that are NOT built in: wider / narrower than 8 pixels, loaded from files, embedded in art files

The property quantifies over the built-in font pages (`builtin_font_ok`).  `optimize_preserves_document` needs `FontsOk`,
so this file says exactly which other fonts satisfy it, in terms of what the code does:

* `get_shape` counts `u8::count_ones` of every data byte — at most 8 per byte — and compares with `width·height`.
  - width > 8 (PSF2 only): `glyphs_from_u8_data` cuts `height` bytes per glyph, so the count is ≤ 8·height < width·height:
    NO glyph is ever `Block` (`wide_font_never_block`); blank glyphs are still exact.  `render_to_rgba` paints
    `min(width, width of font 0)` columns and panics on column 8 (`128u8 >> 8`): the model has that panic as a pixel
    value, so the theorem also says original and optimised buffer panic alike.
  - width = 8 (PSF1, raw `.fXX` files, fonts embedded in XBin/ADF/IDF, every built-in font): count = 8·height forces every
    byte to 0xFF (`eight_wide_font_ok`).
  - width < 8 (PSF2 only): the count includes the `8 - width` padding bits that are never rendered.  With clear padding
    bits (`FontNoStray`) `Block` is exact (`narrow_font_ok`); otherwise a glyph can be `Block` with a visible
    background pixel (`stray_bits_changes_picture`, Props/C12.lean).
* normalisation replaces a blank glyph by `' '` when the font has a `' '` at all — without looking at its shape.
  `SpaceBlank` (blank glyph exists ⇒ `' '` blank) is therefore necessary: `space_not_blank_changes_cell` is the general
  converse, `eight_wide_font_exact` the resulting EXACT characterisation for 8-pixel fonts:
  `FontOk f ↔ the optimiser step preserves the rendering of every cell`.
* what the loaders guarantee (C17's model of `src/fonts.rs`): every glyph has `height` bytes (`loaded_font_rows_len`),
  PSF1/raw fonts are 8 wide (`loaded_psf1_raw_font_ok_iff`).

None of this is inside the property's quantifier (built-in fonts), so a custom font whose `' '` is not blank is NOT a
finding of C12; the harness replays such fonts (built through the real loaders) for the correspondence of the model and
for the two exactness theorems, with the oracle switched off. -/
namespace IcyVerif.C12
open IcyVerif.Comp IcyVerif.ColorOpt IcyVerif.Gen.Fonts IcyVerif.Font

/-- A font wider than 8 pixels never has a glyph classified `Block`. -/
theorem wide_font_never_block (f : ColorOpt.Font) (hw : 8 < f.w) (rows : List Nat) (hl : rows.length = f.h) :
    shape f rows ≠ .block := by
  intro hs
  exact wide_never_block hw hl (shape_block_ne hs) (shape_block hs)

/-- … hence it is `FontOk` as soon as its glyphs have `height` bytes and its `' '` is blank. -/
theorem wide_font_ok (f : ColorOpt.Font) (hw : 8 < f.w) (hl : RowsLen f) (hs : SpaceBlank f) : FontOk f :=
  ⟨hl, fun ch rows hg hne he => absurd he (wide_never_block hw (hl ch rows hg) hne), hs⟩

/-- An 8-pixel font: the same (bit count 8·height forces every byte to be 0xFF). -/
theorem eight_wide_font_ok (f : ColorOpt.Font) (hw : f.w = 8) (hl : RowsLen f) (hs : SpaceBlank f) : FontOk f :=
  ⟨hl, fun ch rows hg _ he =>
    ⟨by omega, full_of_noStray (by omega) (hl ch rows hg) (fun b _ => hw ▸ noStrayByte_eight b) he⟩, hs⟩

/-- A font narrower than 8 pixels: additionally no set bit outside the width. -/
theorem narrow_font_ok (f : ColorOpt.Font) (hw : f.w ≤ 8) (hl : RowsLen f) (hn : FontNoStray f) (hs : SpaceBlank f) :
    FontOk f :=
  ⟨hl, fun ch rows hg _ he => ⟨hw, full_of_noStray hw (hl ch rows hg) (hn ch rows hg) he⟩, hs⟩

/-! ## fonts out of the loaders -/

/-- `BitFont::from_bytes` (PSF1, PSF2, raw): every glyph of the loaded font has exactly `height` data bytes. -/
theorem loaded_font_rows_len (d : List Nat) (b : BitFont) (h : fromBytes d = .ok b) : RowsLen (ofLoaded b) :=
  let ⟨⟨_, _, hg, he⟩, _⟩ := fromBytes_shape h
  rowsLen_of_glyphs hg he

/-- A font loaded from a file is `FontOk` when it is at least 8 pixels wide or has clear padding bits, and its `' '`
    is blank (if it has any blank glyph). -/
theorem loaded_font_ok (d : List Nat) (b : BitFont) (h : fromBytes d = .ok b)
    (hw : 8 ≤ (ofLoaded b).w ∨ FontNoStray (ofLoaded b)) (hs : SpaceBlank (ofLoaded b)) : FontOk (ofLoaded b) := by
  have hl := loaded_font_rows_len d b h
  rcases hw with hw | hn
  · rcases Nat.lt_or_ge 8 (ofLoaded b).w with h8 | h8
    · exact wide_font_ok _ h8 hl hs
    · exact eight_wide_font_ok _ (by omega) hl hs
  · rcases Nat.lt_or_ge 8 (ofLoaded b).w with h8 | h8
    · exact wide_font_ok _ h8 hl hs
    · exact narrow_font_ok _ h8 hl hn hs

/-- PSF1 and raw font files (everything that is not PSF2): `FontOk` EXACTLY when the `' '` glyph is blank (if any
    glyph is). -/
theorem loaded_psf1_raw_font_ok_iff (d : List Nat) (b : BitFont) (h : fromBytes d = .ok b)
    (hnot2 : ∀ a0 a1 a2 a3 rest, d = a0 :: a1 :: a2 :: a3 :: rest →
      (a0 = 0x36 ∧ a1 = 0x04) ∨ IcyVerif.Uni.le32 a0 a1 a2 a3 ≠ psf2Magic) :
    FontOk (ofLoaded b) ↔ SpaceBlank (ofLoaded b) :=
  ⟨fun hok => hok.space_blank, fun hs => eight_wide_font_ok _ (congrArg Int.toNat ((fromBytes_shape h).2 hnot2)) (loaded_font_rows_len d b h) hs⟩

/-- The fonts embedded in XBin / ADF / IDF files (`BitFont::from_basic(8, height, data)` / `create_8`): the same. -/
theorem embedded_font_ok_iff (h : Nat) (data : List Nat) :
    FontOk (ofLoaded (fromBasic 8 h data)) ↔ SpaceBlank (ofLoaded (fromBasic 8 h data)) :=
  ⟨fun hok => hok.space_blank, fun hs => eight_wide_font_ok _ rfl (fromBasic_rowsLen 8 h data) hs⟩

/-! ## the converse: `SpaceBlank` is necessary -/

/-- **Converse of `optimize_cell_preserves_render` w.r.t. the `' '` glyph.**  In ANY font that has a blank glyph `ch` (of
    `height` bytes) and a `' '` glyph with a set bit inside the rendered area, normalising the blank cell `ch` changes its
    rendering under every palette that tells colour 7 from colour 0. -/
theorem space_not_blank_changes_cell (f : ColorOpt.Font) (ch : Nat) (rows rows' : List Nat) (cy cx b : Nat)
    (hg : f.glyph ch = some rows) (hb : ones rows = 0) (hl : rows.length = f.h)
    (hs : f.glyph spaceCh = some rows') (hrow : rows'[cy]? = some b) (hcy : cy < f.h) (hcx : cx < f.w) (hcx8 : cx < 8)
    (hbit : bitSet b cx = true) (pal : Nat → Rgb) (hpal : pal 7 ≠ pal 0) :
    ∃ c', optCell (fun _ => some f) true ⟨7, 0, 0, 0⟩ ⟨ch, ⟨0, 0, 0, 0⟩⟩ = some c' ∧
      renderCell (fun _ => some f) pal f.w f.h c' ≠ renderCell (fun _ => some f) pal f.w f.h ⟨ch, ⟨0, 0, 0, 0⟩⟩ := by
  have hshape : shape f rows = .whitespace := by unfold shape; simp [hb]
  refine ⟨⟨spaceCh, ⟨7, 0, 0, 0⟩⟩, ?_, ?_⟩
  · unfold optCell
    simp only [hg, hshape, hs, Option.isSome_some, Bool.and_self, if_true]
  · intro heq
    have h1 : renderCell (fun _ => some f) pal f.w f.h ⟨spaceCh, ⟨7, 0, 0, 0⟩⟩ = renderGlyph f.w f.h f rows' (pal 7) (pal 0) := by
      rw [renderCell_eq pal f.w f.h rfl hs, show renderFg ⟨spaceCh, ⟨7, 0, 0, 0⟩⟩ = 7 by decide]
    have h2 : renderCell (fun _ => some f) pal f.w f.h ⟨ch, ⟨0, 0, 0, 0⟩⟩ = renderGlyph f.w f.h f rows (pal 0) (pal 0) := by
      rw [renderCell_eq pal f.w f.h rfl hg, show renderFg ⟨ch, ⟨0, 0, 0, 0⟩⟩ = renderFg ⟨0, ⟨0, 0, 0, 0⟩⟩ from rfl,
        show renderFg ⟨0, ⟨0, 0, 0, 0⟩⟩ = 0 by decide]
    rw [h1, h2] at heq
    have e1 := renderGlyph_px f.w f.h f rows' (pal 7) (pal 0) hcy hcx
    have e2 := renderGlyph_px f.w f.h f rows (pal 0) (pal 0) hcy hcx
    rw [heq] at e1
    rw [e1] at e2
    have hin : cy < min f.h f.h ∧ cx < min f.w f.w := by simp [hcy, hcx]
    have h8 : ¬ 8 ≤ cx := by omega
    have hlt : cy < rows.length := by omega
    simp only [glyphPx, hin, and_self, if_true, hrow, h8, if_false, hbit, List.getElem?_eq_getElem hlt, Option.some.injEq] at e2
    have hz := bitSet_of_popcount_zero (blank_byte hb (List.getElem?_eq_getElem hlt)) hcx8
    simp only [hz, Bool.false_eq_true, if_false, Px.rgb.injEq] at e2
    exact hpal e2

/-- **Exact characterisation for 8-pixel fonts** (built-in fonts, PSF1, raw files, fonts embedded in art files): a font
    whose glyphs have `height` bytes is `FontOk` if and only if one step of the optimiser preserves the rendering of every
    cell, whatever the palette, the carried attribute and the `normalize_whitespaces` setting. -/
theorem eight_wide_font_exact (f : ColorOpt.Font) (hw : f.w = 8) (hl : RowsLen f) :
    FontOk f ↔ ∀ (pal : Nat → Rgb) (norm : Bool) (k : Attr) (c c' : Cell),
      optCell (fun _ => some f) norm k c = some c' →
      renderCell (fun _ => some f) pal f.w f.h c' = renderCell (fun _ => some f) pal f.w f.h c := by
  constructor
  · intro hok pal norm k c c' h
    have hoks : FontsOk (fun _ => some f) := by
      intro p g hg; cases hg; exact hok
    exact optimize_cell_preserves_render (fun _ => some f) pal f.w f.h norm k c c' hoks h
  · intro hall
    apply eight_wide_font_ok f hw hl
    intro ch rows rows' hg hb hs
    apply Classical.byContradiction
    intro hne
    obtain ⟨cy, b, i, hrow, hi, hbit⟩ := exists_set_bit hne
    have hcy : cy < f.h := by
      have := (List.getElem?_eq_some_iff.mp hrow).1
      rw [hl _ _ hs] at this; exact this
    have hcx8 : 7 - i < 8 := by omega
    have hbs : bitSet b (7 - i) = true := by
      rw [bitSet_eq_testBit b hcx8]
      have : 7 - (7 - i) = i := by omega
      rw [this]; exact hbit
    let pal : Nat → Rgb := fun n => if n = 7 then (1, 1, 1) else (0, 0, 0)
    obtain ⟨c', ho, hr⟩ := space_not_blank_changes_cell f ch rows rows' cy (7 - i) b hg hb (hl _ _ hg) hs hrow hcy
      (by omega) hcx8 hbs pal (by decide)
    exact hr (hall pal true _ _ _ ho)

/-! ## non-vacuity -/
section nonvacuity
/-- a raw 8x1 font file: 256 bytes, glyph `i` = `[i]` except `' '` and NUL, which are blank -/
def rawBytes : List Nat := (List.range 256).map fun i => if i = 32 then 0 else i
-- the loader accepts it, the font is 8x1, `' '` is blank, glyph 255 is a full block
example : ∃ b, fromBytes rawBytes = .ok b ∧ (ofLoaded b).w = 8 ∧ (ofLoaded b).h = 1 ∧
    (ofLoaded b).glyph 32 = some [0] ∧ (ofLoaded b).glyph 255 = some [255] := by
  refine ⟨⟨8, 1, 256, glyphsFromU8 1 rawBytes⟩, by decide +kernel, ?_⟩
  decide +kernel
-- a 9-wide font with a 2-byte glyph of 16 set bits: still not 9·2 = 18
example : shape ⟨9, 2, fun _ => some [255, 255]⟩ [255, 255] = .mixed := by decide +kernel
-- padding bits: 0xF3 in a 6-wide font has stray bits, 0xFC has not
example : noStrayByte 6 0xF3 = false ∧ noStrayByte 6 0xFC = true := by decide +kernel
-- the converse theorem's hypotheses are satisfiable: the font `fB` of Props/C12.lean (blank NUL, `' '` = 0x18)
example : ∃ c', optCell (fun _ => some fB) true ⟨7, 0, 0, 0⟩ ⟨0, ⟨0, 0, 0, 0⟩⟩ = some c' ∧
    renderCell (fun _ => some fB) palW fB.w fB.h c' ≠ renderCell (fun _ => some fB) palW fB.w fB.h ⟨0, ⟨0, 0, 0, 0⟩⟩ :=
  space_not_blank_changes_cell fB 0 [0] [24] 0 3 24 (by decide) (by decide) (by decide) (by decide) (by decide) (by decide)
    (by decide) (by decide) (by decide) palW (by decide)
end nonvacuity

end IcyVerif.C12
