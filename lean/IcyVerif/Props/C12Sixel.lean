import IcyVerif.Props.C12
import IcyVerif.Model.ColorOptSixel
/-! # C12 and the second loop of `render_to_rgba` (sixel images)

What the code does (Model/ColorOptSixel.lean): after the text picture, every sixel of every layer is copied row by row over
the pixel vector.  `Buffer::flat_clone(false)` starts from `Buffer::new` and copies cells only, so the optimised buffer
has NO sixel (tied: the harness observes `optimize(buf).layers[*].sixels` on documents with sixels).

What holds:
* `render_full_without_sixels` — a document without sixels: the full `render_to_rgba` is the text picture, so
  `optimize_preserves_full_render` is the property, for the complete function (both loops), inside the quantifier (the
  quantifier of C12 has no sixels).
* `optimised_full_render_is_text_picture` — for ANY document: the full rendering of the optimised buffer is the TEXT
  picture of the original.
* `full_render_preserved_iff` — hence the full renderings are equal EXACTLY when painting the original's sixels over its
  text picture changes nothing and does not panic (`overlaySixels … text = some text`, a computable guard);
  `sixel_changes_picture` is a witness that the guard can fail, `offscreen_sixel_invisible` one family where it holds.
Documents with sixels are outside C12's quantifier (layers of cells), so the dropped sixels are NOT recorded as a C12
finding; the observation (default saving in a sixel-capable format — ANSI, IcyDraw — writes none of the sixel images,
because the writer is handed the flat clone) is reported in HANDOFF.md. -/
namespace IcyVerif.C12
open IcyVerif.Comp IcyVerif.ColorOpt IcyVerif.Gen.Fonts

variable (fonts : Nat → Option ColorOpt.Font) (pal : Nat → Rgb) (w0 h0 : Nat)

/-- no sixels: the second loop does nothing -/
theorem render_full_without_sixels (cellAt : Int → Int → Cell) (W H : Nat) :
    renderFull fonts pal w0 h0 cellAt W H [] =
      if hasPanic (renderDoc fonts pal w0 h0 cellAt W H) then none
      else some (imageBytes (renderDoc fonts pal w0 h0 cellAt W H) h0) := by
  simp only [renderFull, overlaySixels]

/-- For every document (with or without sixels): the complete `render_to_rgba` of the optimised buffer — which has no
    sixels — is the text picture of the original. -/
theorem optimised_full_render_is_text_picture (norm : Bool) (hb : Cell → Nat × Nat) (isTerm : Bool) (S : List Layer)
    (W H : Nat) (cells' : List (List Cell)) (hok : FontsOk fonts)
    (hopt : optimizeDoc fonts norm hb isTerm S W H = some cells') :
    renderFull fonts pal w0 h0 (fun x y => getChar hb isTerm [flatLayer W H cells'] x y) W H [] =
      renderFull fonts pal w0 h0 (fun x y => getChar hb isTerm S x y) W H [] := by
  simp only [renderFull]
  rw [optimize_preserves_document fonts pal w0 h0 norm hb isTerm S W H cells' hok hopt]

/-- **The property for the complete `render_to_rgba`** on the documents of the quantifier (no sixels). -/
theorem optimize_preserves_full_render (norm : Bool) (hb : Cell → Nat × Nat) (isTerm : Bool) (S : List Layer)
    (W H : Nat) (cells' : List (List Cell)) (hok : FontsOk fonts)
    (hopt : optimizeDoc fonts norm hb isTerm S W H = some cells') :
    renderFull fonts pal w0 h0 (fun x y => getChar hb isTerm [flatLayer W H cells'] x y) W H [] =
      renderFull fonts pal w0 h0 (fun x y => getChar hb isTerm S x y) W H [] :=
  optimised_full_render_is_text_picture fonts pal w0 h0 norm hb isTerm S W H cells' hok hopt

/-- With sixels: the renderings agree EXACTLY when painting the sixels over the original's text picture is the identity
    (and does not panic).  (`hnp`: the text loop itself does not panic.) -/
theorem full_render_preserved_iff (norm : Bool) (hb : Cell → Nat × Nat) (isTerm : Bool) (S : List Layer)
    (W H : Nat) (cells' : List (List Cell)) (sixels : List SixelImg) (hok : FontsOk fonts)
    (hopt : optimizeDoc fonts norm hb isTerm S W H = some cells')
    (hnp : hasPanic (renderDoc fonts pal w0 h0 (fun x y => getChar hb isTerm S x y) W H) = false) :
    renderFull fonts pal w0 h0 (fun x y => getChar hb isTerm [flatLayer W H cells'] x y) W H [] =
      renderFull fonts pal w0 h0 (fun x y => getChar hb isTerm S x y) W H sixels ↔
    overlaySixels w0 h0 (W * w0 * 4) sixels (imageBytes (renderDoc fonts pal w0 h0 (fun x y => getChar hb isTerm S x y) W H) h0)
      = some (imageBytes (renderDoc fonts pal w0 h0 (fun x y => getChar hb isTerm S x y) W H) h0) := by
  rw [optimised_full_render_is_text_picture fonts pal w0 h0 norm hb isTerm S W H cells' hok hopt]
  simp only [renderFull, hnp, Bool.false_eq_true, if_false, overlaySixels]
  exact eq_comm

/-- a sixel of height 0, or one whose first visible row already lies beyond the pixel vector, paints nothing -/
theorem offscreen_sixel_invisible (fw fh lineBytes : Nat) (s : SixelImg) (pixels : List Nat)
    (hx : 0 ≤ s.lx + s.px) (hy : 0 ≤ s.ly + s.py)
    (hr : (inI32 (s.lx + s.px) && inI32 (s.ly + s.py)) = true)
    (hr2 : (inI32 ((s.lx + s.px) * fw) && inI32 ((s.ly + s.py) * fh) && inI32 ((s.ly + s.py) * fh + s.h) && inI32 ((s.w : Int) * 4)) = true)
    (hoff : s.h = 0 ∨ ((s.ly + s.py) * fh).toNat * lineBytes + ((s.lx + s.px) * fw).toNat * 4 + s.w * 4 > pixels.length) :
    overlaySixel fw fh lineBytes s pixels = some pixels := by
  simp only [overlaySixel, hr, hr2, Bool.not_true, Bool.false_eq_true, if_false]
  have hsy : 0 ≤ (s.ly + s.py) * fh := Int.mul_nonneg hy (Int.natCast_nonneg _)
  have hsx : ¬ ((s.lx + s.px) * fw < 0) := by
    have := Int.mul_nonneg hx (Int.natCast_nonneg fw); omega
  have hmax : max ((s.ly + s.py) * (fh : Int)) 0 = (s.ly + s.py) * fh := by omega
  rw [hmax]
  have hn : ((s.ly + s.py) * (fh : Int) + (s.h : Int) - (s.ly + s.py) * fh).toNat = s.h := by omega
  rw [hn]
  rcases hoff with h0 | hgt
  · rw [h0]; rfl
  · cases hh : s.h with
    | zero => rfl
    | succ n =>
      unfold sixelRows
      simp only [hsx, if_false]
      simp only [hgt, if_true]

/-! ## witness: a sixel inside the picture changes it (outside the property's quantifier) -/
section witness
/-- a 1x1 document (font `fA`, 8x2 pixels), one sixel of 1x1 pixel (255,0,0,255) at cell (0,0) -/
def sixRed : SixelImg := ⟨0, 0, 0, 0, 1, 1, [255, 0, 0, 255]⟩

theorem sixel_changes_picture :
    renderFull fontsN palW 8 2 (fun x y => getChar hbW false docN x y) 3 1 [sixRed] ≠
      renderFull fontsN palW 8 2 (fun x y => getChar hbW false docN x y) 3 1 [] := by
  decide +kernel

-- the quirks of the loop, by evaluation on a 2x2-pixel vector (`lineBytes` = 8):
-- a 1x2 sixel at pixel row -1: the row above the picture is skipped, but the FIRST source line is painted at row 0
example : sixelRows 8 4 0 [1, 1, 1, 1, 2, 2, 2, 2] 1 0 0 (List.replicate 16 0) =
    some ([1, 1, 1, 1] ++ List.replicate 12 0) := by decide +kernel
-- a 2-pixel-wide sixel at pixel column 1 of a 2-pixel-wide picture runs on into the next pixel line
example : sixelRows 8 8 1 [1, 1, 1, 1, 2, 2, 2, 2] 1 0 0 (List.replicate 16 0) =
    some ([0, 0, 0, 0, 1, 1, 1, 1, 2, 2, 2, 2, 0, 0, 0, 0]) := by decide +kernel
-- a negative pixel column panics; picture data shorter than a row panics
example : sixelRows 8 4 (-8) [1, 1, 1, 1] 1 0 0 (List.replicate 16 0) = none := by decide +kernel
example : sixelRows 8 4 0 [1, 1, 1] 1 0 0 (List.replicate 16 0) = none := by decide +kernel
-- non-vacuity of `offscreen_sixel_invisible`: a sixel one row below a 1-row picture
example : overlaySixel 8 2 96 ⟨0, 0, 0, 1, 1, 1, [255, 0, 0, 255]⟩ (List.replicate 192 0) = some (List.replicate 192 0) := by
  decide +kernel
end witness

end IcyVerif.C12
