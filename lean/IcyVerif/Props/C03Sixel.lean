import IcyVerif.Lemmas.SixelCost
/-! # C03 — sixel decode cost: `sixel_cost <= Q(|payload|, MAXDIM)` (DESIGN §4 C03)

The decoder model is C14's `Model/Sixel.lean` (row LENGTHS instead of pixels; every allocation whose size comes from a number
in the payload is checked against `hugeLimit` and ends the model with `Out.huge` beyond it).  Since the two size-limit repairs
(`MAX_SIXEL_SIZE`: raster attributes, repeat counts and cursor positions; `MAX_SIXEL_COLORS`: colour registers — numbers beyond
them are the parse errors the file already had) the three recorded findings are gone, and for EVERY payload:
* every reachable machine state is small: at most `MAX` rows of at most `4 MAX` bytes, at most `MAXC` palette entries
  (`sixel_state_bounded`) — memory is bounded by `4 MAX^2 + palette` at every moment, independent of the payload;
* no allocation request leaves the modelled range (`sixel_never_huge`: the outcome `huge` of C14's model is unreachable);
* the decoded picture is at most `MAX x MAX` pixels (`sixel_picture_bounded`);
* the only parameter-driven loop — the repeat introducer `!Pn` — is entered with a count of at most `MAX` (larger counts are
  the parse error): the count `runWork` of `parse_sixel_data` calls, written beside `parseChar` (`1 + Pn` where `parseChar`
  calls `repeatN … Pn`, else 1; not derived from the model's loop), is at most `(MAX + 1) * (|payload| + 1)` (`sixel_cost`);
  each call writes at most 6 pixels and appends rows within the state bound.
The limits are the regenerated constants of the source (`Gen.Sixel.maxSixelSize`, `maxSixelColors`); the translator pins the
four guards.  Wall-clock time and allocator behaviour stay with the oracle (per-payload time, picture bytes `<= 4 MAX^2`). -/
namespace IcyVerif.C03
open IcyVerif.Sixel

/-- the limits keep every checked allocation inside the modelled range (the last three conjuncts); the first two hold by
    definition — `maxSize` and `maxColors` ARE the regenerated constants of the source -/
theorem sixel_limits_from_source :
    maxSize = IcyVerif.Gen.Sixel.maxSixelSize ∧ maxColors = IcyVerif.Gen.Sixel.maxSixelColors ∧
    4 * maxSize ≤ hugeLimit ∧ maxSize * (4 * maxSize) ≤ hugeLimit ∧ maxColors ≤ hugeLimit :=
  ⟨rfl, rfl, limits_fit.1, limits_fit.2.1, limits_fit.2.2.1⟩

/-- every state the decoder reaches on any payload (any numbers in raster attributes, repeat counts, colour registers) is small -/
theorem sixel_state_bounded (hs vs : Nat) (payload : List Char) (s : St)
    (h : run { hscale := hs, vscale := vs } payload = .ok s) :
    s.rows.length ≤ maxSize ∧ (∀ r ∈ s.rows, r ≤ 4 * maxSize) ∧ s.rows.sum ≤ maxSize * (4 * maxSize) ∧ s.palLen ≤ maxColors := by
  have hg : Small s := (run_small (small_init hs vs) payload).of_ok h
  exact ⟨hg.height, hg.rows, hg.sum_le, hg.pal⟩

/-- no payload makes the decoder ask for an allocation outside the modelled range: the former findings `alloc` (C14),
    `sixel:payload:runaway` and `sixel:slow-or-huge` (C03) cannot occur -/
theorem sixel_never_huge (hs vs : Nat) (payload : List Char) :
    decode hs vs payload ≠ .huge ∧ parse payload ≠ .huge :=
  ⟨((run_small (small_init hs vs) (payload ++ ['#'])).mapOut _).ne_huge,
    ((run_small (small_init 1 1) (payload ++ ['#'])).mapOut _).ne_huge⟩

/-- the picture `Sixel::parse_from` returns is at most `MAX x MAX` pixels, `4 MAX^2` bytes -/
theorem sixel_picture_bounded (payload : List Char) (img : Img) (h : parse payload = .ok img) :
    img.w ≤ maxSize ∧ img.h ≤ maxSize ∧ img.dataLen ≤ maxSize * (4 * maxSize) := by
  obtain ⟨s, g, rfl⟩ := ((run_small (small_init 1 1) (payload ++ ['#'])).mapOut finish).of_ok h
  have hrl := rowLen_le g.rows
  simp only [finish]
  refine ⟨by omega, g.height, ?_⟩
  rw [List.map_const', List.sum_replicate_nat]
  exact Nat.mul_le_mul g.height hrl

/-- `sixel_cost`: the number of `parse_sixel_data` calls (the only parameter-driven loop is the repeat introducer) is at most
    `(MAX + 1)` per payload character — whatever the repeat counts say.  The count is `runWork`, the sum of `charWork`
    (Lemmas/SixelCost) along the run: a function written BESIDE `parseChar` (`1 + Pn` where `parseChar` calls
    `repeatN … Pn`, else 1).  No lemma relates it to the iterations `repeatN` performs: this is a statement about that
    count, and about the model only through the run it is summed along. -/
theorem sixel_cost (hs vs : Nat) (payload : List Char) :
    runWork { hscale := hs, vscale := vs } (payload ++ ['#']) ≤ (maxSize + 1) * (payload.length + 1) := by
  have := runWork_le (payload ++ ['#']) { hscale := hs, vscale := vs }
  simpa using this

/-- non-vacuity: the bounds are attained / the guards fire -/
example : maxSize = 4096 ∧ maxColors = 4096 := by decide +kernel
example : parse "\"1;1;4096;3".toList = .ok ⟨4096, 3, 49152⟩ := by decide +kernel
example : parse "\"1;1;4097;1".toList = .err .invalidPictureSize := by decide +kernel
example : parse "!4097~".toList = .err .invalidPictureSize := by decide +kernel
example : parse "#4096;2;0;0;0~".toList = .err .invalidColor := by decide +kernel
example : runWork {} "!40?$!40?".toList = 2 * (40 + 4) + 1 := by decide +kernel

end IcyVerif.C03
