import IcyVerif.Gen.Xb
/-!
# XBin compression (C06): the writer of `src/formats/xbinary.rs` and an independent decoder

* `Attr`, `Cell`, `Attr.eqv`, `Cell.eqv` — `TextAttribute` / `AttributedChar` with Rust's `PartialEq`
  (which IGNORES the font page) kept apart from structural equality.
* `asU8`, `encodeAttr`, `analyzeFontUsage` — the attribute byte the writer stores (`encode_attr`).
* `countLength`, `realEndRun`, `step`, `compressRowWith`, `compressRow` — `compress_backtrack` transcribed
  literally; the only liberty is that the computation of the local `end_run` is a function (`realEndRun`)
  and the row loop takes that decision function as a parameter, so that the soundness lemma can be proved for
  EVERY decision function (`Lemmas/XbCompress.lean`).
* `Run`, `parseRun`, `parseRow`, `parseImage`, `expand` — decoder written from `doc/FileFormats/x_bin.htm`
  only (no knowledge of the writer): repeat counter byte `ttcccccc`, 1..=64 cells per run, a run may not
  cross the end of a row, a row is exactly `width` cells.
* `imageData` — the image-data part of `XBin::to_bytes` (compressed or raw), `none` = the save is refused.

Everything is `Nat`/`List`, total, structurally recursive (or `foldl` over `List.range`), import-free.
The writer has no panic site on the modelled path (run counters stay <= 64 < 256, `run_count - 1` is only
evaluated with `run_count > 0`); the only failure is the `Err` return for characters above 255 / more than two
fonts, modelled by `imageData = none`.
-/
namespace IcyVerif.XbCompress
open IcyVerif.Gen

/-! ## cells -/

structure Attr where
  fg : Nat
  bg : Nat
  flags : Nat
  page : Nat
deriving DecidableEq, Repr, Inhabited

structure Cell where
  ch : Nat
  attr : Attr
deriving DecidableEq, Repr, Inhabited

/-- `impl PartialEq for TextAttribute`: foreground, background, attr — NOT `font_page` -/
def Attr.eqv (a b : Attr) : Bool := a.fg == b.fg && a.bg == b.bg && a.flags == b.flags

/-- `impl PartialEq for AttributedChar`: `self.ch == other.ch && self.attribute == other.attribute` -/
def Cell.eqv (a b : Cell) : Bool := a.ch == b.ch && a.attr.eqv b.attr

/-- `AttributedChar::default()` -/
def Cell.dflt : Cell := ⟨Xb.defaultCh, ⟨Xb.defaultFg, Xb.defaultBg, 0, Xb.defaultPage⟩⟩

/-- `AttributedChar::invisible()` — what `Buffer::get_char` answers outside a non-terminal buffer -/
def Cell.invisible : Cell := ⟨Xb.invisibleCh, ⟨Xb.defaultFg, Xb.defaultBg, Xb.attrInvisible, Xb.defaultPage⟩⟩

inductive IceMode | unlimited | blink | ice
deriving DecidableEq, Repr

/-- `TextAttribute::as_u8` -/
def asU8 (im : IceMode) (a : Attr) : Nat :=
  let fg0 := a.fg &&& 0b1111
  let fg := if a.flags &&& Xb.attrBold = Xb.attrBold then fg0 ||| 0b1000 else fg0
  let bg := match im with
    | .blink => (a.bg &&& 0b0111) ||| (if a.flags &&& Xb.attrBlink = Xb.attrBlink then 0b1000 else 0)
    | .unlimited => (a.bg &&& 0b1111) ||| (if a.flags &&& Xb.attrBlink = Xb.attrBlink then 0b1000 else 0)
    | .ice => a.bg &&& 0b1111
  (fg ||| (bg <<< 4)) % 256

/-- `encode_attr(buf, ch, fonts)` -/
def encodeAttr (im : IceMode) (fonts : List Nat) (a : Attr) : Nat :=
  if fonts.length = 2 then
    (asU8 im a &&& Xb.encKeepMask) ||| (if a.page = fonts.getD 1 0 then Xb.encPageBit else 0)
  else asU8 im a

def insertSorted (p : Nat) : List Nat → List Nat
  | [] => [p]
  | q :: qs => if p < q then p :: q :: qs else if p = q then q :: qs else q :: insertSorted p qs

/-- `analyze_font_usage`: the font pages in use, sorted, without repetition -/
def analyzeFontUsage (cells : List Cell) : List Nat :=
  cells.foldl (fun acc c => insertSorted c.attr.page acc) []

/-! ## the writer -/

inductive Mode | off | chr | att | full
deriving DecidableEq, Repr

/-- `enum Compression` discriminants -/
def Mode.code : Mode → Nat
  | .off => Xb.compOff
  | .chr => Xb.compChar
  | .att => Xb.compAttr
  | .full => Xb.compFull

/-- `buffer.get_char((x, y))` on row `y` (single visible layer, non-terminal buffer) -/
def getChar (row : List Cell) (x : Nat) : Cell := row.getD x Cell.invisible

/-- run-type selection (the same text occurs in `compress_backtrack` and in `count_length`) -/
def pickMode (row : List Cell) (x : Nat) (cur next : Cell) : Mode :=
  if x + 1 < row.length then
    if cur.eqv next then .full
    else if cur.ch == next.ch then .chr
    else if cur.attr.eqv next.attr then .att
    else .off
  else .off

/-- loop state of `count_length` -/
structure CL where
  mode : Mode
  runCh : Cell
  endRun : Option Bool
  runCount : Nat
  count : Nat

/-- one iteration of `while x < buffer.get_width()` in `count_length` -/
def clStep (row : List Cell) (s : CL) (x : Nat) : CL :=
  let w := row.length
  let cur := getChar row x
  let next := getChar row (x + 1)
  -- if run_count > 0 { if end_run.is_none() { … }  if let Some(true) = end_run { count += 1; run_count = 0 } }
  let s1 : CL :=
    if s.runCount > 0 then
      let er : Option Bool :=
        if s.endRun.isNone then
          if s.runCount ≥ Xb.lookaheadRunLimit then some true
          else if s.runCount > 0 then
            match s.mode with
            | .off =>
              if x + 2 < w && cur.eqv next then some true
              else if x + 2 < w then
                let next2 := getChar row (x + 2)
                some ((cur.ch == next.ch && cur.ch == next2.ch) || (cur.attr.eqv next.attr && cur.attr.eqv next2.attr))
              else none
            | .chr =>
              if cur.ch != s.runCh.ch then some true
              else if x + 3 < w then
                let next2 := getChar row (x + 2)
                let next3 := getChar row (x + 3)
                some (cur.eqv next && cur.eqv next2 && cur.eqv next3)
              else none
            | .att =>
              if !(cur.attr.eqv s.runCh.attr) then some true
              else if x + 3 < w then
                let next2 := getChar row (x + 2)
                let next3 := getChar row (x + 3)
                some (cur.eqv next && cur.eqv next2 && cur.eqv next3)
              else none
            | .full => some (!(cur.eqv s.runCh))
          else none
        else s.endRun
      if er = some true then { s with count := s.count + 1, runCount := 0 } else s
    else s
  -- end_run = None;  if run_count > 0 { count += payload } else { pick run type; count += 2; run_ch = cur }
  let s2 : CL :=
    if s1.runCount > 0 then
      match s1.mode with
      | .off => { s1 with count := s1.count + 2 }
      | .chr => { s1 with count := s1.count + 1 }
      | .att => { s1 with count := s1.count + 1 }
      | .full => s1
    else
      { s1 with mode := pickMode row x cur next, count := s1.count + 2, runCh := cur }
  { s2 with endRun := none, runCount := s2.runCount + 1 }

/-- `count_length(run_mode, run_ch, end_run, run_count, buffer, y, x)` -/
def countLength (mode : Mode) (runCh : Cell) (endRun : Option Bool) (runCount : Nat) (row : List Cell) (x : Nat) : Nat :=
  ((List.range' x (row.length - x)).foldl (clStep row) ⟨mode, runCh, endRun, runCount, 0⟩).count

/-- an end-of-run decision: run mode, first cell of the run, cells in the run so far, the row, the column -/
abbrev Decision := Mode → Cell → Nat → List Cell → Nat → Bool

/-- the value of the local `end_run` of `compress_backtrack` (evaluated only when `run_count > 0`) -/
def realEndRun : Decision := fun mode runCh runCount row x =>
  let w := row.length
  let cur := getChar row x
  let next := if x + 1 < w then getChar row (x + 1) else Cell.dflt
  if runCount ≥ Xb.runLimit then true
  else if runCount > 0 then
    match mode with
    | .off =>
      if x + 2 < w && (cur.ch == next.ch || cur.attr.eqv next.attr) then
        let l1 := countLength mode runCh (some true) runCount row x
        let l2 := countLength mode runCh (some false) runCount row x
        decide (l1 < l2)
      else false
    | .chr =>
      if cur.ch != runCh.ch || cur.attr.page != runCh.attr.page then true
      else if x + 4 < w then
        let next2 := getChar row (x + 2)
        if cur.attr.eqv next.attr && cur.attr.eqv next2.attr then
          let l1 := countLength mode runCh (some true) runCount row x
          let l2 := countLength mode runCh (some false) runCount row x
          decide (l1 < l2)
        else false
      else false
    | .att =>
      if !(cur.attr.eqv runCh.attr) || cur.attr.page != runCh.attr.page then true
      else if x + 3 < w then
        let next2 := getChar row (x + 2)
        if cur.ch == next.ch && cur.ch == next2.ch then
          let l1 := countLength mode runCh (some true) runCount row x
          let l2 := countLength mode runCh (some false) runCount row x
          decide (l1 < l2)
        else false
      else false
    | .full =>
      -- after `fix: XBin compressor must end a Full run when the font page changes`
      !(cur.eqv runCh) || cur.attr.page != runCh.attr.page
  else false

/-- per-row state of `compress_backtrack`; `out` is the part of `outputdata` written for this row -/
structure St where
  out : List Nat
  buf : List Nat
  mode : Mode
  count : Nat
  runCh : Cell

def St.init : St := ⟨[], [], .off, 0, Cell.dflt⟩

/-- `outputdata.push((run_mode as u8) | (run_count - 1)); outputdata.extend(&run_buf);` -/
def St.flush (s : St) : List Nat := s.out ++ ((s.mode.code ||| (s.count - 1)) :: s.buf)

/-- one iteration of `for x in 0..buffer.get_width()`; `enc` is `encode_attr(buffer, ·, fonts)` -/
def step (enc : Attr → Nat) (dec : Decision) (row : List Cell) (s : St) (x : Nat) : St :=
  let cur := getChar row x
  let next := if x + 1 < row.length then getChar row (x + 1) else Cell.dflt
  let s1 : St :=
    if s.count > 0 && dec s.mode s.runCh s.count row x then { s with out := s.flush, count := 0 } else s
  let s2 : St :=
    if s1.count > 0 then
      match s1.mode with
      | .off => { s1 with buf := s1.buf ++ [cur.ch, enc cur.attr] }
      | .chr => { s1 with buf := s1.buf ++ [enc cur.attr] }
      | .att => { s1 with buf := s1.buf ++ [cur.ch] }
      | .full => s1
    else
      let mode := pickMode row x cur next
      { s1 with mode := mode,
                buf := if mode = .att then [enc cur.attr, cur.ch] else [cur.ch, enc cur.attr],
                runCh := cur }
  { s2 with count := s2.count + 1 }

/-- the body of `for y in …` for one row, with an arbitrary end-of-run decision -/
def compressRowWith (enc : Attr → Nat) (dec : Decision) (row : List Cell) : List Nat :=
  let s := (List.range row.length).foldl (step enc dec row) St.init
  if s.count > 0 then s.flush else s.out

/-- what `compress_backtrack` appends for one row -/
def compressRow (enc : Attr → Nat) (row : List Cell) : List Nat := compressRowWith enc realEndRun row

/-- the uncompressed branch of `to_bytes` for one row -/
def rawRow (enc : Attr → Nat) (row : List Cell) : List Nat := row.flatMap fun c => [c.ch, enc c.attr]

/-- `ch as u32 > 255 → Err(Only8BitCharactersSupported)` in both branches -/
def fits8 (rows : List (List Cell)) : Bool := rows.all fun r => r.all fun c => decide (c.ch ≤ 255)

/-- image-data part of `XBin::to_bytes`; `none` = `Err` (more than two fonts, or a character above 255).
    Meaningful for buffers with at least one cell: on an empty buffer `to_bytes` panics at `fonts[0]` while writing the
    header, before this part is reached (header code is not modelled; the quantifier starts at 1x1). -/
def imageData (im : IceMode) (compress : Bool) (rows : List (List Cell)) : Option (List Nat) :=
  let fonts := analyzeFontUsage rows.flatten
  if fonts.length > 2 then none
  else if !fits8 rows then none
  else
    let enc := encodeAttr im fonts
    some (if compress then rows.flatMap (compressRow enc) else rows.flatMap (rawRow enc))

/-! ## the decoder of the specification (independent of the writer) -/

/-- a decoded run: compression type, first (character, attribute) pair, the remaining pairs -/
structure Run where
  mode : Mode
  head : Nat × Nat
  rest : List (Nat × Nat)
deriving Repr, DecidableEq

def Run.cells (r : Run) : List (Nat × Nat) := r.head :: r.rest
def Run.len (r : Run) : Nat := r.rest.length + 1

/-- exactly `n` bytes -/
def takeN : Nat → List Nat → Option (List Nat × List Nat)
  | 0, bs => some ([], bs)
  | _ + 1, [] => none
  | n + 1, b :: bs => match takeN n bs with
    | some (xs, r) => some (b :: xs, r)
    | none => none

/-- exactly `n` character/attribute pairs -/
def takePairs : Nat → List Nat → Option (List (Nat × Nat) × List Nat)
  | 0, bs => some ([], bs)
  | n + 1, c :: a :: bs => match takePairs n bs with
    | some (xs, r) => some ((c, a) :: xs, r)
    | none => none
  | _ + 1, _ => none

/-- one repeat-counter byte and its data: "the two most significant bits are the compression type, the six
    least significant bits are the actual repeat counter", stored "as one less of its actual number of repeats" -/
def parseRun : List Nat → Option (Run × List Nat)
  | [] => none
  | b :: bs =>
    let k := b % 64
    if b / 64 = 0 then            -- 00: no compression, k+1 character/attribute pairs
      match takePairs (k + 1) bs with
      | some (p :: ps, r) => some (⟨.off, p, ps⟩, r)
      | _ => none
    else if b / 64 = 1 then       -- 01: the character, then k+1 attributes
      match bs with
      | c :: bs' => match takeN (k + 1) bs' with
        | some (a :: as, r) => some (⟨.chr, (c, a), as.map fun a' => (c, a')⟩, r)
        | _ => none
      | [] => none
    else if b / 64 = 2 then       -- 10: the attribute, then k+1 characters
      match bs with
      | a :: bs' => match takeN (k + 1) bs' with
        | some (c :: cs, r) => some (⟨.att, (c, a), cs.map fun c' => (c', a)⟩, r)
        | _ => none
      | [] => none
    else if b / 64 = 3 then       -- 11: one character/attribute pair, repeated k+1 times
      match bs with
      | c :: a :: r => some (⟨.full, (c, a), List.replicate k (c, a)⟩, r)
      | _ => none
    else none                     -- not a byte

/-- runs of one row: `need` cells are still missing; a run longer than that crosses the row end → invalid -/
def parseRow : Nat → Nat → List Nat → Option (List Run × List Nat)
  | _, 0, bs => some ([], bs)
  | 0, _ + 1, _ => none
  | fuel + 1, need + 1, bs =>
    match parseRun bs with
    | none => none
    | some (r, rest) =>
      if r.len ≤ need + 1 then
        match parseRow fuel (need + 1 - r.len) rest with
        | some (rs, t) => some (r :: rs, t)
        | none => none
      else none

/-- `h` rows of width `w`; answers the runs of every row and the bytes that follow the last row -/
def parseImage (w : Nat) : Nat → List Nat → Option (List (List Run) × List Nat)
  | 0, bs => some ([], bs)
  | h + 1, bs =>
    match parseRow w w bs with
    | none => none
    | some (rs, rest) =>
      match parseImage w h rest with
      | some (rows, t) => some (rs :: rows, t)
      | none => none

/-- the cells a list of runs stands for -/
def expand (rs : List Run) : List (Nat × Nat) := rs.flatMap Run.cells

/-- raw image data: `n` character/attribute pairs -/
def parseRaw (n : Nat) (bs : List Nat) : Option (List (Nat × Nat) × List Nat) := takePairs n bs

/-- the (character, attribute byte) pair a cell is stored as -/
def encCell (enc : Attr → Nat) (c : Cell) : Nat × Nat := (c.ch, enc c.attr)

/-! ## the crate's own loader (`read_data_compressed`, `read_data_uncompressed`, `decode_char`)

The byte cursor `o` of the Rust code is the list suffix still to be read (`o + k > bytes.len()` is "fewer than `k`
bytes left").  The result is the sequence of (character, attribute) pairs handed to `decode_char`/`set_char`, in
order — `advance_pos` walks the cells row-major, so cell number `i` receives pair number `i`.  Since the C02 repair a
run header that is the last byte of the data ends decoding like every other truncated run (`break`), so the result is
always `some` (`readCompressed_sers` for the writer's streams); the `Option` is part of the statements about `readCompressed`. -/

/-- `Compression::Off` arm: `for _ in 0..repeat_counter { if o + 2 > bytes.len() { break; } … }` -/
def rdOff : Nat → List Nat → List (Nat × Nat) → List (Nat × Nat) × List Nat
  | 0, bs, acc => (acc, bs)
  | n + 1, c :: a :: bs, acc => rdOff n bs (acc ++ [(c, a)])
  | _ + 1, bs, acc => (acc, bs)

/-- `Compression::Char` arm after `char_code = bytes[o]` -/
def rdChr (c : Nat) : Nat → List Nat → List (Nat × Nat) → List (Nat × Nat) × List Nat
  | 0, bs, acc => (acc, bs)
  | n + 1, a :: bs, acc => rdChr c n bs (acc ++ [(c, a)])
  | _ + 1, [], acc => (acc, [])

/-- `Compression::Attr` arm after `attribute = bytes[o]` -/
def rdAtt (a : Nat) : Nat → List Nat → List (Nat × Nat) → List (Nat × Nat) × List Nat
  | 0, bs, acc => (acc, bs)
  | n + 1, c :: bs, acc => rdAtt a n bs (acc ++ [(c, a)])
  | _ + 1, [], acc => (acc, [])

/-- `read_data_compressed`: `while o < bytes.len()`; every iteration consumes the repeat-counter byte, so
    `fuel = bytes.length + 1` is never exhausted -/
def readCompressedAux : Nat → List Nat → List (Nat × Nat) → Option (List (Nat × Nat))
  | 0, _, acc => some acc
  | _ + 1, [], acc => some acc
  | fuel + 1, b :: bs, acc =>
    let t := b &&& Xb.readTypeMask
    let n := (b &&& Xb.readCountMask) + 1
    if t = Xb.compOff then
      let r := rdOff n bs acc
      readCompressedAux fuel r.2 r.1
    else if t = Xb.compChar then
      match bs with
      | [] => some acc                               -- "Read compression block beyond EOF": `break`
      | c :: bs' => let r := rdChr c n bs' acc; readCompressedAux fuel r.2 r.1
    else if t = Xb.compAttr then
      match bs with
      | [] => some acc
      | a :: bs' => let r := rdAtt a n bs' acc; readCompressedAux fuel r.2 r.1
    else
      match bs with
      | [] => some acc
      | [_] => some acc                              -- "Read compression block beyond EOF": `break` leaves the loop
      | c :: a :: bs' => readCompressedAux fuel bs' (acc ++ List.replicate n (c, a))

def readCompressed (bs : List Nat) : Option (List (Nat × Nat)) := readCompressedAux (bs.length + 1) bs []

/-- `read_data_uncompressed` (a dangling last byte is ignored) -/
def readUncompressed : List Nat → List (Nat × Nat)
  | c :: a :: bs => (c, a) :: readUncompressed bs
  | _ => []

/-- `TextAttribute::from_u8(attr, ice_mode)` for the two modes the XBin loader uses (`ice` = NonBlink flag) -/
def fromU8 (ice : Bool) (attr : Nat) : Attr :=
  if ice then ⟨attr &&& 0b1111, attr >>> 4, 0, Xb.defaultPage⟩
  else ⟨attr &&& 0b1111, (attr >>> 4) &&& 0b0111, if attr &&& 0b10000000 != 0 then Xb.attrBlink else 0, Xb.defaultPage⟩

/-- `decode_char`; `ext` = 512-character mode (`FontMode::FixedSize`) -/
def decodeChar (ice ext : Bool) (p : Nat × Nat) : Cell :=
  let a := fromU8 ice p.2
  if a.fg > 7 && ext then ⟨p.1, { a with page := 1, fg := a.fg - 8 }⟩ else ⟨p.1, a⟩

end IcyVerif.XbCompress
