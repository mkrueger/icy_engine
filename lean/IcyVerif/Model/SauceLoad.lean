import IcyVerif.Model.Sauce
import IcyVerif.Model.BinFormats
/-! `Buffer::from_bytes` for the five binary formats, COMPOSED from the two existing models:
    the SAUCE split of `Model/Sauce.lean` (the full `SauceData::extract`: comment block, every error return, every
    index as a panic site; `fromBytesSplit` = `let mut len = bytes.len(); match SauceData::extract(bytes) { … len -=
    sauce_header_len … }; &bytes[..len]`) followed by the format loader of `Model/BinFormats.lean` (C05).

    `Model/BinFormats.lean` has no SAUCE reader of its own: `BinFormats.fromBytes` IS this composition, at
    `BinFormats.dateOk` and with the two outcome levels flattened (`C11.binformats_from_bytes_is_this`, Props/C11Load.lean), and
    the loaders take the record C11 proves things about (`Sauce.Sauce`) as it is.

    Also: the probe alphabet of the harness (`c11load.rs`): the bytes the `.asc` loader draws as one non-blank cell. -/
namespace IcyVerif.SauceLoad
open IcyVerif.Sauce

/-- `Buffer::from_bytes(Path::new("a.<ext>"), _, bytes)`, ext ∈ xb bin adf idf tnd.  Outer result: the SAUCE code
    (`panic` = a panic inside `extract` / the `len` arithmetic / the slice); inner result: the format loader -/
def fromBytes (dateOk : List Nat → Bool) (f : BinFormats.Fmt) (bytes : List Nat) : Res (BinFormats.Out BinFormats.LBuf) :=
  (fromBytesSplit dateOk bytes).bind fun cs => .ok (BinFormats.loadBody f cs.1 cs.2)

/-- probe alphabet `D`: 0x1A and the printable non-blank ASCII range — the `.asc` loader (`byte as char`, then
    `ascii::Parser::print_char`: everything but NUL, BEL, BS, LF, FF, CR, DEL, 0xFF is `print_value`) draws each as one
    visible cell, in reading order -/
def inD (b : Nat) : Bool := b == 26 || (33 ≤ b && b ≤ 126)

/-- length of the longest prefix of `file` inside the probe alphabet -/
def dPrefix (file : List Nat) : Nat := (file.takeWhile inD).length

end IcyVerif.SauceLoad
