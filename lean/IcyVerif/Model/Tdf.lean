import IcyVerif.Model.Font
/-! Model of `src/tdf_font/mod.rs`: `as_tdf_bytes`, `create_font_bundle` (writer, `add_font_data`) and
    `from_tdf_bytes` (reader) over byte lists with explicit failure outcomes.

    The reader's absolute offsets `o`, `char_offset` into `bytes` are expressed on the REMAINING input
    (`bytes.drop o`): `bytes[o + k]` is `rem[k]`, `o < bytes.len()` is `rem ≠ []`. -/
namespace IcyVerif.Tdf
open IcyVerif.Uni IcyVerif.Font

structure TGlyph where
  w : Int            -- `FontGlyph.size.width` (i32)
  h : Int
  data : List Nat
deriving Repr, DecidableEq

structure TdfFont where
  name : List Nat                    -- UTF-8 bytes of `name: String`
  ftype : Nat                        -- 0 Outline, 1 Block, 2 Color
  spaces : Int
  table : List (Option TGlyph)       -- `char_table` (94 entries for fonts made by `new`/the reader)
deriving Repr, DecidableEq

def idBytes : List Nat := "TheDraw FONTS file".toList.map Char.toNat
def fileHeader : List Nat := [19] ++ idBytes ++ [0x1A]
def indicator : List Nat := [0x55, 0xAA, 0x00, 0xFF]
def u16le (n : Nat) : List Nat := [n % 256, n / 256 % 256]
/-- `x as u8` for an i32 -/
def asU8 (x : Int) : Nat := (x % 256).toNat

def glyphBytes (g : TGlyph) : List Nat := [asU8 g.w, asU8 g.h] ++ g.data ++ [0]

/-- the `for glyph in &self.char_table` loop with its two accumulators -/
def encLoop : List Nat → List Nat → List (Option TGlyph) → List Nat × List Nat
  | lk, fd, [] => (lk, fd)
  | lk, fd, some g :: rest => encLoop (lk ++ u16le (fd.length % 65536)) (fd ++ glyphBytes g) rest
  | lk, fd, none :: rest => encLoop (lk ++ u16le 0xFFFF) fd rest

/-- `add_font_data` (bytes appended to the result) -/
def addFontData (f : TdfFont) : Res (List Nat) :=
  if f.name.length > 12 then .err
  else if f.spaces > 40 then .err
  else
    let (lk, fd) := encLoop [] [] f.table
    if fd.length > 0xFFFF then .err
    else .ok (indicator ++ [12] ++ f.name ++ List.replicate (12 - f.name.length) 0 ++ [0, 0, 0, 0] ++
              [f.ftype] ++ [asU8 f.spaces] ++ u16le fd.length ++ lk ++ fd)

/-- `as_tdf_bytes` -/
def asTdf (f : TdfFont) : Res (List Nat) :=
  match addFontData f with
  | .ok d => .ok (fileHeader ++ d)
  | .err => .err
  | .panic => .panic

def bundleData : List TdfFont → Res (List Nat)
  | [] => .ok []
  | f :: fs =>
    match addFontData f with
    | .ok d => (match bundleData fs with | .ok r => .ok (d ++ r) | e => e)
    | .err => .err
    | .panic => .panic

/-- `create_font_bundle` -/
def bundle (fs : List TdfFont) : Res (List Nat) :=
  match bundleData fs with
  | .ok d => .ok (fileHeader ++ d ++ [0])
  | .err => .err
  | .panic => .panic

/-! ### reader -/

def consOk (c : Nat) : Res (List Nat) → Res (List Nat)
  | .ok d => .ok (c :: d)
  | e => e

/-- the `loop { … }` reading one glyph's data from `bytes[char_offset..]`: up to the first 0 byte; in colour fonts
    every character except CR is followed by an attribute byte that is taken unexamined -/
def readGlyphData (color : Bool) : List Nat → Res (List Nat)
  | [] => .err                                   -- DataOverflow
  | [c] =>
    if c = 0 then .ok []
    else if color && c != 13 then .err           -- attribute byte beyond the end: DataOverflow
    else consOk c .err
  | c :: a :: rest =>
    if c = 0 then .ok []
    else if color && c != 13 then consOk c (consOk a (readGlyphData color rest))
    else consOk c (readGlyphData color (a :: rest))

/-- one entry of the lookup table against the font data block `blk` (= `bytes[o..]` after the table) -/
def readGlyph (color : Bool) (blockSize : Nat) (blk : List Nat) (off : Nat) : Res (Option TGlyph) :=
  if off = 0xFFFF then .ok none
  else if off ≥ blockSize then .err              -- GlyphOutsideFontDataSize
  else match blk.drop off with
    | w :: h :: data =>
      (match readGlyphData color data with
       | .ok d => .ok (some { w := w, h := h, data := d })
       | .err => .err
       | .panic => .panic)
    | _ => .err                                     -- `char_offset + 2 > bytes.len()`: DataOverflow

def readGlyphs (color : Bool) (blockSize : Nat) (blk : List Nat) : List Nat → Res (List (Option TGlyph))
  | [] => .ok []
  | off :: offs =>
    match readGlyph color blockSize blk off with
    | .ok g => (match readGlyphs color blockSize blk offs with | .ok gs => .ok (g :: gs) | e => e)
    | .err => .err
    | .panic => .panic

/-- `n` little-endian u16 values; `none` = index out of range -/
def readU16s : Nat → List Nat → Option (List Nat × List Nat)
  | 0, l => some ([], l)
  | n+1, a :: b :: l => (readU16s n l).map fun p => ((a + 256 * b) :: p.1, p.2)
  | _+1, _ => none

/-- name bytes up to the first NUL among the first `n`; `none` = index out of range -/
def nameBytes : Nat → List Nat → Option (List Nat)
  | 0, _ => some []
  | _+1, [] => none
  | n+1, c :: l => if c = 0 then some [] else (nameBytes n l).map (c :: ·)

/-- one font record starting at the indicator; returns the font and the input after its data block -/
def readFont (rem : List Nat) : Res (TdfFont × List Nat) :=
  if rem.length < 213 then .err else                 -- every record starts with a 213-byte header: FileTooShort
  match rem with
  | i0 :: i1 :: i2 :: i3 :: rest =>
    if [i0, i1, i2, i3] ≠ indicator then .err      -- FontIndicatorMismatch
    else match rest with
      | [] => .panic
      | nameLen :: rest =>
        if nameLen > 12 then .err                    -- NameTooLong
        else match nameBytes nameLen rest with
          | none => .panic
          | some nm =>
            -- `String::from_utf8_lossy(&bytes[o..o+len])`: the slice itself needs `len` bytes (guaranteed by nameBytes)
            match rest.drop 16 with
            | [] => .panic
            | ty :: r1 =>
              if ty > 2 then .err                    -- UnsupportedTtfType
              else match r1 with
                | [] => .panic
                | sp :: r2 =>
                  if sp > 40 then .err               -- LetterSpaceTooMuch
                  else match r2 with
                    | b0 :: b1 :: rest2 =>
                      match readU16s 94 rest2 with
                      | none => .panic
                      | some (offs, blk) =>
                        (match readGlyphs (ty == 2) (b0 + 256 * b1) blk offs with
                         | .ok gs => .ok ({ name := lossyBytes nm, ftype := ty, spaces := sp, table := gs },
                                          blk.drop (b0 + 256 * b1))
                         | .err => .err
                         | .panic => .panic)
                    | _ => .panic
  | _ => .panic                                      -- `bytes[o..o+4]` out of range

/-- the `while o < bytes.len()` loop (fuel ≥ rem.length) -/
def readFonts : Nat → List Nat → Res (List TdfFont)
  | 0, _ => .ok []
  | fuel+1, rem =>
    match rem with
    | [] => .ok []
    | c :: _ =>
      if c = 0 then .ok []
      else match readFont rem with
        | .ok (f, rem') => (match readFonts fuel rem' with | .ok fs => .ok (f :: fs) | e => e)
        | .err => .err
        | .panic => .panic

/-- `from_tdf_bytes` -/
def fromTdf (bytes : List Nat) : Res (List TdfFont) :=
  if bytes.length < 233 then .err                    -- FileTooShort
  else match bytes with
    | l :: rest =>
      if l ≠ 19 then .err                             -- IdLengthMismatch
      else if rest.take 18 ≠ idBytes then .err        -- IdMismatch
      else match rest.drop 18 with
        | m :: rem => if m ≠ 0x1A then .err else readFonts rem.length rem
        | [] => .panic
    | [] => .err

/-! ### the glyph presence table -/
/-- `has_char(char_code: u8)`: `char_offset = char_code - b' ' - 1`; negative or `> char_table.len()` → false.  The guard is
    off by one: offset = `len` (code 127 for the 94-entry table) passes it and indexes out of range — a panic, copied. -/
def hasChar (f : TdfFont) (code : Nat) : Res Bool :=
  let off : Int := (code : Int) - 32 - 1
  if off < 0 ∨ off > (f.table.length : Int) then .ok false
  else match f.table[off.toNat]? with
    | some g => .ok g.isSome
    | none => .panic

/-- `get_font_height`: the height of the first defined glyph, 0 without glyphs -/
def fontHeight (f : TdfFont) : Int :=
  match f.table.filterMap id with
  | g :: _ => g.h
  | [] => 0

/-! ### decidable well-formedness: the domain of the round-trip theorems (`Lemmas/TdfRt.lean: WfTdf`) -/
/-- colour glyph data: a sequence of CR bytes and (character ≠ 0, attribute) pairs -/
def colorWfB : List Nat → Bool
  | [] => true
  | c :: rest =>
    if c = 0 then false
    else if c = 13 then colorWfB rest
    else match rest with
      | [] => false
      | _ :: rest' => colorWfB rest'
def glyphWfB (color : Bool) (g : TGlyph) : Bool :=
  decide (0 ≤ g.w) && decide (g.w ≤ 255) && decide (0 ≤ g.h) && decide (g.h ≤ 255) &&
  (if color then colorWfB g.data else g.data.all (· ≠ 0))
def wfTdfB (f : TdfFont) : Bool :=
  decide (f.name.length ≤ 12) && validUtf8 f.name && f.name.all (· ≠ 0) && decide (f.ftype ≤ 2) &&
  decide (0 ≤ f.spaces) && decide (f.spaces ≤ 40) && decide (f.table.length = 94) &&
  f.table.all (fun g => match g with | some g => glyphWfB (f.ftype == 2) g | none => true) &&
  decide ((encLoop [] [] f.table).2.length ≤ 0xFFFF)


end IcyVerif.Tdf
