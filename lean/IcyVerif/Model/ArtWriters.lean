import IcyVerif.Model.ArtIO
/-! # ArtWriters — the text-format writers of icy_engine (C15, C04)

Transcriptions of `to_bytes` in `src/formats/{ascii,pcboard,renegade,ctrla,atascii,avatar}.rs` (this file, part 1) and of
the ANSI `StringGenerator` in `src/formats/ansi.rs` (part 2 of this file).

A picture (`Pic`) is what the writers read through `TextPane for Buffer` on a single-layer, opaque, non-terminal
buffer: `get_width`, `get_line_count` (= number of rows), `get_char` (a cell that was never set shows as the default
cell), `get_line_length`; plus `buf.ice_mode` and `buf.palette`.

All six writers share the row loop
```
while pos.y < height { let line_length = buf.get_line_length(pos.y);
  while pos.x < line_length { … emit cell … pos.x += 1 }
  if pos.x < buf.get_width() && pos.y + 1 < height { eol }   // "do not end with eol"
  pos.x = 0; pos.y += 1 }
```
which is `writeRows` below, parametrised by the per-cell emitter and its state (Avatar has its own inner loop).
A Rust panic / `Err` is an explicit outcome (`WOut.panic` / `WOut.err`). -/
namespace IcyVerif.ArtIO
open IcyVerif.Gen.Art

structure Pic where
  /-- `buf.get_width()` -/
  w : Nat
  /-- `rows[y][x]`; `rows.length = buf.get_line_count() = buf.get_height()`; a row may be shorter than `w`
      (missing cells show as the default cell) but never longer -/
  rows : List (List Cell)
  ice : IceMode
  pal : List Rgb
deriving Repr, Inhabited

/-- `buf.get_char((x, y))` -/
def Pic.get (p : Pic) (x y : Nat) : Cell := ((p.rows.getD y []).getD x defaultCell)

/-- the cells `0 .. get_line_length(y)` of a row: trailing transparent cells (blank on colour 0) dropped -/
def trimRow (row : List Cell) : List Cell := (row.reverse.dropWhile Cell.isTransparent).reverse

inductive WOut
  | ok (bytes : List Nat)
  | err
  | panic
deriving DecidableEq, Repr, Inhabited

/-- `if ch.ch == '\0' { b' ' } else { ch.ch as u8 }` -/
def chByte (ch : Nat) : Nat := if ch = 0 then 32 else ch % 256

/-- Rust `PartialEq for TextAttribute` (the font page is not compared; it is not modelled) -/
def Attr.same (a b : Attr) : Bool := a.fg == b.fg && a.bg == b.bg && a.fl == b.fl

/-- the cell loop of one row; `none` = the emitter panicked -/
def writeCells {σ : Type} (emit : σ → Cell → Option (List Nat × σ)) : σ → List Cell → Option (List Nat × σ)
  | s, [] => some ([], s)
  | s, c :: cs =>
    match emit s c with
    | none => none
    | some (b, s1) =>
      match writeCells emit s1 cs with
      | none => none
      | some (bs, s2) => some (b ++ bs, s2)

/-- the row loop shared by the writers -/
def writeRows {σ : Type} (emit : σ → Cell → Option (List Nat × σ)) (eol : List Nat) (w : Nat) :
    σ → List (List Cell) → Option (List Nat)
  | _, [] => some []
  | s, r :: rest =>
    match writeCells emit s (trimRow r) with
    | none => none
    | some (b, s1) =>
      match writeRows emit eol w s1 rest with
      | none => none
      | some bs => some (b ++ (if (trimRow r).length < w ∧ !rest.isEmpty then eol else []) ++ bs)

def WOut.ofOption : Option (List Nat) → WOut
  | some b => .ok b
  | none => .panic

inductive Prep | none | clear | home
deriving DecidableEq, Repr, Inhabited

def crlf : List Nat := [13, 10]

/-! ### ASCII (`src/formats/ascii.rs`) -/

def ascEmit (_ : Unit) (c : Cell) : Option (List Nat × Unit) := some ([chByte c.ch], ())

def writeAscii (p : Pic) : WOut := .ofOption (writeRows ascEmit crlf p.w () p.rows)

/-! ### PCBoard (`src/formats/pcboard.rs`) -/

/-- state: `(last_attr, first_char)`; `HEX_TABLE[colour]` panics for a colour index ≥ 16 -/
def pcbEmit (s : Attr × Bool) (c : Cell) : Option (List Nat × (Attr × Bool)) :=
  if s.2 || !(c.attr.same s.1) then
    match hexTable[c.attr.bg]?, hexTable[c.attr.fg]? with
    | some hb, some hf => some ([64, 88, hb, hf, chByte c.ch], (c.attr, false))
    | _, _ => none
  else some ([chByte c.ch], (s.1, false))

def pcbPrep : Prep → List Nat
  | .clear => [64, 67, 76, 83, 64]      -- "@CLS@"
  | _ => []                             -- home not supported

def writePcb (prep : Prep) (p : Pic) : WOut :=
  if p.pal.length ≠ 16 then .err else
  match writeRows pcbEmit crlf p.w (defaultAttr, true) p.rows with
  | some b => .ok (pcbPrep prep ++ b)
  | none => .panic

/-! ### Renegade (`src/formats/renegade.rs`) -/

/-- `format!("|{:02}", n)` -/
def pipe2 (n : Nat) : List Nat :=
  if n < 100 then [124, 48 + n / 10, 48 + n % 10] else 124 :: (toString n).toList.map Char.toNat

/-- state: `last_attr` -/
def renEmit (last : Attr) (c : Cell) : Option (List Nat × Attr) :=
  if !(c.attr.same last) then
    some ((if c.attr.fg ≠ last.fg then pipe2 c.attr.fg else []) ++
          (if c.attr.bg ≠ last.bg then pipe2 (16 + c.attr.bg) else []) ++ [chByte c.ch], c.attr)
  else some ([chByte c.ch], last)

def writeRenegade (p : Pic) : WOut :=
  if p.pal.length ≠ 16 then .err else .ofOption (writeRows renEmit crlf p.w defaultAttr p.rows)

/-! ### Ctrl-A (`src/formats/ctrla.rs`) -/

structure CtrlAW where
  last : Attr := defaultAttr
  wasBold : Bool := false
  wasBlink : Bool := false
  wasHighBg : Bool := false
deriving Repr, Inhabited

def ctrlaEmit (s : CtrlAW) (c : Cell) : Option (List Nat × CtrlAW) :=
  if !(c.attr.same s.last) then
    let isBold := 7 < c.attr.fg
    let highBg := 7 < c.attr.bg
    let isBlink := c.attr.fl.blink
    let reset := (!isBold && s.wasBold) || (!highBg && s.wasHighBg) || (!isBlink && s.wasBlink)
    let wasBold := if reset then false else s.wasBold
    let wasHighBg := if reset then false else s.wasHighBg
    let wasBlink := if reset then false else s.wasBlink
    let lastFore := if reset then 7 else s.last.fg
    let lastBack := if reset then 0 else s.last.bg
    some ((if reset then [1, 78] else []) ++                                    -- ^A N
          (if isBold && !wasBold then [1, 72] else []) ++                       -- ^A H
          (if highBg && !wasHighBg then [1, 69] else []) ++                     -- ^A E
          (if isBlink && !wasBlink then [1, 73] else []) ++                     -- ^A I
          (if c.attr.fg ≠ lastFore then [1, ctrlaFg.getD (c.attr.fg % 8) 0] else []) ++
          (if c.attr.bg ≠ lastBack then [1, ctrlaBg.getD (c.attr.bg % 8) 0] else []) ++
          [chByte c.ch],
          { last := c.attr, wasBold := isBold, wasBlink := isBlink, wasHighBg := highBg })
  else some ([chByte c.ch], s)

def ctrlaPrep : Prep → List Nat
  | .none => []
  | .home => [1, 39]       -- ^A '
  | .clear => [1, 76]      -- ^A L

def writeCtrlA (prep : Prep) (p : Pic) : WOut :=
  if p.pal.length ≠ 16 then .err else
  match writeRows ctrlaEmit crlf p.w {} p.rows with
  | some b => .ok (ctrlaPrep prep ++ b)
  | none => .panic

/-! ### ATASCII (`src/formats/atascii.rs`) -/

/-- `attr_ch.ch as u8`, `+ 0x80` for an inverse cell (debug profile: the `u8` addition panics on overflow), control
    codes escaped with ESC -/
def ataEmit (_ : Unit) (c : Cell) : Option (List Nat × Unit) :=
  let b := c.ch % 256
  if 0 < c.attr.bg ∧ 128 ≤ b then none else
  let b := if 0 < c.attr.bg then b + 128 else b
  some ((if atasciiEscaped.contains b then [27, b] else [b]), ())

/-- `isAtascii` = `buf.buffer_type == BufferType::Atascii` -/
def writeAtascii (isAtascii : Bool) (p : Pic) : WOut :=
  if !isAtascii then .err else .ofOption (writeRows ataEmit [atasciiEol] p.w () p.rows)

/-! ### Avatar (`src/formats/avatar.rs`) -/

/-- Rust `PartialEq for AttributedChar` -/
def Cell.same (a b : Cell) : Bool := a.ch == b.ch && a.attr.same b.attr

def avtIsCtl (ch : Nat) : Bool := ch == 22 || ch == 12 || ch == 25

/-- the run-length look-ahead: `while pos.x + 3 < width && ch == get(pos.x + 1) { repeat_count += 1; pos.x += 1 }`
    on the full row (`get` beyond the row's cells is the default cell); returns `(repeat_count, pos.x)` -/
def avtRun (w : Nat) (row : List Cell) : Nat → Nat → Nat → Nat × Nat
  | 0, x, n => (n, x)
  | fuel + 1, x, n =>
    if x + avtLookAhead < w ∧ (row.getD x defaultCell).same (row.getD (x + 1) defaultCell) then avtRun w row fuel (x + 1) (n + 1)
    else (n, x)

/-- the cell loop of one row: state `(last_attr, first_char)`, position `x`, `len = get_line_length` -/
def avtCells (im : IceMode) (w len : Nat) (row : List Cell) : Nat → Nat → Attr × Bool → List Nat × (Attr × Bool) × Nat
  | 0, x, s => ([], s, x)
  | fuel + 1, x, s =>
    if len ≤ x then ([], s, x) else
    let (n, x1) := avtRun w row w x 1
    let c := row.getD x1 defaultCell
    let chg := s.2 || !(c.attr.same s.1)
    let pre := if chg then [22, 1, attrAsU8 c.attr im] else []
    let last := if chg then c.attr else s.1
    let body :=
      if 1 < n then
        if n < avtRepeatMin ∧ !avtIsCtl c.ch then List.replicate n (c.ch % 256)
        else [25, c.ch % 256, n % 256]
      else if avtIsCtl c.ch then [25, c.ch % 256, 1]
      else [chByte c.ch]
    let (rest, s', xe) := avtCells im w len row fuel (x1 + 1) (last, false)
    (pre ++ body ++ rest, s', xe)

def rowLen (row : List Cell) : Nat := (trimRow row).length

def avtRows (im : IceMode) (w : Nat) : Attr × Bool → List (List Cell) → List Nat
  | _, [] => []
  | s, r :: rest =>
    let (b, s1, xe) := avtCells im w (rowLen r) r (w + 1) 0 s
    b ++ (if xe < w ∧ !rest.isEmpty then crlf else []) ++ avtRows im w s1 rest

def avtPrep : Prep → List Nat
  | .none => []
  | .clear => [avtClrW]
  | .home => [avtCmdW, 8, 1, 1]

def writeAvatar (prep : Prep) (p : Pic) : WOut :=
  if p.pal.length ≠ 16 then .err else .ok (avtPrep prep ++ avtRows p.ice p.w (defaultAttr, true) p.rows)

/-! ## part 2 — the ANSI writer (`StringGenerator` in `src/formats/ansi.rs`)

This part: `output_line_length = None` (so `push_result` only appends), `skip_lines = None`, one font (page 0); these three
features are transcribed in `Model/ArtAnsiX.lean` on top of this part.  `modern_terminal_output = false` throughout (outside
C04's option lattice).  Everything else is transcribed: `get_color` with
`AnsiState`, `generate_cells` incl. the end-of-line trimming, `generate` incl. the RLE / CUF / REP substitution, the
longer-terminal `CSI y H`, control-character handling, `screen_prep` / `screen_end`. -/

inductive CtrlHandling | ignore | icyTerm | filterOut
deriving DecidableEq, Repr, Inhabited

structure AnsiOpts where
  prep : Prep := .none
  compress : Bool := true
  useCursorForward : Bool := true
  useRepeatSequences : Bool := false
  preserveLineLength : Bool := false
  longerTerminalOutput : Bool := false
  useExtendedColors : Bool := true
  ctrl : CtrlHandling := .ignore
deriving DecidableEq, Repr, Inhabited

/-- the writer's idea of the terminal's current rendition -/
structure AnsiState where
  isBold : Bool := false
  isBlink : Bool := false
  isFaint : Bool := false
  isItalic : Bool := false
  isUnderlined : Bool := false
  isDoubleUnderlined : Bool := false
  isCrossedOut : Bool := false
  isConcealed : Bool := false
  fgIdx : Nat := 7
  fg : Rgb := (170, 170, 170)
  bgIdx : Nat := 0
  bg : Rgb := (0, 0, 0)
deriving DecidableEq, Repr, Inhabited

/-- the initial state of `generate_cells`: `DOS_DEFAULT_PALETTE[7]` on `[0]` -/
def ansiState0 : AnsiState := { fg := dosPalette.getD 7 (0, 0, 0), bg := dosPalette.getD 0 (0, 0, 0) }

/-- `DOS_DEFAULT_PALETTE.iter().position(|c| c.get_rgb() == rgb)` -/
def dosIndex (c : Rgb) : Option Nat := dosPalette.findIdx? (· == c)

/-- `extended_color_hash.get(rgb)`: the map is filled in palette order, a later entry with the same RGB overwrites an
    earlier one; empty without `use_extended_colors` -/
def xtermIndex (useExt : Bool) (c : Rgb) : Option Nat :=
  if useExt then
    match xtermPalette.reverse.findIdx? (· == c) with
    | some i => some (xtermPalette.length - 1 - i)
    | none => none
  else none

/-! `StringGenerator::get_color`, statement group by statement group.  `GcTarget` is what the function derives from
the cell's attribute before it looks at the state; the `gc*` functions are the successive `if … { sgr.push(..); state… }`
blocks, each acting on (state, SGR parameters so far). -/

structure GcTarget where
  /-- `cur_fore_rgb`, `cur_back_rgb` -/
  curFore : Rgb
  curBack : Rgb
  /-- the colour index whose RGB `cur_fore_rgb` is (bold low colour = bright colour), and `attr.get_background()` -/
  fgc : Nat
  bgc : Nat
  /-- `fore_idx` / `back_idx` after the bold / ice adjustments -/
  foreIdx : Option Nat
  backIdx : Option Nat
  bold : Bool
  blink : Bool
  faint : Bool
  italic : Bool
  underline : Bool
  dunderline : Bool
  crossed : Bool
  conceal : Bool
deriving Repr, Inhabited

def gcTarget (pal : List Rgb) (im : IceMode) (attr : Attr) : GcTarget :=
  -- a bold low colour is displayed as its bright counterpart
  let fgc := if attr.fl.bold && attr.fg < 8 then attr.fg + 8 else attr.fg
  let curFore := getRgb pal fgc
  let curBack := getRgb pal attr.bg
  let foreIdx0 := dosIndex curFore
  let backIdx0 := dosIndex curBack
  { curFore := curFore, curBack := curBack, fgc := fgc, bgc := attr.bg,
    foreIdx := (match foreIdx0 with
      | some idx => if idx < 8 then some idx else some (idx - 8)
      | none => none),
    backIdx := (match im, backIdx0 with
      | .ice, some idx => if idx < 8 then some idx else some (idx - 8)
      | _, some idx => if 7 < idx then none else some idx
      | _, none => none),
    bold := (match foreIdx0 with
      | some idx => if idx < 8 then false else true
      | none => attr.fl.bold),
    blink := (match im, backIdx0 with
      | .ice, some idx => if idx < 8 then attr.fl.blink else true
      | _, _ => attr.fl.blink),
    faint := attr.fl.faint, italic := attr.fl.italic, underline := attr.fl.underline,
    dunderline := attr.fl.dunderline, crossed := attr.fl.crossed, conceal := attr.fl.conceal }

/-- the big `if` that decides on `sgr.push(0)` -/
def gcNeedReset (t : GcTarget) (st : AnsiState) : Bool :=
  (!t.bold && st.isBold) || (!t.blink && st.isBlink) || (!t.italic && st.isItalic)
    || (!t.faint && st.isFaint) || (!t.underline && st.isUnderlined)
    || (!t.dunderline && st.isDoubleUnderlined) || (!t.crossed && st.isCrossedOut)
    || (!t.conceal && st.isConcealed)
    || (t.bold && !st.isBold && (dosIndex st.fg).isNone)

/-- the state after `sgr.push(0)` -/
def stReset (st : AnsiState) : AnsiState :=
  { st with isBold := false, isBlink := false, isItalic := false, isFaint := false, isUnderlined := false,
            isDoubleUnderlined := false, isCrossedOut := false, isConcealed := false,
            fgIdx := 7, fg := dosPalette.getD 7 (0, 0, 0), bgIdx := 0, bg := dosPalette.getD 0 (0, 0, 0) }

/-- (state, SGR parameters pushed so far) -/
abbrev GcAcc := AnsiState × List Nat

def gcReset (t : GcTarget) (st : AnsiState) : GcAcc := if gcNeedReset t st then (stReset st, [0]) else (st, [])

def gcBold (t : GcTarget) (x : GcAcc) : GcAcc :=
  if t.bold && !x.1.isBold then
    ({ x.1 with fgIdx := x.1.fgIdx + 8,
                fg := if x.1.fgIdx + 8 < 16 then dosPalette.getD (x.1.fgIdx + 8) (0, 0, 0) else x.1.fg,
                isBold := true }, x.2 ++ [1])
  else x

def gcFaint (t : GcTarget) (x : GcAcc) : GcAcc :=
  if t.faint && !x.1.isFaint then ({ x.1 with isFaint := true }, x.2 ++ [2]) else x
def gcItalic (t : GcTarget) (x : GcAcc) : GcAcc :=
  if t.italic && !x.1.isItalic then ({ x.1 with isItalic := true }, x.2 ++ [3]) else x
def gcUnderline (t : GcTarget) (x : GcAcc) : GcAcc :=
  if t.underline && !x.1.isUnderlined then ({ x.1 with isUnderlined := true }, x.2 ++ [4]) else x
def gcBlink (t : GcTarget) (x : GcAcc) : GcAcc :=
  if t.blink && !x.1.isBlink then ({ x.1 with isBlink := true }, x.2 ++ [5]) else x
def gcConceal (t : GcTarget) (x : GcAcc) : GcAcc :=
  if t.conceal && !x.1.isConcealed then ({ x.1 with isConcealed := true }, x.2 ++ [8]) else x
def gcCrossed (t : GcTarget) (x : GcAcc) : GcAcc :=
  if t.crossed && !x.1.isCrossedOut then ({ x.1 with isCrossedOut := true }, x.2 ++ [9]) else x
def gcDUnderline (t : GcTarget) (x : GcAcc) : GcAcc :=
  if t.dunderline && !x.1.isDoubleUnderlined then ({ x.1 with isDoubleUnderlined := true }, x.2 ++ [21]) else x

/-- the foreground block: (state, sgr, sgr_tc) -/
def gcFg (o : AnsiOpts) (t : GcTarget) (x : GcAcc) : AnsiState × List Nat × List Nat :=
  if t.curFore != x.1.fg then
    match t.foreIdx with
    -- the terminal is on DOS colour `i` now (SGR 1 brightens THAT colour), whatever palette slot the cell used
    | some i => ({ x.1 with fgIdx := i + (if t.bold then 8 else 0), fg := t.curFore }, x.2 ++ [colorOffsets.getD i 0 + 30], [])
    | none => match xtermIndex o.useExtendedColors t.curFore with
      | some e => ({ x.1 with fgIdx := t.fgc, fg := t.curFore }, x.2 ++ [38, 5, e], [])
      | none => ({ x.1 with fgIdx := t.fgc, fg := t.curFore }, x.2, [1, t.curFore.1, t.curFore.2.1, t.curFore.2.2])
  else (x.1, x.2, [])

/-- the background block -/
def gcBg (o : AnsiOpts) (t : GcTarget) (y : AnsiState × List Nat × List Nat) : AnsiState × List Nat × List Nat :=
  if t.curBack != y.1.bg then
    match t.backIdx with
    | some i => ({ y.1 with bgIdx := i, bg := t.curBack }, y.2.1 ++ [colorOffsets.getD i 0 + 40], y.2.2)
    | none => match xtermIndex o.useExtendedColors t.curBack with
      | some e => ({ y.1 with bgIdx := t.bgc, bg := t.curBack }, y.2.1 ++ [48, 5, e], y.2.2)
      | none => ({ y.1 with bgIdx := t.bgc, bg := t.curBack }, y.2.1, y.2.2 ++ [0, t.curBack.1, t.curBack.2.1, t.curBack.2.2])
  else y

/-- `StringGenerator::get_color`: the SGR parameters (`sgr`) and 24-bit colour commands (`sgr_tc`) that bring the
    terminal from `state` to the rendition of `attr`, and the new state -/
def getColor (o : AnsiOpts) (pal : List Rgb) (im : IceMode) (attr : Attr) (st : AnsiState) : AnsiState × List Nat × List Nat :=
  let t := gcTarget pal im attr
  gcBg o t (gcFg o t (gcDUnderline t (gcCrossed t (gcConceal t (gcBlink t (gcUnderline t (gcItalic t (gcFaint t (gcBold t
    (gcReset t st))))))))))

structure CharCell where
  ch : Nat
  sgr : List Nat
  sgrTc : List Nat
  cur : AnsiState
deriving Repr, Inhabited

/-- the end-of-line trimming of `generate_cells`: walk left from the last column over blank cells that carry the last
    cell's attribute (only when that attribute's background is colour 0); `fuel` = width -/
def trimScan (row : List Cell) (lastAttr : Attr) : Nat → Nat → Nat
  | 0, last => last
  | fuel + 1, last =>
    if 0 < last then
      let c := row.getD last defaultCell
      if c.ch ≠ 32 ∧ c.ch ≠ 255 ∧ c.ch ≠ 0 then last
      else if !(c.attr.same lastAttr) then last
      else trimScan row lastAttr fuel (last - 1)
    else last

/-- number of cells of the row that `generate_cells` emits -/
def ansiRowLen (o : AnsiOpts) (pal : List Rgb) (w : Nat) (row : List Cell) : Nat :=
  if o.compress && !o.preserveLineLength then
    let lastAttr := (row.getD (w - 1) defaultCell).attr
    -- trimmed cells come back as default blanks: blinking blanks must stay, and colour 0 must be black (the reader's
    -- default background), not a custom palette entry
    let last := if lastAttr.bg = 0 ∧ getRgb pal 0 = (0, 0, 0) ∧ !lastAttr.fl.blink then trimScan row lastAttr w (w - 1) else w - 1
    -- "don't compress if we have only one char, since eol are 2 chars"
    if w ≤ last + 1 + 1 then w else last + 1
  else w

/-- the cells of one row with their SGR deltas; the state runs through the whole picture -/
def genCellsRow (o : AnsiOpts) (pal : List Rgb) (im : IceMode) (row : List Cell) : Nat → Nat → AnsiState → List CharCell × AnsiState
  | 0, _, st => ([], st)
  | n + 1, x, st =>
    let c := row.getD x defaultCell
    if c.isVisible then
      let (st1, sgr, tc) := getColor o pal im c.attr st
      let (rest, st2) := genCellsRow o pal im row n (x + 1) st1
      (⟨c.ch, sgr, tc, st1⟩ :: rest, st2)
    else
      let (rest, st2) := genCellsRow o pal im row n (x + 1) st
      (⟨32, [], [], st⟩ :: rest, st2)

def genCells (o : AnsiOpts) (pal : List Rgb) (im : IceMode) (w : Nat) : List (List Cell) → AnsiState → List (List CharCell)
  | [], _ => []
  | row :: rest, st =>
    let (line, st1) := genCellsRow o pal im row (ansiRowLen o pal w row) 0 st
    line :: genCells o pal im w rest st1

/-- decimal digits of `n` (`to_string`), most significant first -/
def digitsAux : Nat → Nat → List Nat → List Nat
  | 0, _, acc => acc
  | fuel + 1, n, acc => if n < 10 then (48 + n) :: acc else digitsAux fuel (n / 10) ((48 + n % 10) :: acc)

/-- `n.to_string()`; the explicit cases below 1000 (every number the writer emits on a picture of at most 999 rows)
    keep the arithmetic visible to the proofs -/
def digits (n : Nat) : List Nat :=
  if n < 10 then [48 + n]
  else if n < 100 then [48 + n / 10, 48 + n % 10]
  else if n < 1000 then [48 + n / 100, 48 + n / 10 % 10, 48 + n % 10]
  else digitsAux (n + 1) n []

/-- `p1 ; p2 ; …` -/
def params : List Nat → List Nat
  | [] => []
  | [p] => digits p
  | p :: ps => digits p ++ [59] ++ params ps

/-- `ESC [ p1 ; p2 ; … <final>` -/
def csi (ps : List Nat) (final : Nat) : List Nat := [27, 91] ++ params ps ++ [final]

/-- the `sgr_tc` list is consumed in groups of four: `ESC [ k ; r ; g ; b t` -/
def tcSeqs : Nat → List Nat → List Nat
  | 0, _ => []
  | _, [] => []
  | fuel + 1, a :: b :: c :: d :: rest => csi [a, b, c, d] 116 ++ tcSeqs fuel rest
  | _, _ => []

/-- `cell_char` -/
def cellChar (o : AnsiOpts) (ch : Nat) : List Nat :=
  if ansiControlChars.contains ch then
    match o.ctrl with
    | .ignore => [ch % 256]
    | .icyTerm => [27, ch % 256]
    | .filterOut => [46]
  else [ch % 256]

/-- how many cells after `line[x]` repeat it without any rendition change (`rle` after the two decrements) -/
def rleCount (first : CharCell) : List CharCell → Nat
  | [] => 0
  | c :: rest => if c.ch ≠ first.ch ∨ !c.sgr.isEmpty ∨ !c.sgrTc.isEmpty then 0 else rleCount first rest + 1

/-- the cell loop of `generate` for one line (fuel = number of cells; `x` = column of the first cell of the list) -/
def genLine (o : AnsiOpts) (w : Nat) : Nat → Nat → List CharCell → List Nat
  | 0, _, _ => []
  | _, _, [] => []
  | fuel + 1, x, cell :: rest =>
    let pre := (if cell.sgr.isEmpty then [] else csi cell.sgr 109) ++ tcSeqs cell.sgrTc.length cell.sgrTc
    let cc := cellChar o cell.ch
    let rle := rleCount cell rest
    if o.compress then
      let cuf := csi [rle + 1] 67
      -- a run that reaches the right margin must be printed: CSI n C stops at the last column and does not wrap
      if o.useCursorForward ∧ cell.ch = 32 ∧ cell.cur.bgIdx = 0 ∧ cell.cur.bg = (0, 0, 0) ∧ !cell.cur.isBlink ∧ x + rle + 1 < w ∧ cuf.length ≤ rle then
        pre ++ cuf ++ genLine o w fuel (x + rle + 1) (rest.drop rle)
      else
        let rp := csi [rle] 98
        if o.useRepeatSequences ∧ rp.length ≤ rle then pre ++ cc ++ rp ++ genLine o w fuel (x + rle + 1) (rest.drop rle)
        else pre ++ cc ++ genLine o w fuel (x + 1) rest
    else pre ++ cc ++ genLine o w fuel (x + 1) rest

/-- the row loop of `generate`; `y` = row index, `h` = `layer.get_height()`, `first` = `is_first_output_line` -/
def genLines (o : AnsiOpts) (w h : Nat) : List (List CharCell) → Nat → Bool → List Nat
  | [], _, _ => []
  | line :: rest, y, first =>
    let head := if o.longerTerminalOutput then (if first then csi [0] 109 else []) ++ csi [y + 1] 72 else []
    let body := genLine o w line.length 0 line
    -- `x` after the cell loop is the number of cells of the line
    let x := line.length
    let eol := if !o.longerTerminalOutput ∧ x < w ∧ y + 1 < h then
        (if o.compress ∧ w ≤ x + 1 then [32] else [13, 10])
      else []
    head ++ body ++ eol ++ genLines o w h rest (y + 1) false

def ansiPrep (o : AnsiOpts) (im : IceMode) : List Nat :=
  (if im = .ice then [27, 91, 63, 51, 51, 104] else []) ++
  (match o.prep with
   | .none => []
   | .clear => [27, 91, 50, 74]
   | .home => [27, 91, 49, 59, 49, 72])

def ansiEnd (im : IceMode) : List Nat := if im = .ice then [27, 91, 63, 51, 51, 108] else []

/-- `Ansi::to_bytes` without SAUCE -/
def writeAnsi (o : AnsiOpts) (p : Pic) : List Nat :=
  let rows := p.rows.map fun r => r ++ List.replicate (p.w - r.length) defaultCell
  ansiPrep o p.ice ++ genLines o p.w p.rows.length (genCells o p.pal p.ice p.w rows ansiState0) 0 true ++ ansiEnd p.ice

end IcyVerif.ArtIO
