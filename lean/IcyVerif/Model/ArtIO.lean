import IcyVerif.Gen.Art
/-! # ArtIO — content-full reader for writer-shaped streams on a NON-terminal buffer (C15, C04)

Transcription of the file-loading path of icy_engine:

* `Buffer::print_char` (src/parsers/mod.rs), non-terminal branch, `Caret::lf`, `Caret::ff`, `Layer::set_char`,
  `Line::set_char`, `Buffer::clear_screen`, `TerminalState::limit_caret_pos` (non-terminal: only the column is clamped);
* the ANSI parser (src/parsers/ansi/mod.rs, ansi_commands.rs) restricted to the sub-language the engine's writers
  emit: printable code points, CR LF FF, SGR, `CSI n C`, `CSI n b`, `CSI r;c H`, `CSI 2J`, `CSI ?33h/l`, `CSI s/u`,
  `CSI 0/1;r;g;b t`, `CSI 0;n SP D`, `ESC <ctrl>`;  everything else sets `stuck` (the model makes no claim there and
  the correspondence run never feeds it);
* the Avatar / PCBoard / Ctrl-A / Renegade / ASCII / ATASCII parsers (thin state machines in front of the ANSI parser);
* the loader glue: `convert_ansi_to_utf8`, `parse_with_parser` (bold folding), `crop_loaded_file`, SAUCE size / iCE flag.

Code points and colours are `Nat`; attribute flags are a record of `Bool`s (the `u16` word is only an I/O encoding in
the driver).  The font page of a cell is not modelled in the reader (`CSI 0;n SP D`, which the ANSI writer emits for cells on
other font pages, see `Model/ArtAnsiX.lean`, is accepted and leaves the modelled state alone). -/
namespace IcyVerif.ArtIO
open IcyVerif.Gen.Art

/-! ## cells -/

structure Flags where
  bold : Bool := false
  faint : Bool := false
  italic : Bool := false
  blink : Bool := false
  underline : Bool := false
  dunderline : Bool := false
  conceal : Bool := false
  crossed : Bool := false
  overline : Bool := false
  invisible : Bool := false
deriving DecidableEq, Repr, Inhabited

/-- `attribute::NONE` -/
def Flags.none : Flags := {}

structure Attr where
  fg : Nat
  bg : Nat
  fl : Flags
deriving DecidableEq, Repr, Inhabited

structure Cell where
  ch : Nat
  attr : Attr
deriving DecidableEq, Repr, Inhabited

/-- `TextAttribute::default()` -/
def defaultAttr : Attr := ⟨defaultFg, defaultBg, Flags.none⟩
/-- `AttributedChar::default()` -/
def defaultCell : Cell := ⟨32, defaultAttr⟩
/-- `AttributedChar::invisible()` -/
def invisibleCell : Cell := ⟨32, ⟨defaultFg, defaultBg, { invisible := true }⟩⟩

/-- `AttributedChar::is_visible` -/
def Cell.isVisible (c : Cell) : Bool := !c.attr.fl.invisible
/-- `AttributedChar::is_transparent`: blank (NUL or space) on colour 0 -/
def Cell.isTransparent (c : Cell) : Bool := (c.ch == 0 || c.ch == 32) && c.attr.bg == 0

inductive IceMode | unlimited | blink | ice
deriving DecidableEq, Repr, Inhabited

abbrev Rgb := Nat × Nat × Nat

/-- `TextAttribute::from_u8` -/
def attrFromU8 (b : Nat) (m : IceMode) : Attr :=
  let blink := if m = .ice then false else b / 128 % 2 == 1
  let bg := if m = .ice then b / 16 % 16 else b / 16 % 8
  ⟨b % 16, bg, { blink := blink }⟩

/-- `TextAttribute::as_u8` -/
def attrAsU8 (a : Attr) (m : IceMode) : Nat :=
  let fg := if a.fl.bold then (a.fg % 16) ||| 8 else a.fg % 16
  let bg := match m with
    | .blink => (a.bg % 8) ||| (if a.fl.blink then 8 else 0)
    | _ => a.bg % 16
  (fg ||| (bg * 16)) % 256

/-- `Palette::insert_color` -/
def insertColor (pal : List Rgb) (c : Rgb) : List Rgb × Nat :=
  match pal.findIdx? (· == c) with
  | some i => (pal, i)
  | none => (pal ++ [c], pal.length)

/-- `Palette::get_rgb` (indices past the end are black; colours with bit 31 carry the RGB value directly) -/
def getRgb (pal : List Rgb) (c : Nat) : Rgb :=
  if c / 2147483648 % 2 == 1 then (c / 65536 % 256, c / 256 % 256, c % 256)
  else (pal[c]?).getD (0, 0, 0)

/-! ## the screen: layer 0 of a non-terminal buffer and the caret position -/

structure Screen where
  /-- `layers[0].get_width()` = terminal width -/
  w : Nat
  /-- `layers[0].get_height()` -/
  layerH : Nat
  /-- `layers[0].lines[y].chars[x]` -/
  lines : List (List Cell)
  cx : Nat
  cy : Nat
deriving Repr, Inhabited

/-- `Line::set_char` -/
def lineSetChar (l : List Cell) (x : Nat) (c : Cell) : List Cell :=
  (if l.length ≤ x then l ++ List.replicate (x + 1 - l.length) invisibleCell else l).set x c

/-- the `lines` part of `Layer::set_char`: rows are created with `Line::create(width)` (all invisible) -/
def linesSetChar (lines : List (List Cell)) (w x y : Nat) (c : Cell) : List (List Cell) :=
  (if lines.length ≤ y then lines ++ List.replicate (y + 1 - lines.length) (List.replicate w invisibleCell) else lines).modify y
    (fun l => lineSetChar l x c)

/-- `Layer::set_char` (unlocked, visible, no alpha lock) -/
def Screen.setChar (s : Screen) (x y : Nat) (c : Cell) : Screen :=
  if s.w ≤ x ∨ s.layerH ≤ y then s else { s with lines := linesSetChar s.lines s.w x y c }

/-- the `lines` part of `Caret::lf`: empty lines (`Line::with_capacity`) are appended until row `y` exists -/
def linesExtend (lines : List (List Cell)) (y : Nat) : List (List Cell) :=
  if lines.length ≤ y then lines ++ List.replicate (y + 1 - lines.length) [] else lines

/-- `Caret::lf` on a non-terminal buffer -/
def Screen.lf (s : Screen) : Screen :=
  { s with cx := 0, cy := s.cy + 1, lines := linesExtend s.lines (s.cy + 1) }

/-- `Caret::cr` -/
def Screen.cr (s : Screen) : Screen := { s with cx := 0 }

/-- `Buffer::print_char` on a non-terminal buffer, insert mode off, auto-wrap on -/
def Screen.put (s : Screen) (c : Cell) : Screen :=
  let s := if s.layerH < s.cy + 1 then { s with layerH := s.cy + 1 } else s
  let s := s.setChar s.cx s.cy c
  let s := { s with cx := s.cx + 1 }
  if s.w ≤ s.cx then s.lf else s

/-- `Buffer::clear_screen` / the screen part of `Caret::ff`: rows dropped, caret home (the layer size stays) -/
def Screen.clear (s : Screen) : Screen := { s with lines := [], cx := 0, cy := 0 }

/-- `TerminalState::limit_caret_pos` on a non-terminal buffer: only the column is clamped -/
def Screen.limit (s : Screen) : Screen := { s with cx := min s.cx (s.w - 1) }

/-- `Caret::right` -/
def Screen.right (s : Screen) (n : Nat) : Screen := { s with cx := min (s.cx + n) 2147483647 }.limit

/-- `Caret::del`: remove the cell under the caret -/
def Screen.del (s : Screen) : Screen :=
  { s with lines := s.lines.modify s.cy (fun l => l.eraseIdx s.cx) }

/-! ## state shared by all parsers -/

structure Core where
  scr : Screen
  /-- `caret.attribute` -/
  attr : Attr
  /-- `caret.ice_mode` -/
  caretIce : Bool
  /-- `buf.ice_mode` -/
  bufIce : IceMode
  /-- `buf.palette` -/
  pal : List Rgb
  /-- `buf.terminal_state.get_height()` (bounds REP) -/
  termH : Nat
  /-- left the modelled sub-language: no claim from here on -/
  stuck : Bool
deriving Repr, Inhabited

/-- `Caret::get_attribute`: in iCE mode a blinking attribute means a bright background -/
def Core.printAttr (c : Core) : Attr :=
  if c.caretIce then
    { c.attr with bg := if c.attr.bg < 8 && c.attr.fl.blink then c.attr.bg + 8 else c.attr.bg,
                  fl := { c.attr.fl with blink := false } }
  else c.attr

/-- print a code point with the caret attribute as the ANSI parser does (`caret.get_attribute()`) -/
def Core.printAnsi (c : Core) (ch : Nat) : Core := { c with scr := c.scr.put ⟨ch, c.printAttr⟩ }

/-- `Buffer::print_value` (ASCII / ATASCII parsers): `ch as u16`, dropped when it is not a scalar value; prints
    with `caret.attribute` itself -/
def Core.printValue (c : Core) (ch : Nat) : Core :=
  let v := ch % 65536
  if 55296 ≤ v ∧ v ≤ 57343 then c else { c with scr := c.scr.put ⟨v, c.attr⟩ }

/-- `Caret::reset_color_attribute` -/
def Core.resetAttr (c : Core) : Core := { c with attr := defaultAttr }

/-- `Caret::ff`: clear the layer, home, default attribute -/
def Core.ff (c : Core) : Core := { c with scr := c.scr.clear, attr := defaultAttr }

def Core.stick (c : Core) : Core := { c with stuck := true }

/-! ## the ANSI parser (sub-language) -/

inductive AState
  | ground
  | esc
  /-- `ReadCSISequence(is_start)` with `parsed_numbers` -/
  | csi (nums : List Nat) (start : Bool)
  /-- `ReadCSICommand` (`CSI ?`) -/
  | csiQ (nums : List Nat)
  /-- `EndCSI(' ')` -/
  | csiSp (nums : List Nat)
deriving DecidableEq, Repr, Inhabited

structure AnsiP where
  st : AState := .ground
  /-- `last_char` (REP) -/
  lastCh : Nat := 0
  /-- `saved_pos` -/
  saved : Nat × Nat := (0, 0)
deriving DecidableEq, Repr, Inhabited

def i32Max : Nat := 2147483647

/-- `parse_next_number`: saturating `x*10 + ch - '0'` -/
def parseNextNumber (x ch : Nat) : Nat := min (min (x * 10) i32Max + ch) i32Max - 48

/-- a digit arrives: `parsed_numbers.pop()` (or 0), push the extended number -/
def numsDigit (nums : List Nat) (ch : Nat) : List Nat :=
  match nums.reverse with
  | [] => [parseNextNumber 0 ch]
  | d :: rest => (parseNextNumber d ch :: rest).reverse

def isDigit (ch : Nat) : Bool := 48 ≤ ch && ch ≤ 57

/-- outcome of `parse_extended_colors`: `none` = `Err` (SGR stops), else the colour, the palette and the new index -/
def extColor (pal : List Rgb) (nums : List Nat) (i : Nat) : Option (Nat × List Rgb × Nat) :=
  if nums.length ≤ i + 1 then none else
  match nums[i + 1]? with
  | some 5 =>
    if nums.length < i + 3 then none else
    let col := nums.getD (i + 2) 0
    if col ≤ 255 then
      let (pal', idx) := insertColor pal (xtermPalette.getD col (0, 0, 0))
      some (idx, pal', i + 3)
    else none
  | some 2 =>
    if nums.length < i + 5 then none else
    let r := nums.getD (i + 2) 0
    let g := nums.getD (i + 3) 0
    let b := nums.getD (i + 4) 0
    if r ≤ 255 ∧ g ≤ 255 ∧ b ≤ 255 then
      let (pal', idx) := insertColor pal (r, g, b)
      some (idx, pal', i + 5)
    else none
  | _ => none

/-- one SGR parameter that is not 38/48; `none` = `Err` -/
def sgrOne (a : Attr) (n : Nat) : Option Attr :=
  if n = 0 then some defaultAttr
  else if n = 1 then some { a with fl := { a.fl with bold := true } }
  else if n = 2 then some { a with fl := { a.fl with faint := true } }
  else if n = 3 then some { a with fl := { a.fl with italic := true } }
  else if n = 4 then some { a with fl := { a.fl with underline := true } }
  else if n = 5 ∨ n = 6 then some { a with fl := { a.fl with blink := true } }
  else if n = 7 then some { a with fg := a.bg, bg := a.fg }
  else if n = 8 then some { a with fl := { a.fl with conceal := true } }
  else if n = 9 then some { a with fl := { a.fl with crossed := true } }
  else if 10 ≤ n ∧ n ≤ 20 then some a
  else if n = 21 then some { a with fl := { a.fl with dunderline := true } }
  else if n = 22 then some { a with fl := { a.fl with bold := false, faint := false } }
  else if n = 23 then some { a with fl := { a.fl with italic := false } }
  else if n = 24 then some { a with fl := { a.fl with underline := false } }
  else if n = 25 then some { a with fl := { a.fl with blink := false } }
  else if n = 28 then some { a with fl := { a.fl with conceal := false } }
  else if n = 29 then some { a with fl := { a.fl with crossed := false } }
  else if 30 ≤ n ∧ n ≤ 37 then some { a with fg := colorOffsets.getD (n - 30) 0 }
  else if n = 39 then some { a with fg := 7 }
  else if 40 ≤ n ∧ n ≤ 47 then some { a with bg := colorOffsets.getD (n - 40) 0 }
  else if n = 49 then some { a with bg := 0 }
  else if n = 53 then some { a with fl := { a.fl with overline := true } }
  else if n = 55 then some { a with fl := { a.fl with overline := false } }
  else if 90 ≤ n ∧ n ≤ 97 then some { a with fg := 8 + colorOffsets.getD (n - 90) 0 }
  else if 100 ≤ n ∧ n ≤ 107 then some { a with bg := 8 + colorOffsets.getD (n - 100) 0 }
  else none

/-- the parameter loop of `select_graphic_rendition` (fuel = number of parameters; every round consumes one) -/
def sgrLoop : Nat → List Nat → Nat → Attr → List Rgb → Attr × List Rgb
  | 0, _, _, a, pal => (a, pal)
  | fuel + 1, nums, i, a, pal =>
    match nums[i]? with
    | none => (a, pal)
    | some n =>
      if n = 38 then
        match extColor pal nums i with
        | some (col, pal', i') => sgrLoop fuel nums i' { a with fg := col } pal'
        | none => (a, pal)
      else if n = 48 then
        match extColor pal nums i with
        | some (col, pal', i') => sgrLoop fuel nums i' { a with bg := col } pal'
        | none => (a, pal)
      else match sgrOne a n with
        | some a' => sgrLoop fuel nums (i + 1) a' pal
        | none => (a, pal)

/-- `select_graphic_rendition` -/
def sgr (c : Core) (nums : List Nat) : Core :=
  let a0 := if nums.isEmpty then defaultAttr else c.attr
  let (a, pal) := sgrLoop nums.length nums 0 a0 c.pal
  { c with attr := a, pal := pal }

/-- `CSI Pn ; Pn H` (non-terminal: first visible line is 0) -/
def cup (s : Screen) (nums : List Nat) : Screen :=
  match nums with
  | [] => { s with cx := 0, cy := 0 }
  | [r] => { s with cy := r - 1, cx := 0 }.limit
  | r :: c :: _ => { s with cy := r - 1, cx := c - 1 }.limit

/-- `CSI Pn b`: repeat `last_char` with the current rendition, at most a screenful -/
def rep (c : Core) (lastCh : Nat) (nums : List Nat) : Core :=
  let n := min (nums.headD 1) (c.scr.w * c.termH)
  let cell : Cell := ⟨lastCh, c.printAttr⟩
  { c with scr := (List.replicate n cell).foldl Screen.put c.scr }

/-- `select_24bit_color` (`CSI 0/1;r;g;b t`): the components are taken `as u8` -/
def color24 (c : Core) (nums : List Nat) : Core :=
  let r := nums.getD 1 0 % 256
  let g := nums.getD 2 0 % 256
  let b := nums.getD 3 0 % 256
  let (pal, idx) := insertColor c.pal (r, g, b)
  match nums.head? with
  | some 0 => { c with pal := pal, attr := { c.attr with bg := idx } }
  | some 1 => { c with pal := pal, attr := { c.attr with fg := idx } }
  | _ => { c with pal := pal }

/-- control characters that `ESC <ctrl>` prints literally -/
def escPrintable (ch : Nat) : Bool :=
  ch == 12 || ch == 7 || ch == 8 || ch == 9 || ch == 127 || ch == 27 || ch == 10 || ch == 13

/-- one character through `ansi::Parser::print_char` (`bs_is_ctrl_char = false`) -/
def ansiStep (p : AnsiP) (c : Core) (ch : Nat) : AnsiP × Core :=
  if c.stuck then (p, c) else
  match p.st with
  | .ground =>
    if ch = 27 then ({ p with st := .esc }, c)
    else if ch = 10 then (p, { c with scr := c.scr.lf })
    else if ch = 12 then (p, c.ff)
    else if ch = 13 then (p, { c with scr := c.scr.cr })
    else if ch = 7 then (p, c)
    else if ch = 127 then (p, { c with scr := c.scr.del })
    else ({ p with lastCh := ch }, c.printAnsi ch)
  | .esc =>
    if ch = 91 then ({ p with st := .csi [] true }, c)
    else if escPrintable ch then ({ p with st := .ground, lastCh := ch }, c.printAnsi ch)
    else if ch = 93 ∨ ch = 55 ∨ ch = 56 ∨ ch = 99 ∨ ch = 68 ∨ ch = 77 ∨ ch = 69 ∨ ch = 80 ∨ ch = 72 ∨ ch = 95 then
      (p, c.stick)            -- OSC, DECSC/DECRC, RIS, IND, RI, NEL, DCS, HTS, APS: outside the sub-language
    else ({ p with st := .ground }, c)   -- silently dropped or `Err` (ignored by the loaders)
  | .csi nums start =>
    if ch = 109 then ({ p with st := .ground }, sgr c nums)                                     -- m
    else if ch = 72 ∨ ch = 102 then ({ p with st := .ground }, { c with scr := cup c.scr nums })  -- H f
    else if ch = 67 then ({ p with st := .ground }, { c with scr := c.scr.right (nums.headD 1) }) -- C
    else if ch = 115 then ({ p with st := .ground, saved := (c.scr.cx, c.scr.cy) }, c)          -- s
    else if ch = 117 then                                                                       -- u
      ({ p with st := .ground }, { c with scr := { c.scr with cx := p.saved.1, cy := p.saved.2 }.limit })
    else if ch = 74 then                                                                        -- J
      (match nums.head? with
       | some 2 => ({ p with st := .ground }, { c with scr := c.scr.clear })
       | some 3 => ({ p with st := .ground }, { c with scr := c.scr.clear })
       | _ => (p, c.stick))
    else if ch = 116 then                                                                       -- t
      (if nums.length = 4 then ({ p with st := .ground }, color24 c nums)
       else if nums.length = 3 then (p, c.stick)
       else ({ p with st := .ground }, c))
    else if ch = 98 then ({ p with st := .ground }, rep c p.lastCh nums)                        -- b
    else if ch = 63 then (if start then ({ p with st := .csiQ nums }, c) else (p, c.stick))       -- ?
    else if ch = 32 then ({ p with st := .csiSp nums }, c)
    else if isDigit ch then ({ p with st := .csi (numsDigit nums ch) false }, c)
    else if ch = 59 then ({ p with st := .csi (nums ++ [0]) false }, c)
    else (p, c.stick)
  | .csiQ nums =>
    if isDigit ch then ({ p with st := .csiQ (numsDigit nums ch) }, c)
    else if ch = 59 then ({ p with st := .csiQ (nums ++ [0]) }, c)
    else if ch = 104 then                                                                       -- h
      (if nums = [33] then ({ p with st := .ground }, { c with bufIce := .ice, caretIce := true }) else (p, c.stick))
    else if ch = 108 then                                                                       -- l
      (if nums = [33] then ({ p with st := .ground }, { c with caretIce := false }) else (p, c.stick))
    else (p, c.stick)
  | .csiSp nums =>
    if ch = 68 then                                                                             -- SP D: font selection
      (if nums.length = 2 ∧ nums.getD 1 0 < ansiFonts then ({ p with st := .ground }, c) else (p, c.stick))
    else (p, c.stick)

/-! ## the other parsers -/

/-- PCBoard: `conv_ch` -/
def pcbConvCh (ch : Nat) : Nat :=
  if 48 ≤ ch ∧ ch ≤ 57 then ch - 48
  else if 97 ≤ ch ∧ ch ≤ 102 then 10 + ch - 97
  else if 65 ≤ ch ∧ ch ≤ 70 then 10 + ch - 65
  else 0

structure PcbP where
  code : Bool := false
  color : Bool := false
  value : Nat := 0
  pos : Nat := 0
deriving DecidableEq, Repr, Inhabited

/-- `pcboard::Parser::print_char` (code points above 255 are outside the sub-language: `ch as u8`) -/
def pcbStep (q : PcbP) (p : AnsiP) (c : Core) (ch : Nat) : PcbP × AnsiP × Core :=
  if c.stuck then (q, p, c) else
  if q.color then
    let pos := q.pos + 1
    if pos = 1 then ({ q with pos := pos, value := pcbConvCh ch }, p, c)
    else if pos = 2 then
      let v := (q.value * 16 % 256) + pcbConvCh ch
      ({ q with pos := pos, value := v, color := false, code := false }, p, { c with attr := attrFromU8 v c.bufIce })
    else ({ q with pos := pos, color := false, code := false }, p, c)
  else if q.code then
    if ch = 64 then ({ q with code := false }, p, c)
    else if ch = 88 then ({ q with color := true, pos := 0 }, p, c)
    else (q, p, c)
  else if ch = 64 then ({ q with code := true }, p, c)
  else let (p', c') := ansiStep p c ch; (q, p', c')

inductive RenP | normal | first | second (n : Nat)
deriving DecidableEq, Repr, Inhabited

/-- `renegade::Parser::print_char` -/
def renStep (q : RenP) (p : AnsiP) (c : Core) (ch : Nat) : RenP × AnsiP × Core :=
  if c.stuck then (q, p, c) else
  match q with
  | .normal => if ch = 124 then (.first, p, c) else let (p', c') := ansiStep p c ch; (.normal, p', c')
  | .first =>
    let code := ch % 256
    if 48 ≤ code ∧ code ≤ 51 then (.second ((code - 48) * 10), p, c) else (.normal, p, c)
  | .second n =>
    let code := ch % 256
    if 48 ≤ code ∧ code ≤ 57 then
      let color := n + (code - 48)
      if color < 16 then (.normal, p, { c with attr := { c.attr with fg := color } })
      else (.normal, p, { c with attr := { c.attr with bg := color - 16 } })
    else (.normal, p, c)

structure CtrlAP where
  ctrlA : Bool := false
  bold : Bool := false
  highBg : Bool := false
deriving DecidableEq, Repr, Inhabited

/-- `ctrla::Parser::print_char` (cursor / erase commands other than clear and home are outside the sub-language) -/
def ctrlaStep (q : CtrlAP) (p : AnsiP) (c : Core) (ch : Nat) : CtrlAP × AnsiP × Core :=
  if c.stuck then (q, p, c) else
  if q.ctrlA then
    let q := { q with ctrlA := false }
    if ch = 76 then (q, p, { c with scr := c.scr.clear })                            -- L
    else if ch = 39 then (q, p, { c with scr := { c.scr with cx := 0, cy := 0 } })   -- '
    else if ch = 74 ∨ ch = 62 ∨ ch = 60 ∨ ch = 93 then (q, p, c.stick)               -- J > < ]
    else if ch = 124 then (q, p, { c with scr := c.scr.cr })                         -- |
    else if ch = 65 then let (p', c') := ansiStep p c 1; (q, p', c')                  -- A
    else if ch = 72 then                                                             -- H
      ({ q with bold := true }, p, { c with attr := { c.attr with fg := if c.attr.fg < 8 then c.attr.fg + 8 else c.attr.fg } })
    else if ch = 73 then (q, p, { c with attr := { c.attr with fl := { c.attr.fl with blink := true } } })  -- I
    else if ch = 69 then                                                             -- E
      ({ q with highBg := true }, p, { c with attr := { c.attr with bg := if c.attr.bg < 8 then c.attr.bg + 8 else c.attr.bg } })
    else if ch = 78 then                                                             -- N
      let c := c.resetAttr
      let c := if 7 < c.attr.fg then { c with attr := { c.attr with fg := c.attr.fg - 8 } } else c
      let c := if 7 < c.attr.bg then { c with attr := { c.attr with bg := c.attr.bg - 8 } } else c
      ({ q with bold := false, highBg := false }, p, c)
    else if ch = 90 then (q, p, c)                                                   -- Z
    else match ctrlaFg.findIdx? (· == ch % 256) with
      | some fg => (q, p, { c with attr := { c.attr with fg := fg + (if q.bold then 8 else 0) } })
      | none => match ctrlaBg.findIdx? (· == ch % 256) with
        | some bg => (q, p, { c with attr := { c.attr with bg := bg + (if q.highBg then 8 else 0) } })
        | none => if 128 ≤ ch ∧ ch ≤ 255 then (q, p, { c with scr := c.scr.right (ch - 127) }) else (q, p, c)
  else if ch = 1 then ({ q with ctrlA := true }, p, c)
  else let (p', c') := ansiStep p c ch; (q, p', c')

inductive AvtSt | chars | rep | command | move | color
deriving DecidableEq, Repr, Inhabited

structure AvtP where
  st : AvtSt := .chars
  sub : Nat := 0
  repCh : Nat := 32
deriving DecidableEq, Repr, Inhabited

/-- feed the same character `n` times to the ANSI parser (Avatar ^Y) -/
def ansiRepeat : Nat → AnsiP → Core → Nat → AnsiP × Core
  | 0, p, c, _ => (p, c)
  | n + 1, p, c, ch => let (p', c') := ansiStep p c ch; ansiRepeat n p' c' ch

/-- `avatar::Parser::print_char` (cursor-step commands ^V^C..^V^G are outside the sub-language) -/
def avtStep (q : AvtP) (p : AnsiP) (c : Core) (ch : Nat) : AvtP × AnsiP × Core :=
  if c.stuck then (q, p, c) else
  match q.st with
  | .chars =>
    if ch = avtClr then (q, p, c.ff)
    else if ch = avtRep then ({ q with st := .rep, sub := 1 }, p, c)
    else if ch = avtCmd then ({ q with st := .command }, p, c)
    else let (p', c') := ansiStep p c ch; (q, p', c')
  | .command =>
    let n := ch % 65536
    if n = 1 then ({ q with st := .color }, p, c)
    else if n = 2 then ({ q with st := .chars }, p, { c with attr := { c.attr with fl := { c.attr.fl with blink := true } } })
    else if n = 8 then ({ q with st := .move, sub := 1 }, p, c)
    else if 3 ≤ n ∧ n ≤ 7 then (q, p, c.stick)
    else ({ q with st := .chars }, p, c)
  | .rep =>
    if q.sub = 1 then ({ q with repCh := ch, sub := 2 }, p, c)
    else if q.sub = 2 then
      let (p', c') := ansiRepeat ch p c q.repCh
      ({ q with sub := 3, st := .chars }, p', c')
    else ({ q with st := .chars }, p, c)
  | .color => ({ q with st := .chars }, p, { c with attr := attrFromU8 (ch % 256) c.bufIce })
  | .move =>
    if q.sub = 1 then ({ q with repCh := ch, sub := 2 }, p, c)
    else if q.sub = 2 then
      -- ^V^H <row> <col>, both 1-based
      ({ q with st := .chars }, p, { c with scr := { c.scr with cy := q.repCh - 1, cx := ch - 1 }.limit })
    else (q, p, c)

/-- `ascii::Parser::print_char` (BS and DEL are outside the sub-language) -/
def ascStep (c : Core) (ch : Nat) : Core :=
  if c.stuck then c else
  if ch = 0 ∨ ch = 255 then c.resetAttr
  else if ch = 7 then c
  else if ch = 10 then { c with scr := c.scr.lf }
  else if ch = 12 then c.ff
  else if ch = 13 then { c with scr := c.scr.cr }
  else if ch = 8 ∨ ch = 127 then c.stick
  else c.printValue ch

/-- `atascii::Parser::print_char` (cursor and edit codes other than EOL and clear are outside the sub-language) -/
def ataStep (esc : Bool) (c : Core) (ch : Nat) : Bool × Core :=
  if c.stuck then (esc, c) else
  if esc then (false, c.printValue ch)
  else if ch = 27 then (true, c)
  else if ch = 125 then (false, { c with scr := c.scr.clear })
  else if ch = 155 then (false, { c with scr := c.scr.lf })
  else if ch = 127 ∨ ch = 158 ∨ ch = 159 ∨ ch = 253 then (false, c)
  else if ch = 28 ∨ ch = 29 ∨ ch = 30 ∨ ch = 31 ∨ ch = 126 ∨ ch = 156 ∨ ch = 157 ∨ ch = 254 ∨ ch = 255 then (false, c.stick)
  else
    let v := ch % 65536
    if 127 < v then (false, ({ c with attr := { c.attr with fg := 0, bg := 7 } }).printValue (v - 128))
    else (false, ({ c with attr := { c.attr with fg := 7, bg := 0 } }).printValue v)

/-! ## running a whole text -/

inductive Fmt | ansi | ascii | pcboard | renegade | ctrla | avatar | atascii
deriving DecidableEq, Repr, Inhabited

structure RS where
  core : Core
  ansi : AnsiP := {}
  pcb : PcbP := {}
  ren : RenP := .normal
  ctrla : CtrlAP := {}
  avt : AvtP := {}
  ataEsc : Bool := false
deriving Repr, Inhabited

def step (f : Fmt) (r : RS) (ch : Nat) : RS :=
  match f with
  | .ansi => let (p, c) := ansiStep r.ansi r.core ch; { r with ansi := p, core := c }
  | .ascii => { r with core := ascStep r.core ch }
  | .pcboard => let (q, p, c) := pcbStep r.pcb r.ansi r.core ch; { r with pcb := q, ansi := p, core := c }
  | .renegade => let (q, p, c) := renStep r.ren r.ansi r.core ch; { r with ren := q, ansi := p, core := c }
  | .ctrla => let (q, p, c) := ctrlaStep r.ctrla r.ansi r.core ch; { r with ctrla := q, ansi := p, core := c }
  | .avatar => let (q, p, c) := avtStep r.avt r.ansi r.core ch; { r with avt := q, ansi := p, core := c }
  | .atascii => let (e, c) := ataStep r.ataEsc r.core ch; { r with ataEsc := e, core := c }

def run (f : Fmt) (r : RS) (text : List Nat) : RS := text.foldl (step f) r

/-! ## loader glue -/

/-- strict UTF-8 decoding as `String::from_utf8` does it (`none` = invalid) -/
def utf8Decode : Nat → List Nat → Option (List Nat)
  | 0, _ => some []
  | _, [] => some []
  | fuel + 1, b0 :: rest =>
    let cont (b : Nat) : Bool := 128 ≤ b && b ≤ 191
    if b0 < 128 then (utf8Decode fuel rest).map (b0 :: ·)
    else if 194 ≤ b0 ∧ b0 ≤ 223 then
      match rest with
      | b1 :: rest => if cont b1 then (utf8Decode fuel rest).map (((b0 - 192) * 64 + (b1 - 128)) :: ·) else none
      | _ => none
    else if 224 ≤ b0 ∧ b0 ≤ 239 then
      match rest with
      | b1 :: b2 :: rest =>
        let ok1 := if b0 = 224 then 160 ≤ b1 && b1 ≤ 191 else if b0 = 237 then 128 ≤ b1 && b1 ≤ 159 else cont b1
        if ok1 ∧ cont b2 then (utf8Decode fuel rest).map (((b0 - 224) * 4096 + (b1 - 128) * 64 + (b2 - 128)) :: ·) else none
      | _ => none
    else if 240 ≤ b0 ∧ b0 ≤ 244 then
      match rest with
      | b1 :: b2 :: b3 :: rest =>
        let ok1 := if b0 = 240 then 144 ≤ b1 && b1 ≤ 191 else if b0 = 244 then 128 ≤ b1 && b1 ≤ 143 else cont b1
        if ok1 ∧ cont b2 ∧ cont b3 then
          (utf8Decode fuel rest).map (((b0 - 240) * 262144 + (b1 - 128) * 4096 + (b2 - 128) * 64 + (b3 - 128)) :: ·)
        else none
      | _ => none
    else none

def bomPrefixed (bytes : List Nat) : Bool := bytes.take 3 == [239, 187, 191]

/-- `convert_ansi_to_utf8`: a file that starts with a UTF-8 BOM and is valid UTF-8 is decoded (the BOM stays in the
    text), every other file is read as one code point per byte -/
def convertText (bytes : List Nat) : List Nat :=
  if bomPrefixed bytes then
    match utf8Decode bytes.length bytes with
    | some t => t
    | none => bytes
  else bytes

/-- what the SAUCE record contributes to a load: buffer size and the iCE flag -/
structure Sauce where
  w : Nat
  h : Nat
  ice : Bool
deriving DecidableEq, Repr, Inhabited

def loadSize : Fmt → Nat × Nat
  | .ansi => (loadWAnsi, loadHAnsi)
  | .ascii => (loadWAscii, loadHAscii)
  | .pcboard => (loadWPcb, loadHPcb)
  | .renegade => (loadWRenegade, loadHRenegade)
  | .ctrla => (loadWCtrla, loadHCtrla)
  | .avatar => (loadWAvatar, loadHAvatar)
  | .atascii => (loadWAtascii, loadHAtascii)

/-- the buffer a loader starts from: `Buffer::new(size)`, `set_sauce(.., true)`, and for the `parse_with_parser`
    loaders `layers[0].lines.clear()`.  ATASCII keeps the rows `Layer::new` created and ignores the SAUCE iCE flag
    for the caret. -/
def initial (f : Fmt) (sauce : Option Sauce) : RS :=
  let (w0, h0) := loadSize f
  let (w, h) := match sauce with
    | some s => (if s.w = 0 ∨ 1000 < s.w then 80 else s.w, s.h)
    | none => (w0, h0)
  let ice := match sauce with
    | some s => s.ice
    | none => false
  -- ATASCII: the rows `Layer::new((40, 24))` created stay (created before the SAUCE size is applied)
  let lines := if f = .atascii then List.replicate h0 (List.replicate w0 invisibleCell) else []
  { core := { scr := { w := w, layerH := h, lines := lines, cx := 0, cy := 0 },
              attr := defaultAttr,
              caretIce := if f = .atascii then false else ice,
              bufIce := if ice then .ice else .unlimited,
              -- (the ATASCII loader installs the Atari palette; no property observes it, the model keeps the DOS one)
              pal := dosPalette, termH := h, stuck := false } }

/-- what a load produces, as far as the properties observe it -/
structure Loaded where
  w : Nat
  h : Nat
  lines : List (List Cell)
  pal : List Rgb
  ice : IceMode
  stuck : Bool
deriving Repr, Inhabited

/-- `crop_loaded_file`: trailing rows without any cell are dropped (one row always stays) -/
def cropLines : Nat → List (List Cell) → List (List Cell)
  | 0, ls => ls
  | fuel + 1, ls =>
    if 1 < ls.length ∧ ls.getLast? = some [] then cropLines fuel ls.dropLast else ls

/-- `Buffer::get_char` of a single opaque layer: a cell that was never written (or is invisible) shows as the default
    cell; outside the layer nothing is shown (`AttributedChar::invisible()`) -/
def shown (c : Cell) : Cell := if c.isVisible then c else defaultCell

def viewLines (w h : Nat) (lines : List (List Cell)) (x y : Nat) : Cell :=
  if w ≤ x ∨ h ≤ y then invisibleCell
  else match lines[y]? with
    | some l => match l[x]? with
      | some c => shown c
      | none => defaultCell
    | none => defaultCell

/-- the bold folding at the end of `parse_with_parser`: bold + colour < 8 becomes the bright colour -/
def foldBold (c : Cell) : Cell :=
  if c.attr.fl.bold then
    { c with attr := { c.attr with fg := if c.attr.fg < 8 then c.attr.fg + 8 else c.attr.fg, fl := { c.attr.fl with bold := false } } }
  else c

/-- the folding loop over the cropped buffer: only cells that `get_char` shows as bold are rewritten (an invisible cell
    shows as the default cell), so rows keep their length; no row holds cells at or beyond the layer width -/
def foldLines (lines : List (List Cell)) : List (List Cell) :=
  lines.map fun l => l.map fun c => if c.isVisible then foldBold c else c

def finish (f : Fmt) (r : RS) : Loaded :=
  let s := r.core.scr
  if f = .atascii then
    { w := s.w, h := s.layerH, lines := s.lines, pal := r.core.pal, ice := r.core.bufIce, stuck := r.core.stuck }
  else
    let lines := cropLines s.lines.length s.lines
    { w := s.w, h := lines.length, lines := foldLines lines, pal := r.core.pal, ice := r.core.bufIce, stuck := r.core.stuck }

/-- `Buffer::from_bytes` for the seven text formats (SAUCE already split off by the caller) -/
def load (f : Fmt) (sauce : Option Sauce) (bytes : List Nat) : Loaded :=
  let text := if f = .atascii then bytes else convertText bytes
  finish f (run f (initial f sauce) text)

/-- the cell `Buffer::get_char((x, y))` returns on the loaded buffer -/
def Loaded.cellAt (l : Loaded) (x y : Nat) : Cell := viewLines l.w l.h l.lines x y

end IcyVerif.ArtIO
