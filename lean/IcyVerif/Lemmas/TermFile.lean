import IcyVerif.Model.TermFile
import IcyVerif.Lemmas.TermPrim
import IcyVerif.Lemmas.TermFileAttr
/-! # Invariant of the file-buffer model (`FGood`) and its preservation by the primitives
From it every `add1` / `hyperLen` / `clamp` / negative-index site is shown unreachable. -/
namespace IcyVerif.TermFile
open IcyVerif.Term

/-! The facts about the regenerated constants the proofs use: the row clamps are present and the row bound `capY` is at
most 2·10^6 (a tree without the clamps, or with a larger bound, breaks these four and with them every theorem below).
2·10^6 is no source constant but the slack of the proofs: times the width 1000 it stays below 2^31 (`hyperLen_eq`). -/
theorem limitRowClamped_true : limitRowClamped = true := by decide
theorem lfClamped_true : lfClamped = true := by decide
theorem capY_lo : 0 ≤ capY := by decide
theorem capY_hi : capY ≤ 2000000 := by decide

/-- terminal size and margins of a file buffer: width 1 ..= 1000 (`set_sauce` clamps to `sauceMaxWidth`, `CSI 8;h;w t`
    gives at most 132), height 0 ..= 65535 (the SAUCE field is a `u16`, `CSI 8;h;w t` gives at most 60), margins inside -/
structure ScrF (s : Scr) : Prop where
  tw1 : 1 ≤ s.tw
  tw2 : s.tw ≤ 1000
  th0 : 0 ≤ s.th
  th2 : s.th ≤ 65535
  mtb : ∀ t b, s.mtb = some (t, b) → 0 ≤ t ∧ t ≤ b ∧ b < s.th
  mlr : ∀ l r, s.mlr = some (l, r) → 0 ≤ l ∧ l ≤ r ∧ r < s.tw

/-- cursor column 0 ..= 1000 (it can stand one past the last column), row 0 ..= `MAX_FILE_BUFFER_HEIGHT - 1` -/
def CarF (c : Car) : Prop := 0 ≤ c.x ∧ c.x ≤ 1000 ∧ 0 ≤ c.y ∧ c.y ≤ capY
/-- the layer is as wide as the terminal was when the load began -/
def RowsF (r : Rows) : Prop := r.lw ≤ 1000
/-- the open hyperlinks were started at cursor positions -/
def HlF (hl : List (Int × Int)) : Prop := ∀ p ∈ hl, 0 ≤ p.1 ∧ p.1 ≤ 1000 ∧ 0 ≤ p.2 ∧ p.2 ≤ capY
/-- music is off in every loader: the parser never enters a music state -/
def NoMusic (ps : PSt) : Prop := ∀ m, ps ≠ .music m

def FGood (st : FSt) : Prop := ScrF st.s ∧ CarF st.c ∧ RowsF st.r ∧ HlF st.hl ∧ NoMusic st.p.st
abbrev FGoodR (r : FSt × Out) : Prop := FGood r.1

def CRGood (p : Car × Rows) : Prop := CarF p.1 ∧ RowsF p.2

@[fgood] theorem fgood_iff (st : FSt) : FGood st ↔ ScrF st.s ∧ CarF st.c ∧ RowsF st.r ∧ HlF st.hl ∧ NoMusic st.p.st := Iff.rfl
@[fgood] theorem carF_iff (c : Car) : CarF c ↔ 0 ≤ c.x ∧ c.x ≤ 1000 ∧ 0 ≤ c.y ∧ c.y ≤ capY := Iff.rfl
@[fgood] theorem rowsF_iff (r : Rows) : RowsF r ↔ r.lw ≤ 1000 := Iff.rfl
@[fgood] theorem noMusic_iff (ps : PSt) : NoMusic ps ↔ ∀ m, ¬ ps = .music m := Iff.rfl
attribute [fgood_proc] reduceCtorEq Int.reduceLE
attribute [fgood] Holds.ok Holds.ite_iff capY_lo and_self and_true true_and implies_true false_implies not_false_eq_true Int.le_refl

@[fgood] theorem setMarginsTB_F (s : Scr) (a b : Int) (h : ScrF s) : ScrF (setMarginsTB s a b) :=
  ⟨h.tw1, h.tw2, h.th0, h.th2, fun t e => margins_inside a b s.th t e, h.mlr⟩
@[fgood] theorem setMarginsLR_F (s : Scr) (a b : Int) (h : ScrF s) : ScrF (setMarginsLR s a b) :=
  ⟨h.tw1, h.tw2, h.th0, h.th2, h.mtb, fun t e => margins_inside a b s.tw t e⟩
@[fgood] theorem resetTerminal_F (s : Scr) (h : ScrF s) : ScrF (resetTerminal s) :=
  ⟨h.tw1, h.tw2, h.th0, h.th2, fun _ _ hh => (nomatch hh), fun _ _ hh => (nomatch hh)⟩
@[fgood] theorem scrF_modes (s : Scr) (aw dm : Bool) (tabs : List Int) (h : ScrF s) :
    ScrF { s with autowrap := aw, declrmm := dm, tabs := tabs } :=
  ⟨h.tw1, h.tw2, h.th0, h.th2, h.mtb, h.mlr⟩
@[fgood] theorem scrF_nomargins (s : Scr) (aw dm : Bool) (tabs : List Int) (h : ScrF s) :
    ScrF { s with autowrap := aw, declrmm := dm, tabs := tabs, mtb := none, mlr := none } :=
  ⟨h.tw1, h.tw2, h.th0, h.th2, fun _ _ hh => (nomatch hh), fun _ _ hh => (nomatch hh)⟩
@[fgood] theorem scrF_nolr (s : Scr) (aw dm : Bool) (tabs : List Int) (h : ScrF s) :
    ScrF { s with autowrap := aw, declrmm := dm, tabs := tabs, mlr := none } :=
  ⟨h.tw1, h.tw2, h.th0, h.th2, h.mtb, fun _ _ hh => (nomatch hh)⟩
/-- `CSI 8;h;w t` -/
@[fgood] theorem scrF_resize (s : Scr) (w h' : Int) (tabs : List Int) :
    ScrF { s with tw := max (min w 132) 1, th := max (min h' 60) 1, tabs := tabs, mtb := none, mlr := none } :=
  ⟨by simp only; omega, by simp only; omega, by simp only; omega, by simp only; omega,
    fun _ _ hh => (nomatch hh), fun _ _ hh => (nomatch hh)⟩

attribute [fgood] Int.le_max_left
@[fgood] theorem bsCol_le (x : Int) (h : x ≤ 1000) : max 0 (x - 1) ≤ 1000 := by omega
@[fgood] theorem twPred_nonneg (s : Scr) (h : ScrF s) : 0 ≤ s.tw - 1 := by have := h.tw1; omega
@[fgood] theorem twPred_le (s : Scr) (h : ScrF s) : s.tw - 1 ≤ 1000 := by have := h.tw2; omega

@[fgood] theorem setChar_lw (r : Rows) (x y : Int) : (r.setChar x y).lw = r.lw := by
  unfold Rows.setChar; split <;> rfl
@[fgood] theorem touchRect_lw (r : Rows) (a b c d : Int) : (r.touchRect a b c d).lw = r.lw := by
  unfold Rows.touchRect; simp only []; split <;> rfl
@[fgood] theorem insertLine_lw (r : Rows) (i : Int) : (r.insertLine i).lw = r.lw := by
  unfold Rows.insertLine; rfl
@[fgood] theorem del_lw (r : Rows) (x y : Int) : (r.del x y).lw = r.lw := by
  unfold Rows.del; split <;> rfl
@[fgood] theorem ins_lw (r : Rows) (x y : Int) : (r.ins x y).lw = r.lw := by
  unfold Rows.ins; split <;> rfl
@[fgood] theorem ech_lw (r : Rows) (a b c d : Int) : (r.ech a b c d).lw = r.lw := by
  unfold Rows.ech; simp only []; split <;> rfl
@[fgood] theorem scrollUpF_lw (s : Scr) (r : Rows) : (scrollUpF s r).lw = r.lw := touchRect_lw ..
@[fgood] theorem scrollDownF_lw (s : Scr) (r : Rows) : (scrollDownF s r).lw = r.lw := touchRect_lw ..
@[fgood] theorem scrollLeftF_lw (s : Scr) (r : Rows) : (scrollLeftF s r).lw = r.lw := by
  unfold scrollLeftF; rfl
@[fgood] theorem scrollRightF_lw (s : Scr) (r : Rows) : (scrollRightF s r).lw = r.lw := by
  unfold scrollRightF; rfl
@[fgood] theorem removeTermLine_lw (s : Scr) (r : Rows) (y : Int) : (removeTermLine s r y).lw = r.lw := by
  unfold removeTermLine; split
  · rfl
  · simp only []; split <;> rfl
@[fgood] theorem insertTermLine_lw (s : Scr) (r : Rows) (y : Int) : (insertTermLine s r y).lw = r.lw := by
  unfold insertTermLine; simp only [insertLine_lw]
  split
  · split <;> rfl
  · rfl
@[fgood] theorem rectF_lw (s : Scr) (r : Rows) (a b c d : Int) : (rectF s r a b c d).lw = r.lw := by
  unfold rectF; simp only []; split
  · rfl
  · exact touchRect_lw ..
@[fgood] theorem iterN_lw (f : Rows → Rows) (hf : ∀ r, (f r).lw = r.lw) : ∀ (n : Nat) (r : Rows), (iterN f n r).lw = r.lw := by
  intro n
  induction n with
  | zero => intro r; rfl
  | succ n ih => intro r; simp only [iterN]; rw [ih, hf]
@[fgood] theorem removeTermLines_lw (s : Scr) (r : Rows) (y : Int) (k : Nat) : (removeTermLines s r y k).lw = r.lw := by
  unfold removeTermLines; split
  · split <;> rfl
  · exact iterN_lw _ (fun r => removeTermLine_lw s r y) _ _
@[fgood] theorem scrollDownForce_lw (s : Scr) (c : Car) (r : Rows) : (scrollDownForce s c r).2.lw = r.lw := by
  unfold scrollDownForce; split
  · exact scrollUpF_lw s r
  · rfl
@[fgood] theorem scrollUpForce_lw (s : Scr) (c : Car) (r : Rows) : (scrollUpForce s c r).2.lw = r.lw := by
  unfold scrollUpForce; split
  · exact iterN_lw _ (scrollDownF_lw s) _ _
  · rfl

theorem scrollDownForce_ins (s : Scr) (c : Car) (r : Rows) : (scrollDownForce s c r).1.ins = c.ins := by
  unfold scrollDownForce; split <;> rfl
theorem scrollUpForce_ins (s : Scr) (c : Car) (r : Rows) : (scrollUpForce s c r).1.ins = c.ins := by
  unfold scrollUpForce; split <;> rfl

theorem rowsF_of_lw {r r' : Rows} (h : RowsF r) (hl : r'.lw = r.lw) : RowsF r' := by
  unfold RowsF at *; omega

/-- no side condition on `c`: `limit_caret_pos` repairs any cursor -/
theorem limitF_spec (s : Scr) (c : Car) (hs : ScrF s) : Holds NoErr (limitF s c) (fun c' => CarF c' ∧ c'.ins = c.ins) := by
  have := hs.tw1; have := hs.tw2; have := capY_lo; have := capY_hi
  unfold limitF
  rw [limitRowClamped_true]
  have hn : ¬ (0 > capY) := by omega
  simp only [if_true, hn, if_false, Holds.ok, CarF, clampI, and_true]
  omega

theorem add1_ok (site : String) (v : Int) (h : v ≤ 2147483646) : add1 site v = .ok (v + 1) := by
  unfold add1; rw [if_pos (by omega)]

@[fgood] theorem liftLim_spec (s : Scr) (c : Car) (r : Rows) (hs : ScrF s) (hr : RowsF r) :
    Holds NoErr (liftLim (limitF s c) r) CRGood := by
  obtain ⟨c', hlc, hl⟩ := Holds.isOk (limitF_spec s c hs)
  rw [hlc]
  exact ⟨hl.1, hr⟩

@[fgood] theorem lfF_spec (s : Scr) (c : Car) (r : Rows) (hs : ScrF s) (y1 : c.y ≤ capY) (hr : RowsF r) :
    Holds NoErr (lfF s c r) CRGood := by
  have := capY_hi
  unfold lfF
  rw [add1_ok _ _ (by omega), lfClamped_true]
  simp only [if_true]
  obtain ⟨c', hlc, hl⟩ := Holds.isOk (limitF_spec s { c with x := 0, y := c.y + 1 } hs)
  rw [hlc]
  exact ⟨hl.1, hr⟩

@[fgood] theorem printCharF_spec (s : Scr) (c : Car) (r : Rows) (hs : ScrF s) (hc : CarF c) (hr : RowsF r) :
    Holds NoErr (printCharF s c r) CRGood := by
  have := capY_hi
  obtain ⟨x0, x1, y0, y1⟩ := hc
  have hr' : r.lw ≤ 1000 := hr
  unfold printCharF
  have hn1 : ¬ (c.ins = true ∧ c.y < 0) := by omega
  have hn2 : ¬ (c.ins = true ∧ c.x < 0) := by omega
  rw [if_neg hn1, if_neg hn2, add1_ok _ _ (by omega), add1_ok _ _ (by omega)]
  simp only []
  -- the row table written to: whatever insert mode and the height update did, the layer width is that of `r`
  generalize hr3 : Rows.setChar _ c.x c.y = r3
  have h3 : RowsF r3 := by
    subst hr3
    simp only [rowsF_iff, setChar_lw]
    split <;> split <;> exact hr
  split
  · split
    · exact lfF_spec s _ _ hs y1 h3
    · exact ⟨⟨by simp only; omega, by simp only; omega, y0, y1⟩, h3⟩
  · exact ⟨⟨by simp only; omega, by simp only; omega, y0, y1⟩, h3⟩

@[fgood] theorem printNF_spec : ∀ (n : Nat) (s : Scr) (c : Car) (r : Rows), ScrF s → CarF c → RowsF r →
    Holds NoErr (printNF n s c r) CRGood := by
  intro n
  induction n with
  | zero => intro s c r _ hc hr; exact ⟨hc, hr⟩
  | succ n ih =>
    intro s c r hs hc hr
    simp only [printNF]
    obtain ⟨p, hpc, hp⟩ := Holds.isOk (printCharF_spec s c r hs hc hr)
    rw [hpc]
    exact ih s p.1 p.2 hs hp.1 hp.2

@[fgood] theorem indexF_spec (s : Scr) (c : Car) (r : Rows) (hs : ScrF s) (hc : CarF c) (hr : RowsF r) :
    Holds NoErr (indexF s c r) CRGood := by
  have := capY_hi
  unfold indexF
  rw [add1_ok _ _ (by have := hc.2.2.2; omega)]
  exact liftLim_spec s _ _ hs (rowsF_of_lw hr (scrollDownForce_lw s _ r))

@[fgood] theorem nextLineF_spec (s : Scr) (c : Car) (r : Rows) (hs : ScrF s) (hc : CarF c) (hr : RowsF r) :
    Holds NoErr (nextLineF s c r) CRGood := by
  have := capY_hi
  unfold nextLineF
  rw [add1_ok _ _ (by have := hc.2.2.2; omega)]
  exact liftLim_spec s _ _ hs (rowsF_of_lw hr (scrollDownForce_lw s _ r))

@[fgood] theorem reverseIndexF_spec (s : Scr) (c : Car) (r : Rows) (hs : ScrF s) (hc : CarF c) (hr : RowsF r) :
    Holds NoErr (reverseIndexF s c r) CRGood := by
  unfold reverseIndexF
  rw [if_neg (by have := hc.2.2.1; omega)]
  exact liftLim_spec s _ _ hs (rowsF_of_lw hr (scrollUpForce_lw s _ r))

theorem hyperLen_eq (tw cx cy px py : Int) (ht1 : 1 ≤ tw) (ht2 : tw ≤ 1000) (hcx : 0 ≤ cx ∧ cx ≤ 1000) (hcy : 0 ≤ cy ∧ cy ≤ capY)
    (hpx : 0 ≤ px ∧ px ≤ 1000) (hpy : 0 ≤ py ∧ py ≤ capY) :
    hyperLen tw cx cy px py = .ok (if cy = py then cx - px else tw - px + (cy - py) * tw + px) := by
  have := capY_hi
  -- the one product: a row distance of at most 2·10^6 times a width of at most 1000
  have hm1 : -2000000000 ≤ (cy - py) * tw := by
    have : (cy - py) * tw ≥ -2000000 * tw := Int.mul_le_mul_of_nonneg_right (by omega) (by omega)
    omega
  have hm2 : (cy - py) * tw ≤ 2000000000 := by
    have : (cy - py) * tw ≤ 2000000 * tw := Int.mul_le_mul_of_nonneg_right (by omega) (by omega)
    omega
  have i0 : InI32 (cx - px) := by unfold InI32; omega
  have i1 : InI32 (tw - px) := by unfold InI32; omega
  have i2 : InI32 (cy - py) := by unfold InI32; omega
  have i3 : InI32 ((cy - py) * tw) := by unfold InI32; omega
  have i4 : InI32 (tw - px + (cy - py) * tw) := by unfold InI32; omega
  have i5 : InI32 (tw - px + (cy - py) * tw + px) := by unfold InI32; omega
  simp only [hyperLen, i0, i1, i2, i3, i4, i5, not_true_eq_false, if_true, if_false]
  split <;> rfl

@[fgood] theorem hlF_nil : HlF [] := fun _ hp => (nomatch hp)
@[fgood] theorem hlF_cons_iff (p : Int × Int) (hl : List (Int × Int)) :
    HlF (p :: hl) ↔ (0 ≤ p.1 ∧ p.1 ≤ 1000 ∧ 0 ≤ p.2 ∧ p.2 ≤ capY) ∧ HlF hl := by
  simp only [HlF, List.forall_mem_cons]

/-- the step of DL's closed form (`removeTermLines`, `C02.dl_closed_form_is_the_loop`) -/
theorem list_erase_closed (l : List Nat) (n k : Nat) (hn : n < l.length) :
    (l.eraseIdx n).take n ++ (l.eraseIdx n).drop (n + k) = l.take n ++ l.drop (n + (k + 1)) := by
  rw [List.eraseIdx_eq_take_drop_succ]
  have hl : (l.take n).length = n := by rw [List.length_take]; omega
  rw [List.take_append_of_le_length (by omega), List.take_of_length_le (by omega)]
  congr 1
  rw [List.drop_append, List.drop_eq_nil_of_le (by omega), hl, List.nil_append, List.drop_drop]
  congr 1
  omega

theorem extract_toList (a : Array Nat) (n k : Nat) :
    (a.extract 0 n ++ a.extract (n + k) a.size).toList = a.toList.take n ++ a.toList.drop (n + k) := by
  simp only [Array.toList_append, Array.toList_extract, List.extract, Nat.sub_zero, List.drop_zero]
  congr 1
  rw [List.take_of_length_le]
  simp

end IcyVerif.TermFile
