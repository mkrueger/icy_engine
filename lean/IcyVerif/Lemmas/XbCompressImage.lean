import IcyVerif.Lemmas.XbCompress
import IcyVerif.Lemmas.XbCompressLoad
/-!
# C06, whole images: what a successful save wrote (`imageData_some`, `rows_as_runs`) and what the crate's loader reads from it
(`loader_pairs`); two facts about `decode_char` / `encode_attr` on bytes.
-/
namespace IcyVerif.XbCompress
open IcyVerif.Gen

theorem rows_as_runs (enc : Attr → Nat) (rows : List (List Cell)) :
    ∃ rr : List (List Run),
      rows.flatMap (compressRow enc) = rr.flatMap (fun rs => rs.flatMap Run.ser) ∧
      (∀ rs ∈ rr, ∀ r ∈ rs, r.ok) ∧ rr.map expand = rows.map (fun row => row.map (encCell enc)) := by
  induction rows with
  | nil => exact ⟨[], rfl, by simp, rfl⟩
  | cons row rows ih =>
    obtain ⟨rr, h1, h2, h3⟩ := ih
    obtain ⟨rs, g1, g2, g3⟩ := run_builder_sound enc realEndRun (realEndRun_forced enc) row
    refine ⟨rs :: rr, ?_, ?_, ?_⟩
    · simp only [List.flatMap_cons, h1]; rw [← g1]; rfl
    · intro a ha
      rcases List.mem_cons.mp ha with h | h
      · subst h; exact g2
      · exact h2 a h
    · simp [g3, h3]

theorem takePairs_raw (enc : Attr → Nat) (cells : List Cell) (tl : List Nat) :
    takePairs cells.length (cells.flatMap (fun c => [c.ch, enc c.attr]) ++ tl) = some (cells.map (encCell enc), tl) := by
  have := takePairs_flat (cells.map (encCell enc)) tl
  rw [List.length_map, List.flatMap_map] at this
  exact this

theorem flatMap_flatMap_eq {α β : Type} (f : α → List β) (ll : List (List α)) :
    ll.flatMap (fun l => l.flatMap f) = ll.flatten.flatMap f := by
  rw [List.flatten_eq_flatMap, List.flatMap_assoc]; rfl

theorem raw_flat (enc : Attr → Nat) (rows : List (List Cell)) :
    rows.flatMap (rawRow enc) = rows.flatten.flatMap (fun c => [c.ch, enc c.attr]) :=
  flatMap_flatMap_eq (fun c : Cell => [c.ch, enc c.attr]) rows

theorem expand_rows (rr : List (List Run)) (cells : List (List (Nat × Nat))) (h : rr.map expand = cells) :
    expand rr.flatten = cells.flatten := by
  rw [← h]
  have := flatMap_flatMap_eq Run.cells rr
  simp only [expand] at this ⊢
  rw [← this, List.flatMap_def]
  rfl

theorem imageData_some {im : IceMode} {comp : Bool} {rows : List (List Cell)} {d : List Nat}
    (h : imageData im comp rows = some d) :
    d = if comp then rows.flatMap (compressRow (encodeAttr im (analyzeFontUsage rows.flatten)))
      else rows.flatMap (rawRow (encodeAttr im (analyzeFontUsage rows.flatten))) := by
  unfold imageData at h
  by_cases hf : (analyzeFontUsage rows.flatten).length > 2
  · simp [hf] at h
  · by_cases h8 : fits8 rows = true
    · simp only [hf, h8, if_false, Bool.not_true, Bool.false_eq_true, Option.some.injEq] at h
      exact h.symm
    · simp [hf, h8] at h

/-- what the crate's loader reads from the image data of a successful save, compressed or raw: the cells' (character,
    attribute byte) pairs, row-major -/
theorem loader_pairs {im : IceMode} {comp : Bool} {rows : List (List Cell)} {img : List Nat}
    (h : imageData im comp rows = some img) :
    (if comp then readCompressed img else some (readUncompressed img)) =
      some (rows.flatten.map (encCell (encodeAttr im (analyzeFontUsage rows.flatten)))) := by
  rw [imageData_some h]
  cases comp with
  | false => rw [if_neg Bool.false_ne_true, if_neg Bool.false_ne_true, raw_flat, readUncompressed_flat]; rfl
  | true =>
    obtain ⟨rr, h1, h2, h3⟩ := rows_as_runs (encodeAttr im (analyzeFontUsage rows.flatten)) rows
    rw [if_pos rfl, if_pos rfl, h1, flatMap_flatMap_eq Run.ser rr, readCompressed_sers rr.flatten (fun r hr =>
      let ⟨rs, hrs, hr'⟩ := List.mem_flatten.mp hr; h2 rs hrs r hr'), expand_rows rr _ h3, List.map_flatten]

theorem flatMap_expand {rr : List (List Run)} {cells : List (List (Nat × Nat))} (h : rr.map expand = cells) :
    rr.flatMap expand = cells.flatten := by
  rw [← h, List.flatMap_def]

theorem decodeChar_page : ∀ b, b < 256 → ∀ ice : Bool, ∀ ch : Nat,
    (decodeChar ice true (ch, b)).attr.page = if b.testBit 3 then 1 else 0 := by
  have h : ∀ b, b < 256 → ∀ ice : Bool,
      (if (fromU8 ice b).fg > 7 then 1 else 0) = (if b.testBit 3 then 1 else 0) ∧ (fromU8 ice b).page = 0 := by decide +kernel
  intro b hb ice ch
  obtain ⟨h1, h2⟩ := h b hb ice
  unfold decodeChar
  by_cases hfg : (fromU8 ice b).fg > 7
  · simp [hfg] at h1 ⊢; simp [h1]
  · simp [hfg] at h1 ⊢; simp [h1, h2]

theorem encodeAttr_lt (im : IceMode) (p0 p1 : Nat) (a : Attr) : encodeAttr im [p0, p1] a < 256 := by
  have hkeep : Xb.encKeepMask = 247 := by decide
  have hbit : Xb.encPageBit = 8 := by decide
  have h1 : asU8 im a < 2 ^ 8 := by unfold asU8; exact Nat.mod_lt _ (by decide)
  have h2 : asU8 im a &&& 247 < 2 ^ 8 := Nat.lt_of_le_of_lt Nat.and_le_left h1
  unfold encodeAttr
  simp only [List.length_cons, List.length_nil, if_true, hkeep, hbit]
  by_cases h : a.page = [p0, p1].getD 1 0
  · simp only [h, if_true]; exact Nat.or_lt_two_pow h2 (by decide)
  · simp only [h, if_false]; exact Nat.or_lt_two_pow h2 (by decide)

end IcyVerif.XbCompress
