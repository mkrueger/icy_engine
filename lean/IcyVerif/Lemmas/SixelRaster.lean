import IcyVerif.Lemmas.Sixel
/-! After a raster attribute (`"Pan;Pad;Ph;Pv` or `"Pan;Pad;Pv`), wherever in the payload it stands, the number of rows
    is frozen at the declared height (`Vec::resize` cuts rows decoded above it and adds the missing ones) and rows only
    grow, until the next raster attribute; the rows the attribute ADDS are at least the declared width (`Frozen`). -/
namespace IcyVerif.Sixel

/-- `H`: the declared height; `k`: the number of rows decoded before the attribute (the rows from `k` on were ADDED by it);
    `m`: the declared width in bytes -/
structure Frozen (H k m : Nat) (s : St) : Prop where
  hs : s.heightSet = true
  len : s.rows.length = H
  /-- the rows from index `k` on are at least `m` bytes wide -/
  wide : ∀ i r, k ≤ i → s.rows[i]? = some r → m ≤ r
  st : s.state ≠ .readSize

/-- with the height fixed the band never reaches beyond the rows, so nothing is resized and the loop only extends rows;
    a further raster attribute is excluded (no `"`) -/
theorem Frozen.eff {H k m : Nat} {ch : Char} (hc : ch ≠ '"') {s t : St} (f : Frozen H k m s) (e : Eff ch s t) :
    Frozen H k m t := by
  cases e with
  | moved hr hh _ hs => exact ⟨hh ▸ f.hs, hr ▸ f.len, hr ▸ f.wide, hs hc f.st⟩
  | color c => exact ⟨c.heightSet ▸ f.hs, c.rows ▸ f.len, c.rows ▸ f.wide, c.state ▸ f.st⟩
  | raster w h hs => exact absurd hs f.st
  | data rows1 hx hl hg hpt hh hst _ =>
    have hll : lastLineOf s ≤ s.rows.length := by
      unfold lastLineOf; rw [f.hs]; simp only [Bool.true_and]
      split
      · exact Nat.le_refl _
      · rename_i h'; simp at h'; omega
    obtain rfl : rows1 = s.rows := by
      rcases hg with ⟨_, h⟩ | ⟨h, _⟩
      · exact h
      · omega
    refine ⟨hh ▸ f.hs, hpt.1.trans f.len, fun i r' hk hi => ?_, hst ▸ f.st⟩
    obtain ⟨r, hr, hc⟩ := hpt.2 i r' hi
    have := f.wide i r hk hr
    omega

theorem run_frozen {H k m : Nat} (cs : List Char) {s s' : St} (f : Frozen H k m s) (hc : ∀ c ∈ cs, c ≠ '"')
    (h : run s cs = .ok s') : Frozen H k m s' :=
  (run_inv cs (pn := True) (hg := True) (fun c hm _ _ => Frozen.eff (hc c hm)) (fun _ _ => trivial) (fun _ _ => trivial)
    f).of_ok h

theorem sizeArm_declared {s : St} {W H : Nat} (hd : declared s.nums = some (W, H)) :
    (sizeArm s).Sat (fun t => t.rows = resizeRows s.rows H (4 * W) ∧ t.heightSet = true ∧ t.state = .read) True True := by
  match hn : s.nums, hd with
  | [a, b, h], hd =>
    cases hd; rw [sizeArm_three hn]
    exact .ite (fun _ => trivial) fun _ => .ite (fun _ => trivial) fun _ => ⟨rfl, rfl, rfl⟩
  | [a, b, w, h], hd =>
    cases hd; rw [sizeArm_four hn]
    exact .ite (fun _ => trivial) fun _ => .ite (fun _ => trivial) fun _ => ⟨rfl, rfl, rfl⟩

/-- `Vec::resize`: rows decoded above `H` are cut; the rows it adds (index ≥ the old number of rows) are `4*W` wide -/
theorem sizeArm_frozen {s s1 : St} {W H : Nat} (hd : declared s.nums = some (W, H)) (h : sizeArm s = .ok s1) :
    Frozen H s.rows.length (4 * W) s1 := by
  obtain ⟨hr, hh, hst⟩ := (sizeArm_declared hd).of_ok h
  refine ⟨hh, by rw [hr, length_resizeRows], fun i r hi hir => ?_, hst ▸ PState.noConfusion⟩
  rw [hr] at hir
  exact Nat.le_of_eq (getElem?_resizeRows_new hi hir).symm

theorem Frozen.width {H k W : Nat} {s : St} (f : Frozen H k (4 * W) s) (hk : k < H) : W ≤ (finish s).w := by
  obtain ⟨r, hr⟩ : ∃ r, s.rows[k]? = some r := ⟨_, List.getElem?_eq_getElem (by rw [f.len]; exact hk)⟩
  have := (foldl_max_ge s.rows 0).2 r (List.mem_of_getElem? hr)
  have := f.wide _ r (Nat.le_refl _) hr
  simp only [finish, rowLen]; omega

theorem run_declared {s sf : St} {W H : Nat} {c : Char} {rest : List Char} (hst : s.state = .readSize)
    (hd : declared s.nums = some (W, H)) (hc1 : c.isDigit = false) (hc2 : c ≠ ';') (hc3 : c ≠ '"')
    (hrest : ∀ ch ∈ rest, ch ≠ '"') (h : run s (c :: rest) = .ok sf) : Frozen H s.rows.length (4 * W) sf := by
  rw [run_cons] at h
  obtain ⟨s1, h1, h2⟩ := andThen_ok h
  have hp : parseChar s c = (sizeArm s).andThen fun s' => sixelData s' c := by
    unfold parseChar; rw [hst]; simp only [hc1, hc2]; simp
  rw [hp] at h1
  obtain ⟨s0, h0, h0'⟩ := andThen_ok h1
  exact run_frozen rest ((sixelData_inv (pn := True) (hg := True) (Frozen.eff hc3) (fun _ _ => trivial)
    (fun _ _ => trivial) (sizeArm_frozen hd h0)).of_ok h0') hrest h2

/-- `c` closes the attribute that is open after `hdr`: a data or control character, or the `#` that `parse_from` feeds
    at the end of the payload -/
theorem parse_declared {hdr rest : List Char} {c : Char} {s : St} {W H : Nat} {img : Img}
    (hh : run {} hdr = .ok s) (hst : s.state = .readSize) (hd : declared s.nums = some (W, H))
    (hc1 : c.isDigit = false) (hc2 : c ≠ ';') (hc3 : c ≠ '"') (hrest : ∀ ch ∈ rest, ch ≠ '"')
    (h : mapOut finish (run {} (hdr ++ c :: rest)) = .ok img) : img.h = H ∧ (s.rows.length < H → W ≤ img.w) := by
  obtain ⟨sf, hs, hf⟩ := andThen_ok h
  injection hf with hf; subst hf
  rw [run_append, hh] at hs
  have ff := run_declared hst hd hc1 hc2 hc3 hrest hs
  exact ⟨ff.len, ff.width⟩

/-- the lower-bound counterpart of `rowLen_le`; the raster theorems go through `Frozen.width` -/
theorem rowLen_ge {rows : List Nat} {m : Nat} (hne : rows ≠ []) (h : ∀ r ∈ rows, m ≤ r) : m ≤ rowLen rows := by
  cases rows with
  | nil => exact absurd rfl hne
  | cons r rs =>
    have := (foldl_max_ge (r :: rs) 0).2 r (by simp)
    have := h r (by simp)
    unfold rowLen; omega

end IcyVerif.Sixel
