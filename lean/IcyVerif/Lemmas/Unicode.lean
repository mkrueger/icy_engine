import IcyVerif.Model.Unicode
/-! C10, UTF-8: one step of the `from_utf8_lossy` scanner against the encoder through the relation `Wf cp bytes` (`step_ch`,
    `step_enc`); hence lossy decoding yields scalar values only and the validator accepts exactly their encodings. -/
namespace IcyVerif.Uni

theorem isScalar_iff (v : Nat) : isScalar v = true ↔ (v ≤ 0xD7FF ∨ (0xE000 ≤ v ∧ v ≤ 0x10FFFF)) := by
  simp [isScalar]

theorem isScalar_of_ge (v : Nat) (h : 0x110000 ≤ v) : isScalar v = false := by
  simp [isScalar]; omega

theorem enc1 (c : Nat) (h : c < 0x80) : encodeUtf8 c = [c] := by
  rw [encodeUtf8, if_pos h]
theorem enc2 (c : Nat) (h1 : ¬ c < 0x80) (h : c < 0x800) : encodeUtf8 c = [0xC0 + c / 64, 0x80 + c % 64] := by
  rw [encodeUtf8, if_neg h1, if_pos h]
theorem enc3 (c : Nat) (h1 : ¬ c < 0x800) (h : c < 0x10000) :
    encodeUtf8 c = [0xE0 + c / 4096, 0x80 + c / 64 % 64, 0x80 + c % 64] := by
  rw [encodeUtf8, if_neg (by omega), if_neg h1, if_pos h]
theorem enc4 (c : Nat) (h1 : ¬ c < 0x10000) :
    encodeUtf8 c = [0xF0 + c / 262144, 0x80 + c / 4096 % 64, 0x80 + c / 64 % 64, 0x80 + c % 64] := by
  rw [encodeUtf8, if_neg (by omega), if_neg (by omega), if_neg h1]

theorem isCont_iff (b : Nat) : isCont b = true ↔ (0x80 ≤ b ∧ b ≤ 0xBF) := by
  simp only [isCont, Bool.and_eq_true, decide_eq_true_eq]
theorem ok3_iff (b c : Nat) : ok3 b c = true ↔
    ((b = 0xE0 ∧ 0xA0 ≤ c ∧ c ≤ 0xBF) ∨ (0xE1 ≤ b ∧ b ≤ 0xEC ∧ 0x80 ≤ c ∧ c ≤ 0xBF) ∨
     (b = 0xED ∧ 0x80 ≤ c ∧ c ≤ 0x9F) ∨ (0xEE ≤ b ∧ b ≤ 0xEF ∧ 0x80 ≤ c ∧ c ≤ 0xBF)) := by
  simp only [ok3, isCont, Bool.or_eq_true, Bool.and_eq_true, beq_iff_eq, decide_eq_true_eq, and_assoc, or_assoc]
theorem ok4_iff (b c : Nat) : ok4 b c = true ↔
    ((b = 0xF0 ∧ 0x90 ≤ c ∧ c ≤ 0xBF) ∨ (0xF1 ≤ b ∧ b ≤ 0xF3 ∧ 0x80 ≤ c ∧ c ≤ 0xBF) ∨
     (b = 0xF4 ∧ 0x80 ≤ c ∧ c ≤ 0x8F)) := by
  simp only [ok4, isCont, Bool.or_eq_true, Bool.and_eq_true, beq_iff_eq, decide_eq_true_eq, and_assoc, or_assoc]

theorem step_one (b : Nat) (rest : List Nat) (hb : b < 0x80) : step b rest = .ch b 1 := by
  unfold step; rw [if_pos hb]

theorem step_two (b : Nat) (rest : List Nat) (hb : 0xC2 ≤ b ∧ b ≤ 0xDF) :
    step b rest = match rest with
      | c1 :: _ => if isCont c1 then .ch ((b - 0xC0) * 64 + (c1 - 0x80)) 2 else .bad 1
      | [] => .bad 1 := by
  have h2 : (decide (0xC2 ≤ b) && decide (b ≤ 0xDF)) = true := by simpa using hb
  unfold step; rw [if_neg (by omega), if_pos h2]; rfl

theorem step_three (b : Nat) (rest : List Nat) (hb : 0xE0 ≤ b ∧ b ≤ 0xEF) :
    step b rest = match rest with
      | c1 :: rest2 =>
        if ok3 b c1 then
          match rest2 with
          | c2 :: _ => if isCont c2 then .ch ((b - 0xE0) * 4096 + (c1 - 0x80) * 64 + (c2 - 0x80)) 3 else .bad 2
          | [] => .bad 2
        else .bad 1
      | [] => .bad 1 := by
  have h2 : ¬ (decide (0xC2 ≤ b) && decide (b ≤ 0xDF)) = true := by simp; omega
  have h3 : (decide (0xE0 ≤ b) && decide (b ≤ 0xEF)) = true := by simpa using hb
  unfold step; rw [if_neg (by omega), if_neg h2, if_pos h3]; rfl

theorem step_four (b : Nat) (rest : List Nat) (hb : 0xF0 ≤ b ∧ b ≤ 0xF4) :
    step b rest = match rest with
      | c1 :: rest2 =>
        if ok4 b c1 then
          match rest2 with
          | c2 :: rest3 =>
            if isCont c2 then
              match rest3 with
              | c3 :: _ =>
                if isCont c3 then .ch ((b - 0xF0) * 262144 + (c1 - 0x80) * 4096 + (c2 - 0x80) * 64 + (c3 - 0x80)) 4
                else .bad 3
              | [] => .bad 3
            else .bad 2
          | [] => .bad 2
        else .bad 1
      | [] => .bad 1 := by
  have h2 : ¬ (decide (0xC2 ≤ b) && decide (b ≤ 0xDF)) = true := by simp; omega
  have h3 : ¬ (decide (0xE0 ≤ b) && decide (b ≤ 0xEF)) = true := by simp; omega
  have h4 : (decide (0xF0 ≤ b) && decide (b ≤ 0xF4)) = true := by simpa using hb
  unfold step; rw [if_neg (by omega), if_neg h2, if_neg h3, if_pos h4]; rfl

theorem step_other (b : Nat) (rest : List Nat) (h1 : 0x80 ≤ b) (h2 : b < 0xC2 ∨ 0xF4 < b) : step b rest = .bad 1 := by
  have e2 : ¬ (decide (0xC2 ≤ b) && decide (b ≤ 0xDF)) = true := by simp; omega
  have e3 : ¬ (decide (0xE0 ≤ b) && decide (b ≤ 0xEF)) = true := by simp; omega
  have e4 : ¬ (decide (0xF0 ≤ b) && decide (b ≤ 0xF4)) = true := by simp; omega
  unfold step; rw [if_neg (by omega), if_neg e2, if_neg e3, if_neg e4]

theorem ite_ch {c : Prop} [Decidable c] {a : Step} {k cp n : Nat} (h : (if c then a else .bad k) = .ch cp n) :
    c ∧ a = .ch cp n := by
  by_cases hc : c
  · rw [if_pos hc] at h; exact ⟨hc, h⟩
  · rw [if_neg hc] at h; cases h

theorem digit_div {a d : Nat} (h : d < 64) : (a * 64 + d) / 64 = a := by omega
theorem digit_mod {a d : Nat} (h : d < 64) : (a * 64 + d) % 64 = d := by omega

/-- `bs` is the well-formed UTF-8 sequence of `cp`, written in six-bit digits: the lead byte carries the top digit, every
    continuation byte one more; the side conditions exclude overlong forms, surrogates and values above U+10FFFF -/
inductive Wf : Nat → List Nat → Prop
  | one (c : Nat) (h : c < 0x80) : Wf c [c]
  | two (x y : Nat) (hx : 2 ≤ x ∧ x < 32) (hy : y < 64) : Wf (x * 64 + y) [0xC0 + x, 0x80 + y]
  | three (x y z : Nat) (hx : x < 16) (hy : y < 64) (hz : z < 64) (hlo : x = 0 → 32 ≤ y) (hsur : x = 13 → y < 32) :
      Wf ((x * 64 + y) * 64 + z) [0xE0 + x, 0x80 + y, 0x80 + z]
  | four (w x y z : Nat) (hw : w < 5) (hx : x < 64) (hy : y < 64) (hz : z < 64) (hlo : w = 0 → 16 ≤ x)
      (hhi : w = 4 → x < 16) : Wf (((w * 64 + x) * 64 + y) * 64 + z) [0xF0 + w, 0x80 + x, 0x80 + y, 0x80 + z]

theorem Wf.enc {cp : Nat} {bs : List Nat} (h : Wf cp bs) : isScalar cp = true ∧ encodeUtf8 cp = bs := by
  cases h with
  | one _ h => exact ⟨by rw [isScalar_iff]; omega, enc1 _ h⟩
  | two x y hx hy =>
    refine ⟨by rw [isScalar_iff]; omega, ?_⟩
    rw [enc2 _ (by omega) (by omega), digit_div hy, digit_mod hy]
  | three x y z hx hy hz hlo hsur =>
    refine ⟨by rw [isScalar_iff]; omega, ?_⟩
    rw [enc3 _ (by omega) (by omega), show (4096 : Nat) = 64 * 64 from rfl, ← Nat.div_div_eq_div_mul, digit_div hz,
      digit_div hy, digit_mod hy, digit_mod hz]
  | four w x y z hw hx hy hz hlo hhi =>
    refine ⟨by rw [isScalar_iff]; omega, ?_⟩
    rw [enc4 _ (by omega), show (262144 : Nat) = 64 * 64 * 64 from rfl, show (4096 : Nat) = 64 * 64 from rfl,
      ← Nat.div_div_eq_div_mul, ← Nat.div_div_eq_div_mul, digit_div hz, digit_div hy, digit_div hx, digit_mod hx, digit_mod hy,
      digit_mod hz]

theorem Wf.step {cp b : Nat} {cs : List Nat} (h : Wf cp (b :: cs)) (tail : List Nat) :
    step b (cs ++ tail) = .ch cp (cs.length + 1) := by
  cases h with
  | one _ h => exact step_one _ _ h
  | two x y hx hy =>
    have e : isCont (0x80 + y) = true := by rw [isCont_iff]; omega
    simp only [step_two _ _ (show 0xC2 ≤ 0xC0 + x ∧ 0xC0 + x ≤ 0xDF by omega), List.cons_append, if_pos e,
      Nat.add_sub_cancel_left]; rfl
  | three x y z hx hy hz hlo hsur =>
    have e : ok3 (0xE0 + x) (0x80 + y) = true := by rw [ok3_iff]; omega
    have e' : isCont (0x80 + z) = true := by rw [isCont_iff]; omega
    simp only [step_three _ _ (show 0xE0 ≤ 0xE0 + x ∧ 0xE0 + x ≤ 0xEF by omega), List.cons_append, if_pos e, if_pos e',
      Nat.add_sub_cancel_left]
    rw [show x * 4096 + y * 64 + z = (x * 64 + y) * 64 + z by omega]; rfl
  | four w x y z hw hx hy hz hlo hhi =>
    have e : ok4 (0xF0 + w) (0x80 + x) = true := by rw [ok4_iff]; omega
    have e' : isCont (0x80 + y) = true := by rw [isCont_iff]; omega
    have e'' : isCont (0x80 + z) = true := by rw [isCont_iff]; omega
    simp only [step_four _ _ (show 0xF0 ≤ 0xF0 + w ∧ 0xF0 + w ≤ 0xF4 by omega), List.cons_append, if_pos e, if_pos e',
      if_pos e'', Nat.add_sub_cancel_left]
    rw [show w * 262144 + x * 4096 + y * 64 + z = ((w * 64 + x) * 64 + y) * 64 + z by omega]; rfl

theorem wf_encode {c : Nat} (hs : isScalar c = true) : Wf c (encodeUtf8 c) := by
  rw [isScalar_iff] at hs
  by_cases h1 : c < 0x80
  · rw [enc1 _ h1]; exact .one c h1
  by_cases h2 : c < 0x800
  · have := Wf.two (c / 64) (c % 64) (by omega) (Nat.mod_lt _ (by decide))
    rwa [Nat.div_add_mod', ← enc2 _ h1 h2] at this
  by_cases h3 : c < 0x10000
  · have := Wf.three (c / 64 / 64) (c / 64 % 64) (c % 64) (by omega) (Nat.mod_lt _ (by decide)) (Nat.mod_lt _ (by decide))
      (by omega) (by omega)
    rwa [Nat.div_add_mod', Nat.div_add_mod', Nat.div_div_eq_div_mul, ← enc3 _ h2 h3] at this
  · have := Wf.four (c / 64 / 64 / 64) (c / 64 / 64 % 64) (c / 64 % 64) (c % 64) (by omega) (Nat.mod_lt _ (by decide))
      (Nat.mod_lt _ (by decide)) (Nat.mod_lt _ (by decide)) (by omega) (by omega)
    rwa [Nat.div_add_mod', Nat.div_add_mod', Nat.div_add_mod', Nat.div_div_eq_div_mul, Nat.div_div_eq_div_mul,
      Nat.div_div_eq_div_mul, ← enc4 _ h3] at this

theorem step_wf {b : Nat} {rest : List Nat} {cp n : Nat} (h : step b rest = .ch cp n) :
    ∃ cs tail, rest = cs ++ tail ∧ n = cs.length + 1 ∧ Wf cp (b :: cs) := by
  by_cases h1 : b < 0x80
  · rw [step_one b rest h1] at h
    injection h with h2 h3; subst h2; subst h3
    exact ⟨[], rest, rfl, rfl, .one _ h1⟩
  by_cases h2 : 0xC2 ≤ b ∧ b ≤ 0xDF
  · rw [step_two b rest h2] at h
    rcases rest with _ | ⟨c1, r⟩
    · cases h
    obtain ⟨hc, h⟩ := ite_ch h
    rw [isCont_iff] at hc
    injection h with h3 h4; subst h3; subst h4
    have := Wf.two (b - 0xC0) (c1 - 0x80) (by omega) (by omega)
    rw [Nat.add_sub_cancel' (by omega), Nat.add_sub_cancel' hc.1] at this
    exact ⟨[c1], r, rfl, rfl, this⟩
  by_cases h3 : 0xE0 ≤ b ∧ b ≤ 0xEF
  · rw [step_three b rest h3] at h
    rcases rest with _ | ⟨c1, _ | ⟨c2, r⟩⟩
    · cases h
    · cases (ite_ch h).2
    obtain ⟨hok, h⟩ := ite_ch h
    obtain ⟨hc, h⟩ := ite_ch h
    rw [ok3_iff] at hok
    rw [isCont_iff] at hc
    injection h with h4 h5; subst h4; subst h5
    have := Wf.three (b - 0xE0) (c1 - 0x80) (c2 - 0x80) (by omega) (by omega) (by omega) (by omega) (by omega)
    rw [Nat.add_sub_cancel' h3.1, Nat.add_sub_cancel' (show 0x80 ≤ c1 by omega), Nat.add_sub_cancel' hc.1,
      show ((b - 0xE0) * 64 + (c1 - 0x80)) * 64 + (c2 - 0x80) = (b - 0xE0) * 4096 + (c1 - 0x80) * 64 + (c2 - 0x80) by omega] at this
    exact ⟨[c1, c2], r, rfl, rfl, this⟩
  by_cases h4 : 0xF0 ≤ b ∧ b ≤ 0xF4
  · rw [step_four b rest h4] at h
    rcases rest with _ | ⟨c1, _ | ⟨c2, _ | ⟨c3, r⟩⟩⟩
    · cases h
    · cases (ite_ch h).2
    · cases (ite_ch (ite_ch h).2).2
    obtain ⟨hok, h⟩ := ite_ch h
    obtain ⟨hc2, h⟩ := ite_ch h
    obtain ⟨hc3, h⟩ := ite_ch h
    rw [ok4_iff] at hok
    rw [isCont_iff] at hc2 hc3
    injection h with h5 h6; subst h5; subst h6
    have := Wf.four (b - 0xF0) (c1 - 0x80) (c2 - 0x80) (c3 - 0x80) (by omega) (by omega) (by omega) (by omega) (by omega) (by omega)
    rw [Nat.add_sub_cancel' h4.1, Nat.add_sub_cancel' (show 0x80 ≤ c1 by omega), Nat.add_sub_cancel' hc2.1,
      Nat.add_sub_cancel' hc3.1,
      show (((b - 0xF0) * 64 + (c1 - 0x80)) * 64 + (c2 - 0x80)) * 64 + (c3 - 0x80) =
        (b - 0xF0) * 262144 + (c1 - 0x80) * 4096 + (c2 - 0x80) * 64 + (c3 - 0x80) by omega] at this
    exact ⟨[c1, c2, c3], r, rfl, rfl, this⟩
  · rw [step_other b rest (by omega) (by omega)] at h; cases h

theorem step_ch (b : Nat) (rest : List Nat) (cp n : Nat) (h : step b rest = .ch cp n) :
    isScalar cp = true ∧ encodeUtf8 cp = (b :: rest).take n ∧ 1 ≤ n := by
  obtain ⟨cs, tail, rfl, rfl, hw⟩ := step_wf h
  exact ⟨hw.enc.1, by rw [hw.enc.2, ← List.cons_append, List.take_left' (List.length_cons ..)], Nat.le_add_left _ _⟩

theorem step_enc (c : Nat) (tail : List Nat) (hs : isScalar c = true) :
    ∃ b rest, encodeUtf8 c ++ tail = b :: rest ∧ step b rest = .ch c (encodeUtf8 c).length ∧
      rest.drop ((encodeUtf8 c).length - 1) = tail := by
  have hw := wf_encode hs
  generalize encodeUtf8 c = bs at hw
  cases bs with
  | nil => cases hw
  | cons b cs => exact ⟨b, cs ++ tail, rfl, hw.step tail, List.drop_left' rfl⟩

theorem scalar_fffd : isScalar 0xFFFD = true := by decide

theorem lossyAux_scalar (fuel : Nat) (bs : List Nat) : ∀ c ∈ lossyAux fuel bs, isScalar c = true := by
  induction fuel generalizing bs with
  | zero => intro c hc; simp [lossyAux] at hc
  | succ fuel ih =>
    cases bs with
    | nil => intro c hc; simp [lossyAux] at hc
    | cons b rest =>
      intro c hc
      unfold lossyAux at hc
      split at hc
      · rename_i cp n hst
        rcases List.mem_cons.mp hc with h | h
        · subst h; exact (step_ch _ _ _ _ hst).1
        · exact ih _ _ h
      · rcases List.mem_cons.mp hc with h | h
        · subst h; exact scalar_fffd
        · exact ih _ _ h

theorem encodeAll_cons (c : Nat) (cs : List Nat) : encodeAll (c :: cs) = encodeUtf8 c ++ encodeAll cs := by
  simp [encodeAll]

theorem encodeUtf8_length_pos (c : Nat) : 1 ≤ (encodeUtf8 c).length := by
  unfold encodeUtf8; split
  · simp
  · split
    · simp
    · split <;> simp

theorem decode_encodeAll (cs : List Nat) (hs : ∀ c ∈ cs, isScalar c = true) :
    ∀ fuel, (encodeAll cs).length ≤ fuel → lossyAux fuel (encodeAll cs) = cs ∧ validAux fuel (encodeAll cs) = true := by
  induction cs with
  | nil => intro fuel _; cases fuel <;> simp [encodeAll, lossyAux, validAux]
  | cons c cs ih =>
    intro fuel hf
    rw [encodeAll_cons] at hf ⊢
    obtain ⟨b, rest, hbr, hst, hrest⟩ := step_enc c (encodeAll cs) (hs c (List.mem_cons_self ..))
    have hl := encodeUtf8_length_pos c
    rw [hbr] at hf ⊢
    cases fuel with
    | zero => simp at hf
    | succ fuel =>
      have hlen : (encodeAll cs).length ≤ fuel := by
        have : (b :: rest).length = (encodeUtf8 c ++ encodeAll cs).length := by rw [hbr]
        simp at this hf
        omega
      obtain ⟨i1, i2⟩ := ih (fun c hc => hs c (List.mem_cons_of_mem _ hc)) fuel hlen
      unfold lossyAux validAux
      rw [hst]
      simp only [hrest, i1, i2, and_self]

theorem lossyBytes_of_valid (bs : List Nat) (h : ValidUtf8 bs) : lossyBytes bs = bs := by
  obtain ⟨cs, hcs, rfl⟩ := h
  unfold lossyBytes lossy
  rw [(decode_encodeAll cs hcs _ (Nat.le_refl _)).1]

theorem validAux_sound (fuel : Nat) (bs : List Nat) (hf : bs.length ≤ fuel) (hv : validAux fuel bs = true) :
    ∃ cs, (∀ c ∈ cs, isScalar c = true) ∧ bs = encodeAll cs := by
  induction fuel generalizing bs with
  | zero =>
    cases bs with
    | nil => exact ⟨[], by simp, rfl⟩
    | cons b r => simp at hf
  | succ fuel ih =>
    cases bs with
    | nil => exact ⟨[], by simp, rfl⟩
    | cons b rest =>
      unfold validAux at hv
      split at hv
      · rename_i cp n hst
        obtain ⟨hsc, henc, hn⟩ := step_ch _ _ _ _ hst
        have hlen : (rest.drop (n - 1)).length ≤ fuel := by simp at hf ⊢; omega
        obtain ⟨cs, hcs, hrest⟩ := ih _ hlen hv
        refine ⟨cp :: cs, ?_, ?_⟩
        · intro c hc
          rcases List.mem_cons.mp hc with h | h
          · subst h; exact hsc
          · exact hcs c h
        · rw [encodeAll_cons, henc, ← hrest]
          have : (b :: rest).drop n = rest.drop (n - 1) := by
            cases n with
            | zero => omega
            | succ m => simp
          rw [← this, List.take_append_drop]
      · cases hv

theorem validUtf8_iff (bs : List Nat) : validUtf8 bs = true ↔ ValidUtf8 bs := by
  constructor
  · intro h; exact validAux_sound _ _ (Nat.le_refl _) h
  · rintro ⟨cs, hcs, rfl⟩; exact (decode_encodeAll cs hcs _ (Nat.le_refl _)).2

end IcyVerif.Uni
