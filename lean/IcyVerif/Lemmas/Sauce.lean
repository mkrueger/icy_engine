import IcyVerif.Model.Sauce
import IcyVerif.Lemmas.Basics
/-! C11: the checked primitives, `SauceString` read/append (`strVal`: what `read` returns) and fixed layouts
    (`decFields`, `encFields`). -/
namespace IcyVerif.Sauce
open IcyVerif.Gen.Sauce

@[simp] theorem bind_ok {α β : Type} (a : α) (f : α → Res β) : (Res.ok a).bind f = f a := rfl
@[simp] theorem bind_err {α β : Type} (e : Err) (f : α → Res β) : (Res.err e : Res α).bind f = .err e := rfl
@[simp] theorem bind_panic {α β : Type} (s : String) (f : α → Res β) : (Res.panic s : Res α).bind f = .panic s := rfl
@[simp] theorem isPanic_ok {α : Type} (a : α) : (Res.ok a).isPanic = false := rfl
@[simp] theorem isPanic_err {α : Type} (e : Err) : (Res.err e : Res α).isPanic = false := rfl
@[simp] theorem isPanic_panic {α : Type} (s : String) : (Res.panic s : Res α).isPanic = true := rfl

theorem bind_np {α β : Type} {r : Res α} {f : α → Res β} (h1 : r.isPanic = false)
    (h2 : ∀ a, r = .ok a → (f a).isPanic = false) : (r.bind f).isPanic = false := by
  cases r with
  | ok a => exact h2 a rfl
  | err e => rfl
  | panic s => cases h1

theorem isPanic_false_iff {α : Type} (r : Res α) : r.isPanic = false ↔ ∀ s, r ≠ .panic s := by
  cases r <;> simp [Res.isPanic]

theorem usub_ok {a b : Nat} (h : b ≤ a) : usub a b = .ok (a - b) := by simp [usub, h]
theorem slice_ok {d : List Nat} {a b : Nat} (h1 : a ≤ b) (h2 : b ≤ d.length) :
    slice d a b = .ok ((d.drop a).take (b - a)) := by simp [slice, h1, h2]
theorem sliceFrom_ok {d : List Nat} {a : Nat} (h : a ≤ d.length) : sliceFrom d a = .ok (d.drop a) := by
  simp [sliceFrom, h]
theorem idx_ok {d : List Nat} {i : Nat} (h : i < d.length) : idx d i = .ok d[i] := by
  simp [idx, List.getElem?_eq_getElem h]

/-- value of `last_non_empty` after scanning `xs` from index `i` -/
def lastNP (pad : Nat) : Nat → List Nat → Nat → Nat
  | _, [], last => last
  | i, b :: xs, last => lastNP pad (i+1) xs (if b ≠ pad then i+1 else last)

/-- blank-style padding (`EMPTY ≠ 0`): the loop never breaks early -/
theorem readLoop_nz {pad : Nat} (hp : pad ≠ 0) : ∀ (n i : Nat) (rest acc : List Nat) (last : Nat), n ≤ rest.length →
    readLoop pad n i rest acc last = .ok (acc ++ rest.take n, lastNP pad i (rest.take n) last) := by
  intro n
  induction n with
  | zero => intro i rest acc last _; simp [readLoop, lastNP]
  | succ n ih =>
    intro i rest acc last h
    cases rest with
    | nil => simp at h
    | cons b rest =>
      simp only [readLoop]
      rw [if_neg (by intro hh; exact hp hh.1)]
      rw [ih _ _ _ _ (by simpa using h)]
      simp [lastNP, List.take_succ_cons]

/-- NUL padding: the loop stops at the first NUL; `last_non_empty` never cuts anything off -/
theorem readLoop_z : ∀ (n i : Nat) (rest acc : List Nat) (last : Nat), i = acc.length → acc.length ≤ last → n ≤ rest.length →
    ∃ last', readLoop 0 n i rest acc last = .ok (acc ++ (rest.take n).takeWhile (· != 0), last') ∧
      (acc ++ (rest.take n).takeWhile (· != 0)).length ≤ last' := by
  intro n
  induction n with
  | zero => intro i rest acc last hi hl _; exact ⟨last, by simp [readLoop], by simpa using hl⟩
  | succ n ih =>
    intro i rest acc last hi hl h
    cases rest with
    | nil => simp at h
    | cons b rest =>
      simp only [readLoop]
      by_cases hb : b = 0
      · subst hb
        refine ⟨last, by simp, by simpa using hl⟩
      · rw [if_neg (by intro hh; exact hb hh.2)]
        obtain ⟨l', h1, h2⟩ := ih (i+1) rest (acc ++ [b]) (if b ≠ 0 then i+1 else last) (by simp [hi])
          (by simp [hb, hi]) (by simpa using h)
        refine ⟨l', ?_, ?_⟩
        · rw [h1]; simp [List.take_succ_cons, hb]
        · simpa [List.take_succ_cons, List.takeWhile_cons, hb] using h2

/-- what `read` keeps of `len` bytes of a blank-padded field -/
def normPad (len pad : Nat) (x : List Nat) : List Nat :=
  let l := lastNP pad 0 x len
  if l < len then x.take l else x

/-- what `read` returns on a slice that holds the whole field: a NUL-padded field is cut at the first NUL of its `len`
    bytes, a blank-padded one behind its last non-blank byte -/
def strVal (len pad : Nat) (d : List Nat) : List Nat :=
  if pad = 0 then (d.take len).takeWhile (· != 0) else normPad len pad (d.take len)

/-- `len ≤ d.length` is the only way `extract` calls `read` -/
theorem strRead_eq {len pad : Nat} {d : List Nat} (h : len ≤ d.length) : strRead len pad d = .ok (strVal len pad d) := by
  unfold strVal
  by_cases hp : pad = 0
  · subst hp
    obtain ⟨l', h1, h2⟩ := readLoop_z len 0 d [] len rfl (Nat.zero_le _) h
    simp only [strRead, h1, List.nil_append, if_true] at h2 ⊢
    split
    · congr 1
      exact List.take_of_length_le h2
    · rfl
  · simp only [strRead, readLoop_nz hp len 0 d [] len h, List.nil_append, normPad, if_neg hp]

theorem strVal_length (len pad : Nat) (d : List Nat) : (strVal len pad d).length ≤ len := by
  have ht : (d.take len).length ≤ len := by rw [List.length_take]; exact Nat.min_le_left _ _
  unfold strVal normPad
  split
  · exact Nat.le_trans (List.takeWhile_sublist _).length_le ht
  · dsimp only
    split
    · rw [List.length_take]; omega
    · exact ht

theorem lastNP_append_single (pad : Nat) : ∀ (xs : List Nat) (i b last : Nat),
    lastNP pad i (xs ++ [b]) last = if b ≠ pad then i + xs.length + 1 else lastNP pad i xs last := by
  intro xs
  induction xs with
  | nil => intro i b last; simp [lastNP]
  | cons x xs ih =>
    intro i b last
    simp only [List.cons_append, lastNP, ih, List.length_cons]
    split <;> simp <;> omega

theorem lastNP_reverse (pad last : Nat) : ∀ (r : List Nat),
    lastNP pad 0 r.reverse last = if r.all (· == pad) then last else (r.dropWhile (· == pad)).length := by
  intro r
  induction r with
  | nil => simp [lastNP]
  | cons b r ih =>
    simp only [List.reverse_cons, lastNP_append_single, List.length_reverse, List.all_cons, List.dropWhile_cons]
    by_cases hb : b = pad
    · subst hb; simp [ih]
    · simp [hb]

theorem reverse_dropWhile_eq_take (p : Nat → Bool) (x : List Nat) :
    (x.reverse.dropWhile p).reverse = x.take (x.reverse.dropWhile p).length := by
  have h := List.takeWhile_append_dropWhile (p := p) (l := x.reverse)
  have h2 : x = (x.reverse.dropWhile p).reverse ++ (x.reverse.takeWhile p).reverse := by
    have := congrArg List.reverse h
    rw [List.reverse_append, List.reverse_reverse] at this
    exact this.symm
  conv => rhs; rw [h2]
  rw [List.take_left' (by simp)]

theorem normPad_eq (len pad : Nat) (x : List Nat) (hx : x.length = len) :
    normPad len pad x = if x.all (· == pad) then x else (x.reverse.dropWhile (· == pad)).reverse := by
  have h := lastNP_reverse pad len x.reverse
  rw [List.reverse_reverse] at h
  simp only [normPad, h, List.all_reverse]
  split
  · rename_i hall; simp
  · rename_i hall
    rw [reverse_dropWhile_eq_take]
    split
    · rfl
    · rename_i hlt
      have : (x.reverse.dropWhile (· == pad)).length ≤ x.length := by
        have := (List.dropWhile_sublist (l := x.reverse) (· == pad)).length_le
        simpa using this
      rw [List.take_of_length_le (by omega)]

theorem strAppend_nil_length {len pad : Nat} {s : List Nat} (h : s.length ≤ len) :
    (strAppend len pad s []).length = len := by
  simp only [strAppend]
  split <;> simp <;> omega

theorem strAppend_nil_eq (len pad : Nat) (s : List Nat) :
    strAppend len pad s [] = s ++ List.replicate (len - s.length) pad := by
  simp only [strAppend]
  split
  · simp
  · rename_i h; simp [Nat.sub_eq_zero_of_le (Nat.le_of_not_lt h)]

theorem strAppend_eq (len pad : Nat) (s vec : List Nat) : strAppend len pad s vec = vec ++ strAppend len pad s [] := by
  simp only [strAppend]
  split <;> simp

theorem takeWhile_append_replicate_zero (f : List Nat) (k : Nat) :
    (f ++ List.replicate k 0).takeWhile (· != 0) = f.takeWhile (· != 0) := by
  induction f with
  | nil => cases k <;> simp [List.replicate_succ]
  | cons b f ih => simp only [List.cons_append, List.takeWhile_cons]; split <;> simp [ih]

theorem takeWhile_ne_zero_self (s : List Nat) (h : 0 ∉ s) : s.takeWhile (· != 0) = s := by
  induction s with
  | nil => rfl
  | cons b s ih =>
    simp only [List.mem_cons, not_or] at h
    have hb : (b != 0) = true := by simpa using fun hb => h.1 hb.symm
    simp [hb, ih h.2]

theorem strVal_append {len pad : Nat} {s : List Nat} (hs : s.length ≤ len) (rest : List Nat) :
    strVal len pad (strAppend len pad s [] ++ rest) = if pad = 0 then carryNul s else carryPad len pad s := by
  have hl := strAppend_nil_length (pad := pad) hs
  unfold strVal
  rw [List.take_left' hl]
  split
  · rename_i hp
    subst hp
    rw [strAppend_nil_eq, takeWhile_append_replicate_zero]
    rfl
  · rw [normPad_eq _ _ _ hl]
    rfl

theorem strRead_append {len pad : Nat} {s : List Nat} (hs : s.length ≤ len) (rest : List Nat) :
    strRead len pad (strAppend len pad s [] ++ rest) = .ok (if pad = 0 then carryNul s else carryPad len pad s) := by
  rw [strRead_eq (by rw [List.length_append, strAppend_nil_length hs]; exact Nat.le_add_right _ _), strVal_append hs]

/-- the string without trailing NULs/blanks -/
def stripT (s : List Nat) : List Nat := (s.reverse.dropWhile (fun c => stripSet.contains c)).reverse

theorem strText_eq (s : List Nat) : strText s = stripT s := by
  simp only [strText, strLen, stripT]
  exact (reverse_dropWhile_eq_take _ s).symm

theorem strEq_iff (a b : List Nat) : strEq a b = true ↔ stripT a = stripT b := by
  have ha := strText_eq a
  have hb := strText_eq b
  simp only [strText] at ha hb
  simp only [strEq, Bool.and_eq_true, beq_iff_eq, ha, hb]
  constructor
  · exact fun h => h.2
  · intro h
    refine ⟨?_, h⟩
    have := congrArg List.length h
    simpa [stripT, strLen] using this

theorem dropWhile_dropWhile_of_imp {p q : Nat → Bool} (h : ∀ x, p x = true → q x = true) (r : List Nat) :
    (r.dropWhile p).dropWhile q = r.dropWhile q := by
  induction r with
  | nil => rfl
  | cons b r ih => by_cases hb : p b = true <;> simp_all [List.dropWhile_cons]

theorem dropWhile_all {p : Nat → Bool} (r : List Nat) (h : r.all p = true) : r.dropWhile p = [] := by
  induction r <;> simp_all

theorem dropWhile_replicate_append (p : Nat → Bool) (k pad : Nat) (r : List Nat) (hp : p pad = true) :
    (List.replicate k pad ++ r).dropWhile p = r.dropWhile p := by
  induction k <;> simp_all [List.replicate_succ]

theorem carryPad_eq {len pad : Nat} {s : List Nat} (hs : s.length ≤ len) :
    carryPad len pad s =
      if s.all (· == pad) then List.replicate len pad else (s.reverse.dropWhile (· == pad)).reverse := by
  simp only [carryPad, strAppend_nil_eq]
  have hall : (s ++ List.replicate (len - s.length) pad).all (· == pad) = s.all (· == pad) := by
    simp [List.all_append, List.all_replicate]
  rw [hall]
  split
  · rename_i h
    have hs' : s = List.replicate s.length pad := by
      apply List.eq_replicate_iff.mpr
      refine ⟨rfl, fun b hb => ?_⟩
      have := List.all_eq_true.mp h b hb
      simpa using this
    obtain ⟨n, rfl⟩ : ∃ n, s = List.replicate n pad := ⟨s.length, hs'⟩
    simp only [List.length_replicate] at hs ⊢
    rw [List.replicate_append_replicate]
    congr 1; omega
  · rw [List.reverse_append, List.reverse_replicate, dropWhile_replicate_append _ _ _ _ (by simp)]

theorem carryPad_exact {len pad : Nat} {s : List Nat} (hs : s.length ≤ len) (hne : s ≠ [])
    (hlast : s.getLast? ≠ some pad) : carryPad len pad s = s := by
  rw [carryPad_eq hs]
  have hr : ∃ b r, s.reverse = b :: r ∧ b ≠ pad := by
    cases hrev : s.reverse with
    | nil => simp at hrev; exact absurd hrev hne
    | cons b r =>
      refine ⟨b, r, rfl, ?_⟩
      intro hb
      apply hlast
      have : s = (b :: r).reverse := by rw [← hrev, List.reverse_reverse]
      rw [this, hb]; simp
  obtain ⟨b, r, hrev, hb⟩ := hr
  have hnall : s.all (· == pad) = false := by
    have : s.reverse.all (· == pad) = false := by rw [hrev]; simp [hb]
    simpa using this
  rw [hnall]
  simp only [Bool.false_eq_true, if_false, hrev, List.dropWhile_cons]
  rw [if_neg (by simpa using hb), ← hrev, List.reverse_reverse]

/-- what `PartialEq` and `to_string` of `SauceString` look at survives a blank-padded field -/
theorem carryPad_stripT {len pad : Nat} {s : List Nat} (hs : s.length ≤ len) (hpad : stripSet.contains pad = true) :
    stripT (carryPad len pad s) = stripT s := by
  rw [carryPad_eq hs]
  have himp : ∀ x, (x == pad) = true → stripSet.contains x = true := by
    intro x hx; rw [beq_iff_eq] at hx; subst hx; exact hpad
  split
  · rename_i h
    simp only [stripT]
    congr 1
    rw [dropWhile_all _ (by rw [List.all_reverse, List.all_replicate, hpad, ite_self])]
    rw [dropWhile_all]
    have h2 : s.reverse.all (· == pad) = true := by simpa using h
    apply List.all_eq_true.mpr
    intro x hx
    exact himp x (List.all_eq_true.mp h2 x hx)
  · simp only [stripT, List.reverse_reverse]
    rw [dropWhile_dropWhile_of_imp himp]

theorem slice_drop {d : List Nat} {o k : Nat} (h : o + k ≤ d.length) : slice d o (o + k) = .ok ((d.drop o).take k) := by
  rw [slice_ok (Nat.le_add_right _ _) h, Nat.add_sub_cancel_left]

theorem readAt_drop {len pad : Nat} {d : List Nat} {o : Nat} (h : o + len ≤ d.length) :
    readAt len pad d o = .ok (strVal len pad (d.drop o)) := by
  rw [readAt, sliceFrom_ok (by omega), bind_ok, strRead_eq (by rw [List.length_drop]; omega)]

theorem idx_drop {d : List Nat} {o : Nat} (h : o + 1 ≤ d.length) : idx d o = .ok ((d.drop o).getD 0 0) := by
  rw [idx_ok (by omega)]
  simp [List.getD_eq_getElem?_getD, List.getElem?_eq_getElem (show o < d.length by omega)]

theorem rd16_drop {d : List Nat} {o : Nat} (h : o + 2 ≤ d.length) :
    rd16 d o = .ok ((d.drop o).getD 0 0 + (d.drop o).getD 1 0 * 256) := by
  rw [rd16, idx_drop (by omega), bind_ok, idx_drop (by omega), bind_ok]
  simp [List.getD_eq_getElem?_getD]

/-- `rest` is what the file `d` holds from offset `o` on -/
def Cur (d : List Nat) (o : Nat) (rest : List Nat) : Prop := ∃ pre, d = pre ++ rest ∧ pre.length = o

theorem Cur.length {d : List Nat} {o : Nat} {rest : List Nat} (c : Cur d o rest) : d.length = o + rest.length := by
  obtain ⟨pre, hd, hl⟩ := c
  subst hd; subst hl; simp

/-! ### fixed layouts: a list of fields, read (`decFields`) as a pure function of the window, written (`encFields`) as the
    concatenation of the fields' bytes -/

/-- one field, named after the way the reader takes it -/
inductive Fld
  /-- `data[o..o+n]` -/
  | raw (n : Nat)
  /-- `o += n` -/
  | skip (n : Nat)
  /-- `SauceString::<len, pad>::read(&data[o..])` -/
  | str (len pad : Nat)
  /-- `data[o]` -/
  | u8
  /-- `data[o] + (data[o + 1] << 8)` -/
  | u16

inductive Val
  | bytes (l : List Nat)
  | num (n : Nat)

def Val.toBytes : Val → List Nat
  | .bytes l => l
  | .num _ => []

def Val.toNum : Val → Nat
  | .num n => n
  | .bytes _ => 0

def Fld.width : Fld → Nat
  | .raw n => n
  | .skip n => n
  | .str len _ => len
  | .u8 => 1
  | .u16 => 2

/-- the value of a field that starts the window `w` -/
def Fld.dec (w : List Nat) : Fld → Val
  | .raw n => .bytes (w.take n)
  | .skip _ => .bytes []
  | .str len pad => .bytes (strVal len pad w)
  | .u8 => .num (w.getD 0 0)
  | .u16 => .num (w.getD 0 0 + w.getD 1 0 * 256)

def decFields : List Fld → List Nat → List Val
  | [], _ => []
  | f :: fs, w => f.dec w :: decFields fs (w.drop f.width)

/-- the bytes the writer puts into a field (a skipped field is written as the bytes it is given) -/
def Fld.enc : Fld → Val → List Nat
  | .str len pad, .bytes s => strAppend len pad s []
  | .u16, .num n => le16 n
  | _, .bytes l => l
  | _, .num n => [n]

def encFields : List Fld → List Val → List Nat
  | f :: fs, v :: vs => f.enc v ++ encFields fs vs
  | _, _ => []

def Fld.Fits : Fld → Val → Prop
  | .raw n, .bytes l => l.length = n
  | .skip n, .bytes l => l.length = n
  | .str len _, .bytes s => s.length ≤ len
  | .u8, .num _ => True
  | .u16, .num _ => True
  | _, _ => False

def FitsAll : List Fld → List Val → Prop
  | [], [] => True
  | f :: fs, v :: vs => f.Fits v ∧ FitsAll fs vs
  | _, _ => False

/-- what the reader makes of a written field: padding gone, a number cut to 16 bits, a skipped field forgotten -/
def Fld.carried : Fld → Val → Val
  | .skip _, _ => .bytes []
  | .str len pad, .bytes s => .bytes (if pad = 0 then carryNul s else carryPad len pad s)
  | .u16, .num n => .num (n % 65536)
  | _, v => v

def carriedAll : List Fld → List Val → List Val
  | f :: fs, v :: vs => f.carried v :: carriedAll fs vs
  | _, _ => []

theorem Fld.dec_enc (f : Fld) (v : Val) (h : f.Fits v) (rest : List Nat) :
    f.dec (f.enc v ++ rest) = f.carried v ∧ (f.enc v).length = f.width := by
  cases f <;> cases v <;> try exact h.elim
  -- the pairs that fit, in order: raw/bytes, skip/bytes, str/bytes, u8/num, u16/num
  · exact ⟨by simp only [Fld.dec, Fld.enc, Fld.carried]; rw [List.take_left' h], h⟩
  · exact ⟨rfl, h⟩
  · exact ⟨by simp only [Fld.dec, Fld.enc, Fld.carried, strVal_append h], strAppend_nil_length h⟩
  · exact ⟨rfl, rfl⟩
  · refine ⟨?_, rfl⟩
    simp only [Fld.dec, Fld.enc, Fld.carried, le16, List.cons_append, List.getD_cons_zero, List.getD_cons_succ]
    congr 1
    omega

/-- write, then read: every field comes back as what it carries, whatever follows the layout -/
theorem decFields_enc (fs : List Fld) (vs : List Val) (h : FitsAll fs vs) (rest : List Nat) :
    decFields fs (encFields fs vs ++ rest) = carriedAll fs vs ∧ (encFields fs vs).length = (fs.map Fld.width).sum := by
  induction fs generalizing vs with
  | nil => cases vs <;> first | exact ⟨rfl, rfl⟩ | exact h.elim
  | cons f fs ih =>
    cases vs with
    | nil => exact h.elim
    | cons v vs =>
      obtain ⟨e1, e2⟩ := f.dec_enc v h.1 (encFields fs vs ++ rest)
      obtain ⟨i1, i2⟩ := ih vs h.2
      simp only [decFields, encFields, carriedAll, List.append_assoc, e1, List.map_cons, List.sum_cons, List.length_append, e2]
      rw [← e2, List.drop_left, i1, i2]
      exact ⟨rfl, rfl⟩

end IcyVerif.Sauce
