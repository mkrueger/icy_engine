import IcyVerif.Lemmas.BinFormatsXbRt
import IcyVerif.Lemmas.BinFormatsIdf
import IcyVerif.Lemmas.BinFormatsTndRt
import IcyVerif.Lemmas.BinFormatsBin
import IcyVerif.Lemmas.BinFormatsAdf
import IcyVerif.Model.BinLayers
/-!
# C05: save → load in one statement for the five formats; the picture of a buffer with a layer stack

The flattened picture of a layered buffer (`Model/BinLayers.lean`) is a picture like any other.
-/
namespace IcyVerif.BinFormats
open IcyVerif.XbCompress IcyVerif.Gen

theorem roundtrip (f : Fmt) (o : Opts) (date : List Nat) (p : Pic) (hrep : Representable f o p = true) (hdate : dateOk date = true) :
    ∃ bytes, save f o date p = .ok bytes ∧
      ((o.sauce = true ∨ tailReadsAsSauce bytes = false) → ∃ g, fromBytes f bytes = .ok g ∧ SamePicture f p g) := by
  cases f with
  | xb => exact xb_roundtrip o date p hrep hdate
  | bin =>
    obtain ⟨b, g, h1, h2, h3⟩ := bin_roundtrip o date p hrep hdate
    exact ⟨b, h1, fun _ => ⟨g, h2, h3⟩⟩
  | adf => exact adf_roundtrip o date p hrep hdate
  | idf => exact idf_roundtrip o date p hrep hdate
  | tnd => exact tnd_roundtrip o date p hrep hdate

theorem roundtrip_sauce (f : Fmt) (o : Opts) (date : List Nat) (p : Pic) (hs : o.sauce = true) (hrep : Representable f o p = true)
    (hdate : dateOk date = true) :
    ∃ bytes g, save f o date p = .ok bytes ∧ fromBytes f bytes = .ok g ∧ SamePicture f p g := by
  obtain ⟨bytes, h1, h2⟩ := roundtrip f o date p hrep hdate
  obtain ⟨g, h3, h4⟩ := h2 (Or.inl hs)
  exact ⟨bytes, g, h1, h3, h4⟩

theorem flatten_wellFormed (hb : Comp.Cell → Nat × Nat) (B : Layered) (h : 1 ≤ B.h) : wellFormed (B.flatten hb) = true := by
  unfold wellFormed Layered.flatten
  simp only [Bool.and_eq_true, beq_iff_eq, List.all_eq_true, decide_eq_true_eq, List.length_map, List.length_range, List.mem_map,
    List.mem_range]
  refine ⟨⟨trivial, ?_⟩, h⟩
  rintro r ⟨y, _, rfl⟩
  simp

theorem flatten_cell (hb : Comp.Cell → Nat × Nat) (B : Layered) (x y : Nat) (hx : x < B.w) (hy : y < B.h) :
    (B.flatten hb).cell x y = cellOf (Comp.getChar hb B.isTerm B.layers (x : Int) (y : Int)) := by
  unfold Pic.cell Layered.flatten
  simp [List.getD_eq_getElem?_getD, hx, hy]

/-- the hypotheses describe what every loader produces and what the single-layer cases of the correspondence run build -/
theorem flatten_single (hb : Comp.Cell → Nat × Nat) (B : Layered) (l : Comp.Layer) (hl : B.layers = [l]) (hv : l.visible = true)
    (hna : l.alpha = false) (hm : l.mode = .normal) (hox : l.offX = 0) (hoy : l.offY = 0) (x y : Nat)
    (hx : (x : Int) < l.w) (hy : (y : Int) < l.h) :
    Comp.getChar hb B.isTerm B.layers (x : Int) (y : Int) =
      (if (l.getChar x y).isVisible then
        (if (l.getChar x y).hasTransparentColor then Comp.makeSolid hb (l.getChar x y) (Comp.defaultCell.withPage l.dfltPage)
         else l.getChar x y)
       else Comp.defaultCell.withPage l.dfltPage) := by
  unfold Comp.getChar
  rw [hl]
  simp only [List.reverse_cons, List.reverse_nil, List.nil_append, Comp.go, Comp.layerStep, hv, Bool.not_true, Bool.false_eq_true, if_false,
    hox, hoy, Int.sub_zero]
  have hcov : ((x : Int) < 0 || (y : Int) < 0 || (x : Int) ≥ l.w || (y : Int) ≥ l.h) = false := by
    simp only [Bool.or_eq_false_iff, decide_eq_false_iff_not]
    omega
  simp only [hcov, Bool.false_eq_true, if_false, Comp.coveredStep, hm, hna, Bool.not_false, if_true]
  by_cases hvis : (l.getChar x y).isVisible = true
  · simp only [hvis, if_true]
    have hmerge : Comp.merge (l.getChar x y) Comp.St.init.chOpt Comp.St.init.attrOpt = l.getChar x y := by
      unfold Comp.merge Comp.St.init
      simp [hvis]
    simp only [Comp.St.init] at hmerge ⊢
    simp only [hmerge]
    by_cases htc : (l.getChar x y).hasTransparentColor = true
    · simp only [htc, if_true, Option.isNone_none, Comp.opaqueTail, Comp.merge, Option.isSome_none, Bool.or_self, Bool.false_eq_true, if_false]
      simp [Comp.Cell.withPage, Comp.Cell.isVisible, Comp.defaultCell, Comp.defaultFlags, Comp.invisibleBit]
    · have : (l.getChar x y).hasTransparentColor = false := by simpa using htc
      simp only [this, Bool.false_eq_true, if_false]
  · have : (l.getChar x y).isVisible = false := by simpa using hvis
    simp only [this, Bool.false_eq_true, if_false, Comp.opaqueTail, Comp.St.init, Comp.merge, Option.isSome_none, Bool.or_self]
    simp [Comp.Cell.withPage, Comp.Cell.isVisible, Comp.defaultCell, Comp.defaultFlags, Comp.invisibleBit]

end IcyVerif.BinFormats
