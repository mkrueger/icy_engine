import IcyVerif.Lemmas.TermFileWrap
import IcyVerif.Lemmas.LoadersDispatch
import IcyVerif.Model.TextLoad
/-! # The text loaders never panic: from the invariant of the character loop to `Buffer::from_bytes`
Every parser run on a file buffer returns (`runKind_ok`: the three run theorems from their initial states), the sizes the
loader table and a SAUCE record can ask for lie inside the bounds those initial states need (`sizeOf_bounds`,
`textLoaders_known`), and the dispatch in front always reaches a loader with a content length. -/
namespace IcyVerif.TextLoad
open IcyVerif.Term IcyVerif.TermFile IcyVerif.Gen.TextLoad IcyVerif.Bytes IcyVerif.Bytes.Res IcyVerif.Loaders

/-- the SAUCE width clamp of `set_sauce`, as regenerated -/
theorem sauce_clamp : IcyVerif.Gen.Loaders.sauceMaxWidth = 1000 ∧ IcyVerif.Gen.Loaders.sauceDefaultWidth = 80 := by decide

theorem sizeOf_bounds (w0 h0 : Nat) (sauce : Option (Nat × Nat)) (hw1 : 1 ≤ w0) (hw2 : w0 ≤ 1000) (hh : h0 ≤ 65535)
    (hs : ∀ w h, sauce = some (w, h) → h ≤ 65535) :
    1 ≤ (sizeOf w0 h0 sauce).1 ∧ (sizeOf w0 h0 sauce).1 ≤ 1000 ∧ 0 ≤ (sizeOf w0 h0 sauce).2 ∧ (sizeOf w0 h0 sauce).2 ≤ 65535 := by
  unfold sizeOf
  cases sauce with
  | none => simp only []; omega
  | some p =>
    obtain ⟨sw, sh⟩ := p
    have := hs sw sh rfl
    simp only [sauce_clamp.1, sauce_clamp.2]
    by_cases hc : sw = 0 ∨ sw > 1000
    · simp only [hc, if_true]; omega
    · simp only [hc, if_false]; omega

theorem runKind_ok (k : Kind) (o : Nat → Orc) (w h tabW : Int) (rows : Array Nat) (text : List Char)
    (hw1 : 1 ≤ w) (hw2 : w ≤ 1000) (hh0 : 0 ≤ h) (hh2 : h ≤ 65535) : ∃ p, runKind k o w h tabW rows text = .ok p := by
  cases k with
  | ansi =>
    obtain ⟨st, hr, _⟩ := Holds.isOk (runF_good fileCfg o rfl text _ (initF_good w h tabW rows hw1 hw2 hh0 hh2))
    simp only [runKind, hr]; exact ⟨_, rfl⟩
  | wrap e =>
    obtain ⟨st, hr, _⟩ := Holds.isOk (fwrun_good e o text (initFW w h tabW rows) (initF_good w h tabW rows hw1 hw2 hh0 hh2))
    simp only [runKind, hr]; exact ⟨_, rfl⟩
  | other e =>
    obtain ⟨st, hr, _⟩ := Holds.isOk (forun_good e text _ (initFO_good w h tabW rows hw1 hw2 hh0 hh2))
    simp only [runKind, hr]; exact ⟨_, rfl⟩

/-- every row of the regenerated loader table names a parser the model has, with a sane initial size -/
theorem textLoaders_known : ∀ e ∈ textLoaders, (kindOf e.2.1).isSome = true ∧ 1 ≤ e.2.2.1 ∧ e.2.2.1 ≤ 1000 ∧ e.2.2.2.1 ≤ 65535 := by
  decide

theorem parseWith_parsed (parser : String) (w0 h0 : Nat) (pwp : Bool) (data : List Nat) (sauce : Option (Nat × Nat)) (o : Nat → Orc)
    (hk : (kindOf parser).isSome = true) (hw1 : 1 ≤ w0) (hw2 : w0 ≤ 1000) (hh : h0 ≤ 65535)
    (hs : ∀ w h, sauce = some (w, h) → h ≤ 65535) : ∃ p, parseWith parser w0 h0 pwp data sauce o = .parsed p pwp := by
  unfold parseWith
  cases hkk : kindOf parser with
  | none => rw [hkk] at hk; cases hk
  | some k =>
    have hb := sizeOf_bounds w0 h0 sauce hw1 hw2 hh hs
    simp only []
    generalize sizeOf w0 h0 sauce = sz at hb
    obtain ⟨w, h⟩ := sz
    simp only at hb ⊢
    cases pwp with
    | true =>
      obtain ⟨p, hp⟩ := runKind_ok k o w h w0 #[] (decodeText data).1 hb.1 hb.2.1 hb.2.2.1 hb.2.2.2
      simp only [if_true, hp]; exact ⟨_, rfl⟩
    | false =>
      obtain ⟨p, hp⟩ := runKind_ok k o w h w0 (Array.replicate h0 w0) (data.map (fun b => Char.ofNat (b % 256))) hb.1 hb.2.1 hb.2.2.1 hb.2.2.2
      simp only [Bool.false_eq_true, if_false, hp]; exact ⟨_, rfl⟩

theorem parseText_parsed (m : String) (data : List Nat) (sauce : Option (Nat × Nat)) (o : Nat → Orc)
    (hs : ∀ w h, sauce = some (w, h) → h ≤ 65535) (st : Stage) (h : parseText m data sauce o = some st) :
    ∃ p pwp, st = .parsed p pwp := by
  unfold parseText at h
  cases he : loaderEntry m with
  | none => rw [he] at h; cases h
  | some e =>
    rw [he] at h
    obtain ⟨m', parser, w0, h0, pwp, pre⟩ := e
    simp only [Option.some.injEq] at h
    have hmem : (m', parser, w0, h0, pwp, pre) ∈ textLoaders := List.mem_of_find?_eq_some he
    have hk := textLoaders_known _ hmem
    obtain ⟨p, hp⟩ := parseWith_parsed parser w0 h0 pwp data sauce o hk.1 hk.2.1 hk.2.2.1 hk.2.2.2 hs
    rw [hp] at h
    exact ⟨p, pwp, h.symm⟩

theorem dispatchLen_height (d : Bytes) (dateOk : Bool) (len : Nat) (w h : Nat)
    (hd : dispatchLen d dateOk = .ok (len, some (w, h))) : h ≤ 65535 := by
  have := dispatchLen_spec d dateOk
  rw [hd] at this
  exact Nat.le_of_lt_succ (this.2 w h rfl).2

/-- `Buffer::from_bytes` up to the call of `load_buffer` always produces a content length, given the two SAUCE repairs of
    C11 in the tree (the regenerated flags `sauceOffsetSaturating`, `sauceCommentCheckUsize` that `sauceInfo_total` takes) -/
theorem dispatchLen_is_ok (d : Bytes) (dateOk : Bool) : ∃ r, dispatchLen d dateOk = .ok r := by
  have hsi := sauceInfo_total (by decide) (by decide) d dateOk
  have h2 := sauceInfo_spec d dateOk
  unfold dispatchLen
  cases hs : sauceInfo d dateOk with
  | panic s' => rw [hs] at hsi; exact hsi.elim
  | err => exact ⟨_, rfl⟩
  | ok r =>
    rw [hs] at h2
    cases r with
    | none => exact ⟨_, rfl⟩
    | some si =>
      have hle : si.headerLen ≤ d.size := (h2 si rfl).1
      have hu : usub sFrom d.size si.headerLen = .ok (d.size - si.headerLen) := by
        unfold usub; rw [if_pos hle]
      have hsl : slice sFrom d 0 (d.size - si.headerLen) = .ok () := by
        unfold slice; rw [if_pos ⟨Nat.zero_le _, Nat.sub_le _ _⟩]
      refine ⟨(d.size - si.headerLen, some (si.w, si.h)), ?_⟩
      show (usub sFrom d.size si.headerLen >>= fun len => slice sFrom d 0 len >>= fun _ => pure (len, some (si.w, si.h))) = _
      rw [hu]
      show (slice sFrom d 0 (d.size - si.headerLen) >>= fun _ => pure (d.size - si.headerLen, some (si.w, si.h))) = _
      rw [hsl]
      rfl

end IcyVerif.TextLoad
