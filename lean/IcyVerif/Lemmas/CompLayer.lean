import IcyVerif.Model.CompLayer
/-! C13: the offset state machine of a layer (Model/CompLayer.lean) — what the compositor sees (`LayerS.view`) after one operation,
after every history, and in a stack. -/
namespace IcyVerif.Comp

theorem Layer.placedAt_self (l : Layer) : l.placedAt (l.offX, l.offY) = l := by cases l; rfl
theorem Layer.placedAt_placedAt (l : Layer) (p q : Int × Int) : (l.placedAt p).placedAt q = l.placedAt q := rfl
theorem Layer.placedAt_shift (l : Layer) (q : Int × Int) (dx dy : Int) :
    (l.placedAt q).shift dx dy = l.placedAt (q.1 + dx, q.2 + dy) := rfl

theorem LayerS.view_eq (l : LayerS) : l.view = l.body.placedAt l.getOffset := rfl

theorem LayerS.view_fresh (l : Layer) : (LayerS.fresh l).view = l := by cases l; rfl

theorem LayerS.getOffset_fresh (l : Layer) : (LayerS.fresh l).getOffset = (l.offX, l.offY) := rfl

theorem LayerS.setOffset_unlocked (l : LayerS) (q : Int × Int) (h : l.posLocked = false) :
    l.setOffset q = { l with preview := none, body := l.body.placedAt q } := by
  unfold LayerS.setOffset; rw [h]; rfl

theorem LayerS.setOffset_locked (l : LayerS) (q : Int × Int) (h : l.posLocked = true) : l.setOffset q = l := by
  unfold LayerS.setOffset; rw [h]; rfl

theorem LayerS.view_setOffset (l : LayerS) (q : Int × Int) (h : l.posLocked = false) :
    (l.setOffset q).view = l.body.placedAt q := by
  rw [LayerS.setOffset_unlocked l q h]; rfl

theorem LayerS.getOffset_setOffset (l : LayerS) (q : Int × Int) (h : l.posLocked = false) :
    (l.setOffset q).getOffset = q := by
  rw [LayerS.setOffset_unlocked l q h]; rfl

theorem LayerS.view_setPreview_some (l : LayerS) (p : Int × Int) :
    (l.setPreviewOffset (some p)).view = l.body.placedAt p := rfl

theorem LayerS.view_setPreview_none (l : LayerS) : (l.setPreviewOffset none).view = l.body := by
  show l.body.placedAt (l.body.offX, l.body.offY) = l.body
  exact Layer.placedAt_self _

theorem LayerS.apply_body (l : LayerS) (op : LOp) : ∃ q, (l.apply op).body = l.body.placedAt q := by
  cases op with
  | setOffset q =>
    cases h : l.posLocked with
    | true => exact ⟨(l.body.offX, l.body.offY), by
        show (l.setOffset q).body = _
        rw [LayerS.setOffset_locked l q h, Layer.placedAt_self]⟩
    | false => exact ⟨q, by show (l.setOffset q).body = _; rw [LayerS.setOffset_unlocked l q h]⟩
  | setPreview p => exact ⟨(l.body.offX, l.body.offY), by
      show l.body = _
      rw [Layer.placedAt_self]⟩
  | setLocked b => exact ⟨(l.body.offX, l.body.offY), by
      show l.body = _
      rw [Layer.placedAt_self]⟩
  | assignOffset q => exact ⟨q, rfl⟩

theorem LayerS.run_nil (l : LayerS) : l.run [] = l := rfl
theorem LayerS.run_cons (l : LayerS) (op : LOp) (ops : List LOp) : l.run (op :: ops) = (l.apply op).run ops := rfl
theorem LayerS.run_append (l : LayerS) (a b : List LOp) : l.run (a ++ b) = (l.run a).run b := by
  unfold LayerS.run; rw [List.foldl_append]

theorem LayerS.run_body (l : LayerS) (ops : List LOp) : ∃ q, (l.run ops).body = l.body.placedAt q :=
  List.foldlRecOn ops LayerS.apply (motive := fun s => ∃ q, s.body = l.body.placedAt q)
    ⟨(l.body.offX, l.body.offY), (Layer.placedAt_self _).symm⟩
    fun s ⟨_, h₁⟩ op _ => let ⟨q₂, h₂⟩ := s.apply_body op; ⟨q₂, by rw [h₂, h₁, Layer.placedAt_placedAt]⟩

theorem LayerS.view_run (l : LayerS) (ops : List LOp) :
    (l.run ops).view = l.body.placedAt (l.run ops).getOffset := by
  obtain ⟨q, h⟩ := l.run_body ops
  rw [LayerS.view_eq, h, Layer.placedAt_placedAt]

theorem applyAt_eq_modify (S : List LayerS) (i : Nat) (op : LOp) : applyAt S i op = S.modify i (·.apply op) := by
  unfold applyAt
  cases h : S[i]? with
  | none => exact (List.modify_eq_self (List.getElem?_eq_none_iff.mp h)).symm
  | some l => rw [List.modify_eq_set, h]; rfl

theorem applyAt_getElem? (S : List LayerS) (i j : Nat) (op : LOp) :
    (applyAt S i op)[j]? = if i = j then (S[j]?).map (fun l => l.apply op) else S[j]? := by
  rw [applyAt_eq_modify, List.getElem?_modify]
  by_cases h : i = j <;> cases S[j]? <;> simp [h]

/-- the operations of a stack history that address layer `i` -/
def opsFor (i : Nat) (ops : List (Nat × LOp)) : List LOp :=
  ops.filterMap fun o => if o.1 = i then some o.2 else none

theorem runStack_nil (S : List LayerS) : runStack S [] = S := rfl
theorem runStack_cons (S : List LayerS) (o : Nat × LOp) (ops : List (Nat × LOp)) :
    runStack S (o :: ops) = runStack (applyAt S o.1 o.2) ops := rfl

theorem runStack_length (S : List LayerS) (ops : List (Nat × LOp)) : (runStack S ops).length = S.length :=
  List.foldlRecOn ops _ (motive := fun T : List LayerS => T.length = S.length) rfl
    fun T h o _ => by rw [applyAt_eq_modify, List.length_modify, h]

end IcyVerif.Comp
