import IcyVerif.Lemmas.RowsPrim
import IcyVerif.Lemmas.RowsBw
/-! # The call sites provide the preconditions: no content operation panics along any stream
`GoodSt` (C01 / C09) + `BwOk` give every precondition stated in `Lemmas/RowsPrim.lean`:
cursor coordinates non-negative (`CurOk`), terminal width positive (`ScrOk.tw1`), bottom margin non-negative
(`ScrOk.mtb`), last editable column non-negative (`ScrOk.mlr` / `BwOk`).  The row table itself is arbitrary.
Hence the joint state of `Model/RowsAnsi` keeps `JGood` along `stepCoreJ` … `runJ`, and a joint run stops at most at the
conservative `i32` guard of the geometry model (`JOk`). -/
namespace IcyVerif.Rows
open IcyVerif.Term

theorem bottomOk_of_scrOk (s : Scr) (hk : ScrOk s) : BottomOk s := by
  intro a e he
  have := hk.mtb a e he
  omega

theorem lastCol_nonneg (s : Scr) (hk : ScrOk s) (hb : BwOk s) : 0 ≤ lastCol s := by
  unfold lastCol
  split
  · rename_i l r he
    have := hk.mlr l r he
    omega
  · obtain ⟨h1, h2⟩ := hb
    unfold satSub sat
    omega

/-- REP: `print_char` as long as the geometry model (`Term.printChar`) gives a next cursor; it stops silently otherwise -/
theorem printNT_ok (w : Int) (hw : 0 ≤ w) : ∀ (n : Nat) (s : Scr) (c : Car) (t : Tab), ScrOk s → CurOk s c → W w t →
    Holds NoErr (printNT n s c t) (W w) := by
  intro n
  induction n with
  | zero => intro s c t _ _ ht; exact ht
  | succ n ih =>
    intro s c t hk hc ht
    unfold printNT
    apply Holds.ite
    · intro _; exact ht
    · intro hr
      have hr' : RangeOk s c := Classical.not_not.mp hr
      have hb := rangeOk_bh s c hk hr'
      have hp := printChar_spec s c hk hc (by omega)
      obtain ⟨⟨s1, c1⟩, hpc, ⟨h1, h2⟩, h3, h4, h5, h6⟩ := hp.isOk
      rw [hpc]
      simp only at h1 h2 h3 h4 h5 h6
      have hk1 : ScrOk s1 := by rw [h1]; exact scrOk_bh s _ hk (by have := hk.bh0; omega)
      simp only []
      exact (printCharT_ok hw ht (fun _ => ⟨hc.1, hc.2.2.1⟩) (by have := hk.tw1; omega)).andThen fun t' ht' => ih s1 c1 t' hk1 h4 ht'

/-- the preconditions of `Lemmas/RowsPrim` at one screen and cursor -/
structure Pre (w : Int) (s : Scr) (c : Car) : Prop where
  hw : 0 ≤ w
  hx : 0 ≤ c.x
  hy : 0 ≤ c.y
  htw : 0 ≤ s.tw
  hbot : BottomOk s
  hcol : 0 ≤ lastCol s
  hk : ScrOk s
  hc : CurOk s c

theorem pre_of_good (w : Int) (hw : 0 ≤ w) (st : St) (h : GoodSt st) (hb : BwOk st.s) : Pre w st.s st.c :=
  ⟨hw, h.2.1.1, h.2.1.2.2.1, by have := h.1.tw1; omega, bottomOk_of_scrOk _ h.1, lastCol_nonneg _ h.1 hb, h.1, h.2.1⟩

theorem Pre.set {w : Int} {s : Scr} {c : Car} (hp : Pre w s c) : SetInv (W w) := setInv_w hp.hw
theorem Pre.print {w : Int} {s : Scr} {c : Car} (hp : Pre w s c) {t : Tab} (ht : W w t) : Holds NoErr (printCharT s c t) (W w) :=
  printCharT_ok hp.hw ht (fun _ => ⟨hp.hx, hp.hy⟩) hp.htw
theorem Pre.removeLine {w : Int} {s : Scr} {c : Car} (hp : Pre w s c) {t : Tab} (ht : W w t) :
    Holds NoErr (removeTerminalLine s c.y t) (W w) := (removeTerminalLine_ok hp.hw ht hp.hy hp.hbot).left
theorem Pre.insertLine {w : Int} {s : Scr} {c : Car} (hp : Pre w s c) {t : Tab} (ht : W w t) :
    Holds NoErr (insertTerminalLine s c.y t) (W w) := (insertTerminalLine_ok hp.hw ht hp.hy hp.hbot).left

/- arm by arm, in the order of the definitions; an arm that leaves the table alone is `ht` -/
theorem csiRows_ok (w : Int) (cfg : Cfg) (st : St) (ch : Char) (t : Tab) (hp : Pre w st.s st.c) (ht : W w t) :
    Holds NoErr (csiRows cfg st ch t) (W w) := by
  unfold csiRows
  simp only []
  -- CUU, CUD: the scroll checks; ECH
  refine .ite (fun _ => hp.set.checkScrollUpT ht) fun _ => .ite (fun _ => hp.set.checkScrollDownT ht) fun _ => ?_
  refine .ite (fun _ => (echT_ok ht hp.hx).left) fun _ => ?_
  -- ICH with and without parameter
  refine .ite (fun _ => ?_) fun _ => ?_
  · split
    · exact times_ok (fun _ h => (insT_ok h).left) ht
    · exact (insT_ok ht).left
  -- DL (unless `CSI M` starts ANSI music)
  refine .ite (fun _ => ?_) fun _ => ?_
  · refine .ite (fun _ => ht) fun _ => .ite (fun _ => .ite (fun _ => hp.removeLine ht) fun _ => ht) fun _ => ?_
    exact .ite (fun _ => ht) fun _ => times_ok (fun _ => hp.removeLine) ht
  -- DCH, IL
  refine .ite (fun _ => ?_) fun _ => ?_
  · exact .ite (fun _ => (delT_ok ht).left) fun _ => .ite (fun _ => ht) fun _ => times_ok (fun _ h => (delT_ok h).left) ht
  refine .ite (fun _ => ?_) fun _ => ?_
  · exact .ite (fun _ => hp.insertLine ht) fun _ => .ite (fun _ => ht) fun _ => times_ok (fun _ => hp.insertLine) ht
  -- ED: no parameter, 0, 1, 2 / 3, anything else
  refine .ite (fun _ => ?_) fun _ => ?_
  · split
    · exact hp.set.clearBufferDown ht
    · refine .ite (fun _ => hp.set.clearBufferDown ht) fun _ => .ite (fun _ => hp.set.clearBufferUp ht) fun _ => ?_
      exact .ite (fun _ => ht) fun _ => hp.set.clearBufferDown ht
  -- EL: no parameter, 0, 1, 2
  refine .ite (fun _ => ?_) fun _ => ?_
  · split
    · exact hp.set.clearLineEnd ht
    · refine .ite (fun _ => hp.set.clearLineEnd ht) fun _ => .ite (fun _ => hp.set.clearLineStart ht) fun _ => ?_
      exact .ite (fun _ => hp.set.clearLine ht) fun _ => ht
  -- `CSI 2 ~` insert, `CSI 3 ~` delete
  refine .ite (fun _ => ?_) fun _ => ?_
  · split
    · exact .ite (fun _ => (insT_ok ht).left) fun _ => .ite (fun _ => (delT_ok ht).left) fun _ => ht
    · exact ht
  -- SU, SD, REP
  refine .ite (fun _ => times_ok (fun _ => hp.set.scrollUp) ht) fun _ => ?_
  refine .ite (fun _ => times_ok (fun _ => hp.set.scrollDown) ht) fun _ => ?_
  exact .ite (fun _ => printNT_ok w hp.hw _ _ _ t hp.hk hp.hc ht) fun _ => ht

theorem escRows_ok (w : Int) (st : St) (ch : Char) (t : Tab) (hp : Pre w st.s st.c) (ht : W w t) :
    Holds NoErr (escRows st ch t) (W w) := by
  unfold escRows
  simp only []
  -- RIS clears; IND, RI, NEL: the scroll checks
  refine .ite (fun _ => ht) fun _ => .ite (fun _ => ht) fun _ => .ite (fun _ => hp.set.checkScrollDownT ht) fun _ => ?_
  refine .ite (fun _ => hp.set.checkScrollUpT ht) fun _ => .ite (fun _ => hp.set.checkScrollDownT ht) fun _ => ?_
  -- a control character after ESC is printed
  exact .ite (fun _ => ht) fun _ => .ite (fun _ => ht) fun _ => .ite (fun _ => hp.print ht) fun _ => ht

theorem dfltRows_ok (w : Int) (cfg : Cfg) (st : St) (ch : Char) (t : Tab) (hp : Pre w st.s st.c) (ht : W w t) :
    Holds NoErr (dfltRows cfg st ch t) (W w) := by
  unfold dfltRows
  simp only []
  refine .ite (fun _ => ht) fun _ => .ite (fun _ => (lfT_ok hp.hw ht hp.htw).left) fun _ => .ite (fun _ => ht) fun _ => ?_
  refine .ite (fun _ => ht) fun _ => .ite (fun _ => ht) fun _ => .ite (fun _ => (delT_ok ht).left) fun _ => ?_
  exact .ite (fun _ => hp.set.bsT ht) fun _ => .ite (fun _ => ht) fun _ => hp.print ht

theorem endCsiRows_ok (w : Int) (st : St) (f ch : Char) (t : Tab) (hp : Pre w st.s st.c) (ht : W w t) :
    Holds NoErr (endCsiRows st f ch t) (W w) := by
  unfold endCsiRows
  simp only []
  refine .ite (fun _ => ?_) fun _ => .ite (fun _ => ?_) fun _ => ht
  · -- DECFRA (five parameters, the rectangle from the second on), DECERA / DECSERA (four)
    refine .ite (fun _ => .ite (fun _ => ht) fun hn => .ite (fun _ => hp.set.fillArea ht (by omega)) fun _ => ht) fun _ => ?_
    exact .ite (fun _ => .ite (fun _ => ht) fun hn => hp.set.fillArea ht (by omega)) fun _ => ht
  · -- SR, SL
    refine .ite (fun _ => times_ok (fun _ h => (scrollRight_ok h hp.hcol).left) ht) fun _ => ?_
    exact .ite (fun _ => times_ok (fun _ h => (scrollLeft_ok h (by have := hp.hcol; omega)).left) ht) fun _ => ht

theorem ansiRows_ok (w : Int) (cfg : Cfg) (st : St) (ch : Char) (t : Tab) (hp : Pre w st.s st.c) (ht : W w t) :
    Holds NoErr (ansiRows cfg st ch t) (W w) := by
  unfold ansiRows
  split
  · exact escRows_ok w st ch t hp ht
  · apply Holds.ite
    · intro _; exact ht
    · intro _; exact dfltRows_ok w cfg (dflt st) ch t hp ht
  · exact endCsiRows_ok w st _ ch t hp ht
  · exact csiRows_ok w cfg st ch t hp ht
  · exact dfltRows_ok w cfg st ch t hp ht
  · exact ht

/-- joint invariant: `GoodSt` of C01, buffer width in range, layer width fixed; the row list is arbitrary -/
def JGood (w : Int) (x : JSt) : Prop := GoodSt x.1 ∧ BwOk x.1.s ∧ W w x.2
abbrev JGoodR (w : Int) (r : JSt × Out) : Prop := JGood w r.1

def JE (EG : Panic → Prop) (ER : String → Prop) : JErr → Prop
  | .geo p => EG p
  | .rows s => ER s

/-- the joint run went on, or was stopped by the conservative `i32` guard of the geometry model —
    never by a content operation, never by another geometry panic -/
abbrev JOk {α : Type} (r : JRes α) (P : α → Prop) : Prop := Holds (JE IsOv NoErr) r P

theorem JE.geoOv {e : JErr} (h : JE IsOv NoErr e) : ∃ site, e = JErr.geo (Panic.overflow site) := by
  rcases e with p | s
  · obtain ⟨site, rfl⟩ := h
    exact ⟨site, rfl⟩
  · exact h.elim

theorem invokes_good (st : St) (ch : Char) (id : Int) (d : St) (h : invokes st ch = some (id, d)) (hg : GoodSt st) :
    GoodSt d ∧ d.s = st.s := by
  -- whichever arm of `invokes` returns a state, it is `st` with other parser fields
  have key : ∃ p', d = ⟨st.s, st.c, p'⟩ ∧ p'.resized = st.p.resized := by
    revert h
    fun_cases invokes st ch <;> intro h <;> cases h <;> exact ⟨_, rfl, rfl⟩
  obtain ⟨p', rfl, hr⟩ := key
  exact ⟨good_keep st p' hg hr, rfl⟩

theorem stepCoreJ_good (w : Int) (hw : 0 ≤ w) (cfg : Cfg) (o : Orc) (invJ : Int → JSt → JRes JSt) (x : JSt) (ch : Char)
    (hinv : ∀ id x, JGood w x → JOk (invJ id x) (JGood w)) (h : JGood w x) :
    JOk (stepCoreJ cfg o invJ x ch) (JGoodR w) := by
  obtain ⟨hg, hb, ht⟩ := h
  cases hi : (if RangeOk x.1.s x.1.c ∧ MusicSafe x.1.p.st x.1.p.mus ch then invokes x.1 ch else none) with
  | some p =>
    obtain ⟨id, d⟩ := p
    have hi' : invokes x.1 ch = some (id, d) := by
      split at hi
      · exact hi
      · cases hi
    obtain ⟨hd, hs⟩ := invokes_good x.1 ch id d hi' hg
    have h2 := hinv id (d, x.2) ⟨hd, by rw [hs]; exact hb, ht⟩
    unfold stepCoreJ
    rw [hi]
    simp only []
    generalize invJ id (d, x.2) = y at h2 ⊢
    rcases y with e | x' <;> exact h2
  | none =>
    have hgb := stepCore_holds (bw_inv x.1) cfg o (fun _ s => .ok s) x.1 ch (fun _ _ hd => hd) ⟨hg, bwStep_refl _⟩
    have hr := ansiRows_ok w cfg x.1 ch x.2 (pre_of_good w hw x.1 hg hb) ht
    unfold stepCoreJ
    rw [hi]
    simp only []
    generalize stepCore cfg o (fun _ s => .ok s) x.1 ch = a at hgb ⊢
    generalize ansiRows cfg x.1 ch x.2 = b at hr ⊢
    rcases a with e | ⟨st', out⟩
    · obtain ⟨site, he⟩ := hgb
      exact ⟨site, by rw [he]⟩
    · rcases b with e | t'
      · exact hr.elim
      · exact ⟨hgb.1, bwOk_of_step hgb.2 hb, hr⟩

theorem replayJ_good (w : Int) (stepf : JSt → Char → JR) (hstep : ∀ x ch, JGood w x → JOk (stepf x ch) (JGoodR w)) :
    ∀ (body : List Char) (x : JSt), JGood w x → JOk (replayJ stepf body x) (JGood w) := by
  intro body
  induction body with
  | nil => intro x h; exact h
  | cons ch rest ih =>
    intro x h
    unfold replayJ
    split
    · exact h
    · have h1 : JGood w ({ x.1 with p := { x.1.p with budget := x.1.p.budget - 1 } }, x.2) :=
        ⟨good_keep x.1 _ h.1 rfl, h.2.1, h.2.2⟩
      have h2 := hstep _ ch h1
      simp only []
      generalize stepf ({ x.1 with p := { x.1.p with budget := x.1.p.budget - 1 } }, x.2) ch = y at h2 ⊢
      rcases y with e | ⟨x', out⟩
      · exact h2
      · exact ih x' h2

theorem invokerJ_good (w : Int) (stepf : JSt → Char → JR) (top : Bool)
    (hstep : ∀ x ch, JGood w x → JOk (stepf x ch) (JGoodR w)) (id : Int) (x : JSt) (h : JGood w x) :
    JOk (invokerJ stepf top id x) (JGood w) := by
  unfold invokerJ
  split
  · exact h
  · apply replayJ_good w stepf hstep
    split
    · exact ⟨good_keep x.1 _ h.1 rfl, h.2.1, h.2.2⟩
    · exact h

theorem stepDJ_good (w : Int) (hw : 0 ≤ w) : ∀ (d : Nat) (cfg : Cfg) (o : Nat → Orc) (x : JSt) (ch : Char),
    JGood w x → JOk (stepDJ d cfg o x ch) (JGoodR w) := by
  intro d
  induction d with
  | zero =>
    intro cfg o x ch h
    unfold stepDJ
    exact stepCoreJ_good w hw cfg _ _ _ ch (fun _ x hx => hx) ⟨good_keep x.1 _ h.1 rfl, h.2.1, h.2.2⟩
  | succ d ih =>
    intro cfg o x ch h
    unfold stepDJ
    exact stepCoreJ_good w hw cfg _ _ _ ch (invokerJ_good w _ _ (fun x ch hx => ih cfg o x ch hx))
      ⟨good_keep x.1 _ h.1 rfl, h.2.1, h.2.2⟩

theorem stepJ_good (w : Int) (hw : 0 ≤ w) (cfg : Cfg) (o : Nat → Orc) (x : JSt) (ch : Char) (h : JGood w x) :
    JOk (stepJ cfg o x ch) (JGoodR w) := stepDJ_good w hw _ cfg o x ch h

theorem runJ_good (w : Int) (hw : 0 ≤ w) (cfg : Cfg) (o : Nat → Orc) : ∀ (cs : List Char) (x : JSt), JGood w x →
    JOk (runJ cfg o x cs) (JGood w) := by
  intro cs
  induction cs with
  | nil => intro x h; exact h
  | cons ch rest ih =>
    intro x h
    unfold runJ
    have h2 := stepJ_good w hw cfg o x ch h
    generalize stepJ cfg o x ch = y at h2 ⊢
    rcases y with e | ⟨x', out⟩
    · exact h2
    · exact ih x' h2

end IcyVerif.Rows
