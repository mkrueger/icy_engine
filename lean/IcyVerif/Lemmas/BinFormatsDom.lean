import IcyVerif.Lemmas.BinFormatsPic
/-!
# C05: the domain of the round trip, format by format

`Representable f o p` is a Boolean conjunction read by position; here each format's clause is a structure with named fields and its
witnesses (the fonts looked up), and `representable_xb/_bin/_adf/_idf/_tnd` say that the clause is exactly that.
-/
namespace IcyVerif.BinFormats
open IcyVerif.XbCompress IcyVerif.Gen

/-- the XBin clause of `Representable` with its witnesses: `two` = 512-character mode (font pages 0 and 1 in use), `f0`, `f1` the
    fonts of the two pages (`f1 = f0` when there is one page) -/
structure XbDom (p : Pic) (two : Bool) (f0 f1 : Font) : Prop where
  wf : wellFormed p = true
  w1 : 1 ≤ p.w
  w2 : p.w ≤ 4096
  h : p.h ≤ 65535
  mode : p.ice = .blink ∨ p.ice = .ice
  cells : allCells p (attrCell (p.ice == .ice)) = true
  pal : pal16 p.pal = true
  pages : analyzeFontUsage p.rows.flatten = if two then [0, 1] else [0]
  font0 : lookupFont p.fonts 0 = some f0
  ok0 : fontOk f0 = true
  one : two = false → f1 = f0
  font1 : two = true → lookupFont p.fonts 1 = some f1 ∧ fontOk f1 = true ∧ f1.height = f0.height ∧
    allCells p (fun c => decide (c.attr.fg < 8) && !isBold c.attr) = true

theorem representable_xb (o : Opts) (p : Pic) :
    Representable .xb o p = true ↔ metaOk p.sauce = true ∧ ∃ two f0 f1, XbDom p two f0 f1 := by
  unfold Representable
  simp only [Bool.and_eq_true, beq_iff_eq, decide_eq_true_eq, Bool.or_eq_true]
  constructor
  · rintro ⟨⟨hmeta, hwf⟩, ⟨⟨⟨⟨⟨⟨⟨hw1, hw2⟩, hh⟩, him⟩, hcells⟩, hpal⟩, hpg⟩, hfonts⟩⟩
    cases hf0 : lookupFont p.fonts 0 with
    | none => rw [hf0] at hfonts; exact absurd hfonts (by simp)
    | some f0 =>
      rw [hf0] at hfonts
      simp only [Bool.and_eq_true, Bool.or_eq_true, bne_iff_ne, ne_eq] at hfonts
      obtain ⟨hfok, hsecond⟩ := hfonts
      rcases hpg with hp1 | hp2
      · exact ⟨hmeta, false, f0, f0, hwf, hw1, hw2, hh, him, hcells, hpal, hp1, hf0, hfok, fun _ => rfl, nofun⟩
      · rcases hsecond with hne | hsec
        · exact absurd hp2 hne
        · cases hf1 : lookupFont p.fonts 1 with
          | none => rw [hf1] at hsec; exact absurd hsec (by simp)
          | some f1 =>
            rw [hf1] at hsec
            simp only [Bool.and_eq_true, beq_iff_eq] at hsec
            exact ⟨hmeta, true, f0, f1, hwf, hw1, hw2, hh, him, hcells, hpal, hp2, hf0, hfok, nofun, fun _ => ⟨hf1, hsec.1.1, hsec.1.2, hsec.2⟩⟩
  · rintro ⟨hmeta, two, f0, f1, d⟩
    refine ⟨⟨hmeta, d.wf⟩, ⟨⟨⟨⟨⟨⟨⟨d.w1, d.w2⟩, d.h⟩, d.mode⟩, d.cells⟩, d.pal⟩, ?_⟩, ?_⟩⟩
    · rw [d.pages]; cases two <;> simp
    · rw [d.font0, d.pages]
      cases two
      · simp [d.ok0]
      · obtain ⟨a, b, c, e⟩ := d.font1 rfl
        simp [a, b, c, e, d.ok0]

theorem XbDom.len1 {p : Pic} {two : Bool} {f0 f1 : Font} (d : XbDom p two f0 f1) : f1.data.length = f0.height * 256 := by
  cases two
  · rw [d.one rfl, (fontOk_parts f0 d.ok0).2.2]; omega
  · obtain ⟨_, b, c, _⟩ := d.font1 rfl
    rw [(fontOk_parts f1 b).2.2, c]; omega

/-- what ADF and IDF ask of a picture beyond its size; `f0` is the font of slot 0 -/
structure BoxDom (p : Pic) (f0 : Font) : Prop where
  wf : wellFormed p = true
  ice : p.ice = .ice
  cells : allCells p (attrCell true) = true
  pal : pal16 p.pal = true
  pages : analyzeFontUsage p.rows.flatten = [0]
  font0 : lookupFont p.fonts 0 = some f0
  height : f0.height = 16
  len : f0.data.length = 4096

theorem representable_adf (o : Opts) (p : Pic) :
    Representable .adf o p = true ↔ metaOk p.sauce = true ∧ p.w = 80 ∧ p.h ≤ 65535 ∧ ∃ f0, BoxDom p f0 := by
  unfold Representable
  simp only [Bool.and_eq_true, beq_iff_eq, decide_eq_true_eq]
  constructor
  · rintro ⟨⟨hmeta, hwf⟩, ⟨⟨⟨⟨⟨⟨hw, hh⟩, hice⟩, hcells⟩, hpal⟩, hpages⟩, hfont⟩⟩
    cases hf : lookupFont p.fonts 0 with
    | none => rw [hf] at hfont; cases hfont
    | some f0 => rw [hf] at hfont; exact ⟨hmeta, hw, hh, f0, hwf, hice, hcells, hpal, hpages, hf, (font16_parts f0 hfont).1, (font16_parts f0 hfont).2⟩
  · rintro ⟨hmeta, hw, hh, f0, d⟩
    rw [d.font0]
    exact ⟨⟨hmeta, d.wf⟩, ⟨⟨⟨⟨⟨⟨hw, hh⟩, d.ice⟩, d.cells⟩, d.pal⟩, d.pages⟩, by simp [font16, d.height, d.len]⟩⟩

theorem representable_idf (o : Opts) (p : Pic) :
    Representable .idf o p = true ↔ metaOk p.sauce = true ∧ 1 ≤ p.w ∧ p.w ≤ 80 ∧ p.h ≤ 200 ∧ ∃ f0, BoxDom p f0 := by
  unfold Representable
  simp only [Bool.and_eq_true, beq_iff_eq, decide_eq_true_eq]
  constructor
  · rintro ⟨⟨hmeta, hwf⟩, ⟨⟨⟨⟨⟨⟨⟨hw1, hw2⟩, hh⟩, hice⟩, hcells⟩, hpal⟩, hpages⟩, hfont⟩⟩
    cases hf : lookupFont p.fonts 0 with
    | none => rw [hf] at hfont; cases hfont
    | some f0 => rw [hf] at hfont; exact ⟨hmeta, hw1, hw2, hh, f0, hwf, hice, hcells, hpal, hpages, hf, (font16_parts f0 hfont).1, (font16_parts f0 hfont).2⟩
  · rintro ⟨hmeta, hw1, hw2, hh, f0, d⟩
    rw [d.font0]
    exact ⟨⟨hmeta, d.wf⟩, ⟨⟨⟨⟨⟨⟨⟨hw1, hw2⟩, hh⟩, d.ice⟩, d.cells⟩, d.pal⟩, d.pages⟩, by simp [font16, d.height, d.len]⟩⟩

/-- the BIN clause; `f0` is the font of slot 0 (its name goes into the record) -/
structure BinDom (o : Opts) (p : Pic) (f0 : Font) : Prop where
  wf : wellFormed p = true
  even : p.w % 2 = 0
  w2 : 2 ≤ p.w
  w510 : p.w ≤ 510
  sauce : o.sauce = true
  cells : allCells p (attrCell (p.ice == .ice)) = true
  pal : p.pal = dosPalette
  pages : analyzeFontUsage p.rows.flatten = [0]
  font0 : lookupFont p.fonts 0 = some f0

theorem representable_bin (o : Opts) (p : Pic) :
    Representable .bin o p = true ↔ metaOk p.sauce = true ∧ ∃ f0, BinDom o p f0 := by
  unfold Representable
  simp only [Bool.and_eq_true, beq_iff_eq, decide_eq_true_eq]
  constructor
  · rintro ⟨⟨hmeta, hwf⟩, ⟨⟨⟨⟨⟨⟨⟨hev, hw2⟩, hw510⟩, hs⟩, hcells⟩, hpal⟩, hpages⟩, hfont⟩⟩
    obtain ⟨f0, hf0⟩ := Option.isSome_iff_exists.mp hfont
    exact ⟨hmeta, f0, hwf, hev, hw2, hw510, hs, hcells, hpal, hpages, hf0⟩
  · rintro ⟨hmeta, f0, d⟩
    exact ⟨⟨hmeta, d.wf⟩, ⟨⟨⟨⟨⟨⟨⟨d.even, d.w2⟩, d.w510⟩, d.sauce⟩, d.cells⟩, d.pal⟩, d.pages⟩, by rw [d.font0]; rfl⟩⟩

/-- the Tundra clause (the width is stored only in the SAUCE record: without one it is 80) -/
structure TndDom (o : Opts) (p : Pic) : Prop where
  wf : wellFormed p = true
  width : p.w = 80 ∨ (o.sauce = true ∧ 1 ≤ p.w) ∧ p.w ≤ 65535
  area : p.w * p.h < 1073741824
  ice : p.ice = .ice
  pages : analyzeFontUsage p.rows.flatten = [0]
  font0 : o.sauce = false ∨ (lookupFont p.fonts 0).isSome = true
  cells : allCells p (fun c => decide (c.ch ≤ 255) && isVisible c && !isBlink c.attr && decide (c.attr.fg < 2147483648) &&
    decide (c.attr.bg < 2147483648)) = true

theorem representable_tnd (o : Opts) (p : Pic) : Representable .tnd o p = true ↔ metaOk p.sauce = true ∧ TndDom o p := by
  unfold Representable
  simp only [Bool.and_eq_true, beq_iff_eq, decide_eq_true_eq, Bool.or_eq_true, Bool.not_eq_true']
  exact ⟨fun ⟨⟨hmeta, hwf⟩, ⟨⟨⟨⟨⟨hwidth, hsize⟩, hice⟩, hpages⟩, hfont⟩, hcells⟩⟩ => ⟨hmeta, hwf, hwidth, hsize, hice, hpages, hfont, hcells⟩,
    fun ⟨hmeta, d⟩ => ⟨⟨hmeta, d.wf⟩, ⟨⟨⟨⟨⟨d.width, d.area⟩, d.ice⟩, d.pages⟩, d.font0⟩, d.cells⟩⟩⟩

theorem Representable.wf {f : Fmt} {o : Opts} {p : Pic} (h : Representable f o p = true) : wellFormed p = true := by
  unfold Representable at h
  simp only [Bool.and_eq_true] at h
  exact h.1.2

theorem Representable.pal16 {f : Fmt} {o : Opts} {p : Pic} (hf : f = .xb ∨ f = .adf ∨ f = .idf) (h : Representable f o p = true) :
    pal16 p.pal = true := by
  rcases hf with rfl | rfl | rfl
  · obtain ⟨_, _, _, _, d⟩ := (representable_xb o p).mp h; exact d.pal
  · obtain ⟨_, _, _, _, d⟩ := (representable_adf o p).mp h; exact d.pal
  · obtain ⟨_, _, _, _, _, d⟩ := (representable_idf o p).mp h; exact d.pal

end IcyVerif.BinFormats
