import IcyVerif.Model.Palette
/-! Text-level lemmas for the palette file formats (C16): `str::lines`, number rendering/parsing, the hand-written
    regex matchers on the lines the exporter writes. -/
namespace IcyVerif.Palette
open IcyVerif.Gen.Palette

def NoBreak (l : List Nat) : Prop := ∀ c ∈ l, c ≠ 10 ∧ c ≠ 13
def noBreakB (l : List Nat) : Bool := l.all fun c => c != 10 && c != 13

theorem noBreak_of_B (l : List Nat) (h : noBreakB l = true) : NoBreak l := by
  intro c hc
  have := List.all_eq_true.mp h c hc
  simp only [Bool.and_eq_true, bne_iff_ne, ne_eq] at this
  exact this

theorem NoBreak.append {a b : List Nat} (ha : NoBreak a) (hb : NoBreak b) : NoBreak (a ++ b) :=
  fun c hc => (List.mem_append.mp hc).elim (ha c) (hb c)

theorem NoBreak.cons {a : Nat} {b : List Nat} (ha : a ≠ 10 ∧ a ≠ 13) (hb : NoBreak b) : NoBreak (a :: b) :=
  fun c hc => (List.mem_cons.mp hc).elim (· ▸ ha) (hb c)

theorem NoBreak.nil : NoBreak [] := fun _ hc => nomatch hc

theorem stripCrRev_of_no13 (x : List Nat) (h : ∀ c ∈ x, c ≠ 13) : stripCrRev x = x.reverse := by
  unfold stripCrRev
  split
  · rename_i rest; exact absurd rfl (h 13 (by simp))
  · rfl

theorem linesGo_append (l rest cur : List Nat) (hl : ∀ c ∈ l, c ≠ 10) :
    linesGo (l ++ 10 :: rest) cur = stripCrRev (l.reverse ++ cur) :: linesGo rest [] := by
  induction l generalizing cur with
  | nil => simp [linesGo]
  | cons c cs ih =>
    have hc : c ≠ 10 := hl c (by simp)
    simp only [List.cons_append, linesGo, if_neg hc]
    rw [ih _ (fun x hx => hl x (by simp [hx]))]
    simp

theorem splitLines_cons (l rest : List Nat) (hl : NoBreak l) : splitLines (l ++ 10 :: rest) = l :: splitLines rest := by
  unfold splitLines
  rw [linesGo_append l rest [] (fun c hc => (hl c hc).1)]
  rw [stripCrRev_of_no13 _ (by intro c hc; simp at hc; exact (hl c hc).2)]
  simp

/-- lines, each terminated by `\n` -/
def joinLines (ls : List (List Nat)) : List Nat := ls.flatMap fun l => l ++ [10]

theorem splitLines_nil : splitLines [] = [] := rfl

theorem splitLines_joinLines (ls : List (List Nat)) (h : ∀ l ∈ ls, NoBreak l) : splitLines (joinLines ls) = ls := by
  induction ls with
  | nil => rfl
  | cons l ls ih =>
    simp only [joinLines, List.flatMap_cons, List.append_assoc, List.cons_append, List.nil_append]
    rw [splitLines_cons l _ (h l (by simp))]
    congr 1
    exact ih (fun x hx => h x (by simp [hx]))

theorem joinLines_append (a b : List (List Nat)) : joinLines (a ++ b) = joinLines a ++ joinLines b := by
  simp [joinLines]

theorem joinLines_flatMap {β : Type} (cs : List β) (g : β → List (List Nat)) :
    joinLines (cs.flatMap g) = cs.flatMap fun c => joinLines (g c) := by
  simp [joinLines, List.flatMap_assoc]

theorem hexDigit_isHex : ∀ n, n < 16 → isHex (hexDigit n) = true := by decide

theorem hex2_parse : ∀ n, n < 256 → parseHex2 (hexDigit (n / 16 % 16)) (hexDigit (n % 16)) = n := by decide +kernel

theorem hex2_isHex (n : Nat) : ∀ x ∈ hex2 n, isHex x = true :=
  List.forall_mem_cons.mpr ⟨hexDigit_isHex _ (Nat.mod_lt _ (by decide)),
    List.forall_mem_cons.mpr ⟨hexDigit_isHex _ (Nat.mod_lt _ (by decide)), nofun⟩⟩

theorem noBreak_of_isHex {l : List Nat} (h : ∀ x ∈ l, isHex x = true) : NoBreak l := by
  intro c hc
  have := h c hc
  constructor <;> (rintro rfl; cases this)

theorem isDigit_iff (c : Nat) : isDigit c = true ↔ 48 ≤ c ∧ c ≤ 57 := by
  simp [isDigit]

theorem decVal_snoc (ds : List Nat) (d : Nat) : decVal (ds ++ [d]) = decVal ds * 10 + (d - 48) := by
  simp [decVal, List.foldl_append]

/-- `{}` of an unsigned integer; `n < f` is enough fuel -/
theorem decRev_spec : ∀ f n, n < f →
    decRev f n ≠ [] ∧ (∀ c ∈ decRev f n, 48 ≤ c ∧ c ≤ 57) ∧ decVal (decRev f n).reverse = n := by
  intro f
  induction f with
  | zero => intro n h; omega
  | succ f ih =>
    intro n h
    unfold decRev
    by_cases h0 : n / 10 = 0
    · simp only [h0, if_true]
      exact ⟨by simp, fun c hc => by simp at hc; omega, by simp [decVal]; omega⟩
    · simp only [h0, if_false]
      obtain ⟨_, h2, h3⟩ := ih (n / 10) (by omega)
      refine ⟨by simp, fun c hc => ?_, ?_⟩
      · rcases List.mem_cons.mp hc with rfl | hc
        · omega
        · exact h2 c hc
      · rw [List.reverse_cons, decVal_snoc, h3]; omega

theorem dec_spec (n : Nat) : (dec n ≠ [] ∧ ∀ c ∈ dec n, isDigit c = true) ∧ decVal (dec n) = n := by
  obtain ⟨h1, h2, h3⟩ := decRev_spec (n + 1) n (by omega)
  exact ⟨⟨by simpa [dec] using h1, fun c hc => (isDigit_iff c).mpr (h2 c (by simpa [dec] using hc))⟩, h3⟩

theorem dec_noBreak (n : Nat) : NoBreak (dec n) := by
  intro c hc; have := (isDigit_iff c).mp ((dec_spec n).1.2 c hc); omega

theorem parseU8_dec (n : Nat) (h : n < 256) : parseU8 (dec n) = some n := by
  rw [parseU8, (dec_spec n).2, if_pos (by omega), Nat.mod_eq_of_lt h]

/-- a `{:3}` field starts with a blank or a digit -/
theorem pad3_head (n k : Nat) (hk : k < 48 ∧ k ≠ 32) (t : List Nat) : (pad3 n ++ t).head? ≠ some k := by
  obtain ⟨⟨hne, hd⟩, _⟩ := dec_spec n
  obtain ⟨d, ds, e⟩ := List.exists_cons_of_ne_nil hne
  have := (isDigit_iff d).mp (hd d (by simp [e]))
  unfold pad3
  cases 3 - (dec n).length with
  | zero => simp [e]; omega
  | succ m => simp [List.replicate_succ]; omega

theorem oneLine_consts : oneLineFrom = [13, 10] ∧ oneLineTo = [32] := ⟨rfl, rfl⟩

theorem oneLine_noBreak (s : List Nat) : NoBreak (oneLine s) := by
  intro c hc
  simp only [oneLine, List.mem_flatMap] at hc
  obtain ⟨x, _, hx⟩ := hc
  split at hx
  · rw [oneLine_consts.2] at hx; simp at hx; omega
  · rename_i hn
    rw [oneLine_consts.1] at hn
    simp at hx hn
    omega

theorem not_isWs_of_digit (c : Nat) (h : isDigit c = true) : isWs c = false := by
  have := (isDigit_iff c).mp h
  have : ∀ c, c < 58 → 48 ≤ c → isWs c = false := by decide
  exact this c (by omega) (by omega)

theorem not_isDigit_32 : isDigit 32 = false := by decide
theorem isWs_32 : isWs 32 = true := by decide

theorem digits1_run (ds rest : List Nat) (hne : ds ≠ []) (hd : ∀ c ∈ ds, isDigit c = true)
    (hr : rest.takeWhile isDigit = []) : digits1 (ds ++ rest) = some (ds, rest) := by
  have hdrop : rest.dropWhile isDigit = rest := by
    cases rest with
    | nil => rfl
    | cons r rs =>
      simp only [List.takeWhile_cons] at hr
      split at hr
      · simp at hr
      · rename_i h; simp [h]
  unfold digits1
  rw [List.takeWhile_append_of_pos hd, List.dropWhile_append_of_pos hd, hr, hdrop]
  simp [hne]

theorem digits1_space (rest : List Nat) : digits1 (32 :: rest) = none := by
  simp [digits1, not_isDigit_32]

theorem ws1_spaces (k : Nat) (d : Nat) (rest : List Nat) (hd : isDigit d = true) :
    ws1 (List.replicate (k + 1) 32 ++ d :: rest) = some (d :: rest) := by
  have hall : ∀ c ∈ List.replicate (k + 1) 32, isWs c = true := by
    intro c hc; rw [List.eq_of_mem_replicate hc]; exact isWs_32
  have hnd := not_isWs_of_digit d hd
  unfold ws1
  rw [List.takeWhile_append_of_pos hall, List.dropWhile_append_of_pos hall]
  simp [hnd, List.replicate_succ]

theorem takeWhile_digit_space (rest : List Nat) : (32 :: rest).takeWhile isDigit = [] := by
  simp [not_isDigit_32]

theorem rgbAt_triple (dr dg db tail : List Nat) (k2 k3 : Nat)
    (hr : dr ≠ [] ∧ ∀ c ∈ dr, isDigit c = true) (hg : dg ≠ [] ∧ ∀ c ∈ dg, isDigit c = true)
    (hb : db ≠ [] ∧ ∀ c ∈ db, isDigit c = true) (ht : tail.takeWhile isDigit = []) :
    rgbAt (dr ++ (List.replicate (k2 + 1) 32 ++ (dg ++ (List.replicate (k3 + 1) 32 ++ (db ++ tail))))) =
      some ((dr, dg, db), tail) := by
  obtain ⟨g0, gs, rfl⟩ := List.exists_cons_of_ne_nil hg.1
  obtain ⟨b0, bs, rfl⟩ := List.exists_cons_of_ne_nil hb.1
  have hg0 : isDigit g0 = true := hg.2 g0 (by simp)
  have hb0 : isDigit b0 = true := hb.2 b0 (by simp)
  unfold rgbAt
  rw [digits1_run dr _ hr.1 hr.2 (by simp [List.replicate_succ, not_isDigit_32])]
  simp only [List.cons_append]
  rw [ws1_spaces k2 g0 _ hg0]
  simp only []
  have e1 : g0 :: (gs ++ (List.replicate (k3 + 1) 32 ++ b0 :: (bs ++ tail))) =
      (g0 :: gs) ++ (List.replicate (k3 + 1) 32 ++ b0 :: (bs ++ tail)) := by simp
  rw [e1, digits1_run (g0 :: gs) _ hg.1 hg.2 (by simp [List.replicate_succ, not_isDigit_32])]
  simp only []
  rw [ws1_spaces k3 b0 _ hb0]
  simp only []
  have e2 : b0 :: (bs ++ tail) = (b0 :: bs) ++ tail := by simp
  rw [e2, digits1_run (b0 :: bs) tail hb.1 hb.2 ht]

theorem rgbAt_space (rest : List Nat) : rgbAt (32 :: rest) = none := by
  unfold rgbAt; rw [digits1_space]

theorem findFirst_of_match {α : Type} {m : List Nat → Option (α × List Nat)} {s : List Nat} {r : α × List Nat}
    (h : m s = some r) (hs : s ≠ []) : findFirst m s = some r := by
  obtain ⟨c, cs, rfl⟩ := List.exists_cons_of_ne_nil hs
  simp [findFirst, h]

theorem findFirst_spaces (k : Nat) (s : List Nat) : findFirst rgbAt (List.replicate k 32 ++ s) = findFirst rgbAt s := by
  induction k with
  | zero => simp
  | succ k ih => simp only [List.replicate_succ, List.cons_append, findFirst, rgbAt_space]; exact ih

theorem scanWith_skip {α : Type} (m : List Nat → Option (α × List Nat)) (pre s : List Nat) :
    scanWith m (pre ++ s) pre.length = scanWith m s 0 := by
  induction pre with
  | nil => simp
  | cons c cs ih => simpa [scanWith] using ih

theorem scanWith_append {α : Type} {m : List Nat → Option (α × List Nat)} {pre rest : List Nat} {a : α}
    (h : m (pre ++ rest) = some (a, rest)) (hp : pre ≠ []) : scanWith m (pre ++ rest) 0 = a :: scanWith m rest 0 := by
  obtain ⟨c, cs, rfl⟩ := List.exists_cons_of_ne_nil hp
  simp only [List.cons_append, scanWith] at h ⊢
  simp only [h]
  have : (cs ++ rest).length - rest.length = cs.length := by simp
  rw [this, scanWith_skip]

theorem scanWith_nomatch {α : Type} (m : List Nat → Option (α × List Nat)) (c : Nat) (cs : List Nat)
    (h : m (c :: cs) = none) : scanWith m (c :: cs) 0 = scanWith m cs 0 := by
  simp only [scanWith, h]

theorem hexRun_append {k : Nat} (ds rest : List Nat) (hk : ds.length = k) (h : ∀ c ∈ ds, isHex c = true) :
    hexRun k (ds ++ rest) = some (ds, rest) := by
  subst hk
  induction ds with
  | nil => rfl
  | cons d ds ih =>
    simp only [List.length_cons, List.cons_append, hexRun, h d (by simp), if_true, ih fun c hc => h c (by simp [hc])]

theorem hexRun_break (k : Nat) (rest : List Nat) : hexRun (k + 1) (10 :: rest) = none := by
  simp [hexRun, isHex]

/-- the six digits `{:02x}{:02x}{:02x}` of a colour -/
def hex6 (c : Rgb) : List Nat := hex2 c.r ++ hex2 c.g ++ hex2 c.b

theorem hex6_isHex (c : Rgb) : ∀ x ∈ hex6 c, isHex x = true := fun x hx =>
  (List.mem_append.mp hx).elim (fun h => (List.mem_append.mp h).elim (hex2_isHex _ x) (hex2_isHex _ x)) (hex2_isHex _ x)

theorem hex6_ne_nil (c : Rgb) : hex6 c ≠ [] := by simp [hex6, hex2]

theorem hex6_run (c : Rgb) (rest : List Nat) : hexRun 6 (hex6 c ++ rest) = some (hex6 c, rest) :=
  hexRun_append (hex6 c) rest rfl (hex6_isHex c)

theorem rgbOfHex6_hex6 (c : Rgb) (h : c.Valid) : rgbOfHex6 (hex6 c) = c := by
  simp only [hex6, hex2, List.cons_append, List.nil_append, rgbOfHex6]
  rw [hex2_parse c.r h.1, hex2_parse c.g h.2.1, hex2_parse c.b h.2.2]

theorem hex6_noBreak (c : Rgb) : NoBreak (hex6 c) := noBreak_of_isHex (hex6_isHex c)

theorem hex6_head (c : Rgb) (k : Nat) (hk : isHex k = false) : (hex6 c).head? ≠ some k := fun h =>
  Bool.false_ne_true (hk ▸ hex6_isHex c k (List.mem_of_mem_head? h))

end IcyVerif.Palette
