import IcyVerif.Lemmas.ArtFormats
/-! # Avatar: attribute command ^V^A, run-length command ^Y, the writer's look-ahead loop — C15 -/
namespace IcyVerif.ArtIO
open IcyVerif.Gen.Art

theorem cell_same_iff (a b : Cell) : a.same b = true ↔ a = b := by
  cases a with | mk ca aa => cases b with | mk cb ab =>
  simp only [Cell.same, Bool.and_eq_true, beq_iff_eq, same_iff, Cell.mk.injEq]

theorem avtRun_spec (w : Nat) (row : List Cell) : ∀ (fuel x n : Nat),
    let res := avtRun w row fuel x n
    x ≤ res.2 ∧ res.1 + x = n + res.2 ∧ ∀ i, x ≤ i → i ≤ res.2 → row.getD i defaultCell = row.getD x defaultCell := by
  intro fuel
  induction fuel with
  | zero =>
    intro x n
    refine ⟨Nat.le_refl _, rfl, ?_⟩
    intro i h1 h2
    have : i = x := by simp [avtRun] at h2; omega
    rw [this]
  | succ f ih =>
    intro x n
    unfold avtRun
    by_cases hc : x + avtLookAhead < w ∧ (row.getD x defaultCell).same (row.getD (x + 1) defaultCell) = true
    · rw [if_pos hc]
      obtain ⟨i1, i2, i3⟩ := ih (x + 1) (n + 1)
      have heq : row.getD (x + 1) defaultCell = row.getD x defaultCell := ((cell_same_iff _ _).1 hc.2).symm
      refine ⟨by omega, by omega, ?_⟩
      intro i h1 h2
      by_cases hi : i = x
      · rw [hi]
      · rw [i3 i (by omega) h2, heq]
    · rw [if_neg hc]
      refine ⟨Nat.le_refl _, rfl, ?_⟩
      intro i h1 h2
      have : i = x := by omega
      rw [this]

theorem trimRow_last_not_transparent (r : List Cell) (h : trimRow r ≠ []) :
    ((trimRow r).getD ((trimRow r).length - 1) defaultCell).isTransparent = false := by
  unfold trimRow at h ⊢
  have hd := List.head?_dropWhile_not Cell.isTransparent r.reverse
  cases hl : r.reverse.dropWhile Cell.isTransparent with
  | nil => rw [hl] at h; simp at h
  | cons a t =>
    rw [hl] at hd
    simp only [List.head?_cons] at hd
    simp only [List.reverse_cons, List.length_append, List.length_reverse, List.length_cons, List.length_nil,
      Nat.zero_add, Nat.add_sub_cancel, List.getD_eq_getElem?_getD]
    rw [List.getElem?_append_right (by simp)]
    simp [hd]

/-- a run that starts inside the row's length ends inside it: the last significant cell is not blank-on-black, the
    cell after it is -/
theorem run_stays_inside (row : List Cell) (x x1 : Nat) (hx : x < rowLen row)
    (heq : ∀ i, x ≤ i → i ≤ x1 → row.getD i defaultCell = row.getD x defaultCell) : x1 < rowLen row := by
  rcases Nat.lt_or_ge x1 (rowLen row) with h | h
  · exact h
  · exfalso
    have hne : trimRow row ≠ [] := by
      intro e; unfold rowLen at hx; rw [e] at hx; simp at hx
    have hlast : ((trimRow row).getD (rowLen row - 1) defaultCell).isTransparent = false :=
      trimRow_last_not_transparent row hne
    have hl1 : rowLen row - 1 < (trimRow row).length := by unfold rowLen; unfold rowLen at hx; omega
    rw [trimRow_getD row _ _ hl1] at hlast
    have e1 : row.getD (rowLen row - 1) defaultCell = row.getD x defaultCell :=
      heq _ (by unfold rowLen at *; omega) (by unfold rowLen at *; omega)
    have e2 : row.getD (rowLen row) defaultCell = row.getD x defaultCell := heq _ (by omega) h
    have ht : (row.getD (rowLen row) defaultCell).isTransparent = true := trimRow_rest_transparent row _ (Nat.le_refl _)
    rw [e2, ← e1] at ht
    rw [hlast] at ht; cases ht

/-- the colours and bytes of `FrontDom`; the lead-ins are ^V (22, commands) and ^Y (25, repeat) — ^L (12, clear) is not `AnsiPrintable` anyway -/
def AvtDom (c : Cell) : Prop :=
  c.attr.fg < 16 ∧ c.attr.bg < 8 ∧ c.attr.fl = Flags.none ∧ 0 < c.ch ∧ c.ch < 256 ∧ c.ch ≠ 22 ∧ c.ch ≠ 25 ∧ AnsiPrintable c.ch

theorem avt_attr_byte (im : IceMode) : ∀ fg < 16, ∀ bg < 8,
    attrFromU8 (attrAsU8 ⟨fg, bg, Flags.none⟩ im % 256) .unlimited = ⟨fg, bg, Flags.none⟩ ∧
    attrAsU8 ⟨fg, bg, Flags.none⟩ im % 65536 = attrAsU8 ⟨fg, bg, Flags.none⟩ im := by
  cases im <;> decide +kernel

/-- `^V ^A <attr>` -/
theorem avt_tok_attr (s : Attr × Bool) (r : RS) (b : Nat) (h : AttrR .avatar s r) :
    AttrR .avatar (attrFromU8 (b % 256) .unlimited, false) ([22, 1, b].foldl (step .avatar) r) ∧
    ([22, 1, b].foldl (step .avatar) r).core.scr = r.core.scr := by
  obtain ⟨⟨ns, (q : r.avt.st = .chars), ag, ice⟩, bi, _⟩ := h
  have e : [22, 1, b].foldl (step .avatar) r =
      { r with core := { r.core with attr := attrFromU8 (b % 256) .unlimited } } := by
    simp [step, avtStep, ns, q, avtClr, avtRep, avtCmd, bi]
    exact AvtP.ext q.symm rfl rfl
  rw [e]
  exact ⟨⟨⟨ns, q, ag, ice⟩, bi, fun _ => rfl⟩, rfl⟩

theorem avt_tok_char (s : Attr × Bool) (r : RS) (ch : Nat) (h : AttrR .avatar s r) (h22 : ch ≠ 22) (h25 : ch ≠ 25)
    (hpr : AnsiPrintable ch) :
    AttrR .avatar s ([ch].foldl (step .avatar) r) ∧
    ([ch].foldl (step .avatar) r).core.scr = r.core.scr.put ⟨ch, r.core.attr⟩ ∧
    ([ch].foldl (step .avatar) r).core.attr = r.core.attr := by
  show AttrR .avatar s (step .avatar r ch) ∧ (step .avatar r ch).core.scr = _ ∧ (step .avatar r ch).core.attr = _
  rw [step_print .avatar trivial r ch h.idle (fun hl => hl.elim hpr.2.2.1 fun hl => hl.elim h25 h22) hpr]
  exact ⟨h.frame _ _, rfl, rfl⟩

theorem avt_tok_chars (s : Attr × Bool) (ch : Nat) (h22 : ch ≠ 22) (h25 : ch ≠ 25) (hpr : AnsiPrintable ch) :
    ∀ (n : Nat) (r : RS), AttrR .avatar s r →
    AttrR .avatar s ((List.replicate n ch).foldl (step .avatar) r) ∧
    ((List.replicate n ch).foldl (step .avatar) r).core.scr = r.core.scr.runOps (putOps (List.replicate n ⟨ch, r.core.attr⟩)) ∧
    ((List.replicate n ch).foldl (step .avatar) r).core.attr = r.core.attr := by
  intro n
  induction n with
  | zero => intro r h; exact ⟨h, rfl, rfl⟩
  | succ k ih =>
    intro r h
    obtain ⟨R1, s1, a1⟩ := avt_tok_char s r ch h h22 h25 hpr
    obtain ⟨R2, s2, a2⟩ := ih _ R1
    rw [List.replicate_succ, List.foldl_cons]
    have e0 : step .avatar r ch = [ch].foldl (step .avatar) r := rfl
    rw [e0]
    refine ⟨R2, ?_, by rw [a2, a1]⟩
    rw [s2, s1, a1, List.replicate_succ]; rfl

theorem ansiRepeat_spec (ch : Nat) (hpr : AnsiPrintable ch) : ∀ (n : Nat) (p : AnsiP) (c : Core),
    c.stuck = false → p.st = .ground → c.caretIce = false →
    (ansiRepeat n p c ch).2 = { c with scr := c.scr.runOps (putOps (List.replicate n ⟨ch, c.attr⟩)) } ∧
    (ansiRepeat n p c ch).1.st = .ground := by
  intro n
  induction n with
  | zero => intro p c _ hg _; exact ⟨rfl, hg⟩
  | succ k ih =>
    intro p c ns hg ice
    unfold ansiRepeat
    rw [ansiStep_print p c ch ns hg hpr]
    simp only []
    have hc : (c.printAnsi ch) = { c with scr := c.scr.put ⟨ch, c.attr⟩ } := by
      simp [Core.printAnsi, Core.printAttr, ice]
    obtain ⟨i1, i2⟩ := ih { p with lastCh := ch } (c.printAnsi ch) (by rw [hc]; exact ns) hg (by rw [hc]; exact ice)
    refine ⟨?_, i2⟩
    rw [i1, hc, List.replicate_succ]; rfl

/-- `^Y <ch> <n>` -/
theorem avt_tok_rep (s : Attr × Bool) (r : RS) (ch n : Nat) (h : AttrR .avatar s r) (hpr : AnsiPrintable ch) :
    AttrR .avatar s ([25, ch, n].foldl (step .avatar) r) ∧
    ([25, ch, n].foldl (step .avatar) r).core.scr = r.core.scr.runOps (putOps (List.replicate n ⟨ch, r.core.attr⟩)) ∧
    ([25, ch, n].foldl (step .avatar) r).core.attr = r.core.attr := by
  obtain ⟨⟨ns, (q : r.avt.st = .chars), ag, ice⟩, bi, ha⟩ := h
  obtain ⟨i1, i2⟩ := ansiRepeat_spec ch hpr n r.ansi r.core ns ag ice
  have e : [25, ch, n].foldl (step .avatar) r =
      { r with avt := { r.avt with sub := 3, st := .chars, repCh := ch }, ansi := (ansiRepeat n r.ansi r.core ch).1,
               core := (ansiRepeat n r.ansi r.core ch).2 } := by
    simp [step, avtStep, ns, q, avtClr, avtRep]
  rw [e]
  refine ⟨⟨⟨by simp [i1, ns], rfl, i2, by simp [i1, ice]⟩, by simp [i1, bi], fun h => by simp [i1, ha h]⟩, by simp [i1], by simp [i1]⟩

theorem drop_run {l : List Cell} {c : Cell} : ∀ (n x : Nat), x + n ≤ l.length →
    (∀ i, x ≤ i → i < x + n → l.getD i defaultCell = c) → l.drop x = List.replicate n c ++ l.drop (x + n) := by
  intro n
  induction n with
  | zero => intro x _ _; rfl
  | succ k ih =>
    intro x h heq
    have hx : x < l.length := by omega
    have h0 := heq x (Nat.le_refl _) (by omega)
    rw [List.getD_eq_getElem?_getD, List.getElem?_eq_getElem hx, Option.getD_some] at h0
    rw [List.drop_eq_getElem_cons hx, h0, ih (x + 1) (by omega) (fun i a b => heq i (by omega) (by omega)),
      show x + 1 + k = x + (k + 1) by omega]
    rfl

theorem avt_attr_cmd (im : IceMode) (s : Attr × Bool) (r : RS) (a : Attr) (hfg : a.fg < 16) (hbg : a.bg < 8)
    (hfl : a.fl = Flags.none) (hR : AttrR .avatar s r) :
    ∃ r1, (if (s.2 || !(a.same s.1)) = true then [22, 1, attrAsU8 a im] else []).foldl (step .avatar) r = r1 ∧
      AttrR .avatar (if (s.2 || !(a.same s.1)) = true then a else s.1, false) r1 ∧ r1.core.attr = a ∧ r1.core.scr = r.core.scr := by
  by_cases hchg : (s.2 || !(a.same s.1)) = true
  · rw [if_pos hchg, if_pos hchg]
    obtain ⟨T1, T2⟩ := avt_tok_attr s r (attrAsU8 a im) hR
    have hb := (avt_attr_byte im a.fg hfg a.bg hbg).1
    rw [Attr.eta_none hfl] at hb
    rw [hb] at T1
    exact ⟨_, rfl, T1, T1.attr rfl, T2⟩
  · rw [if_neg hchg, if_neg hchg]
    obtain ⟨hs2, hsame⟩ := attr_unchanged hchg
    refine ⟨r, rfl, ?_, by rw [hR.attr hs2, hsame], rfl⟩
    rw [← hs2]; exact hR

/-- `n < 256`: the count of `^Y c n` is one byte; a run lies inside a row, and rows are narrower than that -/
theorem avt_run_toks (s : Attr × Bool) (r : RS) (c : Cell) (n : Nat) (hn1 : 1 ≤ n) (hn : n < 256) (hd : AvtDom c) (hR : AttrR .avatar s r)
    (ha : r.core.attr = c.attr) :
    ∃ r2, (if 1 < n then (if n < avtRepeatMin ∧ (!avtIsCtl c.ch) = true then List.replicate n (c.ch % 256)
            else [25, c.ch % 256, n % 256])
          else if avtIsCtl c.ch = true then [25, c.ch % 256, 1] else [chByte c.ch]).foldl (step .avatar) r = r2 ∧
      AttrR .avatar s r2 ∧ r2.core.scr = r.core.scr.runOps (putOps (List.replicate n c)) := by
  obtain ⟨_, _, _, hc0, hc1, h22, h25, hpr⟩ := hd
  have hctl : avtIsCtl c.ch = false := by simp [avtIsCtl, h22, h25, hpr.2.2.1]
  have hcc : (⟨c.ch, r.core.attr⟩ : Cell) = c := by rw [ha]
  rw [Nat.mod_eq_of_lt hc1]
  by_cases h1n : 1 < n
  · rw [if_pos h1n]
    by_cases hsm : n < avtRepeatMin ∧ (!avtIsCtl c.ch) = true
    · rw [if_pos hsm]
      obtain ⟨T1, T2, _⟩ := avt_tok_chars s c.ch h22 h25 hpr n r hR
      exact ⟨_, rfl, T1, by rw [T2, hcc]⟩
    · rw [if_neg hsm, Nat.mod_eq_of_lt hn]
      obtain ⟨T1, T2, _⟩ := avt_tok_rep s r c.ch n hR hpr
      exact ⟨_, rfl, T1, by rw [T2, hcc]⟩
  · rw [if_neg h1n, hctl, if_neg Bool.false_ne_true, chByte_id hc0 hc1, show n = 1 by omega]
    obtain ⟨T1, T2, _⟩ := avt_tok_char s r c.ch hR h22 h25 hpr
    exact ⟨_, rfl, T1, by rw [T2, hcc]; rfl⟩

theorem avtCells_spec (im : IceMode) (w : Nat) (row : List Cell) (hw : rowLen row ≤ w) (hw2 : w < 256)
    (hdom : ∀ c ∈ row, AvtDom c) :
    ∀ (fuel x : Nat) (s : Attr × Bool) (r : RS), x ≤ rowLen row → rowLen row - x < fuel → AttrR .avatar s r →
      (avtCells im w (rowLen row) row fuel x s).2.2 = rowLen row ∧
      AttrR .avatar (avtCells im w (rowLen row) row fuel x s).2.1 ((avtCells im w (rowLen row) row fuel x s).1.foldl (step .avatar) r) ∧
      ((avtCells im w (rowLen row) row fuel x s).1.foldl (step .avatar) r).core.scr =
        r.core.scr.runOps (putOps ((trimRow row).drop x)) := by
  intro fuel
  induction fuel with
  | zero => intro x s r _ h; omega
  | succ f ih =>
    intro x s r hx hf hR
    unfold avtCells
    by_cases hend : rowLen row ≤ x
    · rw [if_pos hend]
      have hd : (trimRow row).drop x = [] := List.drop_eq_nil_of_le hend
      rw [hd]
      exact ⟨Nat.le_antisymm hx hend, hR, rfl⟩
    · rw [if_neg hend]
      obtain ⟨g1, g2, g3⟩ := avtRun_spec w row w x 1
      generalize avtRun w row w x 1 = res at g1 g2 g3
      obtain ⟨n, x1⟩ := res
      simp only [] at g1 g2 g3 ⊢
      have hx1 : x1 < rowLen row := run_stays_inside row x x1 (by omega) g3
      have hx1r : x1 < row.length := Nat.lt_of_lt_of_le hx1 (trimRow_length_le row)
      -- the run of `n = x1 - x + 1` cells, all equal to the cell at `x1`
      have hdrop : (trimRow row).drop x = List.replicate n (row.getD x1 defaultCell) ++ (trimRow row).drop (x1 + 1) := by
        rw [drop_run (l := trimRow row) (c := row.getD x1 defaultCell) n x (by unfold rowLen at hx1; omega) (by
          intro i a b
          rw [trimRow_getD row i _ (by unfold rowLen at hx1; omega), g3 i a (by omega)]
          exact (g3 x1 g1 (Nat.le_refl _)).symm), show x + n = x1 + 1 by omega]
      have hd := hdom (row.getD x1 defaultCell) (Basics.getD_mem hx1r)
      generalize row.getD x1 defaultCell = c at hd hdrop ⊢
      obtain ⟨r1, e1, R1, a1, sc1⟩ := avt_attr_cmd im s r c.attr hd.1 hd.2.1 hd.2.2.1 hR
      obtain ⟨r2, e2, R2, sc2⟩ := avt_run_toks _ r1 c n (by omega) (by omega) hd R1 a1
      obtain ⟨I1, I2, I3⟩ := ih (x1 + 1) (if (s.2 || !(c.attr.same s.1)) = true then c.attr else s.1, false) r2 (by omega) (by omega) R2
      generalize avtCells im w (rowLen row) row f (x1 + 1)
        (if (s.2 || !(c.attr.same s.1)) = true then c.attr else s.1, false) = rec at I1 I2 I3
      obtain ⟨rest, s', xe⟩ := rec
      simp only [] at I1 I2 I3 ⊢
      rw [List.foldl_append, List.foldl_append, e1, e2]
      refine ⟨I1, I2, ?_⟩
      rw [I3, sc2, sc1, hdrop, putOps_append, runOps_append]

theorem avt_eol (s : Attr × Bool) (r : RS) (hR : AttrR .avatar s r) :
    AttrR .avatar s (crlf.foldl (step .avatar) r) ∧ (crlf.foldl (step .avatar) r).core.scr = r.core.scr.exec Op.nl := by
  rw [step_crlf .avatar trivial r hR.idle]
  exact ⟨hR.frame _ _, rfl⟩

theorem avtRows_eq (im : IceMode) (w : Nat) : ∀ (rows : List (List Cell)) (s : Attr × Bool),
    some (avtRows im w s rows) = rowsLoop (fun s r => some (avtCells im w (rowLen r) r (w + 1) 0 s)) crlf w s rows := by
  intro rows
  induction rows with
  | nil => intro s; rfl
  | cons r rest ih =>
    intro s
    unfold avtRows rowsLoop
    generalize avtCells im w (rowLen r) r (w + 1) 0 s = res
    obtain ⟨b, s1, xe⟩ := res
    simp only []
    rw [← ih]

theorem avt_row (im : IceMode) (w : Nat) (hw2 : w < 256) :
    RowSim (fun s r => some (avtCells im w (rowLen r) r (w + 1) 0 s)) (step .avatar) (fun r => r.core.scr) id (AttrR .avatar) AvtDom w := by
  intro s r row hR hd hfit
  have hrl : rowLen row ≤ w := Nat.le_trans (trimRow_length_le row) hfit
  obtain ⟨C1, C2, C3⟩ := avtCells_spec im w row hrl hw2 hd (w + 1) 0 s r (Nat.zero_le _) (by omega) hR
  show ∃ b s', some (avtCells im w (rowLen row) row (w + 1) 0 s) = some (b, s', rowLen row) ∧ _
  generalize avtCells im w (rowLen row) row (w + 1) 0 s = res at C1 C2 C3
  obtain ⟨b, s1, xe⟩ := res
  cases C1
  exact ⟨b, s1, rfl, C2, C3.trans (by simp)⟩

/-- ^L (clear) and ^V^H 1 1 (home) on the fresh screen change nothing -/
theorem avt_prep (prep : Prep) (r : RS) (hR : AttrR .avatar (defaultAttr, true) r)
    (hfresh : r.core.scr.lines = [] ∧ r.core.scr.cx = 0 ∧ r.core.scr.cy = 0) :
    AttrR .avatar (defaultAttr, true) ((avtPrep prep).foldl (step .avatar) r) ∧
    ((avtPrep prep).foldl (step .avatar) r).core.scr = r.core.scr := by
  obtain ⟨⟨ns, (q : r.avt.st = .chars), ag, ice⟩, bi, ha⟩ := hR
  obtain ⟨k1, _, k2⟩ := fresh_clear_home r.core.scr hfresh
  cases prep with
  | none => exact ⟨⟨⟨ns, q, ag, ice⟩, bi, ha⟩, rfl⟩
  | clear =>
    have e : (avtPrep .clear).foldl (step .avatar) r = { r with core := { r.core with attr := defaultAttr } } := by
      simp [avtPrep, avtClrW, step, avtStep, ns, q, avtClr, Core.ff, k1]
    rw [e]
    exact ⟨⟨⟨ns, q, ag, ice⟩, bi, fun h => by cases h⟩, rfl⟩
  | home =>
    have e : (avtPrep .home).foldl (step .avatar) r = { r with avt := { r.avt with sub := 2, repCh := 1 } } := by
      simp [avtPrep, avtCmdW, step, avtStep, ns, q, avtClr, avtRep, avtCmd, k2]
      exact Core.ext rfl rfl rfl rfl rfl rfl ns.symm
    rw [e]
    exact ⟨⟨⟨ns, q, ag, ice⟩, bi, ha⟩, rfl⟩

theorem avt_cells_head (im : IceMode) (w : Nat) (row : List Cell) : ∀ (fuel x : Nat) (s : Attr × Bool), s.2 = true →
    ((avtCells im w (rowLen row) row fuel x s).1 = [] ∧ (avtCells im w (rowLen row) row fuel x s).2.1 = s) ∨
    (avtCells im w (rowLen row) row fuel x s).1.head? = some 22 := by
  intro fuel
  cases fuel with
  | zero => intro x s _; left; exact ⟨rfl, rfl⟩
  | succ f =>
    intro x s hs
    unfold avtCells
    by_cases hend : rowLen row ≤ x
    · rw [if_pos hend]; left; exact ⟨rfl, rfl⟩
    · rw [if_neg hend]
      right
      generalize avtRun w row w x 1 = res
      obtain ⟨n, x1⟩ := res
      simp only [hs, Bool.true_or, if_true]
      generalize avtCells im w (rowLen row) row f (x1 + 1) _ = rec
      obtain ⟨rest, s', xe⟩ := rec
      rfl

/-- an Avatar file starts with ^V, ^L or CR — never with a UTF-8 BOM -/
theorem avt_noBom (prep : Prep) (im : IceMode) (w : Nat) (rows : List (List Cell)) :
    bomPrefixed (avtPrep prep ++ avtRows im w (defaultAttr, true) rows) = false := by
  apply noBom_of_head
  have H := rowsLoop_head (fun s r => some (avtCells im w (rowLen r) r (w + 1) 0 s)) crlf w 22 (fun s => s.2 = true) (by decide)
    (fun s row b s' n hs e => by
      have H0 := avt_cells_head im w row (w + 1) 0 s hs
      generalize avtCells im w (rowLen row) row (w + 1) 0 s = res at e H0
      cases e
      exact H0) rows (defaultAttr, true) _ rfl (avtRows_eq im w rows _).symm
  cases prep with
  | clear => simp [avtPrep, avtClrW]
  | home => simp [avtPrep, avtCmdW]
  | none =>
    show (avtRows im w (defaultAttr, true) rows).head? ≠ some 239
    rcases H with e | e | e
    · rw [e]; exact nofun
    all_goals rw [e]; decide

end IcyVerif.ArtIO
