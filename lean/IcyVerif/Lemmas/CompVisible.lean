import IcyVerif.Lemmas.Comp
/-! A fact about the compositing walk used by C12: `Buffer::get_char` returns either a visible cell or exactly
`AttributedChar::invisible()` carrying the default font page of the lowest covering visible layer. -/
namespace IcyVerif.Comp
open IcyVerif.Gen.Comp

/-- invariant of the loop state: a recorded attribute / transparent cell is visible -/
def StOk (st : St) : Prop :=
  (∀ a, st.attrOpt = some a → (a.flags &&& invisibleBit) = 0) ∧ (∀ t, st.transp = some t → t.isVisible = true)

theorem isVisible_iff (c : Cell) : c.isVisible = true ↔ (c.attr.flags &&& invisibleBit) = 0 := by
  unfold Cell.isVisible; simp

theorem merge_visible {c : Cell} {chOpt : Option Nat} {attrOpt : Option Attr} (hc : c.isVisible = true)
    (ha : ∀ a, attrOpt = some a → (a.flags &&& invisibleBit) = 0) : (merge c chOpt attrOpt).isVisible = true := by
  unfold merge
  simp only [hc, Bool.not_true, Bool.false_eq_true, if_false]
  cases chOpt <;> cases attrOpt with
  | none => exact hc
  | some a => exact (isVisible_iff _).mpr (ha a rfl)

theorem makeSolid_visible (hb : Cell → Nat × Nat) {t : Cell} (u : Cell) (ht : t.isVisible = true) :
    (makeSolid hb t u).isVisible = true := by
  unfold Cell.isVisible at *
  rw [(makeSolid_keeps hb t u).2.1]; exact ht

theorem defaultCell_visible (p : Nat) : (defaultCell.withPage p).isVisible = true := by
  have : (defaultCell.withPage p).attr.flags = defaultFlags := rfl
  unfold Cell.isVisible; rw [this]; decide

theorem opaqueTail_visible (hb : Cell → Nat × Nat) {st : St} (h : StOk st) : (opaqueTail hb st).isVisible = true := by
  unfold opaqueTail
  have hres := merge_visible (chOpt := st.chOpt) (defaultCell_visible st.dflt) h.1
  simp only
  cases ht : st.transp with
  | none =>
    simp only
    split
    · exact makeSolid_visible hb _ hres
    · exact hres
  | some t => exact makeSolid_visible hb _ (h.2 t ht)

theorem coveredStep_ok (hb : Cell → Nat × Nat) (l : Layer) (x y : Int) {st : St} (h : StOk st) :
    (coveredStep hb l x y st).Sat StOk (·.isVisible = true) := by
  have hrem : ∀ c : Cell, c.isVisible = true →
      StOk (if st.transp.isNone = true then { st with transp := some c } else st) := by
    intro c hc
    split
    · exact ⟨h.1, fun t ht => by cases ht; exact hc⟩
    · exact h
  fun_cases coveredStep hb l x y st
  -- Normal, visible cell with a transparent colour: opaque layer / alpha layer
  · rename_i hv _ _ _ _; exact opaqueTail_visible hb (hrem _ (merge_visible hv h.1))
  · rename_i hv _ _ _ _; exact hrem _ (merge_visible hv h.1)
  -- Normal, visible solid cell: a cell is remembered / none is
  · rename_i hv _ _ t ht; exact makeSolid_visible hb _ (h.2 t ht)
  · rename_i hv _ _ _; exact merge_visible hv h.1
  -- Normal, invisible cell: opaque layer / alpha layer
  · exact opaqueTail_visible hb h
  · exact h
  -- Chars (cell imposes its character / does not), Attributes (likewise)
  · exact ⟨h.1, h.2⟩
  · exact h
  · rename_i hv; exact ⟨fun a ha => by cases ha; exact (isVisible_iff _).mp hv, h.2⟩
  · exact h

theorem finish_shape (t : Bool) {st : St} (h : StOk st) :
    (finish t st).isVisible = true ∨ finish t st = invisibleCell.withPage st.dflt := by
  unfold finish
  cases ht : st.transp with
  | some c => exact Or.inl (h.2 c ht)
  | none =>
    simp only
    split
    · left
      have := merge_visible (c := defaultCell) (chOpt := st.chOpt) (defaultCell_visible 0 ▸ by decide) h.1
      unfold Cell.isVisible Cell.withPage at *
      exact this
    · exact Or.inr rfl

theorem go_shape (hb : Cell → Nat × Nat) (t : Bool) (px py : Int) (L : List Layer) {st : St} (h : StOk st) :
    (go hb t px py L st).isVisible = true ∨ ∃ p, go hb t px py L st = invisibleCell.withPage p :=
  go_sat (I := StOk) (Q := fun c => c.isVisible = true ∨ ∃ p, c = invisibleCell.withPage p) hb t px py
    (fun _ h => (finish_shape t h).imp id fun he => ⟨_, he⟩)
    (fun l st h => layerStep_sat hb px py l h fun x y =>
      (coveredStep_ok hb l x y (st := { st with dflt := l.dfltPage }) ⟨h.1, h.2⟩).mono fun _ => Or.inl) L h

theorem getChar_shape (hb : Cell → Nat × Nat) (t : Bool) (S : List Layer) (px py : Int) :
    (getChar hb t S px py).isVisible = true ∨ ∃ p, getChar hb t S px py = invisibleCell.withPage p :=
  go_shape hb t px py _ ⟨nofun, nofun⟩

end IcyVerif.Comp
