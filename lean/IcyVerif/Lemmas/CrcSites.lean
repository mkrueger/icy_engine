import IcyVerif.Model.CrcSites
import IcyVerif.Lemmas.Crc32
/-! C19, the CRC call sites: nested feeding loops = one fold over the serialised bytes; XOR-linearity of the raw CRC-32
register in its initial value; the cache invariant of `Palette::get_checksum`. -/
namespace IcyVerif.CrcSites
open IcyVerif.Crc IcyVerif.Gen.CrcSites

theorem cellFold_eq (crc : BitVec 16) (c : Cell) : cellFold crc c = c.serial.foldl updateCrc16 crc := by
  unfold cellFold Cell.serial
  rw [List.foldl_flatMap]

theorem rectChecksum_fold (g : Grid) (pt pl pb pr : Nat) :
    rectChecksum g pt pl pb pr = (rectSerial g pt pl pb pr).foldl updateCrc16 0 := by
  unfold rectChecksum rectSerial rectCells
  rw [List.foldl_flatMap, List.foldl_flatMap]
  congr 1
  funext crc y
  rw [List.foldl_filterMap]
  congr 1
  funext crc x
  by_cases h : (getCell g x y).visible
  · simp only [h, if_true, cellFold_eq]
  · simp only [h, if_false, Bool.false_eq_true]

theorem bitUpd32_xor (r s : BitVec 32) (b : BitVec 8) :
    bitUpd32 (r ^^^ s) b = bitUpd32 r b ^^^ bitUpd32 s 0 := by
  unfold bitUpd32
  rw [← Z, ← Z, ← Z, ← Z_linear]
  congr 1
  have : (0 : BitVec 8).setWidth 32 = 0#32 := by decide
  rw [this, BitVec.xor_zero]
  ac_rfl

theorem raw_fold_xor (bs : List (BitVec 8)) (r s : BitVec 32) :
    bs.foldl bitUpd32 (r ^^^ s) = bs.foldl bitUpd32 r ^^^ (List.replicate bs.length (0 : BitVec 8)).foldl bitUpd32 s := by
  induction bs generalizing r s with
  | nil => rfl
  | cons b bs ih =>
    simp only [List.foldl_cons, List.length_cons, List.replicate_succ]
    rw [bitUpd32_xor, ih]

/-- the register started at 0 (what fonts and palettes store) in terms of the standard CRC-32 (all-ones start, final inversion) -/
theorem raw_zero_eq (bs : List (BitVec 8)) :
    bs.foldl bitUpd32 0 = bitCrc32 bs ^^^ bitCrc32 (List.replicate bs.length 0) := by
  have h := raw_fold_xor bs (0xFFFFFFFF#32) (0xFFFFFFFF#32)
  rw [BitVec.xor_self] at h
  have not_xor_not : ∀ a b : BitVec 32, ~~~ a ^^^ ~~~ b = a ^^^ b := fun a b => by
    apply BitVec.eq_of_getLsbD_eq
    intro j hj
    simp [hj]
  unfold bitCrc32
  rw [not_xor_not]
  exact h

theorem raw_forms (bs : List (BitVec 8)) :
    bs.foldl updateCrc32 0 = bs.foldl bitUpd32 0 ∧
    bs.foldl updateCrc32 0 = bitCrc32 bs ^^^ bitCrc32 (List.replicate bs.length 0) := by
  rw [updateCrc32_fun]
  exact ⟨rfl, raw_zero_eq bs⟩

theorem fontChecksum_fold (length : Int) (t : GlyphTable) :
    fontChecksum length t = (fontBytes length t).foldl updateCrc32 (BitVec.ofNat 32 fontInit) := by
  unfold fontChecksum fontBytes
  rw [List.flatten_eq_flatMap, List.foldl_flatMap, List.foldl_filterMap]
  congr 1
  funext crc ch
  cases glyphAt t ch <;> rfl

theorem isScalar_small (n : Nat) (h : n < 0xD800) : isScalar n = true := by
  unfold isScalar; simp; omega

theorem filterMap_glyphs (pre : List (Option (List Byte))) (gs : List (List Byte)) (h : pre.length + gs.length ≤ 0xD800) :
    (List.range' pre.length gs.length).filterMap (glyphAt (pre ++ gs.map some)) = gs := by
  induction gs generalizing pre with
  | nil => rfl
  | cons g gs ih =>
    simp only [List.length_cons] at h
    simp only [List.length_cons, List.range'_succ, List.filterMap_cons]
    have h1 : glyphAt (pre ++ (g :: gs).map some) pre.length = some g := by
      unfold glyphAt
      rw [isScalar_small pre.length (by omega)]
      simp [List.getD_eq_getElem?_getD]
    rw [h1]
    congr 1
    have := ih (pre ++ [some g]) (by simp; omega)
    simp only [List.length_append, List.length_cons, List.length_nil, List.append_assoc, List.cons_append,
      List.nil_append, Nat.zero_add] at this
    simpa [List.map_cons] using this

theorem colorFold_eq (reg : BitVec 32) (c : Rgb) : colorFold reg c = c.serial.foldl updateCrc32 reg := by
  unfold colorFold Rgb.serial
  rw [List.foldl_map]

theorem colors_fold (cs : List Rgb) (reg : BitVec 32) : cs.foldl colorFold reg = (palBytes cs).foldl updateCrc32 reg := by
  unfold palBytes
  rw [List.foldl_flatMap]
  have : colorFold = fun reg c => c.serial.foldl updateCrc32 reg := by
    funext reg c
    exact colorFold_eq reg c
  rw [this]

/-- the cache invariant: the register is the fold over the first `old` colours -/
def Pal.Good (p : Pal) : Prop := p.old ≤ p.colors.length ∧ p.reg = (p.colors.take p.old).foldl colorFold 0

theorem good_fresh (cs : List Rgb) : (Pal.fresh cs).Good := by
  unfold Pal.Good Pal.fresh
  have h1 : palInitOld = 0 := rfl
  have h2 : palInitReg = 0 := rfl
  simp [h1, h2]

theorem good_invalidate (p : Pal) : p.invalidate.Good := by
  unfold Pal.Good Pal.invalidate
  simp

theorem good_append (p : Pal) (h : p.Good) (xs : List Rgb) : ({ p with colors := p.colors ++ xs } : Pal).Good := by
  obtain ⟨h1, h2⟩ := h
  refine ⟨by simp; omega, ?_⟩
  simp only
  rw [List.take_append_of_le_length h1]
  exact h2

theorem length_resizeVec (cs : List Rgb) (n : Nat) : (resizeVec cs n).length = n := by
  unfold resizeVec
  simp only [List.length_append, List.length_take, List.length_replicate]
  omega

theorem fillTo16_eq (cs : List Rgb) : ∃ xs, fillTo16 cs = cs ++ xs := by
  unfold fillTo16
  split
  · exact ⟨_, rfl⟩
  · exact ⟨[], by simp⟩

theorem resizeVec_grow (cs xs : List Rgb) (n : Nat) (h : cs.length ≤ n) : ∃ ys, resizeVec (cs ++ xs) n = cs ++ ys := by
  unfold resizeVec
  refine ⟨xs.take (n - cs.length) ++ List.replicate (n - (cs ++ xs).length) colorDefaultRgb, ?_⟩
  rw [List.take_append, List.take_of_length_le h, List.append_assoc]

theorem good_getChecksum (p : Pal) (h : p.Good) : p.getChecksum.1.Good := by
  obtain ⟨h1, h2⟩ := h
  unfold Pal.getChecksum Pal.Good
  simp only [Nat.le_refl, List.take_length, true_and]
  rw [h2, ← List.foldl_append, List.take_append_drop]

theorem good_resize (p : Pal) (n : Nat) (h : p.Good) : (p.resize n).Good := by
  unfold Pal.resize
  by_cases hn : n > p.colors.length
  · simp only [hn, if_true, length_resizeVec, Nat.lt_irrefl, if_false]
    obtain ⟨xs, hx⟩ := fillTo16_eq p.colors
    obtain ⟨ys, hy⟩ := resizeVec_grow p.colors xs n (by omega)
    rw [hx, hy]
    exact good_append p h ys
  · simp only [hn, if_false]
    split
    · exact good_invalidate _
    · exact h

theorem good_insert (p : Pal) (c : Rgb) (h : p.Good) : (p.insertColor c).1.Good := by
  unfold Pal.insertColor
  split
  · exact h
  · exact good_append p h [c]

theorem good_step (p : Pal) (op : PalOp) (h : p.Good) : (p.step op).1.Good := by
  cases op with
  | push c => exact good_append p h [c]
  | setColor i c => exact good_invalidate _
  | clear => exact good_invalidate _
  | resize n => exact good_resize p n h
  | fill16 =>
    obtain ⟨xs, hx⟩ := fillTo16_eq p.colors
    show ({ p with colors := fillTo16 p.colors } : Pal).Good
    rw [hx]
    exact good_append p h xs
  | insertColor c => exact good_insert p c h
  | getChecksum => exact good_getChecksum p h
  | clone => exact h

theorem good_run (p : Pal) (ops : List PalOp) (h : p.Good) : (p.run ops).Good :=
  List.foldlRecOn ops _ h fun p hp op _ => good_step p op hp

theorem getChecksum_of_good (p : Pal) (h : p.Good) : p.getChecksum.2 = p.colors.foldl colorFold 0 := by
  obtain ⟨h1, h2⟩ := h
  unfold Pal.getChecksum
  simp only
  rw [h2, ← List.foldl_append, List.take_append_drop]

end IcyVerif.CrcSites
