import IcyVerif.Lemmas.IcyDrawLayer
/-! C07, IcyDraw documents: the mode tables of the `ICED` header record and the run of the reader over the chunk sequence,
segment by segment (`Seg`: header, SAUCE, palette, fonts, layers). -/
namespace IcyVerif.IcyDraw
open IcyVerif.Gen.Icy

/-- `from_byte(to_byte(v)) = v` for every variant of the four mode enums — the quantifier is the finite variant table
    regenerated from src/buffers.rs, so this is checked by evaluation.  The buffer type passes through `as u16` and
    `as u8` on its way. -/
theorem bufferType_table_rt : ∀ v, v < bufferTypeVariants.length → bufferTypeOfByte (bufferTypeByte v % 65536 % 256) = v := by decide
theorem iceMode_table_rt : ∀ v, v < iceModeVariants.length → iceModeOfByte (iceModeByte v % 256) = v := by decide
theorem paletteMode_table_rt : ∀ v, v < paletteModeVariants.length → paletteModeOfByte (paletteModeByte v % 256) = v := by decide
theorem fontMode_table_rt : ∀ v, v < fontModeVariants.length → fontModeOfByte (fontModeByte v % 256) = v := by decide

variable {F S : Type}

/-- the chunks `seg` (none of them `END`, none failing) take the reader from `st` to `st'`, whatever follows -/
def Seg (cd : Codecs F S) (st : Loaded F S) (seg : List (Key × Bytes)) (st' : Loaded F S) : Prop :=
  ∀ rest, runChunks cd st (seg ++ rest) = runChunks cd st' rest

theorem Seg.nil (cd : Codecs F S) (st : Loaded F S) : Seg cd st [] st := fun _ => rfl

theorem Seg.append {cd : Codecs F S} {a b c : Loaded F S} {s1 s2 : List (Key × Bytes)} (h1 : Seg cd a s1 b) (h2 : Seg cd b s2 c) :
    Seg cd a (s1 ++ s2) c := fun rest => by rw [List.append_assoc, h1, h2]

theorem Seg.one {cd : Codecs F S} {st st' : Loaded F S} {k : Key} {b : Bytes} (hk : k ≠ Key.end_)
    (h : stepChunk cd st k b = .ok st') : Seg cd st [(k, b)] st' := fun rest => by
  simp only [List.cons_append, List.nil_append, runChunks, hk, if_false, h]

theorem Seg.cons {cd : Codecs F S} {a b c : Loaded F S} {k : Key} {p : Bytes} {s : List (Key × Bytes)} (hk : k ≠ Key.end_)
    (h : stepChunk cd a k p = .ok b) (h2 : Seg cd b s c) : Seg cd a ((k, p) :: s) c :=
  (Seg.one hk h).append h2

theorem Seg.run {cd : Codecs F S} {st st' : Loaded F S} {seg : List (Key × Bytes)} (h : Seg cd st seg st') (p : Bytes) :
    runChunks cd st (seg ++ [(Key.end_, p)]) = .ok st' := by
  rw [h]; simp [runChunks]

/-- the font table after the `FONT_n` chunks of `fs` -/
def fontsApply (g : Nat → Option F) : List (Nat × F) → Nat → Option F
  | [] => g
  | kf :: fs => fontsApply (fun k => if k = kf.1 then some kf.2 else g k) fs

theorem fontsApply_lookup (fs : List (Nat × F)) (g : Nat → Option F) (hnd : (fs.map (·.1)).Nodup) (k : Nat) :
    fontsApply g fs k = match fs.lookup k with | some f => some f | none => g k := by
  induction fs generalizing g with
  | nil => rfl
  | cons kf fs ih =>
    obtain ⟨k0, f0⟩ := kf
    simp only [List.map_cons, List.nodup_cons] at hnd
    obtain ⟨hnot, hnd'⟩ := hnd
    simp only [fontsApply, ih _ hnd', List.lookup_cons]
    by_cases e : k = k0
    · subst e
      have : fs.lookup k = none := by
        rw [List.lookup_eq_none_iff]
        intro p hp
        simp only [List.mem_map, not_exists, not_and] at hnot
        have := hnot p hp
        simp only [bne_iff_ne, ne_eq]
        exact fun h => this h.symm
      simp [this]
    · have : (k == k0) = false := by simpa using e
      simp [this, e]

theorem seg_fonts (cd : Codecs F S) (fs : List (Nat × F)) (st : Loaded F S)
    (hfont : ∀ kf ∈ fs, (cd.fontName kf.2).length < 4294967296 ∧ cd.fontDec (cd.fontName kf.2) (cd.fontData kf.2) = .ok kf.2) :
    Seg cd st (fs.map fun kf => (Key.font kf.1, fontPayload cd kf.2)) { st with fontAt := fontsApply st.fontAt fs } := by
  induction fs generalizing st with
  | nil => exact Seg.nil cd st
  | cons kf fs ih =>
    obtain ⟨h1, h2⟩ := hfont kf (List.mem_cons_self ..)
    have e : rdString (fontPayload cd kf.2) = .ok (cd.fontName kf.2, cd.fontData kf.2) := by
      have := rdString_enc (cd.fontName kf.2) (cd.fontData kf.2) h1
      simpa [fontPayload, List.append_assoc] using this
    exact Seg.cons (b := { st with fontAt := fun k => if k = kf.1 then some kf.2 else st.fontAt k }) (by simp)
      (by simp only [stepChunk, e, h2]) (ih _ fun kf h => hfont kf (List.mem_cons_of_mem _ h))

theorem seg_sauce (cd : Codecs F S) (sauceEqv : S → S → Prop) (d : Doc F S) (st1 : Loaded F S)
    (hsauce : ∀ s b, d.sauce = some (s, b) → ∃ s', cd.sauceDec b = .ok (some s') ∧ sauceEqv s' s) :
    ∃ s2 : Option S, Seg cd st1 (sauceChunks d) { st1 with sauce := s2 } ∧
      (∀ s b, d.sauce = some (s, b) → ∃ s', s2 = some s' ∧ sauceEqv s' s) ∧ (d.sauce = none → s2 = st1.sauce) := by
  cases hsa : d.sauce with
  | none => exact ⟨st1.sauce, by simpa [sauceChunks, hsa] using Seg.nil cd st1, nofun, fun _ => rfl⟩
  | some sb =>
    obtain ⟨s, b⟩ := sb
    obtain ⟨s', h1, h2⟩ := hsauce s b hsa
    exact ⟨some s', by simpa [sauceChunks, hsa] using Seg.one (st' := { st1 with sauce := some s' }) (by simp) (by simp [stepChunk, h1]),
      fun s0 b0 h => by cases h; exact ⟨s', rfl, h2⟩, nofun⟩

theorem seg_palette (cd : Codecs F S) (d : Doc F S) (st2 : Loaded F S) (hst : st2.palette = dosDefaultPalette)
    (hpal : cd.palDec (cd.palEnc d.palette) = .ok d.palette) :
    Seg cd st2 (paletteChunks cd d) { st2 with palette := d.palette } := by
  by_cases hp : d.palette = dosDefaultPalette
  · have : ({ st2 with palette := d.palette } : Loaded F S) = st2 := by rw [hp, ← hst]
    rw [this]; simpa [paletteChunks, hp] using Seg.nil cd st2
  · simpa [paletteChunks, hp] using Seg.one (st' := { st2 with palette := d.palette }) (by simp) (by simp [stepChunk, hpal])

/-- pairwise `≈doc` -/
def layersEq : List Layer → List Layer → Prop
  | [], [] => True
  | a :: as, b :: bs => a ≈doc b ∧ layersEq as bs
  | _, _ => False

theorem layersEq_append (a1 a2 b1 b2 : List Layer) (h1 : layersEq a1 b1) (h2 : layersEq a2 b2) :
    layersEq (a1 ++ a2) (b1 ++ b2) := by
  induction a1 generalizing b1 with
  | nil => cases b1 with
    | nil => simpa using h2
    | cons b bs => cases h1
  | cons a as ih => cases b1 with
    | nil => cases h1
    | cons b bs => exact ⟨h1.1, ih bs h1.2⟩

theorem seg_layers (cd : Codecs F S) (ls : List Layer) (hw : ∀ l ∈ ls, l.wf = true) (n : Nat) (st : Loaded F S) :
    ∃ css ls', encodeAllLayers ls = some css ∧ Seg cd st (numberLayers n css) { st with layers := st.layers ++ ls' } ∧
      layersEq ls' ls := by
  induction ls generalizing n st with
  | nil => exact ⟨[], [], rfl, by simpa [numberLayers] using Seg.nil cd st, trivial⟩
  | cons l ls ih =>
    have hl := hw l (List.mem_cons_self ..)
    have henc := encodeLayer_wf l (Layer.facts l hl).role (Layer.facts l hl).fits
    obtain ⟨l1, hmain, heq⟩ := decodeLayerMain_encode l hl
    obtain ⟨css, ls', h1, h3, h4⟩ := ih (fun l h => hw l (List.mem_cons_of_mem _ h)) (n + 1) { st with layers := st.layers ++ [l1] }
    generalize layerChunk l = c at henc hmain
    refine ⟨[c] :: css, l1 :: ls', by simp only [encodeAllLayers, henc, h1], ?_, ⟨heq, h4⟩⟩
    have := Seg.cons (a := st) (b := { st with layers := st.layers ++ [l1] }) (k := Key.layer n) (p := c) (by simp)
      (by simp only [stepChunk, hmain]) h3
    simpa [numberLayers, layerChunks] using this

end IcyVerif.IcyDraw
