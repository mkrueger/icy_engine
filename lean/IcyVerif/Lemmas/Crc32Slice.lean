import IcyVerif.Lemmas.Crc32
import IcyVerif.Lemmas.Basics
/-! C19, CRC-32: the sliced step of `get_crc32` — sixteen table look-ups xor-ed together — is sixteen byte steps (`slice_eq`),
    and the `while buf.len() >= 16` loop with its `update_slow` tail is the bitwise fold (`loop_eq`). -/
namespace IcyVerif.Crc
open IcyVerif.Gen.Crc

theorem Zn_linear (k : Nat) (a b : BitVec 32) : Zn k (a ^^^ b) = Zn k a ^^^ Zn k b := iter_linear _ Z_linear k a b
theorem Zn_succ_in (k : Nat) (x : BitVec 32) : Zn (k+1) x = Zn k (Z x) := rfl
theorem Zn_zero (k : Nat) : Zn k 0 = 0 := by
  induction k with
  | zero => rfl
  | succ k ih => rw [Zn_succ, ih]; decide +kernel

theorem term_plain (k : Nat) (hk : k < 16) (b : BitVec 8) : tab32 k b.toNat = Zn (k+1) (b.setWidth 32) := by
  rw [tab32_eq k _ hk (BitVec.isLt _)]
  congr 1
  apply BitVec.eq_of_toNat_eq
  simp

theorem term_mixed (k : Nat) (hk : k < 16) (b : BitVec 8) (r : BitVec 32) :
    tab32 k (b.toNat ^^^ (r &&& 0xFF#32).toNat) = Zn (k+1) (b.setWidth 32) ^^^ Zn (k+1) (r &&& 0xFF#32) := by
  have hlt : b.toNat ^^^ (r &&& 0xFF#32).toNat < 256 :=
    Nat.xor_lt_two_pow (n := 8) (BitVec.isLt _) (by
      have : (r &&& 0xFF#32).toNat ≤ 255 := by rw [BitVec.toNat_and]; exact Nat.and_le_right
      omega)
  rw [tab32_eq k _ hk hlt, ← Zn_linear]
  congr 1
  apply BitVec.eq_of_toNat_eq
  have h2 : (r &&& 0xFF#32).toNat < 2 ^ 32 := BitVec.isLt _
  have h1 : b.toNat < 2 ^ 32 := Nat.lt_trans (BitVec.isLt _) (by decide)
  simp

/-- contribution of the data bytes when `bs` is pushed through the register -/
def contrib : List (BitVec 8) → BitVec 32
  | [] => 0
  | b :: bs => Zn (bs.length + 1) (b.setWidth 32) ^^^ contrib bs

theorem foldl_bitUpd (bs : List (BitVec 8)) (r : BitVec 32) :
    bs.foldl bitUpd32 r = Zn bs.length r ^^^ contrib bs := by
  induction bs generalizing r with
  | nil => simp [contrib, Zn, iter]
  | cons b bs ih =>
    simp only [List.foldl, contrib, List.length_cons]
    rw [ih]
    have : bitUpd32 r b = Z (r ^^^ b.setWidth 32) := rfl
    rw [this, ← Zn_succ_in, Zn_linear, BitVec.xor_assoc]

theorem Zn16_split (r : BitVec 32) :
    Zn 16 r = Zn 16 (r &&& 0xFF#32) ^^^ Zn 15 ((r >>> 8) &&& 0xFF#32) ^^^ Zn 14 ((r >>> 16) &&& 0xFF#32)
      ^^^ Zn 13 ((r >>> 24) &&& 0xFF#32) := by
  have h32 : r >>> 8 >>> 8 >>> 8 >>> 8 = 0 := by
    apply BitVec.eq_of_getLsbD_eq
    intro j hj
    simp only [BitVec.getLsbD_ushiftRight]
    have : r.getLsbD (8 + (8 + (8 + (8 + j)))) = false := BitVec.getLsbD_of_ge _ _ (by omega)
    simp [this]
  have e16 : r >>> 16 = r >>> 8 >>> 8 := by rw [← BitVec.shiftRight_add]
  have e24 : r >>> 24 = r >>> 8 >>> 8 >>> 8 := by rw [← BitVec.shiftRight_add, ← BitVec.shiftRight_add]
  rw [e16, e24]
  rw [Zn_succ_in 15 r, Z_split r, Zn_linear]
  rw [Zn_succ_in 14 (r >>> 8), Z_split (r >>> 8), Zn_linear]
  rw [Zn_succ_in 13 (r >>> 8 >>> 8), Z_split (r >>> 8 >>> 8), Zn_linear]
  rw [Zn_succ_in 12 (r >>> 8 >>> 8 >>> 8), Z_split (r >>> 8 >>> 8 >>> 8), Zn_linear, h32, Zn_zero]
  simp only [← Zn_succ_in]
  ac_rfl

theorem slice_eq (r : BitVec 32) (b0 b1 b2 b3 b4 b5 b6 b7 b8 b9 b10 b11 b12 b13 b14 b15 : BitVec 8)
    (rest : List (BitVec 8)) :
    sliceStep r (b0 :: b1 :: b2 :: b3 :: b4 :: b5 :: b6 :: b7 :: b8 :: b9 :: b10 :: b11 :: b12 :: b13 :: b14 :: b15 :: rest)
      = [b0, b1, b2, b3, b4, b5, b6, b7, b8, b9, b10, b11, b12, b13, b14, b15].foldl bitUpd32 r := by
  -- row `k` of the table meets byte `15 - k`, which has `k` bytes behind it: `tab32 k b = Zn (k+1) b` is that byte's term of
  -- `contrib` (`term_plain`, rows 0..11); rows 12..15 also take a byte of the register (`term_mixed`), collected by `Zn16_split`
  rw [foldl_bitUpd]
  simp only [sliceStep, crc32Chain, List.foldl, chainTerm, List.getD_cons_zero, List.getD_cons_succ,
    contrib, List.length_cons, List.length_nil, if_pos, Nat.zero_ne_one,
    ite_false, Nat.reduceAdd]
  rw [term_plain 0 (by decide), term_plain 1 (by decide), term_plain 2 (by decide), term_plain 3 (by decide),
    term_plain 4 (by decide), term_plain 5 (by decide), term_plain 6 (by decide), term_plain 7 (by decide),
    term_plain 8 (by decide), term_plain 9 (by decide), term_plain 10 (by decide), term_plain 11 (by decide),
    term_mixed 12 (by decide), term_mixed 13 (by decide), term_mixed 14 (by decide)]
  have e0 : r >>> 0 = r := by simp
  rw [e0, term_mixed 15 (by decide), Zn16_split r]
  ac_rfl

theorem loop_eq (fuel : Nat) (r : BitVec 32) (buf : List (BitVec 8)) (h : buf.length ≤ fuel) :
    crc32Loop fuel r buf = ~~~ (buf.foldl bitUpd32 r) := by
  have tail : ∀ (r : BitVec 32) (buf : List (BitVec 8)),
      updateSlow (if crc32TailNot then ~~~ r else r) buf = ~~~ (buf.foldl bitUpd32 r) := by
    intro r buf
    have : crc32TailNot = true := rfl
    simp only [this, if_true, updateSlow, BitVec.not_not]
    rw [slowStep_fun]
  induction fuel generalizing r buf with
  | zero => simp only [crc32Loop]; exact tail r buf
  | succ fuel ih =>
    simp only [crc32Loop]
    split
    · rename_i hge
      have hb : crc32Block = 16 := rfl
      have ha : crc32Advance = 16 := rfl
      rw [hb] at hge
      rw [ha]
      obtain ⟨b0, b1, b2, b3, t, rfl, h12⟩ := Basics.exists_cons4 (n := 12) hge
      obtain ⟨b4, b5, b6, b7, t, rfl, h8⟩ := Basics.exists_cons4 (n := 8) h12
      obtain ⟨b8, b9, b10, b11, t, rfl, h4⟩ := Basics.exists_cons4 (n := 4) h8
      obtain ⟨b12, b13, b14, b15, rest, rfl, _⟩ := Basics.exists_cons4 (n := 0) h4
      simp only [List.drop_succ_cons, List.drop_zero]
      rw [slice_eq, ih _ _ (by simp only [List.length_cons] at h; omega)]
      simp only [List.foldl]
    · exact tail r buf

end IcyVerif.Crc
