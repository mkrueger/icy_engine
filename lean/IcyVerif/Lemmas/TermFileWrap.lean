import IcyVerif.Lemmas.TermFileStep
import IcyVerif.Model.TermFileWrap
import IcyVerif.Model.TermFileOther
/-! # Avatar / PCBoard / Ctrl-A / Renegade and ASCII / ATASCII / PETSCII on a file buffer keep the invariant
The wrappers: `FGood` of the wrapped ANSI state, through `stepF_good` for a character handed on and `limitF_spec` for a
cursor move.  The byte-oriented emulations: the geometric part of `FGood` (`FOGood`).  Each step is one `arms` over the
facts registered as `fgood`; what `simp` leaves is arithmetic on the cursor. -/
namespace IcyVerif.TermFile
open IcyVerif.Term

/-- the wrappers keep a few flags of their own in front of the ANSI state; only that state matters -/
def FWGood (w : FWSt) : Prop := FGood w.inner
abbrev FWGoodR (r : FWSt × Out) : Prop := FWGood r.1

@[fgood] theorem fwGood_iff (w : FWSt) : FWGood w ↔ FGood w.inner := Iff.rfl

theorem wcfg_music : wcfg.musicOpt = 0 := rfl

@[fgood] theorem innerF_good (w : FWSt) (o : Nat → Orc) (ch : Char) (h : FWGood w) : Holds NoErr (innerF w o ch) FWGoodR := by
  unfold innerF
  obtain ⟨r, hs, h2⟩ := Holds.isOk (stepF_good wcfg o w.inner ch wcfg_music h)
  rw [hs]
  exact h2

@[fgood] theorem fwlimit_good (w : FWSt) (c : Car) (out : Out) (h : FGood w.inner) : Holds NoErr (fwlimit w c out) FWGoodR := by
  unfold fwlimit
  obtain ⟨c', hlc, hl⟩ := Holds.isOk (limitF_spec w.inner.s c h.1)
  rw [hlc]
  exact ⟨h.1, hl.1, h.2.2⟩

theorem avtRepeatF_good (o : Nat → Orc) (ch : Char) : ∀ (n : Nat) (w : FWSt), FWGood w → Holds NoErr (avtRepeatF o ch n w) FWGoodR := by
  intro n
  induction n with
  | zero => intro w h; exact h
  | succ n ih =>
    intro w h
    unfold avtRepeatF
    obtain ⟨⟨st, out⟩, hs, h2⟩ := Holds.isOk (stepF_good wcfg o w.inner ch wcfg_music h)
    rw [hs]
    cases out with
    | err => exact h2
    | ok => exact ih _ h2
    | resize => exact ih _ h2

/-- `FWGood` reads the wrapped state only; in the steps below `simp` sees this through `fwGood_iff` -/
theorem fwgood_inner (w w' : FWSt) (h : FWGood w) (hi : w'.inner = w.inner) : FWGood w' := by
  unfold FWGood at *; rw [hi]; exact h

theorem avtRepeat_end_good {r : FWR} (h : Holds NoErr r FWGoodR) :
    Holds NoErr (match r with
      | .ok (w', .err) => .ok (w', .err)
      | .ok (w', _) => .ok ({ w' with avt := .chars }, .ok)
      | .error e => .error e) FWGoodR := by
  cases r with
  | error e => exact h.elim
  | ok p => obtain ⟨w', out⟩ := p; cases out <;> exact h

theorem avatarStepF_good (w : FWSt) (o : Nat → Orc) (ch : Char) (h : FWGood w) : Holds NoErr (avatarStepF w o ch) FWGoodR := by
  have hr : FWGood { w with avt := .repeatChars 3 } := h
  have := capY_hi; have := h.1.tw1; have := h.1.tw2
  simp only [fgood] at h
  unfold avatarStepF
  simp only [add1_ok _ w.inner.c.x (by omega), add1_ok _ w.inner.c.y (by omega), if_neg (show ¬ w.inner.c.y - 1 < -2147483648 by omega)]
  arms with exact avtRepeat_end_good (avtRepeatF_good _ _ _ _ hr)
  -- the wrapper's own flags, `fwlimit` (cursor moves), the ANSI step
  all_goals simp only [fgood, h]
  -- what remains is the column `min (tw - 1) (x + 1)` of `^V^F` (cursor right)
  all_goals omega

theorem pcboardStepF_good (w : FWSt) (o : Nat → Orc) (ch : Char) (h : FWGood w) : Holds NoErr (pcboardStepF w o ch) FWGoodR := by
  simp only [fgood] at h
  unfold pcboardStepF
  simp only [fgood, h]

theorem renegadeStepF_good (w : FWSt) (o : Nat → Orc) (ch : Char) (h : FWGood w) : Holds NoErr (renegadeStepF w o ch) FWGoodR := by
  simp only [fgood] at h
  unfold renegadeStepF
  simp only [fgood, h]

/-- Ctrl-A `A`: a literal `^A` goes to the ANSI parser, its verdict is dropped -/
theorem stepDrop_good (w : FWSt) {r : FR} (h : Holds NoErr r FGoodR) :
    Holds NoErr (match r with
      | .ok (st, _) => .ok ({ w with inner := st }, .ok)
      | .error e => .error e) FWGoodR := by
  cases r with
  | error e => exact h.elim
  | ok p => exact h

theorem ctrlaStepF_good (w : FWSt) (o : Nat → Orc) (ch : Char) (h : FWGood w) : Holds NoErr (ctrlaStepF w o ch) FWGoodR := by
  have hh : FGood w.inner := h
  simp only [fgood] at h
  unfold ctrlaStepF
  arms with exact stepDrop_good _ (stepF_good wcfg o _ _ wcfg_music hh)
  -- updated records, `fwlimit`, the ANSI step
  all_goals simp only [fgood, h]

theorem fwstep_good (e : Emu) (o : Nat → Orc) (w : FWSt) (ch : Char) (h : FWGood w) : Holds NoErr (fwstep e o w ch) FWGoodR := by
  unfold fwstep
  cases e with
  | avatar => exact avatarStepF_good w o ch h
  | pcboard => exact pcboardStepF_good w o ch h
  | ctrla => exact ctrlaStepF_good w o ch h
  | renegade => exact renegadeStepF_good w o ch h

theorem fwrunI_good (e : Emu) (o : Nat → Orc) : ∀ (cs : List Char) (i : Nat) (w : FWSt), FWGood w → Holds NoErr (fwrunI e o i w cs) FWGood := by
  intro cs
  induction cs with
  | nil => intro i w h; exact h
  | cons ch rest ih =>
    intro i w h
    unfold fwrunI
    obtain ⟨r, hs, h2⟩ := Holds.isOk (fwstep_good e (fun _ => o i) w ch h)
    rw [hs]
    exact ih (i + 1) r.1 h2

theorem fwrun_good (e : Emu) (o : Nat → Orc) (cs : List Char) (w : FWSt) (h : FWGood w) : Holds NoErr (fwrun e o w cs) FWGood :=
  fwrunI_good e o cs 0 w h

/-- the byte-oriented emulations have no hyperlinks and no music states: the geometric part of `FGood` -/
def FOGood (st : FOSt) : Prop := ScrF st.s ∧ CarF st.c ∧ RowsF st.r
abbrev FOGoodR (r : FOSt × Out) : Prop := FOGood r.1

@[fgood] theorem foGood_iff (st : FOSt) : FOGood st ↔ ScrF st.s ∧ CarF st.c ∧ RowsF st.r := Iff.rfl
@[fgood] theorem foret_good_iff (st : FOSt) (o : Out) : Holds NoErr (foret st o) FOGoodR ↔ FOGood st := Iff.rfl
attribute [fgood] bsF clearScreenO

@[fgood] theorem foliftC_limitF_good (st : FOSt) (s : Scr) (c : Car) (hs : ScrF s) (h : FOGood st) :
    Holds NoErr (foliftC st (limitF s c)) FOGoodR := by
  obtain ⟨c', hlc, hl⟩ := Holds.isOk (limitF_spec s c hs)
  rw [hlc]
  exact ⟨h.1, hl.1, h.2.2⟩

@[fgood] theorem foliftCR_good (st : FOSt) (r : Res (Car × Rows)) (h : FOGood st) (hr : Holds NoErr r CRGood) :
    Holds NoErr (foliftCR st r) FOGoodR := by
  cases r with
  | error e => exact hr.elim
  | ok p => exact ⟨h.1, hr.1, hr.2⟩

@[fgood] theorem printValueF_holds (st : FOSt) (v : Nat) (h : FOGood st) : Holds NoErr (printValueF st v) FOGoodR := by
  unfold printValueF
  exact Holds.ite' h (foliftCR_good _ _ h (printCharF_spec _ _ _ h.1 h.2.1 h.2.2))
theorem printValueF_good (st : FOSt) (v : Nat) (h : FOGood st) : okAnd (printValueF st v) FOGoodR :=
  okAnd_iff.2 (printValueF_holds st v h)

/-- priority `high`: otherwise `simp` first unfolds `FOGood (shiftModeF st m)` by `foGood_iff` and is left with the `if` -/
@[fgood high] theorem shiftModeF_good (st : FOSt) (m : Bool) (h : FOGood st) : FOGood (shiftModeF st m) := by
  unfold shiftModeF
  split
  · exact h
  · exact ⟨h.1, h.2.1, rowsF_of_lw h.2.2 (touchRect_lw ..)⟩

theorem asciiStepF_good (st : FOSt) (ch : Char) (h : FOGood st) : Holds NoErr (asciiStepF st ch) FOGoodR := by
  simp only [fgood] at h
  unfold asciiStepF
  -- updated records, `lfF`, `printCharF` through `printValueF_holds`
  simp only [fgood, h]

theorem atasciiStepF_good (st : FOSt) (ch : Char) (h : FOGood st) : Holds NoErr (atasciiStepF st ch) FOGoodR := by
  have ⟨hs, ⟨_, _, y0, _⟩, _⟩ := h
  simp only [fgood] at h
  unfold atasciiStepF
  simp only [fgood, h, upF, downF, leftF, rightF, lineOpPanics_false _ _ hs y0]

theorem petsciiStepF_good (st : FOSt) (ch : Char) (h : FOGood st) : Holds NoErr (petsciiStepF st ch) FOGoodR := by
  have ⟨hs, ⟨_, _, y0, _⟩, _⟩ := h
  simp only [fgood] at h
  unfold petsciiStepF
  simp only [upF, downF, leftF, rightF, lineOpPanics_false _ _ hs y0, if_false]
  arms
  all_goals simp only [fgood, h]

theorem fostep_good (e : FEmu2) (st : FOSt) (ch : Char) (h : FOGood st) : Holds NoErr (fostep e st ch) FOGoodR := by
  unfold fostep
  cases e with
  | ascii => exact asciiStepF_good st ch h
  | atascii => exact atasciiStepF_good st ch h
  | petscii => exact petsciiStepF_good st ch h

theorem forun_good (e : FEmu2) : ∀ (cs : List Char) (st : FOSt), FOGood st → Holds NoErr (forun e st cs) FOGood := by
  intro cs
  induction cs with
  | nil => intro st h; exact h
  | cons ch rest ih =>
    intro st h
    unfold forun
    obtain ⟨r, hs, h2⟩ := Holds.isOk (fostep_good e st ch h)
    rw [hs]
    exact ih r.1 h2

theorem initFO_good (w h tabW : Int) (rows : Array Nat) (hw1 : 1 ≤ w) (hw2 : w ≤ 1000) (hh0 : 0 ≤ h) (hh2 : h ≤ 65535) :
    FOGood (initFO w h tabW rows) :=
  ⟨initScrF_F w h tabW hw1 hw2 hh0 hh2, carF_home _, hw2⟩

end IcyVerif.TermFile
