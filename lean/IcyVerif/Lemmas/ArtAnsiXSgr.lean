import IcyVerif.Lemmas.ArtAnsiSgr
/-! # `sgr_syncX`, `sgr_sync`: writer state and reader stay in step (C04)

`RelX` relates the writer's `AnsiState` to the reader's caret attribute and palette in RGB terms: the reader's index resolves,
in the reader's palette, to the colour the state records.  The reader's palette only grows (`insert_color`), so every fact is
monotone in it.  Each block of `get_color` moves the reader as it moves the state: the flag blocks for any `FlagNeutral`
relation, both colour blocks through `col_spec`.  16 colours are the DOS-palette case: `RelS` is `RelX` there plus low reader
indices (`relS_iff`), which is where the exact indices of `sgr_sync` come from. -/
namespace IcyVerif.ArtIO
open IcyVerif.Gen.Art

/-- the reader's caret attribute `A` is what the writer's state `st` stands for (16 colours).  `ic` = the reader is in iCE
    mode (a blinking caret attribute prints a bright background); `k` = the blink flag the recorded background colour was
    written under (`st.isBlink` between two cells; inside `get_color` the blink block may run ahead of the colour) -/
structure RelS (ic k : Bool) (st : AnsiState) (A : Attr) : Prop where
  fl : A.fl = stFlags st
  fgl : A.fg < 8
  bgl : A.bg < 8
  idx : st.isBold = false → st.fgIdx = A.fg
  cf : st.fg = getRgb dosPalette (A.fg + if st.isBold then 8 else 0)
  cb : st.bg = getRgb dosPalette (A.bg + if (ic && k) = true then 8 else 0)
  bi : st.bgIdx = A.bg

/-- foreground part: `b` = bold, `fg` / `fgIdx` = the state's colour and index, `a` = the reader's foreground index -/
structure FgRel (b : Bool) (fg : Rgb) (fgIdx : Nat) (a : Nat) (P : List Rgb) : Prop where
  lt : a < P.length
  idx : b = false → ∀ j, dosIndex fg = some j → fgIdx = j ∧ a = j
  col : fg = pget P (if (b && decide (a < 8)) = true then a + 8 else a)

/-- background part: `k` = the blink flag the colour was written under (in iCE mode blink + low colour = bright colour) -/
structure BgRel (ic k : Bool) (bg : Rgb) (a : Nat) (P : List Rgb) : Prop where
  lt : a < P.length
  col : bg = pget P (if (ic && k && decide (a < 8)) = true then a + 8 else a)

/-- `RelS` in RGB terms: the reader's colour indices resolve in its palette `P` to the colours the state records, and the DOS
    prefix of `P` is intact (`ic`, `k` as in `RelS`) -/
structure RelX (ic k : Bool) (st : AnsiState) (A : Attr) (P : List Rgb) : Prop where
  fl : A.fl = stFlags st
  dp : DosPre P
  fg : FgRel st.isBold st.fg st.fgIdx A.fg P
  bg : BgRel ic k st.bg A.bg P

/-- what `FgRel` and `BgRel` share and the colour blocks work with (`toCol`): `BgRel ic k` is `ColRel (ic && k)`, `FgRel b` is
    `ColRel b` plus the clause `idx`.  The reader's index `a` resolves in `P` to `col`, where `shift` (bold for the foreground,
    iCE blink for the background) turns a low index into the bright one -/
structure ColRel (shift : Bool) (col : Rgb) (a : Nat) (P : List Rgb) : Prop where
  lt : a < P.length
  col : col = pget P (if (shift && decide (a < 8)) = true then a + 8 else a)

theorem FgRel.toCol {b : Bool} {fg : Rgb} {fgIdx a : Nat} {P : List Rgb} (h : FgRel b fg fgIdx a P) : ColRel b fg a P := ⟨h.lt, h.col⟩

theorem BgRel.toCol {ic k : Bool} {bg : Rgb} {a : Nat} {P : List Rgb} (h : BgRel ic k bg a P) : ColRel (ic && k) bg a P := ⟨h.lt, h.col⟩

theorem ColRel.mono {s : Bool} {col : Rgb} {a : Nat} {P Q : List Rgb} (h : ColRel s col a P) (hp : DosPre P) (hq : P <+: Q) : ColRel s col a Q := by
  obtain ⟨h1, h3⟩ := h
  have hl := hq.length_le
  have h16 := hp.len
  refine ⟨by omega, ?_⟩
  rw [h3]
  symm
  apply pget_prefix hq
  split
  · rename_i hc
    simp only [Bool.and_eq_true, decide_eq_true_eq] at hc
    omega
  · exact h1

theorem relX_default (ic : Bool) (st : AnsiState) (P : List Rgb) (hp : DosPre P) : RelX ic false (stReset st) defaultAttr P := by
  have h16 := hp.len
  refine ⟨rfl, hp, ⟨?_, ?_, ?_⟩, ⟨?_, ?_⟩⟩
  · show 7 < P.length; omega
  · intro _ j hj
    have : dosIndex (dosPalette.getD 7 (0, 0, 0)) = some 7 := by decide
    have e : (stReset st).fg = dosPalette.getD 7 (0, 0, 0) := rfl
    rw [e, this] at hj
    simp only [Option.some.injEq] at hj
    subst hj
    exact ⟨rfl, rfl⟩
  · show dosPalette.getD 7 (0, 0, 0) = pget P (if (false && decide (7 < 8)) = true then 7 + 8 else 7)
    simp only [Bool.false_and, Bool.false_eq_true, if_false]
    rw [hp.get (by omega)]; decide
  · show 0 < P.length; omega
  · show dosPalette.getD 0 (0, 0, 0) = pget P (if (ic && false && decide (0 < 8)) = true then 0 + 8 else 0)
    simp only [Bool.and_false, Bool.false_and, Bool.false_eq_true, if_false]
    rw [hp.get (by omega)]; decide

/-- what `RelS` says beyond `RelX dosPalette`: the reader's indices are low (bright = flag), `bg_idx` is the reader's background -/
structure Inv16 (st : AnsiState) (A : Attr) : Prop where
  fgl : A.fg < 8
  bgl : A.bg < 8
  bi : st.bgIdx = A.bg

theorem relS_iff (ic k : Bool) (st : AnsiState) (A : Attr) : RelS ic k st A ↔ RelX ic k st A dosPalette ∧ Inv16 st A := by
  have hg : ∀ i, i < 16 → pget dosPalette i = getRgb dosPalette i := fun i hi => (getRgb_eq_pget _ _ (by omega)).symm
  have h16 : dosPalette.length = 16 := by decide
  have hb : ∀ (b : Bool) (a : Nat), a < 8 → (if (b && decide (a < 8)) = true then a + 8 else a) = a + if b = true then 8 else 0 := by
    intro b a ha; cases b <;> simp [ha]
  constructor
  · intro ⟨fl, fgl, bgl, idx, cf, cb, bi⟩
    refine ⟨⟨fl, dosPre_refl, ⟨by omega, fun hb' j hj => ?_, ?_⟩, ⟨by omega, ?_⟩⟩, fgl, bgl, bi⟩
    · rw [cf, hb', if_neg (by decide), Nat.add_zero, dos_index _ (by omega)] at hj
      cases hj; exact ⟨idx hb', rfl⟩
    · rw [cf, hb _ _ fgl, hg _ (by split <;> omega)]
    · rw [cb, hb _ _ bgl, hg _ (by split <;> omega)]
  · intro ⟨⟨fl, _, ⟨_, idx, fcol⟩, ⟨_, bcol⟩⟩, fgl, bgl, bi⟩
    rw [hb _ _ fgl, hg _ (by split <;> omega)] at fcol
    rw [hb _ _ bgl, hg _ (by split <;> omega)] at bcol
    refine ⟨fl, fgl, bgl, fun hb' => ?_, fcol, bcol, bi⟩
    rw [hb', if_neg (by decide), Nat.add_zero] at fcol
    exact (idx hb' _ (by rw [fcol]; exact dos_index _ (by omega))).1

/-- between two blocks of `get_color`: the parameters pushed so far are simple and take the reader from `A0` to an attribute
    in relation `Q` to the state -/
structure GcInv (Q : AnsiState → Attr → Prop) (A0 : Attr) (x : GcAcc) : Prop where
  simple : AllSimple x.2
  rel : Q x.1 (sgrSimple A0 x.2)

/-- `Q` is indexed by the blink flag the recorded background was written under -/
theorem gcReset_inv (Q : Bool → AnsiState → Attr → Prop) (t : GcTarget) (st : AnsiState) (A0 : Attr)
    (hdef : Q false (stReset st) defaultAttr) (h : Q st.isBlink st A0) :
    GcInv (Q (gcReset t st).1.isBlink) A0 (gcReset t st) := by
  unfold gcReset
  by_cases hr : gcNeedReset t st = true
  · rw [if_pos hr]
    exact ⟨allSimple_snoc allSimple_nil ⟨by decide, by decide, fun _ => rfl⟩ (by decide), hdef⟩
  · rw [if_neg hr]
    exact ⟨allSimple_nil, h⟩

/-- a block of the shape `if cond { sgr.push(k); state = upS(state) }` keeps the simulation when the reader's reaction to
    `k` (`upA`) matches `upS` -/
theorem flag_stage {Q : AnsiState → Attr → Prop} (A0 : Attr) (x : GcAcc) (cond : Bool) (k : Nat) (upS : AnsiState → AnsiState)
    (upA : Attr → Attr) (hk : k < 38) (hone : ∀ a, sgrOne a k = some (upA a))
    (hrel : cond = true → Q x.1 (sgrSimple A0 x.2) → Q (upS x.1) (upA (sgrSimple A0 x.2)))
    (h : GcInv Q A0 x) : GcInv Q A0 (if cond = true then (upS x.1, x.2 ++ [k]) else x) := by
  by_cases hc : cond = true
  · rw [if_pos hc]
    refine ⟨allSimple_snoc h.simple ⟨by omega, by omega, fun a => by rw [hone a]; rfl⟩ (by omega), ?_⟩
    show Q (upS x.1) (sgrSimple A0 (x.2 ++ [k]))
    rw [sgrSimple_append]
    have : sgrSimple (sgrSimple A0 x.2) [k] = upA (sgrSimple A0 x.2) := by
      simp [sgrSimple, hone]
    rw [this]
    exact hrel hc h.rel
  · rw [if_neg hc]; exact h

/-- `Q` sees the state's flags only through `stFlags` (bold apart, which the colours depend on); holds of `RelS` and of
    `RelX`, and is all it takes to carry `Q` through the seven plain flag blocks -/
def FlagNeutral (Q : AnsiState → Attr → Prop) : Prop :=
  ∀ (st st' : AnsiState) (A : Attr) (f : Flags → Flags), st'.fg = st.fg → st'.bg = st.bg → st'.fgIdx = st.fgIdx →
    st'.bgIdx = st.bgIdx → st'.isBold = st.isBold → (A.fl = stFlags st → f A.fl = stFlags st') → Q st A → Q st' { A with fl := f A.fl }

theorem plain_stage {Q : AnsiState → Attr → Prop} (hQ : FlagNeutral Q) (A0 : Attr) (x : GcAcc) (cond : Bool) (k : Nat)
    (upS : AnsiState → AnsiState) (f : Flags → Flags) (hk : k < 38)
    (hone : ∀ a, sgrOne a k = some { a with fl := f a.fl })
    (hS : ∀ st, (upS st).fg = st.fg ∧ (upS st).bg = st.bg ∧ (upS st).fgIdx = st.fgIdx ∧ (upS st).bgIdx = st.bgIdx ∧
      (upS st).isBold = st.isBold ∧ stFlags (upS st) = f (stFlags st))
    (h : GcInv Q A0 x) : GcInv Q A0 (if cond = true then (upS x.1, x.2 ++ [k]) else x) :=
  flag_stage A0 x cond k upS (fun a => { a with fl := f a.fl }) hk hone
    (fun _ R => by
      obtain ⟨s1, s2, s3, s4, s5, s6⟩ := hS x.1
      exact hQ _ _ _ f s1 s2 s3 s4 s5 (fun e => by rw [e, s6]) R) h

section plain
variable {Q : AnsiState → Attr → Prop} (hQ : FlagNeutral Q) (t : GcTarget) (A0 : Attr) (x : GcAcc)
include hQ

theorem gcFaint_inv (h : GcInv Q A0 x) : GcInv Q A0 (gcFaint t x) :=
  plain_stage hQ A0 x (t.faint && !x.1.isFaint) 2 (fun st => { st with isFaint := true }) (fun fl => { fl with faint := true })
    (by omega) (fun _ => rfl) (fun _ => ⟨rfl, rfl, rfl, rfl, rfl, rfl⟩) h

theorem gcItalic_inv (h : GcInv Q A0 x) : GcInv Q A0 (gcItalic t x) :=
  plain_stage hQ A0 x (t.italic && !x.1.isItalic) 3 (fun st => { st with isItalic := true }) (fun fl => { fl with italic := true })
    (by omega) (fun _ => rfl) (fun _ => ⟨rfl, rfl, rfl, rfl, rfl, rfl⟩) h

theorem gcUnderline_inv (h : GcInv Q A0 x) : GcInv Q A0 (gcUnderline t x) :=
  plain_stage hQ A0 x (t.underline && !x.1.isUnderlined) 4 (fun st => { st with isUnderlined := true })
    (fun fl => { fl with underline := true }) (by omega) (fun _ => rfl) (fun _ => ⟨rfl, rfl, rfl, rfl, rfl, rfl⟩) h

theorem gcBlink_inv (h : GcInv Q A0 x) : GcInv Q A0 (gcBlink t x) :=
  plain_stage hQ A0 x (t.blink && !x.1.isBlink) 5 (fun st => { st with isBlink := true }) (fun fl => { fl with blink := true })
    (by omega) (fun a => by simp [sgrOne]) (fun _ => ⟨rfl, rfl, rfl, rfl, rfl, rfl⟩) h

theorem gcConceal_inv (h : GcInv Q A0 x) : GcInv Q A0 (gcConceal t x) :=
  plain_stage hQ A0 x (t.conceal && !x.1.isConcealed) 8 (fun st => { st with isConcealed := true })
    (fun fl => { fl with conceal := true }) (by omega) (fun _ => rfl) (fun _ => ⟨rfl, rfl, rfl, rfl, rfl, rfl⟩) h

theorem gcCrossed_inv (h : GcInv Q A0 x) : GcInv Q A0 (gcCrossed t x) :=
  plain_stage hQ A0 x (t.crossed && !x.1.isCrossedOut) 9 (fun st => { st with isCrossedOut := true })
    (fun fl => { fl with crossed := true }) (by omega) (fun _ => rfl) (fun _ => ⟨rfl, rfl, rfl, rfl, rfl, rfl⟩) h

theorem gcDUnderline_inv (h : GcInv Q A0 x) : GcInv Q A0 (gcDUnderline t x) :=
  plain_stage hQ A0 x (t.dunderline && !x.1.isDoubleUnderlined) 21 (fun st => { st with isDoubleUnderlined := true })
    (fun fl => { fl with dunderline := true }) (by omega) (fun _ => rfl) (fun _ => ⟨rfl, rfl, rfl, rfl, rfl, rfl⟩) h

end plain

theorem afterFlags_inv {Q : AnsiState → Attr → Prop} (hQ : FlagNeutral Q) (t : GcTarget) (A0 : Attr) (x : GcAcc)
    (h : GcInv Q A0 (gcBold t x)) : GcInv Q A0 (afterFlags t x) :=
  gcDUnderline_inv hQ t A0 _ (gcCrossed_inv hQ t A0 _ (gcConceal_inv hQ t A0 _ (gcBlink_inv hQ t A0 _ (gcUnderline_inv hQ t A0 _
    (gcItalic_inv hQ t A0 _ (gcFaint_inv hQ t A0 _ h))))))

theorem relX_flagNeutral (ic k : Bool) (P : List Rgb) : FlagNeutral (fun st A => RelX ic k st A P) := by
  intro st st' A f e1 e2 e3 e4 e5 e6 ⟨fl, dp, fg, bg⟩
  exact ⟨e6 fl, dp, by rw [e5, e1, e3]; exact fg, by rw [e2]; exact bg⟩

theorem inv16_flagNeutral : FlagNeutral Inv16 := fun _ _ _ _ _ _ _ e4 _ _ h => ⟨h.fgl, h.bgl, e4.trans h.bi⟩

/-- the state after `sgr.push(1)`: bold, and the DOS colour the terminal is on is now its bright counterpart -/
def boldSt (st : AnsiState) : AnsiState :=
  { st with fgIdx := st.fgIdx + 8, fg := if st.fgIdx + 8 < 16 then dosPalette.getD (st.fgIdx + 8) (0, 0, 0) else st.fg, isBold := true }

theorem gcBold_invX (t : GcTarget) (A0 : Attr) (P0 : List Rgb) (ic kb : Bool) (x : GcAcc) (hn : NoCustom t x.1)
    (h : GcInv (fun st A => RelX ic kb st A P0) A0 x) : GcInv (fun st A => RelX ic kb st A P0) A0 (gcBold t x) := by
  unfold gcBold
  refine flag_stage A0 x (t.bold && !x.1.isBold) 1 boldSt (fun a => { a with fl := { a.fl with bold := true } }) (by omega)
    (fun _ => rfl) ?_ h
  intro hc R
  have hb : x.1.isBold = false := by
    cases hq : x.1.isBold with
    | false => rfl
    | true => simp [hq] at hc
  have htb : t.bold = true := by
    cases hq : t.bold with
    | true => rfl
    | false => simp [hq] at hc
  obtain ⟨fl, dp, ⟨flt, fidx, fcol⟩, bg⟩ := R
  have h16 := dp.len
  -- the state's colour is a DOS colour (otherwise the reset block ran)
  have hsome := hn htb hb
  cases hj : dosIndex x.1.fg with
  | none => rw [hj] at hsome; cases hsome
  | some j =>
    obtain ⟨i1, i2⟩ := fidx hb j hj
    obtain ⟨j16, jcol⟩ := dosIndex_some hj
    refine ⟨?_, dp, ⟨flt, fun h' => (by cases h'), ?_⟩, bg⟩
    · show ({ (sgrSimple A0 x.2).fl with bold := true } : Flags) = _
      rw [fl]; rfl
    · show (if x.1.fgIdx + 8 < 16 then dosPalette.getD (x.1.fgIdx + 8) (0, 0, 0) else x.1.fg) =
        pget P0 (if (true && decide ((sgrSimple A0 x.2).fg < 8)) = true then (sgrSimple A0 x.2).fg + 8 else (sgrSimple A0 x.2).fg)
      rw [i1, i2]
      by_cases j8 : j < 8
      · have e1 : j + 8 < 16 := by omega
        simp only [e1, if_true, Bool.true_and, j8, decide_true]
        rw [dp.get e1]
        have : ∀ f < 8, dosPalette.getD (f + 8) (0, 0, 0) = getRgb dosPalette (f + 8) := by decide
        exact this j j8
      · have e1 : ¬ (j + 8 < 16) := by omega
        simp only [e1, if_false, Bool.true_and, j8, decide_false, Bool.false_eq_true]
        rw [fcol, hb, i2]
        simp

theorem gcBold_inv16 (t : GcTarget) (A0 : Attr) (x : GcAcc) (h : GcInv Inv16 A0 x) : GcInv Inv16 A0 (gcBold t x) :=
  flag_stage A0 x (t.bold && !x.1.isBold) 1 boldSt (fun a => { a with fl := { a.fl with bold := true } }) (by omega) (fun _ => rfl)
    (fun _ R => ⟨R.fgl, R.bgl, R.bi⟩) h

theorem act_insert (isFg : Bool) (C : ColOut) (cur st : Rgb) (idx : Option Nat) (hC : ColFacts C cur st idx)
    (hb : cur.1 < 256 ∧ cur.2.1 < 256 ∧ cur.2.2 < 256) (hk : C ≠ .keep) (hd : ∀ i, C ≠ .dos i) (R : RdSt) :
    idx = none ∧ ∃ r : List Rgb × Nat, C.act isFg R = (putCol isFg R.1 r.2, r.1) ∧ r.2 < r.1.length ∧ pget r.1 r.2 = cur := by
  cases C with
  | keep => exact absurd rfl hk
  | dos i => exact absurd rfl (hd i)
  | x256 e =>
    obtain ⟨h1, _, h3⟩ := hC
    refine ⟨h1, insertColor R.2 (xtermPalette.getD e (0, 0, 0)), rfl, insertColor_lt _ _, ?_⟩
    rw [insertColor_get, h3]
  | tc c =>
    obtain ⟨h1, h2⟩ := hC
    subst h2
    refine ⟨h1, insertColor R.2 (c.1 % 256, c.2.1 % 256, c.2.2 % 256), rfl, insertColor_lt _ _, ?_⟩
    rw [insertColor_get, rgb_mod c hb]

/-- outside the DOS prefix neither bold nor the iCE blink shifts the index -/
theorem act_insert_high (isFg : Bool) (C : ColOut) (cur st : Rgb) (idx : Option Nat) (hC : ColFacts C cur st idx)
    (hlow : idx = none → ∀ j < 8, getRgb dosPalette j ≠ cur)
    (hb : cur.1 < 256 ∧ cur.2.1 < 256 ∧ cur.2.2 < 256) (hk : C ≠ .keep) (hd : ∀ i, C ≠ .dos i) (R : RdSt) (hp : DosPre R.2) :
    idx = none ∧ ∃ r : List Rgb × Nat, C.act isFg R = (putCol isFg R.1 r.2, r.1) ∧ r.2 < r.1.length ∧ pget r.1 r.2 = cur ∧ ¬ r.2 < 8 := by
  obtain ⟨hn, r, e1, e2, e3⟩ := act_insert isFg C cur st idx hC hb hk hd R
  refine ⟨hn, r, e1, e2, e3, fun q => ?_⟩
  have hpr : DosPre r.1 := by
    have := (act_pal isFg C R).1
    rw [e1] at this
    exact hp.mono this
  have := hpr.get (by omega : r.2 < 16)
  rw [e3] at this
  exact hlow hn r.2 q this.symm

def getCol : Bool → Attr → Nat
  | true, A => A.fg
  | false, A => A.bg

/-- one colour block, foreground or background alike.  `hidx`: the index `gcTarget` hands over is the low index of a DOS
    colour `i0`, bright exactly under `shift` -/
theorem col_spec (isFg : Bool) (C : ColOut) (cur st0 : Rgb) (idx : Option Nat) (hC : ColFacts C cur st0 idx) (shift : Bool)
    (hidx : ∀ i, idx = some i → ∃ i0, dosIndex cur = some i0 ∧ i < 8 ∧ i + (if shift = true then 8 else 0) = i0)
    (hnone : idx = none → ∀ j < 8, getRgb dosPalette j ≠ cur)
    (hb : cur.1 < 256 ∧ cur.2.1 < 256 ∧ cur.2.2 < 256)
    (R : RdSt) (hp : DosPre R.2) (hold : C = .keep → ColRel shift st0 (getCol isFg R.1) R.2) :
    ColRel shift cur (getCol isFg (C.act isFg R).1) (C.act isFg R).2 := by
  have h16 := hp.len
  have hget : ∀ (A : Attr) (i : Nat), getCol isFg (putCol isFg A i) = i := by intro A i; cases isFg <;> rfl
  by_cases hk : C = .keep
  · have := hold hk
    subst hk
    rw [← show cur = st0 from hC] at this
    exact this
  by_cases hd : ∃ i, C = .dos i
  · obtain ⟨i, rfl⟩ := hd
    obtain ⟨i0, d1, d2, d3⟩ := hidx i hC
    obtain ⟨i16, icol⟩ := dosIndex_some d1
    show ColRel shift cur (getCol isFg (putCol isFg R.1 i)) R.2
    rw [hget]
    refine ⟨by omega, ?_⟩
    have e : (if (shift && decide (i < 8)) = true then i + 8 else i) = i0 := by
      rw [← d3]; cases shift <;> simp [d2]
    rw [e, hp.get i16, icol]
  · obtain ⟨_, r, e1, e2, e3, h8⟩ := act_insert_high isFg C cur st0 idx hC hnone hb hk (fun i q => hd ⟨i, q⟩) R hp
    rw [e1]
    show ColRel shift cur (getCol isFg (putCol isFg R.1 r.2)) r.1
    rw [hget]
    refine ⟨e2, ?_⟩
    simp [h8, e3]

/-- the clause `FgRel` has beyond `ColRel` -/
theorem fg_idx (C : ColOut) (cur st0 : Rgb) (idx : Option Nat) (hC : ColFacts C cur st0 idx) (fgIdx0 fgc : Nat)
    (hidx : ∀ i, idx = some i → ∃ i0, dosIndex cur = some i0 ∧ i < 8 ∧ i + 0 = i0) (hnone : idx = none → dosIndex cur = none)
    (R : RdSt) (hold : C = .keep → ∀ j, dosIndex st0 = some j → fgIdx0 = j ∧ R.1.fg = j) (j : Nat) (hj : dosIndex cur = some j) :
    C.fgIdx fgIdx0 fgc false = j ∧ (C.act true R).1.fg = j := by
  cases C with
  | keep => exact hold rfl j (by rw [← show cur = st0 from hC]; exact hj)
  | dos i =>
    obtain ⟨i0, d1, _, d3⟩ := hidx i hC
    rw [d1] at hj
    cases hj
    exact ⟨d3, d3⟩
  | x256 e => rw [hnone hC.1] at hj; cases hj
  | tc c => rw [hnone hC.1] at hj; cases hj

/-- after both colour actions (`b` = bold, `k` = the blink flag in force); the reader's palette grew by at most two entries -/
structure ColDone (ic k b : Bool) (curF curB : Rgb) (fgIdx : Nat) (P0 : List Rgb) (fl0 : Flags) (R : RdSt) : Prop where
  fg : ColRel b curF R.1.fg R.2
  fgi : b = false → ∀ j, dosIndex curF = some j → fgIdx = j ∧ R.1.fg = j
  bg : ColRel (ic && k) curB R.1.bg R.2
  dp : DosPre R.2
  pre : P0 <+: R.2
  len : R.2.length ≤ P0.length + 2
  fl : R.1.fl = fl0

/-- `hCF`, `hCB`: what `colDecide` guarantees; `hidx*`, `hnone*`: what `gcTarget` says about the index handed over.  The
    reader's two reactions may come in either order -/
theorem both_actions (F B : ColOut) (curF stF curB stB : Rgb) (idxF idxB : Option Nat) (hCF : ColFacts F curF stF idxF)
    (hCB : ColFacts B curB stB idxB) (ic k b : Bool) (fgIdx0 fgc : Nat)
    (hidxF : ∀ i, idxF = some i → ∃ i0, dosIndex curF = some i0 ∧ i < 8 ∧ i + (if b = true then 8 else 0) = i0)
    (hnoneF : idxF = none → dosIndex curF = none)
    (hbF : curF.1 < 256 ∧ curF.2.1 < 256 ∧ curF.2.2 < 256)
    (hidxB : ∀ i, idxB = some i → ∃ i0, dosIndex curB = some i0 ∧ i < 8 ∧ i + (if (ic && k) = true then 8 else 0) = i0)
    (hnoneB : idxB = none → ∀ j < 8, getRgb dosPalette j ≠ curB)
    (hbB : curB.1 < 256 ∧ curB.2.1 < 256 ∧ curB.2.2 < 256)
    (R0 : RdSt) (hp : DosPre R0.2) (holdF : F = .keep → FgRel b stF fgIdx0 R0.1.fg R0.2)
    (holdB : B = .keep → BgRel ic k stB R0.1.bg R0.2) (R : RdSt)
    (hR : R = B.act false (F.act true R0) ∨ R = F.act true (B.act false R0)) :
    ColDone ic k b curF curB (F.fgIdx fgIdx0 fgc b) R0.2 R0.1.fl R := by
  have hlowF : idxF = none → ∀ j < 8, getRgb dosPalette j ≠ curF := fun hn j hj => dosIndex_none (hnoneF hn) j (by omega)
  have hfi : ∀ R1 : RdSt, R1.1.fg = R0.1.fg → b = false → ∀ j, dosIndex curF = some j →
      F.fgIdx fgIdx0 fgc b = j ∧ (F.act true R1).1.fg = j := by
    intro R1 e hbf
    subst hbf
    exact fg_idx F curF stF idxF hCF fgIdx0 fgc hidxF hnoneF R1 fun hk => by rw [e]; exact (holdF hk).idx rfl
  rcases hR with hR | hR
  · subst hR
    obtain ⟨p1, l1⟩ := act_pal true F R0
    have dp1 : DosPre (F.act true R0).2 := hp.mono p1
    have f1 := col_spec true F curF stF idxF hCF b hidxF hlowF hbF R0 hp fun hk => (holdF hk).toCol
    obtain ⟨p2, l2⟩ := act_pal false B (F.act true R0)
    have b2 := col_spec false B curB stB idxB hCB (ic && k) hidxB hnoneB hbB (F.act true R0) dp1
      fun hk => by rw [show getCol false (F.act true R0).1 = R0.1.bg from actFg_bg F R0]; exact (holdB hk).toCol.mono hp p1
    refine ⟨?_, ?_, b2, dp1.mono p2, List.IsPrefix.trans p1 p2, by omega, by rw [act_fl, act_fl]⟩
    · rw [actBg_fg]; exact f1.mono dp1 p2
    · rw [actBg_fg]; exact hfi R0 rfl
  · subst hR
    obtain ⟨p1, l1⟩ := act_pal false B R0
    have dp1 : DosPre (B.act false R0).2 := hp.mono p1
    have b1 := col_spec false B curB stB idxB hCB (ic && k) hidxB hnoneB hbB R0 hp fun hk => (holdB hk).toCol
    obtain ⟨p2, l2⟩ := act_pal true F (B.act false R0)
    have f2 := col_spec true F curF stF idxF hCF b hidxF hlowF hbF (B.act false R0) dp1
      fun hk => by rw [show getCol true (B.act false R0).1 = R0.1.fg from actBg_fg B R0]; exact (holdF hk).toCol.mono hp p1
    refine ⟨f2, hfi _ (actBg_fg B R0), ?_, dp1.mono p2, List.IsPrefix.trans p1 p2, by omega, by rw [act_fl, act_fl]⟩
    rw [actFg_bg]; exact b1.mono dp1 p2

/-- the cells `ansi_rt_partial₄` speaks about: ANY colour indices (resolved through the picture's palette); in iCE mode
    cells do not blink; the two attribute bits the writer never emits are clear -/
def AttrX (ic : Bool) (a : Attr) : Prop := (ic = true → a.fl.blink = false) ∧ a.fl.overline = false ∧ a.fl.invisible = false

/-- what one cell's `get_color` output does to the reader -/
structure SyncX (ic : Bool) (pal : List Rgb) (attr : Attr) (P0 : List Rgb) (g : AnsiState × List Nat × List Nat) (R : RdSt) : Prop where
  lt : ∀ n ∈ g.2.1, n < 1000
  lttc : ∀ n ∈ g.2.2, n < 1000
  rel : RelX ic g.1.isBlink g.1 R.1 R.2
  pre : P0 <+: R.2
  len : R.2.length ≤ P0.length + 2
  fgc : g.1.fg = getRgb pal (dispFg attr)
  bgc : g.1.bg = getRgb pal attr.bg
  blk : ic = false → g.1.isBlink = attr.fl.blink

/-- `sgr_sync_all` (Props/C04.lean): the two colour blocks are followed through the writer's decisions (`colDecide`) and the
    reader's matching actions, in either order (`chain_order`) -/
theorem sgr_syncX (o : AnsiOpts) (pal : List Rgb) (hpal : PalBytes pal) (im : IceMode) (attr : Attr)
    (ha : AttrX (decide (im = .ice)) attr) (st : AnsiState) (A0 : Attr) (P0 : List Rgb)
    (h : RelX (decide (im = .ice)) st.isBlink st A0 P0) :
    SyncX (decide (im = .ice)) pal attr P0 (getColor o pal im attr st)
      (rdPre (A0, P0) (getColor o pal im attr st).2.1 (getColor o pal im attr st).2.2) := by
  have hice : ∀ q : Bool, decide (im = IceMode.ice) = q → (q = true ↔ im = .ice) := by
    intro q hq; subst hq; simp
  generalize hic : decide (im = IceMode.ice) = ic at ha h ⊢
  have hicm := hice ic hic
  obtain ⟨hblk, hov, hinv⟩ := ha
  obtain ⟨c1, c2, c3, c4, c5, c6, c7, c8, _⟩ := tgt_cur pal im attr
  obtain ⟨_, tblink⟩ := tgt_back pal im attr ic hicm hblk
  obtain ⟨hidxF, hnoneF⟩ := tgt_foreIdx pal im attr
  obtain ⟨hidxB, hnoneB⟩ := tgt_backIdx pal im attr ic hicm hblk
  rw [getColor_eq]
  simp only []
  generalize gcTarget pal im attr = t at *
  have I0 := gcReset_inv (fun k st A => RelX ic k st A P0) t st A0 (relX_default ic st P0 h.dp) h
  have M0 := gcReset_mono t st
  have I1 := afterFlags_inv (relX_flagNeutral ic _ P0) t A0 _ (gcBold_invX t A0 P0 ic _ _ (gcReset_noCustom t st) I0)
  have hbold := afterFlags_isBold t _ M0
  have hblink := afterFlags_isBlink t _ M0
  generalize afterFlags t (gcReset t st) = x1 at I1 hbold hblink ⊢
  generalize hF : colDecide o.useExtendedColors t.curFore x1.1.fg t.foreIdx = F
  generalize hB : colDecide o.useExtendedColors t.curBack x1.1.bg t.backIdx = B
  have hCF : ColFacts F t.curFore x1.1.fg t.foreIdx := by rw [← hF]; exact colDecide_facts _ _ _ _
  have hCB : ColFacts B t.curBack x1.1.bg t.backIdx := by rw [← hB]; exact colDecide_facts _ _ _ _
  have hbF : t.curFore.1 < 256 ∧ t.curFore.2.1 < 256 ∧ t.curFore.2.2 < 256 := by rw [c1]; exact getRgb_bytes hpal _
  have hbB : t.curBack.1 < 256 ∧ t.curBack.2.1 < 256 ∧ t.curBack.2.2 < 256 := by rw [c2]; exact getRgb_bytes hpal _
  obtain ⟨okF, ltF, lttcF⟩ := colOut_ok_lt F t.curFore x1.1.fg t.foreIdx hCF
    (by intro i hi; obtain ⟨i0, _, d2, _⟩ := hidxF i hi; exact d2) hbF 30 1 (by omega) (by omega)
  obtain ⟨okB, ltB, lttcB⟩ := colOut_ok_lt B t.curBack x1.1.bg t.backIdx hCB
    (by intro i hi; obtain ⟨i0, _, d2, _⟩ := hidxB i hi; exact d2) hbB 40 0 (by omega) (by omega)
  rw [rdPre_eq x1.2 I1.simple F B okF okB A0 P0]
  have hord := chain_order F B (sgrSimple A0 x1.2, P0)
  generalize B.tcAct false (F.tcAct true (B.sgrAct false (F.sgrAct true (sgrSimple A0 x1.2, P0)))) = R at hord ⊢
  have hrel := I1.rel
  -- when the background block keeps the colour, `BgRel` holds under the blink flag left by the reset block and has to be restated
  -- under `t.blink` (the blink block ran ahead of the colour); the flag shifts the index only in iCE mode at a low reader index
  have holdB : B = .keep → BgRel ic t.blink x1.1.bg (sgrSimple A0 x1.2).bg P0 := by
    intro hk
    have hkeep : t.curBack = x1.1.bg := by rw [hk] at hCB; exact hCB
    obtain ⟨l1, l2⟩ := hrel.bg
    refine ⟨l1, ?_⟩
    rw [l2]
    refine congrArg (pget P0) ?_
    cases hq : ic with
    | false => simp
    | true =>
      by_cases a8 : (sgrSimple A0 x1.2).bg < 8
      · cases hkb : (gcReset t st).1.isBlink with
        | true =>
          -- the old flag is on: `Mono` gives `t.blink`, the same shift
          have := M0.blink hkb
          simp [this]
        | false =>
          -- the old flag is off: the kept colour is the dark DOS colour of that index, for which `gcTarget` asks no blink
          have e1 : x1.1.bg = getRgb dosPalette (sgrSimple A0 x1.2).bg := by
            rw [l2, hq, hkb]
            simp only [Bool.and_false, Bool.false_and, Bool.false_eq_true, if_false]
            exact hrel.dp.get (by omega)
          have e2 : dosIndex t.curBack = some (sgrSimple A0 x1.2).bg := by
            rw [hkeep, e1]; exact dos_index _ (by omega)
          have : t.blink = false := by rw [tblink, hq, e2]; simp [a8]
          simp [this]
      · simp [a8]
  have hdone := both_actions F B t.curFore x1.1.fg t.curBack x1.1.bg t.foreIdx t.backIdx hCF hCB ic t.blink t.bold x1.1.fgIdx t.fgc
    hidxF hnoneF hbF hidxB hnoneB hbB (sgrSimple A0 x1.2, P0) hrel.dp
    (fun _ => by have := hrel.fg; rw [hbold] at this; exact this) holdB R hord
  refine ⟨?_, ?_, ⟨hdone.fl.trans hrel.fl, hdone.dp, ?_, ?_⟩, hdone.pre, hdone.len, c1, c2, fun hq => ?_⟩
  · intro n hn
    rcases List.mem_append.1 hn with h1 | h1
    · rcases List.mem_append.1 h1 with h2 | h2
      · exact (I1.simple n h2).2
      · exact ltF n h2
    · exact ltB n h1
  · intro n hn
    exact (List.mem_append.1 hn).elim (lttcF n) (lttcB n)
  · show FgRel x1.1.isBold t.curFore _ R.1.fg R.2
    rw [hbold]; exact ⟨hdone.fg.lt, hdone.fgi, hdone.fg.col⟩
  · show BgRel ic x1.1.isBlink t.curBack R.1.bg R.2
    rw [hblink]; exact ⟨hdone.bg.lt, hdone.bg.col⟩
  · show x1.1.isBlink = attr.fl.blink
    rw [hblink, tblink, hq]; rfl

/-- the cells the 16-colour theorems speak about: 16 foreground colours, 8 background colours (16 in iCE mode, where cells do
    not blink), any of the attributes the writer emits -/
def Attr16 (ic : Bool) (a : Attr) : Prop :=
  a.fg < 16 ∧ (if ic = true then a.bg < 16 ∧ a.fl.blink = false else a.bg < 8) ∧ a.fl.overline = false ∧ a.fl.invisible = false

/-- in iCE mode a bright background is written as blink + the dark colour -/
def brightBg (ic : Bool) (a : Attr) : Bool := ic && decide (8 ≤ a.bg)

/-- the reader's caret attribute for a cell: low colour + bold flag for a bright foreground; in iCE mode low colour +
    blink flag for a bright background -/
def caretAttr (ic : Bool) (a : Attr) : Attr :=
  ⟨if dispFg a < 8 then dispFg a else dispFg a - 8, a.bg - (if brightBg ic a = true then 8 else 0),
   { a.fl with bold := decide (8 ≤ dispFg a), blink := if ic = true then decide (8 ≤ a.bg) else a.fl.blink }⟩

/-- the attribute the reader prints a cell with (`Caret::get_attribute`: in iCE mode blink becomes the bright
    background): low colour + bold flag for a bright foreground, the cell's own background -/
def printedAttr (a : Attr) : Attr :=
  ⟨if dispFg a < 8 then dispFg a else dispFg a - 8, a.bg, { a.fl with bold := decide (8 ≤ dispFg a) }⟩

theorem attr_ext (a b : Attr) (h1 : a.fg = b.fg) (h2 : a.bg = b.bg) (h3 : a.fl = b.fl) : a = b := by
  cases a; cases b; cases h1; cases h2; cases h3; rfl

/-- because DOS colours are pairwise different -/
theorem dos_low (d a : Nat) (s : Bool) (hd : d < 16) (ha : a < 8)
    (e : getRgb dosPalette d = pget dosPalette (if (s && decide (a < 8)) = true then a + 8 else a)) : a + (if s = true then 8 else 0) = d := by
  rw [decide_eq_true ha, Bool.and_true, ← getRgb_eq_pget _ _ (by split <;> omega)] at e
  have := dos_inj d hd _ (by split <;> omega) e
  cases s <;> simp at this ⊢ <;> omega

theorem low_of_sum (d a : Nat) (h : a + (if decide (8 ≤ d) = true then 8 else 0) = d) : a = if d < 8 then d else d - 8 := by
  by_cases h8 : 8 ≤ d
  · rw [decide_eq_true h8, if_pos rfl] at h; rw [if_neg (by omega)]; omega
  · rw [decide_eq_false h8, if_neg (by decide)] at h; rw [if_pos (by omega)]; omega

/-- on the DOS palette both colours of a 16-colour cell have an index, so both decisions are keep / DOS colour: no 24-bit
    command; the reader's low indices (`Inv16`) pass all blocks -/
theorem getColor_dos (o : AnsiOpts) (im : IceMode) (ic : Bool) (hic : ic = true ↔ im = .ice) (attr : Attr) (ha : Attr16 ic attr)
    (st : AnsiState) (A0 : Attr) (h16 : Inv16 st A0) :
    (getColor o dosPalette im attr st).2.2 = [] ∧ AllSimple (getColor o dosPalette im attr st).2.1 ∧
    Inv16 (getColor o dosPalette im attr st).1 (sgrSimple A0 (getColor o dosPalette im attr st).2.1) ∧
    stFlags (getColor o dosPalette im attr st).1 =
      { attr.fl with bold := decide (8 ≤ dispFg attr), blink := if ic = true then decide (8 ≤ attr.bg) else attr.fl.blink } := by
  obtain ⟨hfg, hbg, hov, hinv⟩ := ha
  have hd : dispFg attr < 16 := dispFg_lt hfg
  have hbg16 : attr.bg < 16 := by cases ic <;> simp at hbg <;> omega
  have hbg8 : ic = false → attr.bg < 8 := by intro e; rw [e] at hbg; simpa using hbg
  -- what the cell asks for: a low foreground index `iF` with bold for a bright colour, a low background index `iB`
  obtain ⟨t1, t4, c3, c4, c5, c6, c7, c8, _⟩ := tgt_cur dosPalette im attr
  obtain ⟨t3, t6⟩ := tgt_fore dosPalette im attr
  obtain ⟨t5, t7⟩ := tgt_back dosPalette im attr ic hic (fun e => by rw [e] at hbg; exact hbg.2)
  rw [t1, dos_index _ hd] at t3 t6
  rw [t4, dos_index _ hbg16] at t5 t7
  obtain ⟨iF, iF8, hiF⟩ : ∃ i, i < 8 ∧ (gcTarget dosPalette im attr).foreIdx = some i :=
    ⟨if dispFg attr < 8 then dispFg attr else dispFg attr - 8, by split <;> omega, t3⟩
  obtain ⟨iB, iB8, hiB⟩ : ∃ i, i < 8 ∧ (gcTarget dosPalette im attr).backIdx = some i := by
    rw [t5]
    cases ic with
    | false => exact ⟨attr.bg, hbg8 rfl, by simp [hbg8 rfl]⟩
    | true =>
      by_cases h8 : attr.bg < 8
      · exact ⟨attr.bg, h8, by simp [h8]⟩
      · exact ⟨attr.bg - 8, by omega, by simp [h8]⟩
  rw [getColor_eq]
  simp only []
  rw [hiF, hiB]
  generalize gcTarget dosPalette im attr = t at t6 t7 c3 c4 c5 c6 c7 c8 ⊢
  have I1 : GcInv Inv16 A0 (afterFlags t (gcReset t st)) := afterFlags_inv inv16_flagNeutral _ A0 _
    (gcBold_inv16 _ A0 _ (gcReset_inv (fun _ => Inv16) _ st A0 ⟨by decide, by decide, rfl⟩ h16))
  have F1 := afterFlags_flags t _ (gcReset_mono t st)
  generalize afterFlags t (gcReset t st) = x at I1 F1 ⊢
  -- both decisions are `keep` or a DOS index
  have hF := colDecide_some o.useExtendedColors t.curFore x.1.fg iF
  have hB := colDecide_some o.useExtendedColors t.curBack x.1.bg iB
  generalize colDecide o.useExtendedColors t.curFore x.1.fg (some iF) = F at hF ⊢
  generalize colDecide o.useExtendedColors t.curBack x.1.bg (some iB) = B at hB ⊢
  obtain ⟨f1, f2, f3⟩ : F.tcs 1 = [] ∧ AllSimple (F.sgr 30) ∧ F.act true (sgrSimple A0 x.2, dosPalette) = (sgrSimple (sgrSimple A0 x.2) (F.sgr 30), dosPalette) :=
    dosOut true F iF iF8 hF 1 _ _
  obtain ⟨b1, b2, b3⟩ : B.tcs 0 = [] ∧ AllSimple (B.sgr 40) ∧ B.act false (sgrSimple (sgrSimple A0 x.2) (F.sgr 30), dosPalette) =
      (sgrSimple (sgrSimple (sgrSimple A0 x.2) (F.sgr 30)) (B.sgr 40), dosPalette) := dosOut false B iB iB8 hB 0 _ _
  refine ⟨by rw [f1, b1]; rfl, allSimple_append (allSimple_append I1.simple f2) b2, ?_, ?_⟩
  · have eA : (sgrSimple A0 (x.2 ++ F.sgr 30 ++ B.sgr 40), dosPalette) = B.act false (F.act true (sgrSimple A0 x.2, dosPalette)) := by
      rw [f3, b3, sgrSimple_append, sgrSimple_append]
    have e1 := congrArg (fun R : RdSt => R.1.fg) eA
    have e2 := congrArg (fun R : RdSt => R.1.bg) eA
    obtain ⟨g1, g2, g3⟩ := I1.rel
    refine ⟨?_, ?_, ?_⟩
    · show (sgrSimple A0 (x.2 ++ F.sgr 30 ++ B.sgr 40)).fg < 8
      rw [show _ = _ from e1]
      rcases hF with rfl | rfl <;> rcases hB with rfl | rfl <;> simp [ColOut.act, putCol, g1, iF8]
    · show (sgrSimple A0 (x.2 ++ F.sgr 30 ++ B.sgr 40)).bg < 8
      rw [show _ = _ from e2]
      rcases hF with rfl | rfl <;> rcases hB with rfl | rfl <;> simp [ColOut.act, putCol, g2, iB8]
    · show B.bgIdx x.1.bgIdx t.bgc = (sgrSimple A0 (x.2 ++ F.sgr 30 ++ B.sgr 40)).bg
      rw [show _ = _ from e2]
      rcases hF with rfl | rfl <;> rcases hB with rfl | rfl <;> simp [ColOut.act, putCol, ColOut.bgIdx, g3]
  · show stFlags x.1 = _
    rw [F1, t6, t7, c3, c4, c5, c6, c7, c8]
    cases hq : attr.fl with
    | mk b f i k u d c x ov inv =>
      rw [hq] at hov hinv
      simp only at hov hinv
      subst hov; subst hinv
      rfl

/-- exact indices from RGB facts, because DOS colours are pairwise different -/
theorem caret_of_relX (ic : Bool) (attr : Attr) (ha : Attr16 ic attr) (g : AnsiState) (A : Attr)
    (hrel : RelX ic g.isBlink g A dosPalette) (h16 : Inv16 g A) (hfg : g.fg = getRgb dosPalette (dispFg attr))
    (hbg : g.bg = getRgb dosPalette attr.bg)
    (hfl : stFlags g = { attr.fl with bold := decide (8 ≤ dispFg attr), blink := if ic = true then decide (8 ≤ attr.bg) else attr.fl.blink }) :
    A = caretAttr ic attr := by
  have hbg16 : attr.bg < 16 := by obtain ⟨_, h, _⟩ := ha; cases ic <;> simp at h <;> omega
  have hbold : g.isBold = decide (8 ≤ dispFg attr) := congrArg Flags.bold hfl
  have hblink : g.isBlink = if ic = true then decide (8 ≤ attr.bg) else attr.fl.blink := congrArg Flags.blink hfl
  refine attr_ext _ (caretAttr ic attr) ?_ ?_ (hrel.fl.trans hfl)
  · have e := dos_low (dispFg attr) A.fg g.isBold (dispFg_lt ha.1) h16.fgl (hfg ▸ hrel.fg.col)
    rw [hbold] at e
    exact low_of_sum _ _ e
  · have e := dos_low attr.bg A.bg (ic && g.isBlink) hbg16 h16.bgl (hbg ▸ hrel.bg.col)
    have hs : (ic && g.isBlink) = brightBg ic attr := by
      rw [hblink]; unfold brightBg
      cases ic <;> rfl
    rw [hs] at e
    exact Nat.eq_sub_of_add_eq e

/-- `sgr_sync_16` (Props/C04.lean): `sgr_syncX` on the DOS palette, `getColor_dos` for what is special there,
    `caret_of_relX` for the exact indices -/
theorem sgr_sync (o : AnsiOpts) (im : IceMode) (attr : Attr) (ha : Attr16 (decide (im = .ice)) attr) (st : AnsiState) (A0 : Attr)
    (h : RelS (decide (im = .ice)) st.isBlink st A0) :
    (getColor o dosPalette im attr st).2.2 = [] ∧ AllSimple (getColor o dosPalette im attr st).2.1 ∧
    RelS (decide (im = .ice)) (getColor o dosPalette im attr st).1.isBlink (getColor o dosPalette im attr st).1
      (sgrSimple A0 (getColor o dosPalette im attr st).2.1) ∧
    sgrSimple A0 (getColor o dosPalette im attr st).2.1 = caretAttr (decide (im = .ice)) attr := by
  obtain ⟨hX, h16⟩ := (relS_iff _ _ _ _).1 h
  have haX : AttrX (decide (im = .ice)) attr := ⟨fun e => by rw [e] at ha; exact ha.2.1.2, ha.2.2.1, ha.2.2.2⟩
  have S := sgr_syncX o dosPalette palBytes_dos im attr haX st A0 dosPalette hX
  obtain ⟨D1, D2, D3, D4⟩ := getColor_dos o im _ (by simp) attr ha st A0 h16
  rw [D1, rdPre_simple _ _ _ D2] at S
  exact ⟨D1, D2, (relS_iff _ _ _ _).2 ⟨S.rel, D3⟩, caret_of_relX _ attr ha _ _ S.rel D3 S.fgc S.bgc D4⟩

/-- `Caret::get_attribute` as a function of the iCE flag and the caret attribute (= `Core.printAttr` with the two fields as
    arguments: `printAttr_prAttr`) -/
def prAttr (ic : Bool) (A : Attr) : Attr :=
  if ic = true then
    { A with bg := if A.bg < 8 && A.fl.blink then A.bg + 8 else A.bg, fl := { A.fl with blink := false } }
  else A

theorem printAttr_prAttr (c : Core) (ic : Bool) (A : Attr) (h1 : c.caretIce = ic) (h2 : c.attr = A) : c.printAttr = prAttr ic A := by
  subst h1; subst h2
  unfold Core.printAttr prAttr
  rfl

theorem prAttr_caret (ic : Bool) (a : Attr) (ha : Attr16 ic a) : prAttr ic (caretAttr ic a) = printedAttr a := by
  obtain ⟨_, hbg, _, _⟩ := ha
  cases ic with
  | false =>
    unfold prAttr caretAttr printedAttr brightBg
    simp
  | true =>
    simp only [if_true] at hbg
    obtain ⟨hb16, hbl⟩ := hbg
    unfold prAttr caretAttr printedAttr brightBg
    simp only [Bool.true_and, if_true]
    by_cases h8 : 8 ≤ a.bg
    · have e1 : a.bg - 8 < 8 := by omega
      have e2 : a.bg - 8 + 8 = a.bg := by omega
      simp [h8, e1, e2, hbl]
    · have e1 : a.bg < 8 := by omega
      simp [h8, e1, hbl]

theorem printAttr_caret (ic : Bool) (a : Attr) (ha : Attr16 ic a) (c : Core) (hice : c.caretIce = ic) (hat : c.attr = caretAttr ic a) :
    c.printAttr = printedAttr a := by
  rw [printAttr_prAttr c ic _ hice hat, prAttr_caret ic a ha]

theorem printed_eq_of_caret_eq (ic : Bool) (a b : Attr) (ha : Attr16 ic a) (hb : Attr16 ic b)
    (h : caretAttr ic a = caretAttr ic b) : printedAttr a = printedAttr b := by
  rw [← prAttr_caret ic a ha, ← prAttr_caret ic b hb, h]

theorem skip_of_caret (ic : Bool) (a : Attr) (ha : Attr16 ic a) (h1 : (caretAttr ic a).bg = 0)
    (h2 : (caretAttr ic a).fl.blink = false) : (printedAttr a).bg = 0 ∧ (printedAttr a).fl.blink = false := by
  rw [← prAttr_caret ic a ha]
  unfold prAttr
  cases ic with
  | false => exact ⟨h1, h2⟩
  | true => simp [h1, h2]

end IcyVerif.ArtIO
