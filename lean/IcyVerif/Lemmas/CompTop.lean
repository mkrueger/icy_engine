import IcyVerif.Lemmas.Comp
/-! C13, "topmost first": the walk of `Buffer::get_char` split at the first layer that produces a cell of its own.

Layers that *pass* only update the modifiers (`ch_opt`, `attr_opt`) and the default font page; the first Normal layer with a
visible cell decides the displayed cell up to its transparent colours (`Cell.fills`), which only layers further down fill in. -/
namespace IcyVerif.Comp
open IcyVerif.Gen.Comp

/-- `d` is `t` with (at most) its transparent colours replaced: same character, flags and font page, and every colour
    of `t` that is not `TRANSPARENT_COLOR` unchanged -/
def Cell.fills (t d : Cell) : Prop :=
  d.ch = t.ch ∧ d.attr.flags = t.attr.flags ∧ d.attr.page = t.attr.page ∧
  (t.attr.fg ≠ transparentColor → d.attr.fg = t.attr.fg) ∧ (t.attr.bg ≠ transparentColor → d.attr.bg = t.attr.bg)

instance (t d : Cell) : Decidable (Cell.fills t d) := by unfold Cell.fills; infer_instance

theorem Cell.fills_refl (t : Cell) : t.fills t := ⟨rfl, rfl, rfl, fun _ => rfl, fun _ => rfl⟩

theorem Cell.fills_of_eq {t d : Cell} (h : d = t) : t.fills d := h ▸ Cell.fills_refl t

theorem Cell.fills_solid {t d : Cell} (h : t.fills d) (ht : t.hasTransparentColor = false) : d = t := by
  unfold Cell.hasTransparentColor at ht
  simp only [Bool.or_eq_false_iff, beq_eq_false_iff_ne, ne_eq] at ht
  obtain ⟨h1, h2, h3, h4, h5⟩ := h
  cases d with | mk dch da => cases da with | mk dfg dbg dfl dpg =>
  cases t with | mk tch ta => cases ta with | mk tfg tbg tfl tpg =>
  simp only at h1 h2 h3 h4 h5 ht
  rw [h1, h2, h3, h4 ht.1, h5 ht.2]

theorem makeSolid_fills (hb : Cell → Nat × Nat) (t u : Cell) : t.fills (makeSolid hb t u) :=
  makeSolid_keeps hb t u

theorem opaqueTail_some (hb : Cell → Nat × Nat) (st : St) (t : Cell) (h : st.transp = some t) :
    ∃ u, opaqueTail hb st = makeSolid hb t u := by
  unfold opaqueTail
  simp only [h]
  exact ⟨_, rfl⟩

theorem coveredStep_keeps (hb : Cell → Nat × Nat) (l : Layer) (x y : Int) (st : St) (t : Cell)
    (h : st.transp = some t) : (coveredStep hb l x y st).Sat (·.transp = some t) t.fills := by
  have hrem : ∀ c : Cell, (if st.transp.isNone = true then { st with transp := some c } else st) = st := by
    intro c; rw [h]; rfl
  have tail : t.fills (opaqueTail hb st) := by
    obtain ⟨u, hu⟩ := opaqueTail_some hb st t h; rw [hu]; exact makeSolid_fills hb t u
  fun_cases coveredStep hb l x y st
  -- Normal, visible cell with a transparent colour: opaque layer / alpha layer
  · rename_i st' _; rw [show st' = st from hrem _]; exact tail
  · rename_i st' _; rw [show st' = st from hrem _]; exact h
  -- Normal, visible solid cell: a cell is remembered / none is
  · rename_i c hc; rw [h] at hc; cases hc; exact makeSolid_fills hb t _
  · rename_i hn; rw [h] at hn; cases hn
  -- Normal, invisible cell: opaque layer / alpha layer
  · exact tail
  · exact h
  -- Chars (cell imposes its character / does not), Attributes (likewise)
  · exact h
  · exact h
  · exact h
  · exact h

theorem go_fills (hb : Cell → Nat × Nat) (isTerm : Bool) (px py : Int) (L : List Layer) (st : St) (t : Cell)
    (h : st.transp = some t) : t.fills (go hb isTerm px py L st) :=
  go_sat (I := (·.transp = some t)) hb isTerm px py
    (fun st h => by unfold finish; rw [h]; exact Cell.fills_refl t)
    (fun l _ h => layerStep_sat hb px py l h fun x y => coveredStep_keeps hb l x y _ t h) L h

/-- the layer produces no cell of its own at the position and does not stop the walk -/
def Layer.passes (l : Layer) (px py : Int) : Bool :=
  l.skipped px py ||
    match l.mode with
    | .normal => l.alpha && !(l.cellAt px py).isVisible
    | _ => true

/-- a Chars layer that imposes its character here (the `Mode::Chars` arm) -/
def Layer.givesChar (l : Layer) (px py : Int) : Bool :=
  !l.skipped px py && l.mode == .chars && (l.cellAt px py).isVisible && !(l.cellAt px py).isTransparent

/-- an Attributes layer that imposes its attribute here (the `Mode::Attributes` arm) -/
def Layer.givesAttr (l : Layer) (px py : Int) : Bool :=
  !l.skipped px py && l.mode == .attributes && (l.cellAt px py).isVisible

theorem givesChar_not_skipped {l : Layer} {px py : Int} (h : l.givesChar px py = true) : l.skipped px py = false := by
  unfold Layer.givesChar at h
  cases hs : l.skipped px py with
  | false => rfl
  | true => rw [hs] at h; simp at h

theorem givesAttr_not_skipped {l : Layer} {px py : Int} (h : l.givesAttr px py = true) : l.skipped px py = false := by
  unfold Layer.givesAttr at h
  cases hs : l.skipped px py with
  | false => rfl
  | true => rw [hs] at h; simp at h

theorem layerStep_passes (hb : Cell → Nat × Nat) (px py : Int) (l : Layer) (st : St) (h : l.passes px py = true) :
    layerStep hb px py l st = .next
      ⟨if l.givesChar px py then some (l.cellAt px py).ch else st.chOpt,
       if l.givesAttr px py then some (l.cellAt px py).attr else st.attrOpt,
       if l.skipped px py then st.dflt else l.dfltPage, st.transp⟩ := by
  rcases layerStep_cases hb px py l st with ⟨hs, e⟩ | ⟨hv, hc, e⟩
  · rw [e]; simp [Layer.givesChar, Layer.givesAttr, hs]
  · have hs : l.skipped px py = false := by simp [Layer.skipped, hv, hc]
    rw [e]
    unfold Layer.passes at h
    rw [hs, Bool.false_or] at h
    unfold coveredStep Layer.givesChar Layer.givesAttr Layer.cellAt
    unfold Layer.cellAt at h
    cases hm : l.mode with
    | normal =>
      rw [hm] at h
      simp only [Bool.and_eq_true, Bool.not_eq_true'] at h
      simp [hs, h.1, h.2]
    | chars =>
      simp only [hs]
      cases h1 : (l.getChar (px - l.offX) (py - l.offY)).isVisible <;>
        cases h2 : (l.getChar (px - l.offX) (py - l.offY)).isTransparent <;> simp
    | attributes =>
      simp only [hs]
      cases h1 : (l.getChar (px - l.offX) (py - l.offY)).isVisible <;> simp

/-- a silent cell (see `Layer.silentAt`) is a passing one that imposes nothing -/
theorem layerStep_silent (hb) (px py : Int) (l : Layer) (st : St) (hv : l.visible = true)
    (hc : l.covers px py = true) (hs : l.silentAt px py = true) :
    layerStep hb px py l st = .next { st with dflt := l.dfltPage } := by
  have hk : l.skipped px py = false := by simp [Layer.skipped, hv, hc]
  have h : l.passes px py = true ∧ l.givesChar px py = false ∧ l.givesAttr px py = false := by
    unfold Layer.silentAt at hs
    unfold Layer.passes Layer.givesChar Layer.givesAttr
    cases hm : l.mode <;> simp_all
    rcases hs with hs | hs <;> simp [hs]
  rw [layerStep_passes hb px py l st h.1, h.2.1, h.2.2, hk]; rfl

/-- the character the layers `above` (BOTTOM first, as in `buffer.layers`) impose: the walk overwrites `ch_opt` on the
    way down, so the LOWEST Chars layer with a visible, non-blank cell wins -/
def charFrom (px py : Int) (above : List Layer) : Option Nat :=
  (above.find? fun l => l.givesChar px py).map fun l => (l.cellAt px py).ch

/-- the attribute the layers `above` (bottom first) impose: the lowest Attributes layer with a visible cell wins -/
def attrFrom (px py : Int) (above : List Layer) : Option Attr :=
  (above.find? fun l => l.givesAttr px py).map fun l => (l.cellAt px py).attr

theorem charFrom_none {px py : Int} {above : List Layer} (h : ∀ a ∈ above, a.givesChar px py = false) :
    charFrom px py above = none := by
  unfold charFrom
  rw [List.find?_eq_none.mpr (fun a ha => by simp [h a ha])]; rfl

theorem attrFrom_none {px py : Int} {above : List Layer} (h : ∀ a ∈ above, a.givesAttr px py = false) :
    attrFrom px py above = none := by
  unfold attrFrom
  rw [List.find?_eq_none.mpr (fun a ha => by simp [h a ha])]; rfl

theorem charFrom_cons (px py : Int) (a : Layer) (above : List Layer) :
    charFrom px py (a :: above) = if a.givesChar px py then some (a.cellAt px py).ch else charFrom px py above := by
  unfold charFrom; rw [List.find?_cons]; cases a.givesChar px py <;> rfl

theorem attrFrom_cons (px py : Int) (a : Layer) (above : List Layer) :
    attrFrom px py (a :: above) = if a.givesAttr px py then some (a.cellAt px py).attr else attrFrom px py above := by
  unfold attrFrom; rw [List.find?_cons]; cases a.givesAttr px py <;> rfl

/-- the bottom layer of `above` is the LAST iteration, so it overwrites: the lowest Chars / Attributes cell wins -/
theorem go_passes (hb : Cell → Nat × Nat) (isTerm : Bool) (px py : Int) (above : List Layer)
    (hp : ∀ a ∈ above, a.passes px py = true) : ∀ (R : List Layer) (st : St),
    ∃ d, go hb isTerm px py (above.reverse ++ R) st =
      go hb isTerm px py R ⟨(charFrom px py above).or st.chOpt, (attrFrom px py above).or st.attrOpt, d, st.transp⟩ := by
  induction above with
  | nil => intro R st; exact ⟨st.dflt, by simp [charFrom, attrFrom]⟩
  | cons a above ih =>
    intro R st
    obtain ⟨d, h⟩ := ih (fun b hb' => hp b (List.mem_cons_of_mem _ hb')) (a :: R) st
    have h' := layerStep_passes hb px py a
      ⟨(charFrom px py above).or st.chOpt, (attrFrom px py above).or st.attrOpt, d, st.transp⟩ (hp a List.mem_cons_self)
    refine ⟨if a.skipped px py then d else a.dfltPage, ?_⟩
    rw [List.reverse_cons, List.append_assoc, List.singleton_append, h, go_cons, h', charFrom_cons, attrFrom_cons]
    cases a.givesChar px py <;> cases a.givesAttr px py <;> simp

theorem getChar_passes (hb : Cell → Nat × Nat) (isTerm : Bool) (B above : List Layer) (px py : Int)
    (hp : ∀ a ∈ above, a.passes px py = true) :
    ∃ d, getChar hb isTerm (B ++ above) px py =
      go hb isTerm px py B.reverse ⟨charFrom px py above, attrFrom px py above, d, none⟩ := by
  obtain ⟨d, h⟩ := go_passes hb isTerm px py above hp B.reverse St.init
  exact ⟨d, by rw [getChar_append, h]; simp [St.init]⟩

theorem go_decider (hb : Cell → Nat × Nat) (isTerm : Bool) (px py : Int) (l : Layer) (rest : List Layer) (st : St)
    (hv : l.visible = true) (hc : l.covers px py = true) (hm : l.mode = .normal)
    (hcell : (l.cellAt px py).isVisible = true) (ht : st.transp = none) :
    (merge (l.cellAt px py) st.chOpt st.attrOpt).fills (go hb isTerm px py (l :: rest) st) := by
  rw [go_cons, layerStep_covered hb px py l st hv hc]
  unfold Layer.cellAt at hcell ⊢
  unfold coveredStep
  simp only [hm, hcell, if_true, ht, Option.isNone_none]
  cases htr : (merge (l.getChar (px - l.offX) (py - l.offY)) st.chOpt st.attrOpt).hasTransparentColor with
  | true =>
    -- the merged cell has a transparent colour: it is remembered
    simp only [if_true]
    cases ha : l.alpha with
    | false =>
      simp only [Bool.not_false, if_true]
      obtain ⟨u, hu⟩ := opaqueTail_some hb
        { chOpt := st.chOpt, attrOpt := st.attrOpt, dflt := l.dfltPage,
          transp := some (merge (l.getChar (px - l.offX) (py - l.offY)) st.chOpt st.attrOpt) } _ rfl
      rw [hu]; exact makeSolid_fills hb _ u
    | true =>
      simp only [Bool.not_true, Bool.false_eq_true, if_false]
      exact go_fills hb isTerm px py rest _ _ rfl
  | false =>
    simp only [Bool.false_eq_true, if_false]
    exact Cell.fills_refl _

theorem go_opaque_blank (hb : Cell → Nat × Nat) (isTerm : Bool) (px py : Int) (l : Layer) (rest : List Layer) (st : St)
    (hv : l.visible = true) (hc : l.covers px py = true) (hm : l.mode = .normal) (ha : l.alpha = false)
    (hcell : (l.cellAt px py).isVisible = false) :
    go hb isTerm px py (l :: rest) st = opaqueTail hb { st with dflt := l.dfltPage } := by
  rw [go_cons, layerStep_covered hb px py l st hv hc]
  unfold Layer.cellAt at hcell
  unfold coveredStep
  simp only [hm, hcell, ha, Bool.false_eq_true, if_false, Bool.not_false, if_true]

end IcyVerif.Comp
