import IcyVerif.Lemmas.BinFormatsSauce
import IcyVerif.Lemmas.XbCompress
/-!
# C05, iCE Draw IDF: the run-length coding read back, and the round trip

The writer emits one `idfChunk` per run of equal cells; the loader's scan, freed of its fuel (`scanAll`), reads a chunk back as one
item (plain pair, `01 00 count` repeat, the "fake repeat" for character 1 on attribute 0).  `idfSave_ok_iff`: when the writer
answers and with which file (with a record: `idfSave_eq`); only the refusal `idf_loaded_refused` unfolds `idfSave` again, for its `.err`.
-/
namespace IcyVerif.BinFormats
open IcyVerif.XbCompress IcyVerif.Gen

def idfExpand (items : List (Nat × Nat × Nat)) : List Cell :=
  items.flatMap fun it => List.replicate it.1 (⟨it.2.1, fromU8 true it.2.2⟩ : Cell)

theorem idfScan_fuel : ∀ (F : Nat) (bs : List Nat), bs.length < F → idfScan (F + 1) bs = idfScan F bs := by
  intro F
  induction F with
  | zero => intro bs h; omega
  | succ F ih =>
    intro bs h
    match bs with
    | [] => simp [idfScan]
    | [_] => simp [idfScan]
    | c :: a :: rest =>
      simp only [List.length_cons] at h
      unfold idfScan
      by_cases hesc : (c == BinFmt.idfEscChar && a == BinFmt.idfEscAttr) = true
      · simp only [hesc, if_true]
        match rest with
        | [] => rfl
        | [_] => rfl
        | [_, _] => rfl
        | [_, _, _] => rfl
        | nl :: nh :: c2 :: a2 :: rest2 =>
          simp only [List.length_cons] at h
          simp only [ih rest2 (by omega)]
      · simp only [hesc, Bool.false_eq_true, if_false]
        simp only [ih rest (by omega)]

theorem idfScan_fuel_le (F G : Nat) (bs : List Nat) (h1 : bs.length < F) (h2 : F ≤ G) : idfScan G bs = idfScan F bs := by
  induction G with
  | zero => omega
  | succ G ih =>
    by_cases h : F = G + 1
    · rw [h]
    · rw [idfScan_fuel G bs (by omega)]; exact ih (by omega)

theorem idfScan_esc (F nl nh c2 a2 : Nat) (rest2 : List Nat) :
    idfScan (F + 1) (1 :: 0 :: nl :: nh :: c2 :: a2 :: rest2) =
      ((nl + nh * 256, c2, a2) :: (idfScan F rest2).1, 6 + (idfScan F rest2).2) := by
  have : ((1 : Nat) == BinFmt.idfEscChar && (0 : Nat) == BinFmt.idfEscAttr) = true := by decide
  simp only [idfScan, this, if_true]

theorem idfScan_plain (F c a : Nat) (rest : List Nat) (h : (c == BinFmt.idfEscChar && a == BinFmt.idfEscAttr) = false) :
    idfScan (F + 1) (c :: a :: rest) = ((1, c, a) :: (idfScan F rest).1, 2 + (idfScan F rest).2) := by
  simp only [idfScan, h, Bool.false_eq_true, if_false]

/-- the scan with all the fuel it can use: what `idfLoad` runs on the screen data -/
def scanAll (bs : List Nat) : List (Nat × Nat × Nat) × Nat := idfScan (bs.length + 1) bs

theorem idfScan_eq (F : Nat) (bs : List Nat) (h : bs.length < F) : idfScan F bs = scanAll bs :=
  idfScan_fuel_le (bs.length + 1) F bs (Nat.lt_succ_self _) h

theorem scanAll_nil : scanAll [] = ([], 0) := rfl

theorem scanAll_esc (nl nh c2 a2 : Nat) (rest : List Nat) :
    scanAll (1 :: 0 :: nl :: nh :: c2 :: a2 :: rest) = ((nl + nh * 256, c2, a2) :: (scanAll rest).1, 6 + (scanAll rest).2) := by
  unfold scanAll
  rw [idfScan_esc, idfScan_eq _ rest (by simp only [List.length_cons]; omega)]
  rfl

theorem scanAll_plain (c a : Nat) (rest : List Nat) (h : (c == BinFmt.idfEscChar && a == BinFmt.idfEscAttr) = false) :
    scanAll (c :: a :: rest) = ((1, c, a) :: (scanAll rest).1, 2 + (scanAll rest).2) := by
  unfold scanAll
  rw [idfScan_plain _ _ _ _ h, idfScan_eq _ rest (by simp only [List.length_cons]; omega)]
  rfl

theorem runLen_le (c : Cell) (rest : List Cell) : runLen c rest ≤ rest.length + 1 := by
  fun_induction runLen c rest <;> simp only [List.length_cons, List.length_nil] <;> omega

theorem runLen_pos (c : Cell) (rest : List Cell) : 1 ≤ runLen c rest := by
  fun_induction runLen c rest <;> omega

/-- `hp`: `eqv`, Rust's `PartialEq`, does not compare the font page -/
theorem run_cells (c : Cell) (rest : List Cell) (n : Nat) (h1 : 1 ≤ n) (hn : n ≤ runLen c rest)
    (hp : ∀ d ∈ rest, d.attr.page = c.attr.page) : c :: rest = List.replicate n c ++ rest.drop (n - 1) := by
  induction rest generalizing n with
  | nil =>
    obtain rfl : n = 1 := by simp only [runLen] at hn; omega
    rfl
  | cons e es ih =>
    obtain _ | _ | n := n
    · omega
    · rfl
    rw [runLen] at hn
    split at hn
    · rename_i he
      obtain rfl := Cell.eq_of_eqv c e he (hp e List.mem_cons_self).symm
      rw [List.replicate_succ, List.cons_append, Nat.add_sub_cancel, List.drop_succ_cons]
      exact congrArg (c :: ·) (ih (n + 1) (by omega) (by omega) (fun d hd => hp d (List.mem_cons_of_mem _ hd)))
    · omega

/-- does the writer announce the run at `c` (of `run` equal cells) by the escape pair `01 00 count`? -/
def idfEsc (compress : Bool) (c : Cell) (run : Nat) : Bool :=
  compress && (decide (run > BinFmt.idfRleMin) || c.ch == BinFmt.idfEscChar)

/-- the number of cells the bytes written at `c` stand for -/
def idfRle (compress : Bool) (c : Cell) (run : Nat) : Nat := if idfEsc compress c run then run else 1

/-- the bytes written at `c`: the repeat prefix (in a raw file: the fake repeat in front of the escape pair itself), then the cell -/
def idfChunk (compress : Bool) (c : Cell) (run : Nat) : List Nat :=
  (if idfEsc compress c run then [1, 0, idfRle compress c run % 256, (idfRle compress c run / 256) % 256] else []) ++
    (if c.ch == BinFmt.idfEscChar && asU8 .ice c.attr == BinFmt.idfEscAttr && idfRle compress c run == 1 && !compress
      then BinFmt.idfFakeRepeat else []) ++ [c.ch, asU8 .ice c.attr]

theorem idfRow_cons (compress : Bool) (fuel : Nat) (c : Cell) (rest : List Cell) :
    idfRow compress (fuel + 1) (c :: rest) =
      if c.ch > 255 then none
      else (idfRow compress fuel (rest.drop (idfRle compress c (min (runLen c rest) 65535) - 1))).map
        (idfChunk compress c (min (runLen c rest) 65535) ++ ·) := by
  rw [idfRow]
  by_cases h : c.ch > 255
  · simp only [h, if_true]
  · simp only [h, if_false]
    show (match idfRow compress fuel (rest.drop (idfRle compress c (min (runLen c rest) 65535) - 1)) with
      | none => none
      | some out => some (idfChunk compress c (min (runLen c rest) 65535) ++ out)) = _
    cases idfRow compress fuel (rest.drop (idfRle compress c (min (runLen c rest) 65535) - 1)) <;> rfl

theorem idfRle_bounds (compress : Bool) (c : Cell) (rest : List Cell) :
    1 ≤ idfRle compress c (min (runLen c rest) 65535) ∧ idfRle compress c (min (runLen c rest) 65535) ≤ runLen c rest := by
  have := runLen_pos c rest
  unfold idfRle
  split <;> omega

theorem scanAll_chunk (compress : Bool) (c : Cell) (run : Nat) (h1 : 1 ≤ run) (h2 : run ≤ 65535) (Y : List Nat) :
    scanAll (idfChunk compress c run ++ Y) =
      ((idfRle compress c run, c.ch, asU8 .ice c.attr) :: (scanAll Y).1, (idfChunk compress c run).length + (scanAll Y).2) := by
  unfold idfChunk idfRle
  cases he : idfEsc compress c run
  · -- no repeat prefix: a plain pair, or the escape pair itself behind the fake repeat `01 00 01 00`
    simp only [Bool.false_eq_true, if_false, List.nil_append, beq_self_eq_true, Bool.and_true]
    cases hf : (c.ch == BinFmt.idfEscChar && asU8 .ice c.attr == BinFmt.idfEscAttr && !compress)
    · have hne : (c.ch == BinFmt.idfEscChar && asU8 .ice c.attr == BinFmt.idfEscAttr) = false := by
        cases compress
        · simpa using hf
        · -- compressed: character 1 is always written as a repeat, so this is not character 1
          simp only [idfEsc, Bool.true_and, Bool.or_eq_false_iff] at he
          rw [he.2]; rfl
      simp only [Bool.false_eq_true, if_false, List.nil_append, List.cons_append]
      rw [scanAll_plain _ _ _ hne]
      simp only [List.length_cons, List.length_nil]
    · simp only [Bool.and_eq_true, beq_iff_eq] at hf
      simp only [if_true, show BinFmt.idfFakeRepeat = [1, 0, 1, 0] from rfl, hf.1.1, hf.1.2, List.cons_append, List.nil_append]
      rw [scanAll_esc]
      simp only [List.length_cons, List.length_nil]
  · have hc : compress = true := by simp only [idfEsc, Bool.and_eq_true] at he; exact he.1
    simp only [if_true, hc, Bool.not_true, Bool.and_false, Bool.false_eq_true, if_false, List.append_nil, List.cons_append,
      List.nil_append]
    rw [scanAll_esc, show run % 256 + run / 256 % 256 * 256 = run by omega]
    simp only [List.length_cons, List.length_nil]

theorem idfRow_scan (compress : Bool) : ∀ (fuel : Nat) (row : List Cell) (out : List Nat),
    idfRow compress fuel row = some out → row.length ≤ fuel →
    (∀ c ∈ row, attrCell true c = true ∧ c.attr.page = 0) →
    ∀ (X : List Nat), ∃ items, scanAll (out ++ X) = (items ++ (scanAll X).1, out.length + (scanAll X).2) ∧
        idfExpand items = row.map shownCell := by
  intro fuel
  induction fuel with
  | zero =>
    intro row out h hl _ X
    obtain rfl : row = [] := List.eq_nil_of_length_eq_zero (by omega)
    obtain rfl := Option.some.inj h
    exact ⟨[], by simp, rfl⟩
  | succ fuel ih =>
    intro row out h hl hcells X
    cases row with
    | nil => obtain rfl := Option.some.inj h; exact ⟨[], by simp, rfl⟩
    | cons c rest =>
      obtain ⟨hac, hp0⟩ := hcells c List.mem_cons_self
      have hch := (attrCell_ice c hac).1
      rw [idfRow_cons, if_neg (by omega)] at h
      obtain ⟨out', hrec, rfl⟩ := Option.map_eq_some_iff.mp h
      obtain ⟨hr1, hr2⟩ := idfRle_bounds compress c rest
      have hrl := runLen_le c rest
      obtain ⟨items', hscan', hexp'⟩ := ih _ out' hrec
        (by simp only [List.length_drop, List.length_cons] at hl ⊢; omega)
        (fun d hd => hcells d (List.mem_cons_of_mem _ (List.mem_of_mem_drop hd))) X
      refine ⟨(idfRle compress c (min (runLen c rest) 65535), c.ch, asU8 .ice c.attr) :: items', ?_, ?_⟩
      · rw [List.append_assoc, scanAll_chunk compress c _ (by have := runLen_pos c rest; omega) (Nat.min_le_right _ _), hscan']
        simp only [List.cons_append, List.length_append]
        refine Prod.ext rfl ?_
        simp only; omega
      · conv => rhs; rw [run_cells c rest _ hr1 hr2 (fun d hd => ((hcells d (List.mem_cons_of_mem _ hd)).2).trans hp0.symm)]
        unfold idfExpand at hexp' ⊢
        rw [List.flatMap_cons, hexp', dec_ice c hac hp0, List.map_append, List.map_replicate]

theorem idfRows_scan (compress : Bool) : ∀ (rows : List (List Cell)) (img : List Nat),
    idfRows compress rows = some img → (∀ r ∈ rows, ∀ c ∈ r, attrCell true c = true ∧ c.attr.page = 0) →
    ∀ (X : List Nat), ∃ items, scanAll (img ++ X) = (items ++ (scanAll X).1, img.length + (scanAll X).2) ∧
        idfExpand items = rows.flatten.map shownCell := by
  intro rows
  induction rows with
  | nil =>
    intro img h _ X
    obtain rfl := Option.some.inj h
    exact ⟨[], by simp, rfl⟩
  | cons row rows ih =>
    intro img h hcells X
    unfold idfRows at h
    cases ha : idfRow compress row.length row with
    | none => rw [ha] at h; simp at h
    | some a =>
      cases hb : idfRows compress rows with
      | none => rw [ha, hb] at h; simp at h
      | some b =>
        rw [ha, hb] at h
        obtain rfl := Option.some.inj h
        obtain ⟨it2, hs2, he2⟩ := ih b hb (fun r hr => hcells r (List.mem_cons_of_mem _ hr)) X
        obtain ⟨it1, hs1, he1⟩ := idfRow_scan compress row.length row a ha (Nat.le_refl _) (hcells row List.mem_cons_self) (b ++ X)
        refine ⟨it1 ++ it2, ?_, ?_⟩
        · rw [List.append_assoc, hs1, hs2]
          simp only [List.append_assoc, List.length_append]
          refine Prod.ext rfl ?_
          simp only; omega
        · unfold idfExpand at he1 he2 ⊢
          rw [List.flatMap_append, he1, he2]
          simp

/-- the bytes `IceDraw::to_bytes` writes before the SAUCE record: the signature `\x041.4` (`BinFmt.idfHeader14`), the corners
    `x1 = y1 = 0`, `x2 = w - 1`, `y2 = h - 1` as 16-bit little-endian words, the screen data, the font, the palette -/
def idfBody (p : Pic) (f0 : Font) (img : List Nat) : List Nat :=
  4 :: 49 :: 46 :: 52 :: 0 :: 0 :: 0 :: 0 :: ((p.w - 1) % 256) :: (((p.w - 1) / 256) % 256) :: ((p.h - 1) % 256) ::
    (((p.h - 1) / 256) % 256) :: (img ++ (f0.data ++ asVec63 p.pal))

theorem idf_load (p : Pic) (f0 : Font) (img : List Nat) (compress : Bool)
    (hwf : wellFormed p = true) (hw1 : 1 ≤ p.w) (hw2 : p.w ≤ 80) (hh : p.h ≤ 200) (hcells : allCells p (attrCell true) = true)
    (hpal : pal16 p.pal = true) (hpages : analyzeFontUsage p.rows.flatten = [0]) (hfd : f0.data.length = 4096)
    (himg : idfRows compress p.rows = some img) (s : Option Sauce.Sauce) :
    idfLoad (idfBody p f0 img) s = .ok (shownBuf p 80 .ice p.pal [(0, mkFont 16 f0.data)] (s.map metaOf)) := by
  obtain ⟨hne, hrows, hwid⟩ := rows_nonempty p hwf
  obtain ⟨hpl, hp6⟩ := pal16_parts _ hpal
  have hpb : (asVec63 p.pal).length = 48 := by rw [asVec63_length, hpl]
  let rows' := p.rows.map fun r => r.map shownCell
  have hcond : ∀ r ∈ p.rows, ∀ c ∈ r, attrCell true c = true ∧ c.attr.page = 0 := by
    intro r hr c hc
    exact ⟨allCells_mem hcells hr hc, page_zero p.rows hpages r hr c hc⟩
  -- what the scan makes of the screen data
  obtain ⟨items, hscan, hexp⟩ := idfRows_scan compress p.rows img himg hcond []
  simp only [List.append_nil, scanAll_nil, Nat.add_zero] at hscan
  have hrl : rows'.length = p.h := by simp [rows', hrows]
  have hrw : ∀ r ∈ rows', r.length = p.w := by
    intro r hr
    obtain ⟨r0, hr0, rfl⟩ := List.mem_map.mp hr
    rw [List.length_map]; exact hwid r0 hr0
  -- the file cut into header bytes, screen data, font, palette (`data` opaque from here on, so that nothing unfolds the body)
  generalize hdata : idfBody p f0 img = data
  have hlen : data.length = 12 + img.length + 4096 + 48 := by
    rw [← hdata]; simp [idfBody, hfd, hpb]; omega
  have hsplit : data = [4, 49, 46, 52, 0, 0, 0, 0, (p.w - 1) % 256, ((p.w - 1) / 256) % 256, (p.h - 1) % 256, ((p.h - 1) / 256) % 256] ++
      (img ++ (f0.data ++ asVec63 p.pal)) := by rw [← hdata]; rfl
  have ht4 : data.take 4 = BinFmt.idfHeader14 := by rw [← hdata]; rfl
  have hg4 : data.getD 4 0 = 0 := by rw [← hdata]; rfl
  have hg5 : data.getD 5 0 = 0 := by rw [← hdata]; rfl
  have hg6 : data.getD 6 0 = 0 := by rw [← hdata]; rfl
  have hg7 : data.getD 7 0 = 0 := by rw [← hdata]; rfl
  have hg8 : data.getD 8 0 = (p.w - 1) % 256 := by rw [← hdata]; rfl
  have hg9 : data.getD 9 0 = ((p.w - 1) / 256) % 256 := by rw [← hdata]; rfl
  have hhs : BinFmt.idfHeaderSize = 12 := rfl
  have hfs : BinFmt.idfFontSize = 4096 := rfl
  have hps : BinFmt.idfPaletteSize = 48 := rfl
  have hscreen : (data.take (data.length - BinFmt.idfFontSize - BinFmt.idfPaletteSize)).drop BinFmt.idfHeaderSize = img := by
    have e : data.length - BinFmt.idfFontSize - BinFmt.idfPaletteSize = 12 + img.length := by rw [hlen, hfs, hps]; omega
    rw [e, hsplit, hhs]
    rw [List.drop_take, Nat.add_sub_cancel_left]
    exact Basics.take_drop_mid _ img _ 12 _ rfl rfl
  have hfont : (data.drop (BinFmt.idfHeaderSize + img.length)).take BinFmt.idfFontSize = f0.data := by
    rw [hsplit, hhs, hfs, ← List.append_assoc, List.drop_left' (by simp only [List.length_append, List.length_cons, List.length_nil])]
    exact List.take_left' hfd
  have hpalb : (data.drop (BinFmt.idfHeaderSize + img.length + BinFmt.idfFontSize)).take BinFmt.idfPaletteSize = asVec63 p.pal := by
    rw [hsplit, hhs, hfs, hps, ← List.append_assoc, ← List.append_assoc,
      List.drop_left' (by simp only [List.length_append, List.length_cons, List.length_nil, hfd])]
    rw [← hpb, List.take_length]
  -- the loader's guards, then the scan
  unfold idfLoad
  have c1 : ¬ (data.length < BinFmt.idfHeaderSize + BinFmt.idfFontSize + BinFmt.idfPaletteSize) := by
    rw [hlen, hhs, hfs, hps]; omega
  have c2 : ¬ ((data.take 4 != BinFmt.idfHeader13) = true ∧ (data.take 4 != BinFmt.idfHeader14) = true) := by
    rw [ht4]; simp
  have ex2 : (p.w - 1) % 256 + ((p.w - 1) / 256) % 256 * 256 = p.w - 1 := by omega
  simp only [c1, c2, if_false, hg4, hg5, hg6, hg7, hg8, hg9, ex2, Nat.zero_mul, Nat.add_zero, Nat.not_lt_zero, Nat.sub_zero]
  rw [hscreen, show idfScan (img.length + 1) img = scanAll img from rfl, hscan]
  simp only
  -- the items expand to `w * h` cells, so the last row is inside the 16-bit `y` range
  have hw' : p.w - 1 + 1 = p.w := by omega
  have hexp0 : (items.flatMap fun it => List.replicate it.1 (⟨it.2.1, fromU8 true it.2.2⟩ : Cell)) = rows'.flatten := by
    have := hexp
    unfold idfExpand at this
    rw [this, List.map_flatten]
  have htot : (items.map fun it => it.1).sum = p.w * p.h := by
    have hsum : ∀ l : List (Nat × Nat × Nat), (l.flatMap fun it => List.replicate it.1 (⟨it.2.1, fromU8 true it.2.2⟩ : Cell)).length =
        (l.map fun it => it.1).sum := by
      intro l; induction l with
      | nil => rfl
      | cons it rest ih => simp [List.flatMap_cons, ih]
    rw [← hsum items, hexp0, flatten_length_rows rows' p.w hrw, hrl]
  have cY : ¬ ((items.map fun it => it.1).sum > 0 ∧ ((items.map fun it => it.1).sum - 1) / (p.w - 1 + 1) > BinFmt.idfMaxY) := by
    rw [htot, hw']
    have hmy : BinFmt.idfMaxY = 65535 := rfl
    rw [hmy]
    intro ⟨h0, h1⟩
    have : (p.w * p.h - 1) / p.w < p.h := by
      apply (Nat.div_lt_iff_lt_mul (by omega)).mpr
      have : p.w * p.h = p.h * p.w := Nat.mul_comm _ _
      omega
    omega
  simp only [Nat.zero_add, cY, if_false]
  -- placing the cells into the cleared 80-column start buffer
  have hclear : (BinFmt.idfClearsRows == 1) = true := by decide
  rw [hexp0, hfont, hpalb, from63_asVec63 p.pal hp6, hw']
  have hplace := placeAll_shown true true p hwf hw1
    ({ bw := p.w, bh := 25, lw := 80, lh := 25, lines := [], ice := IceMode.ice, pal := dosPalette, fonts := [(0, defaultFont)],
       sauce := s.map metaOf } : LBuf) rfl hw2 (Or.inl rfl)
  rw [setSauce_false _ s (by simp [LBuf.start])]
  unfold LBuf.start
  have hsw : BinFmt.idfStartW = 80 := rfl
  have hsh : BinFmt.idfStartH = 25 := rfl
  simp only [hclear, if_true, hsw, hsh]
  have h25 : ((25 : Nat) : Int) = 25 := rfl
  rw [h25, hplace]
  unfold shownBuf
  have hfil : ([(0, defaultFont)] : List (Nat × Font)).filter (fun e => e.1 != 0) = [] := by decide
  simp only [hfil, if_true]

theorem idfRow_some (compress : Bool) (fuel : Nat) (row : List Cell) (h : ∀ c ∈ row, c.ch ≤ 255) :
    ∃ out, idfRow compress fuel row = some out := by
  fun_induction idfRow compress fuel row
  -- arm 3: a character above 255; arm 4: the rest of the row fails — both excluded by `h`
  case case3 hgt => have := h _ List.mem_cons_self; omega
  case case4 hnone ih =>
    obtain ⟨_, ho⟩ := ih (fun d hd => h d (List.mem_cons_of_mem _ (List.mem_of_mem_drop hd)))
    rw [hnone] at ho; cases ho
  all_goals exact ⟨_, rfl⟩

theorem idfRows_some (compress : Bool) : ∀ (rows : List (List Cell)), (∀ r ∈ rows, ∀ c ∈ r, c.ch ≤ 255) →
    ∃ img, idfRows compress rows = some img := by
  intro rows
  induction rows with
  | nil => intro _; exact ⟨[], rfl⟩
  | cons r rs ih =>
    intro h
    obtain ⟨a, ha⟩ := idfRow_some compress r.length r (h r (by simp))
    obtain ⟨b, hb⟩ := ih (fun r' hr' => h r' (by simp [hr']))
    exact ⟨a ++ b, by unfold idfRows; rw [ha, hb]⟩

theorem idfSave_eq (compress s : Bool) (date : List Nat) (p : Pic) :
    idfSave compress s date p = withSauce s .bin p date (idfSave compress false date p) := by
  show Sauces s .bin p date _ _
  unfold idfSave
  refine .ite .err (.ite .err (.ite .err (.ite .err ?_)))
  cases idfRows compress p.rows with
  | none => exact .err
  | some img =>
    cases lookupFont p.fonts ((analyzeFontUsage p.rows.flatten).headD 0) with
    | none => exact .err
    | some font => exact .ite .err (.leaf _)

theorem idfSave_ok_iff (compress : Bool) (date : List Nat) (p : Pic) (body : List Nat) :
    idfSave compress false date p = .ok body ↔
      p.ice = .ice ∧ p.h ≤ BinFmt.idfMaxHeight ∧ (analyzeFontUsage p.rows.flatten).length ≤ 1 ∧ p.pal.length = 16 ∧
      ∃ img font, idfRows compress p.rows = some img ∧
        lookupFont p.fonts ((analyzeFontUsage p.rows.flatten).headD 0) = some font ∧ font.height = 16 ∧
        body = BinFmt.idfHeader14 ++ [0, 0, 0, 0] ++ u16le (p.w - 1) ++ u16le (p.h - 1) ++ img ++ font.data ++ asVec63 p.pal := by
  unfold idfSave
  dsimp only
  cases idfRows compress p.rows <;> cases lookupFont p.fonts ((analyzeFontUsage p.rows.flatten).headD 0) <;>
    simp only [ok_ite_err_iff, bne_iff_ne, ne_eq, Decidable.not_not, Nat.not_lt, Bool.false_eq_true, if_false,
      Out.ok.injEq, reduceCtorEq, and_false, false_and, exists_false, Option.some.injEq, exists_eq_left', exists_and_left, eq_comm (a := body)]

theorem idf_roundtrip (o : Opts) (date : List Nat) (p : Pic) (hrep : Representable .idf o p = true) (hdate : dateOk date = true) :
    ∃ bytes, save .idf o date p = .ok bytes ∧
      ((o.sauce = true ∨ tailReadsAsSauce bytes = false) → ∃ g, fromBytes .idf bytes = .ok g ∧ SamePicture .idf p g) := by
  obtain ⟨hmeta, hw1, hw2, hh, f0, hwf, hice, hcells, hpal, hpages, hf, hf16, hfd⟩ := (representable_idf o p).mp hrep
  have hpl : p.pal.length = 16 := (pal16_parts _ hpal).1
  have hch : ∀ r ∈ p.rows, ∀ c ∈ r, c.ch ≤ 255 := by
    intro r hr c hc
    exact (attrCell_ice c (allCells_mem hcells hr hc)).1
  obtain ⟨img, himg⟩ := idfRows_some o.compress p.rows hch
  let body := idfBody p f0 img
  have hsave0 : idfSave o.compress o.sauce date p = if o.sauce then writeSauce .bin p date body else .ok body := by
    rw [idfSave_eq, (idfSave_ok_iff o.compress date p body).mpr ⟨hice, hh, by rw [hpages]; decide, hpl, img, f0, himg,
      by rw [hpages]; exact hf, hf16, by simp [body, idfBody, BinFmt.idfHeader14, u16le, List.append_assoc]⟩]
    rfl
  have hload : ∀ s, ∃ g, loadBody .idf body s = .ok g ∧ SamePicture .idf p g := fun s =>
    ⟨_, idf_load p f0 img o.compress hwf hw1 hw2 hh hcells hpal hpages hfd himg s, samePicture_shown .idf p 80 .ice _ _ hwf hw2 (by rw [hice]) fun _ => fontsSame_font16 p _ f0 hpages hf hf16 rfl⟩
  exact roundtrip_of_body .idf .bin o date p body hsave0 hmeta hdate (fun _ => ⟨f0, hf, fun _ => by omega, fun _ => hload _⟩)
    (fun _ => hload none)

end IcyVerif.BinFormats
