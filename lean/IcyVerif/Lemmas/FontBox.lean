import IcyVerif.Model.FontBox
import IcyVerif.Lemmas.BinFormatsRt
import IcyVerif.Lemmas.FontRt
/-! # C17: fonts inside XBin / ADF / IDF files and IcyDraw documents

Where the font blocks stand in a written file (for every picture the writer accepts: no representability hypothesis), the font
round trips as corollaries of C05's whole-file theorems, the ADF / IDF domain predicates, and C07's `FONT_n` codec clause for
`icyCodecs`. -/
namespace IcyVerif.FontBox
open IcyVerif.Font IcyVerif.BinFormats IcyVerif.XbCompress IcyVerif.Gen

/-- the file a writer returns, if any, holds the glyph bytes of the picture's fonts at the positions `bl` names -/
abbrev Blocks (p : Pic) (bl : List (Nat × Nat × Nat)) : Out (List Nat) → Prop :=
  Out.Holds fun bytes => ∀ b ∈ bl, ∃ font, lookupFont p.fonts b.1 = some font ∧ (bytes.drop b.2.1).take b.2.2 = font.data

theorem Blocks.body {p : Pic} {slot n : Nat} {font : BinFormats.Font} (hf : lookupFont p.fonts slot = some font)
    (pre post : List Nat) (sauce : Bool) (k : SauceKind) (date : List Nat) (hn : n = pre.length) (bytes : List Nat)
    (h : (if sauce then writeSauce k p date (pre ++ font.data ++ post) else .ok (pre ++ font.data ++ post)) = .ok bytes) :
    ∀ b ∈ [(slot, n, font.data.length)], ∃ font, lookupFont p.fonts b.1 = some font ∧ (bytes.drop b.2.1).take b.2.2 = font.data := by
  intro b hb
  obtain ⟨tail, rfl⟩ := sauced_prefix sauce k p date _ bytes h
  rw [List.mem_singleton.mp hb]
  exact ⟨font, hf, by rw [List.append_assoc, List.append_assoc]; exact Basics.take_drop_mid _ _ _ _ _ hn rfl⟩

theorem adf_blocks (sauce : Bool) (date : List Nat) (p : Pic) (o : Opts) :
    Blocks p (fontBlocks .adf o p) (adfSave sauce date p) := by
  intro bytes h
  rw [adfSave_eq] at h
  obtain ⟨body, hb, hs⟩ := withSauce_ok h
  obtain ⟨-, -, -, -, font, hf, -, -, rfl⟩ := (adfSave_ok_iff date p body).mp hb
  simp only [fontBlocks, hf]
  exact Blocks.body hf _ _ _ _ _ (by simp [toEgaData_length]; rfl) bytes hs

theorem idf_blocks (compress sauce : Bool) (date : List Nat) (p : Pic) :
    Blocks p (fontBlocks .idf ⟨sauce, compress⟩ p) (idfSave compress sauce date p) := by
  intro bytes h
  rw [idfSave_eq] at h
  obtain ⟨body, hb, hs⟩ := withSauce_ok h
  obtain ⟨-, -, -, -, img, font, himg, hf, -, rfl⟩ := (idfSave_ok_iff compress date p body).mp hb
  simp only [fontBlocks, hf, himg]
  exact Blocks.body hf _ _ _ _ _ (by simp [u16le, BinFmt.idfHeader14, BinFmt.idfHeaderSize]; omega) bytes hs

theorem xb_blocks (compress sauce : Bool) (date : List Nat) (p : Pic) :
    Blocks p (fontBlocks .xb ⟨sauce, compress⟩ p) (xbSave compress sauce date p) := by
  intro bytes h b hb
  obtain ⟨body, -, ⟨font, fl, fb, img, d⟩, hs⟩ := xbSave_layout compress sauce date p bytes h
  have hf := d.font0
  have hlen := d.palLen
  have hfb := d.fonts
  obtain rfl := d.body
  obtain ⟨tail, rfl⟩ := sauced_prefix sauce _ p date _ bytes hs
  have hoff : xbFontOffset p = ([88, 66, 73, 78, 26, p.w % 256, p.w / 256 % 256, p.h % 256, p.h / 256 % 256, font.height % 256, fl] ++
      if (!palIsDefault p.pal) = true then asVec63 (fillTo16 p.pal) else []).length := by
    unfold xbFontOffset
    cases hpd : palIsDefault p.pal
    · simp [hlen hpd]; omega
    · simp
  simp only [fontBlocks, hf] at hb
  split at hb
  · -- a font is embedded (not the default one, or two pages in use)
    rename_i hpg
    rw [if_pos hpg] at hfb
    split at hfb
    · -- two fonts, 512-character mode: the second block right behind the first
      obtain ⟨f2, hf2, hl, rfl⟩ := hfb
      rename_i h2
      simp only [h2, if_true, List.mem_cons, List.not_mem_nil, or_false] at hb
      rcases hb with rfl | rfl
      · exact ⟨font, hf, by simp only [List.append_assoc]; exact Basics.take_drop_mid _ _ _ _ _ hoff rfl⟩
      · refine ⟨f2, hf2, ?_⟩
        have e : ∀ A B C D E F : List Nat, A ++ B ++ (C ++ D) ++ E ++ F = (A ++ B ++ C) ++ (D ++ (E ++ F)) := by
          intros; simp only [List.append_assoc]
        rw [e]
        exact Basics.take_drop_mid _ _ _ _ _ (by rw [List.length_append, ← hoff]) hl.symm
    · -- one font
      subst hfb
      rename_i h2
      simp only [h2, Bool.false_eq_true, if_false, List.mem_singleton] at hb
      subst hb
      exact ⟨font, hf, by simp only [List.append_assoc]; exact Basics.take_drop_mid _ _ _ _ _ hoff rfl⟩
  · exact nomatch hb  -- the default font alone: no block

theorem font_blocks_hold (f : Fmt) (o : Opts) (date : List Nat) (p : Pic) (bytes : List Nat)
    (h : save f o date p = .ok bytes) :
    ∀ b ∈ fontBlocks f o p, ∃ font, lookupFont p.fonts b.1 = some font ∧ (bytes.drop b.2.1).take b.2.2 = font.data := by
  have : Blocks p (fontBlocks f o p) (save f o date p) := by
    cases f with
    | xb => exact xb_blocks o.compress o.sauce date p
    | adf => exact adf_blocks o.sauce date p o
    | idf => exact idf_blocks o.compress o.sauce date p
    | bin | tnd =>
      unfold fontBlocks
      dsimp only
      split <;> exact fun _ _ _ hb => nomatch hb
  exact this bytes h

/-- the shape of every non-empty `fontBlocks`: the first block names the first page in use, an optional second block (XBin 512) the
    second -/
theorem names_pages (pages : List Nat) (x : Nat × Nat) (tl : List (Nat × Nat × Nat))
    (htl : tl = [] ∨ ∃ y, tl = [(pages.getD 1 0, y)]) (i : Nat) (b : Nat × Nat × Nat)
    (h : ((pages.headD 0, x) :: tl)[i]? = some b) : b.1 = pages.getD i 0 := by
  match i, h with
  | 0, h => cases (Option.some.inj h); cases pages <;> rfl
  | 1, h =>
    rcases htl with rfl | ⟨y, rfl⟩
    · cases h
    · cases (Option.some.inj h); rfl
  | n + 2, h => rcases htl with rfl | ⟨y, rfl⟩ <;> cases h

theorem fontBlocks_page (f : Fmt) (o : Opts) (p : Pic) (i : Nat) (b : Nat × Nat × Nat) (h : (fontBlocks f o p)[i]? = some b) :
    b.1 = (analyzeFontUsage p.rows.flatten).getD i 0 := by
  unfold fontBlocks at h
  dsimp only at h
  split at h
  · cases h
  · cases f <;> dsimp only at h
    · -- xb: one or two blocks, or none for the default font
      split at h
      · exact names_pages _ _ _ (by split <;> simp) i b h
      · cases h
    · cases h  -- bin: no font block
    · exact names_pages _ _ _ (Or.inl rfl) i b h  -- adf
    · -- idf: one block when the image data can be coded
      split at h
      · exact names_pages _ _ _ (Or.inl rfl) i b h
      · cases h
    · cases h  -- tnd

/-- the loaded buffer has, in `slot`, a font whose block `create_8` turns into exactly `f` (same dimensions, glyph count,
    bit-identical glyphs: structural equality of the `BitFont`) -/
def FontBack (g : LBuf) (slot : Nat) (f : BitFont) : Prop :=
  ∃ F, lookupFont g.fonts slot = some F ∧ unboxFont F = f

theorem boxFont_wf (name : List Nat) (f : BitFont) (h : Nat) (wf : WfFont f h) :
    boxFont name f = some ⟨name, h, flat f.glyphs⟩ := by
  unfold boxFont
  rw [toU8_eq f h wf, wf.hh]
  rfl

theorem unbox_flat (F : BinFormats.Font) (f : BitFont) (h : Nat) (wf : WfFont f h) (h256 : f.glyphs.length = 256)
    (hh : F.height = h) (hd : F.data = flat f.glyphs) : unboxFont F = f := by
  unfold unboxFont
  rw [hh, hd]
  exact basic_roundtrip f h wf h256

theorem block_of_fontsSame (p : Pic) (g : LBuf) (hs : fontsSame p g = true) (slot : Nat)
    (hslot : slot ∈ analyzeFontUsage p.rows.flatten) (F : BinFormats.Font) (hp : lookupFont p.fonts slot = some F) :
    ∃ G, lookupFont g.fonts slot = some G ∧ G.height = F.height ∧ G.data = F.data := by
  unfold fontsSame at hs
  have := List.all_eq_true.mp hs slot hslot
  rw [hp] at this
  cases hg : lookupFont g.fonts slot with
  | none => rw [hg] at this; simp at this
  | some G =>
    rw [hg] at this
    simp only [Bool.and_eq_true, beq_iff_eq] at this
    exact ⟨G, rfl, this.1.symm, this.2.symm⟩

/-- XBin: corollary of C05's `xb_roundtrip`; one font, or two in the 512-character mode -/
theorem xb_font_roundtrip (o : Opts) (date : List Nat) (p : Pic) (hrep : Representable .xb o p = true)
    (hdate : dateOk date = true) :
    ∃ bytes, save .xb o date p = .ok bytes ∧
      ((o.sauce = true ∨ looksLikeSauce bytes = false) → ∃ g, fromBytes .xb bytes = .ok g ∧
        ∀ slot ∈ analyzeFontUsage p.rows.flatten, ∀ (name : List Nat) (f : BitFont) (h : Nat), WfFont f h →
          f.glyphs.length = 256 → lookupFont p.fonts slot = boxFont name f → FontBack g slot f) := by
  obtain ⟨bytes, h1, h2⟩ := xb_roundtrip o date p hrep hdate
  refine ⟨bytes, h1, fun hor => ?_⟩
  obtain ⟨g, h3, h4⟩ := h2 (hor.imp id (tail_of_looks bytes))
  refine ⟨g, h3, fun slot hslot name f h wf h256 hp => ?_⟩
  rw [boxFont_wf name f h wf] at hp
  obtain ⟨G, hg, hh, hd⟩ := block_of_fontsSame p g (h4.fonts rfl) slot hslot _ hp
  exact ⟨G, hg, unbox_flat G f h wf h256 hh hd⟩

/-- C05's `Representable` for ADF / IDF without the option record it does not look at (`boxOk_iff_representable`); it is
    `boxOkPage f 0` (`boxOk_eq`), through which its lemmas go -/
def boxOk (f : Fmt) (p : Pic) : Bool :=
  metaOk p.sauce && wellFormed p && p.ice == .ice && allCells p (attrCell true) && pal16 p.pal && analyzeFontUsage p.rows.flatten == [0] &&
  (match lookupFont p.fonts 0 with
   | none => false
   | some f0 => f0.height == 16 && f0.data.length == 4096) &&
  (match f with
   | .adf => p.w == 80 && decide (p.h ≤ 65535)
   | .idf => decide (1 ≤ p.w) && decide (p.w ≤ 80) && decide (p.h ≤ 200)
   | _ => false)

/-- the domain of the page-k theorems: `boxOk` with the cells on page `k` and an 8x16 font in slot `k`; slot 0 holds SOME font
    (every `Buffer::new` has one; `write_sauce_info` takes the record's font name from it), of any size. -/
def boxOkPage (f : Fmt) (k : Nat) (p : Pic) : Bool :=
  metaOk p.sauce && wellFormed p && p.ice == .ice && allCells p (attrCell true) && pal16 p.pal && analyzeFontUsage p.rows.flatten == [k] &&
  (match lookupFont p.fonts 0 with
   | none => false
   | some _ => true) &&
  (match lookupFont p.fonts k with
   | none => false
   | some fk => fk.height == 16 && fk.data.length == 4096) &&
  (match f with
   | .adf => p.w == 80 && decide (p.h ≤ 65535)
   | .idf => decide (1 ≤ p.w) && decide (p.w ≤ 80) && decide (p.h ≤ 200)
   | _ => false)

/-- the part of `boxOkPage` that does not look at the fonts -/
def pageCellsOk (f : Fmt) (k : Nat) (p : Pic) : Bool :=
  metaOk p.sauce && wellFormed p && p.ice == .ice && allCells p (attrCell true) && pal16 p.pal && analyzeFontUsage p.rows.flatten == [k] &&
  (match f with
   | .adf => p.w == 80 && decide (p.h ≤ 65535)
   | .idf => decide (1 ≤ p.w) && decide (p.w ≤ 80) && decide (p.h ≤ 200)
   | _ => false)

/-- for a concrete picture: the cells are checked as they stand, of the fonts only height and length of the one in slot `k`,
    without running through 4096 glyph bytes -/
theorem boxOkPage_iff (f : Fmt) (k : Nat) (p : Pic) :
    boxOkPage f k p = true ↔ pageCellsOk f k p = true ∧ (lookupFont p.fonts 0).isSome = true ∧
      ∃ fk, lookupFont p.fonts k = some fk ∧ fk.height = 16 ∧ fk.data.length = 4096 := by
  unfold boxOkPage pageCellsOk
  cases lookupFont p.fonts 0 <;> cases lookupFont p.fonts k <;> simp only [Bool.and_eq_true, beq_iff_eq] <;> simp
  exact and_right_comm

theorem pageCellsOk_pages {f : Fmt} {k : Nat} {p : Pic} (h : pageCellsOk f k p = true) : analyzeFontUsage p.rows.flatten = [k] := by
  unfold pageCellsOk at h
  simp only [Bool.and_eq_true, beq_iff_eq] at h
  exact h.1.2

theorem boxOk_eq (f : Fmt) (p : Pic) : boxOk f p = boxOkPage f 0 p := by
  unfold boxOk boxOkPage
  cases lookupFont p.fonts 0 <;> cases f <;> simp

theorem boxOk_iff_representable (f : Fmt) (o : Opts) (p : Pic) (hf : f = .adf ∨ f = .idf) :
    boxOk f p = true ↔ Representable f o p = true := by
  rw [boxOk_eq, boxOkPage_iff]
  unfold pageCellsOk
  rcases hf with rfl | rfl
  · rw [representable_adf]
    simp only [Bool.and_eq_true, beq_iff_eq, decide_eq_true_eq]
    constructor
    · rintro ⟨⟨⟨⟨⟨⟨⟨m, w⟩, i⟩, c⟩, pl⟩, pg⟩, hw, hh⟩, _, f0, h0, h16, hl⟩
      exact ⟨m, hw, hh, f0, w, i, c, pl, pg, h0, h16, hl⟩
    · rintro ⟨m, hw, hh, f0, d⟩
      exact ⟨⟨⟨⟨⟨⟨⟨m, d.wf⟩, d.ice⟩, d.cells⟩, d.pal⟩, d.pages⟩, hw, hh⟩, by rw [d.font0]; rfl, f0, d.font0, d.height, d.len⟩
  · rw [representable_idf]
    simp only [Bool.and_eq_true, beq_iff_eq, decide_eq_true_eq]
    constructor
    · rintro ⟨⟨⟨⟨⟨⟨⟨m, w⟩, i⟩, c⟩, pl⟩, pg⟩, ⟨hw1, hw2⟩, hh⟩, _, f0, h0, h16, hl⟩
      exact ⟨m, hw1, hw2, hh, f0, w, i, c, pl, pg, h0, h16, hl⟩
    · rintro ⟨m, hw1, hw2, hh, f0, d⟩
      exact ⟨⟨⟨⟨⟨⟨⟨m, d.wf⟩, d.ice⟩, d.cells⟩, d.pal⟩, d.pages⟩, ⟨hw1, hw2⟩, hh⟩, by rw [d.font0]; rfl, f0, d.font0, d.height, d.len⟩

theorem boxOk_of_representable (f : Fmt) (o : Opts) (p : Pic) (hf : f = .adf ∨ f = .idf) (h : Representable f o p = true) :
    boxOk f p = true := (boxOk_iff_representable f o p hf).mpr h

theorem save_date (f : Fmt) (hf : f = .adf ∨ f = .idf) (c : Bool) (date date' : List Nat) (p : Pic) :
    save f ⟨false, c⟩ date p = save f ⟨false, c⟩ date' p := by
  rcases hf with rfl | rfl <;> simp [save, adfSave, idfSave]

/-- ADF / IDF: corollary of C05's `adf_roundtrip` / `idf_roundtrip`; the date is needed only with a SAUCE record -/
theorem box_font_roundtrip (f : Fmt) (hf : f = .adf ∨ f = .idf) (o : Opts) (date : List Nat) (p : Pic) (hok : boxOk f p = true)
    (hdate : o.sauce = true → dateOk date = true) :
    ∃ bytes f0, lookupFont p.fonts 0 = some f0 ∧ save f o date p = .ok bytes ∧
      ((o.sauce = true ∨ looksLikeSauce bytes = false) → ∃ g, fromBytes f bytes = .ok g ∧
        ∃ G, lookupFont g.fonts 0 = some G ∧ G.height = f0.height ∧ G.data = f0.data) := by
  have hrep := (boxOk_iff_representable f o p hf).mp hok
  obtain ⟨d, hd, hsave⟩ : ∃ d, dateOk d = true ∧ save f o date p = save f o d p := by
    obtain ⟨s, c⟩ := o
    cases s with
    | true => exact ⟨date, hdate rfl, rfl⟩
    | false => exact ⟨[50, 48, 50, 52, 48, 49, 48, 49], by decide, save_date f hf c _ _ p⟩
  obtain ⟨bytes, h1, h2⟩ : ∃ bytes, save f o d p = .ok bytes ∧
      ((o.sauce = true ∨ tailReadsAsSauce bytes = false) → ∃ g, fromBytes f bytes = .ok g ∧ SamePicture f p g) := by
    rcases hf with rfl | rfl
    · exact adf_roundtrip o d p hrep hd
    · exact idf_roundtrip o d p hrep hd
  obtain ⟨hc, -, f0, hf0, -, -⟩ := (boxOkPage_iff f 0 p).mp (boxOk_eq f p ▸ hok)
  have hu := pageCellsOk_pages hc
  refine ⟨bytes, f0, hf0, by rw [hsave]; exact h1, fun hor => ?_⟩
  obtain ⟨g, h3, h4⟩ := h2 (hor.imp id (tail_of_looks bytes))
  exact ⟨g, h3, block_of_fontsSame p g (h4.fonts (by rcases hf with rfl | rfl <;> rfl)) 0 (by rw [hu]; simp) f0 hf0⟩

/-! ## the `FONT_n` chunks of an IcyDraw document (`icyCodecs`) -/

open IcyVerif.Uni

/-- what C17 asks of a font slot of a document -/
structure WfIcyFont (f : IcyFont) : Prop where
  utf8 : ValidUtf8 f.name
  short : f.name.length < 4294967296
  font : ∃ h, WfFont f.font h

theorem icy_font_codec {S : Type} (palEnc : List IcyDraw.RGB → List Nat) (palDec : List Nat → IcyDraw.Res (List IcyDraw.RGB))
    (sauceDec : List Nat → IcyDraw.Res (Option S)) (dflt : IcyFont) (f : IcyFont) (wf : WfIcyFont f) :
    let cd := icyCodecs palEnc palDec sauceDec dflt
    (cd.fontName f).length < 4294967296 ∧ cd.fontDec (cd.fontName f) (cd.fontData f) = .ok f := by
  obtain ⟨h, hwf⟩ := wf.font
  exact font_codec_ok _ IcyFont.mk f f.name f.font rfl rfl rfl (fun _ => rfl) wf.utf8 wf.short h hwf.toW

theorem icy_font_payload {S : Type} (palEnc : List IcyDraw.RGB → List Nat) (palDec : List Nat → IcyDraw.Res (List IcyDraw.RGB))
    (sauceDec : List Nat → IcyDraw.Res (Option S)) (dflt : IcyFont) (f : IcyFont) (h : Nat) (wf : WfFont f.font h) :
    IcyDraw.fontPayload (icyCodecs palEnc palDec sauceDec dflt) f =
      IcyDraw.leBytes 4 f.name.length ++ f.name ++ (psf2Header f.font ++ flat f.font.glyphs) := by
  show IcyDraw.leBytes 4 f.name.length ++ f.name ++ (match f.font.toPsf2 with | .ok d => d | _ => []) = _
  rw [toPsf2_eq f.font h wf.len wf.rows]

end IcyVerif.FontBox
