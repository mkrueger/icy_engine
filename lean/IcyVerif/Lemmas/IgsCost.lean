import IcyVerif.Model.IgsCost
import IcyVerif.Lemmas.IgsBlit
/-! Lemmas about the cost functions of `Model/IgsCost.lean`: erasing the counters gives back the functions of
`Model/IgsPaint.lean` (same outcome, same canvas), and the counters are closed forms of the loop bounds:
`rows * columns` rounds for the two screen blits (two pixel accesses / one pixel access per round), exactly
`rows * columns` rounds and at most as many pixel writes for `fill_rect`. -/
namespace IcyVerif.IgsPaint

theorem rbind_assoc {α β γ : Type} (r : Res α) (f : α → Res β) (g : β → Res γ) :
    (r.bind f).bind g = r.bind (fun a => (f a).bind g) := by cases r <;> rfl

theorem bind_eq {α β : Type} (r : Res α) (f : α → Res β) : (r >>= f) = r.bind f := rfl

theorem pure_eq {α : Type} (a : α) : (pure a : Res α) = .ok a := rfl

/-- a checked value that is passed on is the value itself -/
theorem chk_bind_congr {β : Type} {v : Int} {f g : Int → Res β} (h : f v = g v) : (chk v).bind f = (chk v).bind g := by
  unfold chk
  split
  · exact h
  · rfl

theorem blitSSRowC_eq (fx fy dx dy y : Int) : ∀ (n : Nat) (p : Paint) (x : Int) (k : Cost),
    blitSSRowC fx fy dx dy y n p x k = (blitSSRow fx fy dx dy y n p x).bind fun p' => .ok (p', (k.1 + n, k.2 + 2 * n)) := by
  intro n
  induction n with
  | zero => intro p x k; rfl
  | succ n ih =>
    intro p x k
    simp only [blitSSRowC, blitSSRow, bind_eq, rbind_assoc, ih]
    have e1 : k.1 + 1 + n = k.1 + (n + 1) := by omega
    have e2 : k.2 + 2 + 2 * n = k.2 + 2 * (n + 1) := by omega
    simp only [e1, e2]

theorem blitSSRowsC_eq (fx fy dx dy : Int) (cols : Nat) : ∀ (n : Nat) (p : Paint) (y : Int) (k : Cost),
    blitSSRowsC fx fy dx dy cols n p y k
      = (blitSSRows fx fy dx dy cols n p y).bind fun p' => .ok (p', (k.1 + n * cols, k.2 + 2 * (n * cols))) := by
  intro n
  induction n with
  | zero => intro p y k; simp only [blitSSRowsC, blitSSRows, Res.bind, Nat.zero_mul, Nat.mul_zero, Nat.add_zero]
  | succ n ih =>
    intro p y k
    simp only [blitSSRowsC, blitSSRows, bind_eq, rbind_assoc, ih, blitSSRowC_eq]
    have e1 : k.1 + cols + n * cols = k.1 + (n + 1) * cols := by rw [Nat.add_mul]; omega
    have e2 : k.2 + 2 * cols + 2 * (n * cols) = k.2 + 2 * ((n + 1) * cols) := by rw [Nat.add_mul]; omega
    congr 1; funext p1
    simp only [Res.bind, e1, e2]

theorem blitScreenToScreenC_eq (p : Paint) (fx fy tx ty dx dy : Int) :
    blitScreenToScreenC p fx fy tx ty dx dy
      = (blitScreenToScreen p fx fy tx ty dx dy).bind fun p' => .ok (p', (blitCost p fx fy tx ty, 2 * blitCost p fx fy tx ty)) := by
  rw [show blitCost p fx fy tx ty = (min (ty - fy) (resH p)).toNat * (min (tx - fx) (resW p)).toNat from Nat.mul_comm _ _]
  unfold blitScreenToScreenC blitScreenToScreen
  simp only [bind_eq, rbind_assoc, blitSSRowsC_eq, Nat.zero_add]
  exact chk_bind_congr (chk_bind_congr rfl)

theorem grabRowC_eq (y : Int) : ∀ (n : Nat) (p : Paint) (x : Int) (m : Array Nat) (k : Cost),
    grabRowC y n p x m k = (grabRow y n p x m).bind fun m' => .ok (m', (k.1 + n, k.2 + n)) := by
  intro n
  induction n with
  | zero => intro p x m k; rfl
  | succ n ih =>
    intro p x m k
    simp only [grabRowC, grabRow, bind_eq, rbind_assoc, ih]
    have e1 : k.1 + 1 + n = k.1 + (n + 1) := by omega
    have e2 : k.2 + 1 + n = k.2 + (n + 1) := by omega
    simp only [e1, e2]

theorem grabRowsC_eq (fx : Int) (cols : Nat) : ∀ (n : Nat) (p : Paint) (y : Int) (m : Array Nat) (k : Cost),
    grabRowsC fx cols n p y m k = (grabRows fx cols n p y m).bind fun m' => .ok (m', (k.1 + n * cols, k.2 + n * cols)) := by
  intro n
  induction n with
  | zero => intro p y m k; simp only [grabRowsC, grabRows, Res.bind, Nat.zero_mul, Nat.add_zero]
  | succ n ih =>
    intro p y m k
    simp only [grabRowsC, grabRows, bind_eq, rbind_assoc, ih, grabRowC_eq]
    have e1 : k.1 + cols + n * cols = k.1 + (n + 1) * cols := by rw [Nat.add_mul]; omega
    have e2 : k.2 + cols + n * cols = k.2 + (n + 1) * cols := by rw [Nat.add_mul]; omega
    congr 1; funext m1
    simp only [Res.bind, e1, e2]

theorem blitScreenToMemoryC_eq (p : Paint) (fx fy tx ty : Int) :
    blitScreenToMemoryC p fx fy tx ty
      = (blitScreenToMemory p fx fy tx ty).bind fun p' => .ok (p', (blitCost p fx fy tx ty, blitCost p fx fy tx ty)) := by
  rw [show blitCost p fx fy tx ty = (min (ty - fy) (resH p)).toNat * (min (tx - fx) (resW p)).toNat from Nat.mul_comm _ _]
  unfold blitScreenToMemoryC blitScreenToMemory
  simp only [bind_eq, rbind_assoc, grabRowsC_eq, Nat.zero_add, pure_eq]
  exact chk_bind_congr (chk_bind_congr rfl)

theorem fillPixelC_ok {p : Paint} {x y : Int} {k : Cost} {r : Paint × Cost} (h : fillPixelC p x y k = .ok r) :
    fillPixel p x y = .ok r.1 ∧ r.2.1 = k.1 + 1 ∧ r.2.2 ≤ k.2 + 1 := by
  unfold fillPixelC at h
  unfold fillPixel
  split at h
  · cases h
  · rename_i hl
    simp only [hl, if_false]
    simp only [] at h
    split at h
    · rename_i hb
      obtain ⟨p1, h1, h2⟩ := bind_ok h
      cases h2
      refine ⟨?_, rfl, Nat.le_refl _⟩
      rw [if_pos hb]; exact h1
    · rename_i hb
      cases h
      refine ⟨?_, rfl, Nat.le_succ _⟩
      rw [if_neg hb]

theorem fillRowC_ok (y : Int) : ∀ (n : Nat) (p : Paint) (x : Int) (k : Cost) (r : Paint × Cost),
    fillRowC y n p x k = .ok r → fillRow y n p x = .ok r.1 ∧ r.2.1 = k.1 + n ∧ r.2.2 ≤ k.2 + n := by
  intro n
  induction n with
  | zero => intro p x k r h; cases h; exact ⟨rfl, rfl, Nat.le_refl _⟩
  | succ n ih =>
    intro p x k r h
    unfold fillRowC at h
    obtain ⟨r1, h1, h2⟩ := bind_ok h
    obtain ⟨e1, e2, e3⟩ := fillPixelC_ok h1
    obtain ⟨f1, f2, f3⟩ := ih r1.1 (x + 1) r1.2 r h2
    unfold fillRow
    simp only [bind_eq, e1, Res.bind, f1]
    exact ⟨trivial, by omega, by omega⟩

theorem fillRowsC_ok (x0 : Int) (cols : Nat) : ∀ (n : Nat) (p : Paint) (y : Int) (k : Cost) (r : Paint × Cost),
    fillRowsC x0 cols n p y k = .ok r → fillRows x0 cols n p y = .ok r.1 ∧ r.2.1 = k.1 + n * cols ∧ r.2.2 ≤ k.2 + n * cols := by
  intro n
  induction n with
  | zero => intro p y k r h; cases h; exact ⟨rfl, by simp, by simp⟩
  | succ n ih =>
    intro p y k r h
    unfold fillRowsC at h
    obtain ⟨r1, h1, h2⟩ := bind_ok h
    obtain ⟨e1, e2, e3⟩ := fillRowC_ok y cols p x0 k r1 h1
    obtain ⟨f1, f2, f3⟩ := ih r1.1 (y + 1) r1.2 r h2
    unfold fillRows
    simp only [bind_eq, e1, Res.bind, f1]
    have : (n + 1) * cols = n * cols + cols := by rw [Nat.add_mul]; omega
    exact ⟨trivial, by omega, by omega⟩

/-- the rectangle `fill_rect` walks after clipping: columns x rows -/
def fillCost (p : Paint) (x0 y0 x1 y1 : Int) : Nat :=
  (min (max y0 y1) (resH p - 1) - max (min y0 y1) 0 + 1).toNat * (min (max x0 x1) (resW p - 1) - max (min x0 x1) 0 + 1).toNat

/-- the closed form `igs_fill_rect_total` bounds is the number of rounds the instrumented `fill_rect` counts (`fillRectC_ok`) -/
theorem fillCost_eq : fillCost = fillRectCost := rfl

theorem fillCost_le (p : Paint) (x0 y0 x1 y1 : Int) : fillCost p x0 y0 x1 y1 ≤ (resW p).toNat * (resH p).toNat := by
  rw [fillCost_eq, Nat.mul_comm]
  exact fillRectCost_le p x0 y0 x1 y1

theorem fillRectC_ok {p : Paint} {x0 y0 x1 y1 : Int} {r : Paint × Cost} (h : fillRectC p x0 y0 x1 y1 = .ok r) :
    fillRect p x0 y0 x1 y1 = .ok r.1 ∧ r.2.1 = fillCost p x0 y0 x1 y1 ∧ r.2.2 ≤ fillCost p x0 y0 x1 y1 := by
  unfold fillRectC at h
  obtain ⟨f1, f2, f3⟩ := fillRowsC_ok _ _ _ _ _ _ _ h
  unfold fillRect fillCost
  exact ⟨f1, by simpa using f2, by simpa using f3⟩

end IcyVerif.IgsPaint
