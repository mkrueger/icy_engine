import IcyVerif.Model.PaletteNamed
import IcyVerif.Model.PalStream
import IcyVerif.Lemmas.PaletteIdx
/-! The named-colour model (`Model/PaletteNamed.lean`) IS the RGB model once names are erased. -/
namespace IcyVerif.Palette
open IcyVerif.Gen.PalColor

theorem rgb_eq_iff (a b : Rgb) : a = b ↔ a.r = b.r ∧ a.g = b.g ∧ a.b = b.b := by
  cases a; cases b; simp

theorem eqOn_rgb (a b : Color) : eqOn [0, 1, 2] a b = decide (a.rgb = b.rgb) := by
  simp only [eqOn, List.all_cons, List.all_nil, fieldEq, Bool.and_true]
  rw [Bool.eq_iff_iff]
  simp only [Bool.and_eq_true, beq_iff_eq, decide_eq_true_eq, rgb_eq_iff]

/-- the search of `insert_color` compares the three channels and nothing else (the generated field list is `[0, 1, 2]`) -/
theorem eqOn_insert (a b : Color) : eqOn insertEqFields a b = decide (a.rgb = b.rgb) := eqOn_rgb a b

/-- `PartialEq for Color` compares the three channels and nothing else -/
theorem colorEq_rgb (a b : Color) : colorEq a b = decide (a.rgb = b.rgb) := eqOn_rgb a b

theorem firstIdxN_eq (c : Color) (p : List Color) : firstIdxN c p = firstIdx c.rgb (rgbsOf p) := by
  induction p with
  | nil => rfl
  | cons x xs ih =>
    simp only [firstIdxN, rgbsOf, List.map_cons, firstIdx, eqOn_insert]
    by_cases h : x.rgb = c.rgb
    · simp [h]
    · simp only [h, decide_false, Bool.false_eq_true, if_false]
      rw [ih]; rfl

theorem rgbsOf_length (p : List Color) : (rgbsOf p).length = p.length := by simp [rgbsOf]

theorem rgbsOf_append (p q : List Color) : rgbsOf (p ++ q) = rgbsOf p ++ rgbsOf q := by simp [rgbsOf]

theorem insertColorN_erase (p : List Color) (c : Color) :
    (rgbsOf (insertColorN p c).1, (insertColorN p c).2) = insertColor (rgbsOf p) c.rgb := by
  unfold insertColorN insertColor
  rw [firstIdxN_eq, rgbsOf_length]
  split
  · rfl
  · simp [rgbsOf]

theorem insertColorN_fst (p : List Color) (c : Color) : rgbsOf (insertColorN p c).1 = (insertColor (rgbsOf p) c.rgb).1 :=
  congrArg Prod.fst (insertColorN_erase p c)

theorem insertColorN_snd (p : List Color) (c : Color) : (insertColorN p c).2 = (insertColor (rgbsOf p) c.rgb).2 :=
  congrArg Prod.snd (insertColorN_erase p c)

theorem rgbsOf_push (p : List Color) (c : Color) : rgbsOf (p ++ [c]) = rgbsOf p ++ [c.rgb] := rgbsOf_append p [c]

theorem rgbsOf_replicate (n : Nat) : rgbsOf (List.replicate n blackC) = List.replicate n black := by
  simp [rgbsOf, blackC]

theorem rgbsOf_set (p : List Color) (i : Nat) (c : Color) : rgbsOf (p.set i c) = (rgbsOf p).set i c.rgb := by
  simp [rgbsOf, List.map_set]

theorem setColorN_erase (p : List Color) (i : Nat) (c : Color) : rgbsOf (setColorN p i c) = setColor (rgbsOf p) i c.rgb := by
  unfold setColorN setColor
  rw [rgbsOf_set, rgbsOf_length]
  split
  · rw [rgbsOf_append, rgbsOf_replicate]
  · rfl

/-- ONE STEP of the simulation: the RGB model, run on the erased operation and then on any `rest`, first answers what the
    named step answers (names erased) and goes on from the named step's palette (names erased) -/
theorem stepN_sim (dos : List Rgb) (p : List Color) (op : NOp) (rest : List Op) :
    trace (rgbsOf p) (op.erase ++ rest) =
      ((stepN dos p op).2.toList.flatMap NOut.erase ++ (trace (rgbsOf (stepN dos p op).1) rest).1,
        (trace (rgbsOf (stepN dos p op).1) rest).2) := by
  cases op <;>
    simp [trace, stepN, step, NOp.erase, NOut.erase, insertColorN_fst, insertColorN_snd, setColorN_erase, getRgbN, rgbsOf_push]

theorem erase_length (op : NOp) : op.erase.length ≤ 1 := by cases op <;> simp [NOp.erase]

theorem all_zip_rgb (p q : List Color) (hl : p.length = q.length) :
    ((p.zip q).all fun e => colorEq e.1 e.2) = true ↔ rgbsOf p = rgbsOf q := by
  induction p generalizing q with
  | nil => cases q with
    | nil => simp [rgbsOf]
    | cons _ _ => simp at hl
  | cons x xs ih =>
    cases q with
    | nil => simp at hl
    | cons y ys =>
      simp only [List.length_cons, Nat.add_right_cancel_iff] at hl
      rw [List.zip_cons_cons, List.all_cons, Bool.and_eq_true, ih ys hl, colorEq_rgb, decide_eq_true_eq]
      show x.rgb = y.rgb ∧ rgbsOf xs = rgbsOf ys ↔ x.rgb :: rgbsOf xs = y.rgb :: rgbsOf ys
      rw [List.cons.injEq]

theorem colorsEqual_rgb (p q : List Color) : colorsEqual p q = true ↔ rgbsOf p = rgbsOf q := by
  unfold colorsEqual
  by_cases hl : p.length = q.length
  · simp only [hl, beq_self_eq_true, Bool.true_and]
    exact all_zip_rgb p q hl
  · have : rgbsOf p ≠ rgbsOf q := fun h => hl (by rw [← rgbsOf_length p, ← rgbsOf_length q, h])
    simp [hl, this]

theorem rgbsOf_unnamed (d : List Rgb) : rgbsOf (unnamed d) = d := by
  simp [rgbsOf, unnamed, Function.comp_def]

theorem isDefaultN_eq_colorsEqual (dos : List Rgb) (p : List Color) : isDefaultN dos p = colorsEqual p (unnamed dos) := by
  simp [isDefaultN, colorsEqual, unnamed]

end IcyVerif.Palette
