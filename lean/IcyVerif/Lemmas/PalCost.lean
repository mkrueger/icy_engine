import IcyVerif.Lemmas.PalLoad
/-! A palette file never yields more colours than it has bytes, whatever numbers it announces (C03): the importers
    allocate per colour FOUND (one per regex match, each match consuming at least one character), never from the count
    line. -/
namespace IcyVerif.PalLoad
open IcyVerif.Bytes IcyVerif.Bytes.Res IcyVerif.Palette IcyVerif.Gen.FontPal IcyVerif.Gen.Palette

theorem lossyAux_length : ∀ (fuel : Nat) (bs : List Nat), (IcyVerif.Uni.lossyAux fuel bs).length ≤ bs.length := by
  intro fuel
  induction fuel with
  | zero => intro bs; simp [IcyVerif.Uni.lossyAux]
  | succ fuel ih =>
    intro bs
    cases bs with
    | nil => simp [IcyVerif.Uni.lossyAux]
    | cons b rest =>
      simp only [IcyVerif.Uni.lossyAux]
      split
      · rename_i cp n _
        have h1 := ih (rest.drop (n - 1))
        have h2 : (rest.drop (n - 1)).length ≤ rest.length := by simp
        simp only [List.length_cons]; omega
      · rename_i n _
        have h1 := ih (rest.drop (n - 1))
        have h2 : (rest.drop (n - 1)).length ≤ rest.length := by simp
        simp only [List.length_cons]; omega

theorem lossy_length (bs : List Nat) : (IcyVerif.Uni.lossy bs).length ≤ bs.length := lossyAux_length _ _

theorem importHex_length (s : List Nat) (p : Pal) (h : importHex s = some p) : p.colors.length ≤ s.length := by
  unfold importHex at h
  cases h
  simp only [colorsOfHexText, List.length_map]
  exact scanWith_length _ _ _

theorem iceStep_length (st st' : Pal × List Nat) (line : List Nat) (h : iceStep st line = some st') :
    st'.1.colors.length ≤ st.1.colors.length + line.length := by
  unfold iceStep at h
  simp only [] at h
  split at h
  · cases h; simp
  · split at h
    · cases h; omega
    · rename_i m rest hff
      have hne := findFirst_some_nonempty _ _ _ hff
      cases h
      simp only [List.length_append, List.length_cons, List.length_nil]; omega

theorem foldOpt_length {σ : Type} (step : σ → List Nat → Option σ) (m : σ → Nat)
    (hstep : ∀ st st' line, step st line = some st' → m st' ≤ m st + line.length) :
    ∀ (ls : List (List Nat)) (st st' : σ), foldOpt step st ls = some st' → m st' ≤ m st + tot ls := by
  intro ls
  induction ls with
  | nil => intro st st' h; cases h; exact Nat.le_refl _
  | cons l ls ih =>
    intro st st' h
    simp only [foldOpt] at h
    split at h
    · rename_i s1 hs1
      have h1 := hstep st s1 l hs1
      have h2 := ih s1 st' h
      simp only [tot]; omega
    · cases h

theorem importIce_length (s : List Nat) (p : Pal) (h : importIce s = some p) : p.colors.length ≤ s.length := by
  unfold importIce at h
  have ht := splitLines_tot s
  split at h
  · cases h; simp [Pal.empty]
  · rename_i l0 rest heq
    rw [heq] at ht
    split at h
    · cases hf : foldOpt iceStep (Pal.empty, []) rest with
      | none => rw [hf] at h; cases h
      | some st' =>
        rw [hf] at h
        cases h
        have := foldOpt_length iceStep (fun st => st.1.colors.length) iceStep_length rest _ st' hf
        simp only [tot, Pal.empty, List.length_nil] at ht this ⊢; omega
    · cases h

theorem txtStep_length (p p' : Pal) (line : List Nat) (h : txtStep p line = some p') :
    p'.colors.length ≤ p.colors.length + line.length := by
  unfold txtStep at h
  split at h
  · cases h; simp
  · split at h
    · cases h; omega
    · rename_i m rest hff
      have hne := findFirst_some_nonempty _ _ _ hff
      cases h
      simp only [List.length_append, List.length_cons, List.length_nil]; omega

theorem importTxt_length (s : List Nat) (p : Pal) (h : importTxt s = some p) : p.colors.length ≤ s.length := by
  unfold importTxt at h
  have := foldOpt_length txtStep (fun p => p.colors.length) txtStep_length _ _ _ h
  have ht := splitLines_tot s
  simp only [Pal.empty, List.length_nil] at this; omega

theorem ofOption_length (o : Option Pal) (n : Nat) (h : ∀ p, o = some p → p.colors.length ≤ n) :
    (ofOption o).Sat (fun r => r.length ≤ n) := by
  unfold ofOption
  split
  · rename_i p
    simp only [sat_ok, Pal.rgbs, List.length_map]
    exact h p rfl
  · trivial

theorem loadText_length (f : Fmt) (s : List Nat) : (loadText f s).Sat (fun r => r.length ≤ s.length) := by
  cases f
  · exact ofOption_length (importHex s) _ (importHex_length s)
  · exact Sat.mono (palText_spec s) (fun _ h => h.2)
  · exact Sat.mono (gplLoad_spec s) (fun _ h => h.2)
  · exact ofOption_length (importIce s) _ (importIce_length s)
  · exact ofOption_length (importTxt s) _ (importTxt_length s)

theorem palLoad_length (f : Fmt) (bytes : List Nat) : (palLoad f bytes).Sat (fun r => r.length ≤ bytes.length) := by
  unfold palLoad
  split
  · apply Sat.mono (loadText_length f _); intro r hr
    have := lossy_length bytes
    omega
  · trivial

end IcyVerif.PalLoad
