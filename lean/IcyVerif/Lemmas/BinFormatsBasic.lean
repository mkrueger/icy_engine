import IcyVerif.Model.BinFormats
/-!
# C05 basics: the attribute byte, the 6-bit palette codec, what a result satisfies

The attribute-byte facts `tab_ice`, `tab_blink` (decoding the byte a cell was written with gives the colours the cell is DISPLAYED
with) are finite tables proved by evaluation; `Lemmas/BinFormatsCells.lean` lifts them to all cells through the bounds of `attrCell`.
-/
namespace IcyVerif.BinFormats
open IcyVerif.XbCompress IcyVerif.Gen

/-- `as_u8` on the four things it looks at -/
def attrByte (blinkMode : Bool) (fg bg : Nat) (bold blink : Bool) : Nat :=
  let fg0 := fg &&& 0b1111
  let fg' := if bold then fg0 ||| 0b1000 else fg0
  let bg' := if blinkMode then (bg &&& 0b0111) ||| (if blink then 0b1000 else 0) else bg &&& 0b1111
  (fg' ||| (bg' <<< 4)) % 256

theorem isBold_iff (a : Attr) : (a.flags &&& Xb.attrBold = Xb.attrBold) ↔ isBold a = true := by
  simp [isBold]

theorem isBlink_iff (a : Attr) : (a.flags &&& Xb.attrBlink = Xb.attrBlink) ↔ isBlink a = true := by
  simp [isBlink]

theorem asU8_blink (a : Attr) : asU8 .blink a = attrByte true a.fg a.bg (isBold a) (isBlink a) := by
  unfold asU8 attrByte
  by_cases h1 : a.flags &&& Xb.attrBold = Xb.attrBold <;> by_cases h2 : a.flags &&& Xb.attrBlink = Xb.attrBlink <;>
    simp [h1, h2, isBold, isBlink]

theorem asU8_ice (a : Attr) : asU8 .ice a = attrByte false a.fg a.bg (isBold a) (isBlink a) := by
  unfold asU8 attrByte
  by_cases h1 : a.flags &&& Xb.attrBold = Xb.attrBold <;> simp [h1, isBold]

def shownFg (fg : Nat) (bold : Bool) : Nat := if bold ∧ fg < 8 then fg + 8 else fg

theorem tab_ice : ∀ fg, fg < 16 → ∀ bg, bg < 16 → ∀ bold blink : Bool,
    attrByte false fg bg bold blink < 256 ∧ attrByte false fg bg bold blink &&& 0b1111 = shownFg fg bold ∧
    attrByte false fg bg bold blink >>> 4 = bg := by decide +kernel

theorem tab_blink : ∀ fg, fg < 16 → ∀ bg, bg < 8 → ∀ bold blink : Bool,
    attrByte true fg bg bold blink < 256 ∧ attrByte true fg bg bold blink &&& 0b1111 = shownFg fg bold ∧
    (attrByte true fg bg bold blink >>> 4) &&& 0b0111 = bg ∧
    ((attrByte true fg bg bold blink &&& 0b10000000 != 0) = blink) := by decide +kernel

/-- 512-character mode: bit 3 carries the font, the foreground has three bits.  (The writer's side; the round trip goes through the
    decoder's tables `tab_dec_ext_*` of `Lemmas/BinFormatsXb.lean`.) -/
theorem tab_ext_ice : ∀ fg, fg < 8 → ∀ bg, bg < 16 → ∀ blink pg : Bool,
    let b := (attrByte false fg bg false blink &&& Xb.encKeepMask) ||| (if pg then Xb.encPageBit else 0)
    b < 256 ∧ b >>> 4 = bg ∧ (if pg then b &&& 0b1111 = fg + 8 else b &&& 0b1111 = fg) := by decide +kernel

theorem tab_ext_blink : ∀ fg, fg < 8 → ∀ bg, bg < 8 → ∀ blink pg : Bool,
    let b := (attrByte true fg bg false blink &&& Xb.encKeepMask) ||| (if pg then Xb.encPageBit else 0)
    b < 256 ∧ (b >>> 4) &&& 0b0111 = bg ∧ ((b &&& 0b10000000 != 0) = blink) ∧
    (if pg then b &&& 0b1111 = fg + 8 else b &&& 0b1111 = fg) := by decide +kernel

theorem dosPalette_length : dosPalette.length = 16 := by decide

theorem fillTo16_16 (pal : List Rgb) (h : pal.length = 16) : fillTo16 pal = pal := by
  unfold fillTo16
  rw [h]
  have : dosPalette.drop 16 = [] := by decide
  simp [this]

theorem sixBit_round (v : Nat) (h : sixBit v = true) : expand6 (v / 4) = v := by
  unfold sixBit at h
  simp only [Bool.and_eq_true, beq_iff_eq] at h
  exact h.1

theorem triples_flat (pal : List Rgb) : triples (pal.flatMap fun c => [c.1, c.2.1, c.2.2]) = pal := by
  induction pal with
  | nil => rfl
  | cons c cs ih => obtain ⟨r, g, b⟩ := c; simp [triples, ih]

theorem triples_mem (bs : List Nat) : ∀ c ∈ triples bs, c.1 ∈ bs ∧ c.2.1 ∈ bs ∧ c.2.2 ∈ bs := by
  fun_induction triples bs with
  | case1 r g b rest ih =>
    intro c hc
    simp only [List.mem_cons] at hc ⊢
    rcases hc with rfl | hc
    · simp
    · have := ih c hc
      exact ⟨Or.inr (Or.inr (Or.inr this.1)), Or.inr (Or.inr (Or.inr this.2.1)), Or.inr (Or.inr (Or.inr this.2.2))⟩
  | case2 bs h => intro c hc; simp at hc

theorem triples_length (bs : List Nat) : (triples bs).length = bs.length / 3 := by
  fun_induction triples bs with
  | case1 r g b rest ih => simp only [List.length_cons, ih]; omega
  | case2 bs h =>
    match bs, h with
    | [], _ | [_], _ | [_, _], _ => simp
    | a :: b :: c :: rest, h => exact absurd rfl (h a b c rest)

theorem sixBit_expand6 : ∀ v, v < 256 → sixBit (expand6 v) = true := by decide +kernel

theorem pal16_from63 (bs : List Nat) (hl : bs.length = 48) (hb : ∀ b ∈ bs, b < 256) : pal16 (from63 bs) = true := by
  unfold pal16 from63
  simp only [Bool.and_eq_true, beq_iff_eq, List.length_map, List.all_eq_true, List.mem_map]
  refine ⟨by rw [triples_length, hl], ?_⟩
  rintro c ⟨t, ht, rfl⟩
  obtain ⟨h1, h2, h3⟩ := triples_mem bs t ht
  exact ⟨⟨sixBit_expand6 _ (hb _ h1), sixBit_expand6 _ (hb _ h2)⟩, sixBit_expand6 _ (hb _ h3)⟩

theorem pal16_dos : pal16 dosPalette = true := by decide

theorem pal16_parts (pal : List Rgb) (h : pal16 pal = true) :
    pal.length = 16 ∧ pal.all (fun c => sixBit c.1 && sixBit c.2.1 && sixBit c.2.2) = true := by
  simpa [pal16] using h

theorem from63_asVec63 (pal : List Rgb) (h : pal.all (fun c => sixBit c.1 && sixBit c.2.1 && sixBit c.2.2) = true) :
    from63 (asVec63 pal) = pal := by
  induction pal with
  | nil => rfl
  | cons c cs ih =>
    obtain ⟨r, g, b⟩ := c
    simp only [List.all_cons, Bool.and_eq_true] at h
    obtain ⟨⟨⟨hr, hg⟩, hb⟩, hcs⟩ := h
    have := ih hcs
    unfold from63 asVec63 at this ⊢
    simp only [List.flatMap_cons, List.cons_append, List.nil_append, triples, List.map_cons, this,
      sixBit_round r hr, sixBit_round g hg, sixBit_round b hb]

theorem asVec63_length (pal : List Rgb) : (asVec63 pal).length = 3 * pal.length := by
  induction pal with
  | nil => rfl
  | cons c cs ih => simp [asVec63, List.flatMap_cons] at ih ⊢; omega

/-! the ADF palette is written into the 64 EGA registers and read back from the 16 registers the text colours use -/

theorem egaOffsets_length : BinFmt.egaColorOffsets.length = 16 := by decide
theorem egaOffsets_nodup : BinFmt.egaColorOffsets.Nodup := by decide
theorem egaOffsets_lt : ∀ j ∈ BinFmt.egaColorOffsets, j < 64 := by decide

theorem getD_lt256 {bs : List Nat} (hb : ∀ b ∈ bs, b < 256) (i : Nat) : bs.getD i 0 < 256 := by
  rw [List.getD_eq_getElem?_getD]
  cases hg : bs[i]? with
  | none => simp
  | some v => exact hb v (List.mem_of_getElem? hg)

theorem pal16_fromEga (bs : List Nat) (hb : ∀ b ∈ bs, b < 256) : pal16 (fromEgaData bs) = true := by
  have hlt : ∀ i, bs.getD i 0 < 256 := getD_lt256 hb
  unfold pal16 fromEgaData
  simp only [Bool.and_eq_true, beq_iff_eq, List.length_map, List.all_eq_true, List.mem_map]
  refine ⟨egaOffsets_length, ?_⟩
  rintro c ⟨i, _, rfl⟩
  exact ⟨⟨sixBit_expand6 _ (hlt _), sixBit_expand6 _ (hlt _)⟩, sixBit_expand6 _ (hlt _)⟩

/-- `P` holds of the value, if `r` is a value at all (not `Err`, not a panic) -/
def Out.Holds {α : Type} (P : α → Prop) (r : Out α) : Prop := ∀ b, r = .ok b → P b

abbrev EndsIn (tail : List Nat) : Out (List Nat) → Prop := Out.Holds fun b => ∃ pre, b = pre ++ tail

theorem ok_of_ite_err {α : Type} {c : Prop} [Decidable c] {x : Out α} {g : α} (h : (if c then Out.err else x) = .ok g) :
    ¬ c ∧ x = .ok g := by
  split at h
  · cases h
  · exact ⟨‹_›, h⟩

theorem ok_ite_err_iff {α : Type} {c : Prop} [Decidable c] {x : Out α} {g : α} :
    (if c then Out.err else x) = .ok g ↔ ¬ c ∧ x = .ok g :=
  ⟨ok_of_ite_err, fun h => by rw [if_neg h.1]; exact h.2⟩

theorem take_body (body rest : List Nat) (n : Nat) (h : rest.length = n) :
    (body ++ rest).take ((body ++ rest).length - n) = body := by
  have : (body ++ rest).length - n = body.length := by simp; omega
  rw [this]
  exact List.take_left' rfl

end IcyVerif.BinFormats
