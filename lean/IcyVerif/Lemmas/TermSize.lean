import IcyVerif.Lemmas.TermWrap
import IcyVerif.Lemmas.TermOther
import IcyVerif.Lemmas.TermMusic
/-! # What a whole stream keeps: the terminal size unless it requests a resize, and the range of the music fields
`CSI 8;h;w t` is the only control function that writes `tw`/`th`, and it sets the sticky flag `resized`; resets, form feed,
clear screen, margins, macros leave the size alone (what the repaired `Buffer::reset_terminal` guarantees: it rebuilds the
terminal state from the *terminal* size, not the buffer size).  The music fields are written in music mode only, and `sound.rs`
clamps what it stores. -/
namespace IcyVerif.Term

/-- `st'` comes after `st`: if it is still resize-free, so was `st`, and the size is the same; music fields that were
    in range still are -/
structure Keeps (st st' : St) : Prop where
  size : st'.p.resized = false → st.p.resized = false ∧ st'.s.tw = st.s.tw ∧ st'.s.th = st.s.th
  mus : MusOk st.p.mus → MusOk st'.p.mus

theorem Keeps.refl (st : St) : Keeps st st := ⟨fun h => ⟨h, rfl, rfl⟩, id⟩
theorem Keeps.trans {a b c : St} (h1 : Keeps a b) (h2 : Keeps b c) : Keeps a c := by
  refine ⟨fun h => ?_, fun h => h2.mus (h1.mus h)⟩
  obtain ⟨r2, w2, t2⟩ := h2.size h
  obtain ⟨r1, w1, t1⟩ := h1.size r2
  exact ⟨r1, w2.trans w1, t2.trans t1⟩
theorem Frame.keeps {st x : St} (h : Frame st x) : Keeps st x := by
  refine ⟨fun hr => ?_, h.mus.ok⟩
  rcases h.size with h1 | ⟨h1, h2, h3⟩
  · rw [h1] at hr; cases hr
  · exact ⟨by rw [← h1]; exact hr, h2, h3⟩

theorem Keeps.counters (st : St) (t b : Nat) : Keeps st { st with p := { st.p with tick := t, budget := b } } :=
  ⟨fun h => ⟨h, rfl, rfl⟩, id⟩

theorem keeps_inv (st0 : St) : StepInv AnyErr (Keeps st0) :=
  rel_inv (Rel := Keeps) Keeps.trans Frame.keeps Keeps.counters st0

theorem run_keeps (cfg : Cfg) (o : Nat → Orc) (cs : List Char) (st st' : St) (h : run cfg o st cs = .ok st') : Keeps st st' :=
  (run_holds (keeps_inv st) cfg o cs st (.refl st)).val h

theorem wrun_keeps (e : Emu) (o : Nat → Orc) (cs : List Char) (w w' : WSt) (h : wrun e o w cs = .ok w') :
    Keeps w.inner w'.inner := (wrun_holds (keeps_inv w.inner) e o cs w (.refl _)).val h

theorem printValue_onlyBh (x st : OSt) (v : Nat) (h : x.s = st.s) :
    Holds AnyErr (printValue x v) (fun r => r.1.s = { st.s with bh := r.1.s.bh }) := by
  unfold printValue
  refine Holds.ite (fun _ => by rw [← h]; rfl) fun _ => ?_
  have hp := printChar_onlyBh x.s x.c
  generalize printChar x.s x.c = y at hp ⊢
  rcases y with e | ⟨s', c'⟩
  · trivial
  · rw [← h]; exact hp

theorem printValue_same (st st0 : OSt) (v : Nat) (h : st.s = st0.s) : okThen (printValue st v) (SameSize st0) :=
  okThen_iff.2 ((printValue_onlyBh st st0 v h).mono fun r hr => by unfold SameSize; rw [hr]; exact ⟨rfl, rfl⟩)

theorem orun_same (e : Emu2) (cs : List Char) (st st' : OSt) (h : orun e st cs = .ok st') :
    st'.s.tw = st.s.tw ∧ st'.s.th = st.s.th :=
  (orun_holds (E := AnyErr) (P := fun x => x.s.tw = st.s.tw ∧ x.s.th = st.s.th) e
    (fun x ch hx => (ostep_frame e x ch).mono fun _ hr => ⟨hr.1.trans hx.1, hr.2.1.trans hx.2⟩)
    cs st ⟨rfl, rfl⟩).val h

end IcyVerif.Term
