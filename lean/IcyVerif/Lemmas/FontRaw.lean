import IcyVerif.Lemmas.FontRt
/-! # C17: raw 8-bit glyph data through `BitFont::from_bytes` — the EXACT guard

Raw glyph data has no header, and `from_bytes` looks for the PSF1 / PSF2 magic numbers first.  `raw_exact`: the data comes back iff
`rawGuard` — never behind the PSF1 magic (the 4-byte header leaves at most 255 glyphs), behind the PSF2 magic only when the first
32 bytes happen to be the header of the very font (they are then read a second time as glyph data), otherwise always. -/
namespace IcyVerif.Font
open IcyVerif.Uni

theorem fromBasic_wf (h : Nat) (h1 : 1 ≤ h) (h255 : h ≤ 255) (data : List Nat) (hl : data.length = 256 * h) :
    WfFont (fromBasic 8 h data) h := by
  have hd : data.length / h = 256 := by rw [hl, Nat.mul_div_cancel _ (by omega)]
  have hn : (glyphsFromU8 h data).length = 256 := by rw [glyphsFromU8_length h h1 data (by omega), hd]
  exact { w8 := rfl, hh := rfl, h1 := h1, h255 := h255, n := by show (glyphsFromU8 h data).length ≤ _; omega,
          len := by show (256 : Int) = ((glyphsFromU8 h data).length : Int); rw [hn]; rfl,
          rows := (glyphsFromU8_spec h h1 data (by omega)).1 }

theorem rd32_some (d : List Nat) (hb : ∀ x ∈ d, x < 256) (o : Nat) (h : o + 4 ≤ d.length) :
    ∃ v, rd32 d o = some v ∧ v < 4294967296 := by
  unfold rd32
  have hl : (d.drop o).length ≥ 4 := by simp; omega
  have hm : ∀ x ∈ d.drop o, x < 256 := fun x hx => hb x (List.mem_of_mem_drop hx)
  obtain ⟨a, b, c, e, rest, hd, _⟩ := Basics.exists_cons4 (n := 0) (l := d.drop o) (by omega)
  rw [hd] at hm ⊢
  refine ⟨_, rfl, ?_⟩
  have := hm a (by simp); have := hm b (by simp); have := hm c (by simp); have := hm e (by simp)
  unfold le32; omega

theorem asI32_eq_small (n : Nat) (k : Nat) (hn : n < 4294967296) (hk : k < 2147483648) (h : asI32 n = (k : Int)) : n = k := by
  unfold asI32 at h
  have e : n % 4294967296 = n := Nat.mod_eq_of_lt hn
  simp only [e] at h
  split at h <;> omega

theorem rawGuard_of_noMagic (d : List Nat) (h : Nat) (hm : noMagic d = true) : rawGuard d h = true := by
  unfold rawGuard
  unfold noMagic at hm
  split <;> simp_all

theorem raw_psf1_fails (f : BitFont) (h : Nat) (wf : WfFont f h) (h256 : f.glyphs.length = 256)
    (c e : Nat) (rest : List Nat) (hd : flat f.glyphs = 0x36 :: 0x04 :: c :: e :: rest) :
    fromBytes (flat f.glyphs) ≠ .ok f := by
  intro hfb
  have hlen := flat_length h _ wf.rows
  rw [h256, hd] at hlen
  rw [hd] at hfb
  unfold fromBytes at hfb
  simp only [true_and, if_true, loadPsf1] at hfb
  split at hfb
  · cases hfb
  injection hfb with hfb
  have hh : (e : Int) = f.h := by rw [← hfb]
  have hg : glyphsFromU8 e rest = f.glyphs := by rw [← hfb]
  have he : e = h := by have := wf.hh; omega
  have h1 := wf.h1
  subst he
  simp only [List.length_cons] at hlen
  have : rest.length / e < 256 := by
    apply (Nat.div_lt_iff_lt_mul (by omega)).mpr
    omega
  have hl := glyphsFromU8_length e (by omega) rest (by omega)
  rw [hg, h256] at hl
  omega

theorem raw_psf2_iff (f : BitFont) (h : Nat) (wf : WfFont f h) (h256 : f.glyphs.length = 256)
    (hb : ∀ x ∈ flat f.glyphs, x < 256)
    (a b c e : Nat) (rest : List Nat) (hd : flat f.glyphs = a :: b :: c :: e :: rest)
    (h1 : ¬ (a = 0x36 ∧ b = 0x04)) (h2 : le32 a b c e = psf2Magic) :
    fromBytes (flat f.glyphs) = .ok f ↔ psf2Overlay (flat f.glyphs) h = true := by
  have hlen := flat_length h _ wf.rows
  have hg := glyphsFromU8_flat h wf.h1 _ wf.rows wf.n
  have hh1 := wf.h1
  have hh255 := wf.h255
  rw [h256] at hlen
  have hfb : fromBytes (flat f.glyphs) = loadPsf2 (flat f.glyphs) := by
    rw [hd]; unfold fromBytes; simp only [h1, if_false, h2, if_true]
  rw [hfb]
  generalize hdd : flat f.glyphs = d at hlen hg hb
  obtain ⟨v, hv, bv⟩ := rd32_some d hb 4 (by omega)
  obtain ⟨hs, hhs, bhs⟩ := rd32_some d hb 8 (by omega)
  obtain ⟨len, hlen', blen⟩ := rd32_some d hb 16 (by omega)
  obtain ⟨cs, hcs, bcs⟩ := rd32_some d hb 20 (by omega)
  obtain ⟨ht, hht, bht⟩ := rd32_some d hb 24 (by omega)
  obtain ⟨w, hw, bw⟩ := rd32_some d hb 28 (by omega)
  unfold loadPsf2 psf2Overlay
  rw [if_neg (by omega), hv, hhs, hlen', hcs, hht, hw]
  simp only [Bool.and_eq_true, beq_iff_eq, Option.some.injEq]
  constructor
  · intro hok
    split at hok
    · cases hok
    rename_i hv0
    split at hok
    · cases hok
    rename_i hcond
    injection hok with hok
    have hw8 : asI32 w = 8 := by rw [← wf.w8, ← hok]
    have hhh : asI32 ht = (h : Int) := by rw [← wf.hh, ← hok]
    have hl256 : asI32 len = 256 := by
      have := wf.len; rw [h256] at this; rw [← hok] at this; exact this
    have ew : w = 8 := asI32_eq_small w 8 bw (by omega) hw8
    have eh : ht = h := asI32_eq_small ht h bht (by omega) hhh
    have el : len = 256 := asI32_eq_small len 256 blen (by omega) hl256
    have hcond' : ¬ (asI32 len < 0) ∧ ¬ (asI32 cs ≤ 0) ∧ asI32 len * asI32 cs + (hs : Int) = (d.length : Int) ∧
        asI32 cs = ((ht * ((w + 7) / 8) : Nat) : Int) := by
      refine ⟨fun x => hcond (Or.inl x), fun x => hcond (Or.inr (Or.inl x)), ?_, ?_⟩
      · exact Decidable.byContradiction fun x => hcond (Or.inr (Or.inr (Or.inl x)))
      · exact Decidable.byContradiction fun x => hcond (Or.inr (Or.inr (Or.inr x)))
    obtain ⟨_, _, hsum, hcsv⟩ := hcond'
    have hcs' : asI32 cs = (h : Int) := by rw [hcsv, ew, eh]; simp
    have ec : cs = h := asI32_eq_small cs h bcs (by omega) hcs'
    rw [hl256, hcs', hlen] at hsum
    have e0 : hs = 0 := by
      have : (256 : Int) * (h : Int) = ((256 * h : Nat) : Int) := by simp
      omega
    have ev : v = 0 := by omega
    exact ⟨⟨⟨⟨⟨ev, e0⟩, el⟩, ec⟩, eh⟩, ew⟩
  · intro hov
    obtain ⟨⟨⟨⟨⟨ev, e0⟩, el⟩, ec⟩, eh⟩, ew⟩ := hov
    rw [ev, e0, el, ec, eh, ew]
    rw [if_neg (by omega)]
    have a1 : asI32 256 = 256 := by decide
    have a2 : asI32 8 = 8 := by decide
    have a3 : asI32 h = (h : Int) := asI32_small h (by omega)
    rw [a1, a2, a3]
    have hcond : ¬ ((256 : Int) < 0 ∨ (h : Int) ≤ 0 ∨ (256 : Int) * (h : Int) + ((0 : Nat) : Int) ≠ (d.length : Int) ∨
        (h : Int) ≠ ((h * ((8 + 7) / 8) : Nat) : Int)) := by
      rw [hlen]
      have : (256 : Int) * (h : Int) = ((256 * h : Nat) : Int) := by simp
      simp only [Nat.reduceAdd, Nat.reduceDiv, Nat.mul_one]
      omega
    rw [if_neg hcond]
    simp only [List.drop_zero, hg]
    exact congrArg Res.ok (wf.eq_mk h256).symm

theorem raw_exact (f : BitFont) (h : Nat) (wf : WfFont f h) (h256 : f.glyphs.length = 256)
    (hb : ∀ x ∈ flat f.glyphs, x < 256) :
    fromBytes (flat f.glyphs) = .ok f ↔ rawGuard (flat f.glyphs) h = true := by
  have hlen := flat_length h _ wf.rows
  have hh1 := wf.h1
  rw [h256] at hlen
  obtain ⟨a, b, c, e, rest, hd, _⟩ := Basics.exists_cons4 (n := 0) (l := flat f.glyphs) (by omega)
  rw [hd]
  by_cases h1 : a = 0x36 ∧ b = 0x04
  · obtain ⟨rfl, rfl⟩ := h1
    have hf := raw_psf1_fails f h wf h256 c e rest hd
    rw [hd] at hf
    constructor
    · intro hx; exact absurd hx hf
    · intro hx; simp [rawGuard] at hx
  · have hab : (a == 0x36 && b == 0x04) = false := by simpa using h1
    by_cases h2 : le32 a b c e = psf2Magic
    · have := raw_psf2_iff f h wf h256 hb a b c e rest hd h1 h2
      rw [hd] at this
      rw [this]
      simp only [rawGuard, hab, Bool.false_eq_true, if_false, h2, beq_self_eq_true, if_true]
    · have hnm : noMagic (a :: b :: c :: e :: rest) = true := by simp [noMagic, hab, h2]
      have hr := raw_roundtrip f h wf h256 (by rw [hd]; exact hnm)
      rw [hd] at hr
      exact ⟨fun _ => rawGuard_of_noMagic _ h hnm, fun _ => hr⟩

end IcyVerif.Font
