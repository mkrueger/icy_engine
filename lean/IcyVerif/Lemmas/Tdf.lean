import IcyVerif.Model.Tdf
/-! C17, TheDraw fonts: which glyph data and which glyph tables the reader gives back unchanged (`readGlyphData_iff`,
`readGlyphs_enc_iff`), the writer loop without its accumulators (`encData`, `encOffs`), the name field up to its first NUL. -/
namespace IcyVerif.Tdf
open IcyVerif.Uni IcyVerif.Font

theorem consOk_ok_iff (c : Nat) (x : Res (List Nat)) (d : List Nat) : consOk c x = .ok (c :: d) ↔ x = .ok d := by
  cases x <;> simp [consOk]

theorem consOk_ok (c : Nat) (x : Res (List Nat)) (d : List Nat) (h : consOk c x = .ok d) : ∃ d', x = .ok d' ∧ d = c :: d' := by
  cases x <;> simp_all [consOk, eq_comm]

theorem tail_cons (cs rest : List Nat) : ∃ a r, cs ++ 0 :: rest = a :: r := by cases cs <;> simp

theorem readGlyphData_plain_iff (rest data : List Nat) :
    readGlyphData false (data ++ 0 :: rest) = .ok data ↔ data.all (· ≠ 0) = true := by
  induction data with
  | nil => cases rest <;> simp [readGlyphData]
  | cons c cs ih =>
    obtain ⟨a, r, hcs⟩ := tail_cons cs rest
    rw [hcs] at ih
    rw [List.cons_append, hcs]
    by_cases hc : c = 0
    · simp [readGlyphData, hc]
    · simp [readGlyphData, hc, consOk_ok_iff, ih]

/-- a last character without its attribute takes the terminator as attribute -/
theorem readGlyphData_color_iff (rest data : List Nat) :
    readGlyphData true (data ++ 0 :: rest) = .ok data ↔ colorWfB data = true := by
  fun_induction colorWfB data
  case case1 => cases rest <;> simp [readGlyphData]
  case case2 tl =>
    obtain ⟨a, r, hcs⟩ := tail_cons tl rest
    simp [hcs, readGlyphData]
  case case3 tl _ ih =>
    obtain ⟨a, r, hcs⟩ := tail_cons tl rest
    rw [hcs] at ih
    simp [hcs, readGlyphData, consOk_ok_iff, ih]
  case case4 c hc h13 =>
    simp only [List.cons_append, List.nil_append, readGlyphData, if_neg hc, Bool.true_and, bne_iff_ne, ne_eq, h13,
      not_false_eq_true, if_true]
    cases readGlyphData true rest <;> simp [consOk]
  case case5 c hc h13 a tl ih =>
    simp [readGlyphData, hc, h13, consOk_ok_iff, ih]

theorem readGlyphData_iff (color : Bool) (rest data : List Nat) :
    readGlyphData color (data ++ 0 :: rest) = .ok data ↔ (if color then colorWfB data else data.all (· ≠ 0)) = true := by
  cases color
  · exact readGlyphData_plain_iff rest data
  · exact readGlyphData_color_iff rest data

def encData : List (Option TGlyph) → List Nat
  | [] => []
  | some g :: r => glyphBytes g ++ encData r
  | none :: r => encData r

def encOffs (off : Nat) : List (Option TGlyph) → List Nat
  | [] => []
  | some g :: r => (off % 65536) :: encOffs (off + (glyphBytes g).length) r
  | none :: r => 0xFFFF :: encOffs off r

def u16s : List Nat → List Nat
  | [] => []
  | n :: r => u16le n ++ u16s r

theorem u16s_append (a b : List Nat) : u16s (a ++ b) = u16s a ++ u16s b := by
  induction a with
  | nil => rfl
  | cons x xs ih => simp [u16s, ih, List.append_assoc]

theorem encLoop_eq (lk fd : List Nat) (t : List (Option TGlyph)) :
    encLoop lk fd t = (lk ++ u16s (encOffs fd.length t), fd ++ encData t) := by
  induction t generalizing lk fd with
  | nil => simp [encLoop, encOffs, u16s, encData]
  | cons g r ih =>
    cases g with
    | none => simp [encLoop, encOffs, u16s, encData, ih, List.append_assoc]
    | some g => simp [encLoop, encOffs, u16s, encData, ih, List.append_assoc]

theorem encOffs_length (off : Nat) (t : List (Option TGlyph)) : (encOffs off t).length = t.length := by
  induction t generalizing off with
  | nil => rfl
  | cons g r ih => cases g <;> simp [encOffs, ih]

theorem encOffs_lt (off : Nat) (t : List (Option TGlyph)) : ∀ x ∈ encOffs off t, x < 65536 := by
  induction t generalizing off with
  | nil => simp [encOffs]
  | cons g r ih =>
    cases g with
    | none =>
      intro x hx; simp [encOffs] at hx
      rcases hx with h | h
      · omega
      · exact ih _ x h
    | some g =>
      intro x hx; simp only [encOffs, List.mem_cons] at hx
      rcases hx with h | h
      · subst h; exact Nat.mod_lt _ (by omega)
      · exact ih _ x h

theorem readU16s_u16s (offs rest : List Nat) (h : ∀ x ∈ offs, x < 65536) :
    readU16s offs.length (u16s offs ++ rest) = some (offs, rest) := by
  induction offs with
  | nil => simp [readU16s, u16s]
  | cons x xs ih =>
    have hx := h x (List.mem_cons_self ..)
    have := ih (fun y hy => h y (List.mem_cons_of_mem _ hy))
    simp only [u16s, u16le, List.length_cons, List.cons_append, List.nil_append, readU16s, this, Option.map_some]
    have e : x % 256 + 256 * (x / 256 % 256) = x := by omega
    rw [e]

/-- a glyph the writer and the reader agree on: sizes are `u8`, the data has the shape of its font type -/
def GlyphWf (color : Bool) (g : TGlyph) : Prop := glyphWfB color g = true
/-- every glyph of the table is well formed (missing glyphs are) -/
def TableWf (color : Bool) (t : List (Option TGlyph)) : Prop :=
  ∀ g ∈ t, match g with | some g => GlyphWf color g | none => True

theorem asU8_iff (x : Int) : ((asU8 x : Nat) : Int) = x ↔ 0 ≤ x ∧ x ≤ 255 := by
  unfold asU8
  have h1 : 0 ≤ x % 256 := Int.emod_nonneg x (by omega)
  have h2 : x % 256 < 256 := Int.emod_lt_of_pos x (by omega)
  rw [Int.toNat_of_nonneg h1]
  omega

theorem glyphBytes_length (g : TGlyph) : (glyphBytes g).length = g.data.length + 3 := by
  simp [glyphBytes]

theorem readGlyphs_some (color : Bool) (bs : Nat) (hbs : bs ≤ 65535) (g : TGlyph) (r : List (Option TGlyph))
    (pre post : List Nat) (hlen : pre.length + (encData (some g :: r)).length ≤ bs) :
    readGlyphs color bs (pre ++ encData (some g :: r) ++ post) (encOffs pre.length (some g :: r)) =
      match readGlyphData color (g.data ++ 0 :: (encData r ++ post)) with
      | .ok d =>
        (match readGlyphs color bs ((pre ++ glyphBytes g) ++ encData r ++ post) (encOffs (pre ++ glyphBytes g).length r) with
         | .ok gs => .ok (some { w := asU8 g.w, h := asU8 g.h, data := d } :: gs)
         | e => e)
      | .err => .err
      | .panic => .panic := by
  simp only [encData, List.length_append, glyphBytes_length] at hlen
  have hoff : pre.length % 65536 = pre.length := Nat.mod_eq_of_lt (by omega)
  simp only [encOffs, encData, readGlyphs, readGlyph, hoff]
  rw [if_neg (by omega), if_neg (by omega)]
  have hdrop : (pre ++ (glyphBytes g ++ encData r) ++ post).drop pre.length =
      asU8 g.w :: asU8 g.h :: (g.data ++ 0 :: (encData r ++ post)) := by
    rw [List.append_assoc, List.drop_left]
    simp [glyphBytes, List.append_assoc]
  rw [hdrop]
  simp only [List.length_append, List.append_assoc]
  cases readGlyphData color (g.data ++ 0 :: (encData r ++ post)) <;> rfl

theorem readGlyphs_none (color : Bool) (bs : Nat) (r : List (Option TGlyph)) (pre post : List Nat) :
    readGlyphs color bs (pre ++ encData (none :: r) ++ post) (encOffs pre.length (none :: r)) =
      match readGlyphs color bs (pre ++ encData r ++ post) (encOffs pre.length r) with
      | .ok gs => .ok (none :: gs)
      | e => e := by
  simp only [encOffs, encData, readGlyphs, readGlyph, if_true]
  cases readGlyphs color bs (pre ++ encData r ++ post) (encOffs pre.length r) <;> rfl

theorem tableWf_cons (color : Bool) (g : Option TGlyph) (r : List (Option TGlyph)) :
    TableWf color (g :: r) ↔ (match g with | some g => GlyphWf color g | none => True) ∧ TableWf color r :=
  List.forall_mem_cons

theorem glyph_back_iff (color : Bool) (g : TGlyph) (rest : List Nat) :
    (∃ d, readGlyphData color (g.data ++ 0 :: rest) = .ok d ∧ ({ w := asU8 g.w, h := asU8 g.h, data := d } : TGlyph) = g) ↔
      GlyphWf color g := by
  obtain ⟨w, h, data⟩ := g
  simp only [GlyphWf, glyphWfB, Bool.and_eq_true, decide_eq_true_eq, TGlyph.mk.injEq, ← readGlyphData_iff color rest data,
    asU8_iff]
  constructor
  · rintro ⟨d, hd, hw, hh, rfl⟩; exact ⟨⟨⟨⟨hw.1, hw.2⟩, hh.1⟩, hh.2⟩, hd⟩
  · rintro ⟨⟨⟨⟨a, b⟩, c⟩, d⟩, e⟩; exact ⟨data, e, ⟨a, b⟩, ⟨c, d⟩, rfl⟩

theorem readGlyphs_enc_iff (color : Bool) (bs : Nat) (hbs : bs ≤ 65535) (t : List (Option TGlyph)) :
    ∀ (pre post : List Nat), pre.length + (encData t).length ≤ bs →
      (readGlyphs color bs (pre ++ encData t ++ post) (encOffs pre.length t) = .ok t ↔ TableWf color t) := by
  induction t with
  | nil => intro _ _ _; simp [encOffs, readGlyphs, TableWf]
  | cons g r ih =>
    intro pre post hlen
    rw [tableWf_cons]
    cases g with
    | none =>
      rw [readGlyphs_none, ← ih pre post (by simpa [encData] using hlen)]
      dsimp only
      cases readGlyphs color bs (pre ++ encData r ++ post) (encOffs pre.length r) <;> simp
    | some g =>
      dsimp only
      rw [readGlyphs_some color bs hbs g r pre post hlen,
        ← ih (pre ++ glyphBytes g) post (by simp only [encData, List.length_append] at hlen ⊢; omega),
        ← glyph_back_iff color g (encData r ++ post)]
      cases readGlyphData color (g.data ++ 0 :: (encData r ++ post)) <;>
        cases readGlyphs color bs ((pre ++ glyphBytes g) ++ encData r ++ post) (encOffs (pre ++ glyphBytes g).length r) <;> simp

theorem nameBytes_takeWhile (name tail : List Nat) : ∀ (k : Nat),
    nameBytes (name.length + k) (name ++ List.replicate k 0 ++ tail) = some (name.takeWhile (· ≠ 0)) := by
  induction name with
  | nil =>
    intro k
    cases k with
    | zero => simp [nameBytes]
    | succ k => simp [nameBytes, List.replicate_succ]
  | cons c cs ih =>
    intro k
    have e : (c :: cs).length + k = (cs.length + k) + 1 := by simp; omega
    rw [e]
    simp only [List.cons_append, nameBytes]
    by_cases hc : c = 0
    · simp [hc]
    · rw [if_neg hc, ih k]
      simp [hc]

theorem nameBytes_padded (name tail : List Nat) (k : Nat) (h : name.all (· ≠ 0) = true) :
    nameBytes (name.length + (k + 1)) (name ++ 0 :: tail) = some name := by
  induction name with
  | nil => simp [nameBytes]
  | cons c cs ih =>
    simp only [List.all_cons, Bool.and_eq_true, decide_eq_true_eq] at h
    rw [show (c :: cs).length + (k + 1) = (cs.length + (k + 1)) + 1 by simp; omega]
    simp [nameBytes, h.1, ih h.2]

end IcyVerif.Tdf
