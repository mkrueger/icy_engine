import IcyVerif.Lemmas.UndoOps
/-! # C08: `UndoLayerChange` — what a snapshot (`Layer::from_layer`) holds and what stamping it (`Layer::stamp`) does to the
observation of a layer, through the closed form of a rectangle of forced writes -/
namespace IcyVerif.Undo

theorem mem_intRange {a b x : Int} : x ∈ intRange a b ↔ a ≤ x ∧ x < b := by
  simp only [intRange, List.mem_map, List.mem_range]
  constructor
  · rintro ⟨i, hi, rfl⟩
    omega
  · rintro ⟨h1, h2⟩
    exact ⟨(x - a).toNat, by omega, by omega⟩

theorem foldl_obs {α : Type} (P : LayerM → Prop) (step : LayerM → α → LayerM) (Step : LObs → α → LObs)
    (h : ∀ l x, P l → (step l x).obs = Step l.obs x ∧ P (step l x)) (xs : List α) (l : LayerM) (hl : P l) :
    (xs.foldl step l).obs = xs.foldl Step l.obs ∧ P (xs.foldl step l) := by
  induction xs generalizing l with
  | nil => exact ⟨rfl, hl⟩
  | cons x xs ih =>
    simp only [List.foldl_cons]
    obtain ⟨h1, h2⟩ := h l x hl
    rw [← h1]
    exact ih _ h2

theorem LObs.inside_nonneg {a : LObs} {x y : Int} (h : a.inside x y = true) : 0 ≤ x ∧ 0 ≤ y := by
  simp only [LObs.inside, Bool.and_eq_true, decide_eq_true_eq] at h
  exact ⟨h.1.1.1, h.1.1.2⟩

theorem LObs.restoreChar_dims (a : LObs) (x y : Int) (c : Cell) :
    (a.restoreChar x y c).1 = a.1 ∧ (a.restoreChar x y c).2.1 = a.2.1 ∧ (a.restoreChar x y c).2.2.1 = a.2.2.1 := ⟨rfl, rfl, rfl⟩

theorem LObs.inside_restoreChar (a : LObs) (x y : Int) (c : Cell) (X Y : Int) : (a.restoreChar x y c).inside X Y = a.inside X Y := rfl

/-- the values written agree with a view `v` at their targets, so no write order matters -/
theorem LObs.foldl_restore {α : Type} (v : Nat → Nat → Cell) (ws : List α) (px py : α → Int) (c : α → Cell) (a : LObs)
    (hv : ∀ w ∈ ws, a.inside (px w) (py w) = true → c w = v (px w).toNat (py w).toNat) :
    ws.foldl (fun a w => a.restoreChar (px w) (py w) (c w)) a =
      (a.w, a.h, a.props, fun x' y' =>
        if ∃ w ∈ ws, a.inside (px w) (py w) = true ∧ x' = (px w).toNat ∧ y' = (py w).toNat then v x' y' else a.cells x' y') := by
  induction ws generalizing a with
  | nil =>
    simp only [List.foldl_nil, List.not_mem_nil, false_and, exists_false, if_false]
    obtain ⟨w, h, p, c⟩ := a
    rfl
  | cons w ws ih =>
    simp only [List.foldl_cons]
    rw [ih (a.restoreChar (px w) (py w) (c w)) (fun w2 hw2 hin => hv w2 (List.mem_cons_of_mem _ hw2) hin)]
    show (a.w, a.h, a.props, fun x' y' =>
        if ∃ w2 ∈ ws, a.inside (px w2) (py w2) = true ∧ x' = (px w2).toNat ∧ y' = (py w2).toNat then v x' y'
        else (if a.inside (px w) (py w) = true ∧ x' = (px w).toNat ∧ y' = (py w).toNat then c w else a.cells x' y')) = (a.w, a.h, a.props, _)
    congr 3
    funext x' y'
    by_cases h1 : ∃ w2 ∈ ws, a.inside (px w2) (py w2) = true ∧ x' = (px w2).toNat ∧ y' = (py w2).toNat
    · have h2 : ∃ w2 ∈ w :: ws, a.inside (px w2) (py w2) = true ∧ x' = (px w2).toNat ∧ y' = (py w2).toNat := by
        obtain ⟨w2, hw2, hh⟩ := h1
        exact ⟨w2, List.mem_cons_of_mem _ hw2, hh⟩
      rw [if_pos h1, if_pos h2]
    · rw [if_neg h1]
      by_cases h3 : a.inside (px w) (py w) = true ∧ x' = (px w).toNat ∧ y' = (py w).toNat
      · rw [if_pos h3, if_pos ⟨w, List.mem_cons_self, h3⟩, hv w List.mem_cons_self h3.1, h3.2.1, h3.2.2]
      · have h2 : ¬ ∃ w2 ∈ w :: ws, a.inside (px w2) (py w2) = true ∧ x' = (px w2).toNat ∧ y' = (py w2).toNat := by
          rintro ⟨w2, hw2, hh⟩
          rcases List.mem_cons.mp hw2 with rfl | hw2
          · exact h3 hh
          · exact h1 ⟨w2, hw2, hh⟩
        rw [if_neg h3, if_neg h2]

/-- two writes to one cell write the same value: it depends on the position only -/
theorem LObs.foldl_restore_rect (ys xs : List Int) (tx ty : Int) (c : Int → Int → Cell) (a : LObs) :
    ys.foldl (fun a y => xs.foldl (fun a x => a.restoreChar (x + tx) (y + ty) (c x y)) a) a =
      (a.w, a.h, a.props, fun (x' y' : Nat) =>
        if ∃ p ∈ ys.flatMap (fun y => xs.map fun x => (x, y)), a.inside (p.1 + tx) (p.2 + ty) = true ∧ x' = (p.1 + tx).toNat ∧ y' = (p.2 + ty).toNat
        then c (x' - tx) (y' - ty) else a.cells x' y') := by
  have h := LObs.foldl_restore (fun X Y => c (X - tx) (Y - ty)) (ys.flatMap fun y => xs.map fun x => (x, y))
    (fun p => p.1 + tx) (fun p => p.2 + ty) (fun p => c p.1 p.2) a (by
      intro p _ hin
      have hnn : 0 ≤ p.1 + tx ∧ 0 ≤ p.2 + ty := LObs.inside_nonneg hin
      show c p.1 p.2 = c (((p.1 + tx).toNat : Nat) - tx) (((p.2 + ty).toNat : Nat) - ty)
      rw [show (((p.1 + tx).toNat : Nat) : Int) - tx = p.1 by omega, show (((p.2 + ty).toNat : Nat) : Int) - ty = p.2 by omega])
  simp only [List.foldl_flatMap, List.foldl_map] at h
  exact h

theorem LObs.foldl_restore_range (x0 x1 y0 y1 tx ty : Int) (c : Int → Int → Cell) (a : LObs) :
    (intRange y0 y1).foldl (fun a y => (intRange x0 x1).foldl (fun a x => a.restoreChar (x + tx) (y + ty) (c x y)) a) a =
      (a.w, a.h, a.props, fun (x' y' : Nat) =>
        if x0 + tx ≤ x' ∧ (x' : Int) < x1 + tx ∧ y0 + ty ≤ y' ∧ (y' : Int) < y1 + ty ∧ a.inside x' y' = true then c (x' - tx) (y' - ty)
        else a.cells x' y') := by
  rw [LObs.foldl_restore_rect]
  congr 3
  funext x' y'
  congr 1
  apply propext
  constructor
  · rintro ⟨p, hp, hin, rfl, rfl⟩
    obtain ⟨y, hy, hp⟩ := List.mem_flatMap.mp hp
    obtain ⟨x, hx, rfl⟩ := List.mem_map.mp hp
    have hnn : 0 ≤ x + tx ∧ 0 ≤ y + ty := LObs.inside_nonneg hin
    have e1 : (((x + tx).toNat : Nat) : Int) = x + tx := by omega
    have e2 : (((y + ty).toNat : Nat) : Int) = y + ty := by omega
    have := mem_intRange.mp hx
    have := mem_intRange.mp hy
    rw [e1, e2]
    exact ⟨by omega, by omega, by omega, by omega, hin⟩
  · rintro ⟨h1, h2, h3, h4, hin⟩
    refine ⟨((x' : Int) - tx, (y' : Int) - ty), List.mem_flatMap.mpr ⟨_, mem_intRange.mpr ⟨by omega, by omega⟩,
      List.mem_map.mpr ⟨_, mem_intRange.mpr ⟨by omega, by omega⟩, rfl⟩⟩, ?_, by simp, by simp⟩
    simpa using hin

theorem LObs.setChar_plain (a : LObs) (x y : Int) (c : Cell)
    (hp : a.props.locked = false ∧ a.props.visible = true ∧ a.props.hasAlpha = false) : a.setChar x y c = a.restoreChar x y c := by
  obtain ⟨h1, h2, h3⟩ := hp
  have : a.writes x y = a.inside x y := by simp [LObs.writes, h1, h2, h3]
  rw [LObs.setChar, this, LObs.restoreChar_eq_put]

theorem rowsGet_replicate (h w x y : Nat) : rowsGet (List.replicate h (List.replicate w Cell.invisible)) x y = Cell.invisible := by
  simpa [growTo, rowsGet_beyond] using rowsGet_growTo_rows [] h w x y

/-- `Layer::from_layer` -/
theorem fromLayer_spec (l : LayerM) (a : Rect) (snap : LayerM) (hs : fromLayer l a = .ok snap) :
    snap.w = a.w ∧ snap.h = a.h ∧ snap.props = defaultProps ∧
      ∀ x' y' : Nat, rowsGet snap.lines x' y' =
        if (x' : Int) < a.w ∧ (y' : Int) < a.h then l.getChar (x' + a.x) (y' + a.y) else Cell.invisible := by
  unfold fromLayer at hs
  cases hn : newLayer a.w a.h with
  | error e => rw [hn] at hs; simp at hs
  | ok r0 =>
    rw [hn] at hs
    simp only [Except.ok.injEq] at hs
    have hr0 : 0 ≤ a.w ∧ 0 ≤ a.h ∧ r0 = ⟨a.w, a.h, defaultProps, List.replicate a.h.toNat (List.replicate a.w.toNat Cell.invisible)⟩ := by
      unfold newLayer at hn
      split at hn
      · simp at hn
      · rename_i hneg
        simp at hneg
        simp only [Except.ok.injEq] at hn
        exact ⟨by omega, by omega, hn.symm⟩
    obtain ⟨hw0, hh0, rfl⟩ := hr0
    -- push the loop to observations and turn `set_char` into forced writes: the new layer stays plain
    let o0 : LObs := (a.w, a.h, defaultProps, fun _ _ => Cell.invisible)
    have ho0 : (⟨a.w, a.h, defaultProps, List.replicate a.h.toNat (List.replicate a.w.toNat Cell.invisible)⟩ : LayerM).obs = o0 := by
      show (a.w, a.h, defaultProps, rowsGet _) = o0
      congr 3
      funext x y
      exact rowsGet_replicate _ _ _ _
    have hstep : ∀ (r : LayerM) (x y : Int), r.props = defaultProps →
        (r.setChar (x - a.x) (y - a.y) (l.getChar x y)).obs = r.obs.restoreChar (x + -a.x) (y + -a.y) (l.getChar x y) ∧
          (r.setChar (x - a.x) (y - a.y) (l.getChar x y)).props = defaultProps := by
      intro r x y hr
      have e := setChar_obs r (x - a.x) (y - a.y) (l.getChar x y)
      refine ⟨?_, (congrArg LObs.props e).trans hr⟩
      rw [e, LObs.setChar_plain _ _ _ _ (by rw [show r.obs.props = r.props from rfl, hr]; exact ⟨rfl, rfl, rfl⟩), Int.sub_eq_add_neg,
        Int.sub_eq_add_neg]
    have hobs : snap.obs = _ := hs ▸ (foldl_obs (·.props = defaultProps) _
      (fun o y => (intRange a.x a.right).foldl (fun o x => o.restoreChar (x + -a.x) (y + -a.y) (l.getChar x y)) o)
      (fun r y hr => foldl_obs (·.props = defaultProps) _ _ (fun r x hr => hstep r x y hr) _ r hr) _ _ rfl).1
    rw [ho0, LObs.foldl_restore_range] at hobs
    simp only [Int.sub_neg] at hobs
    refine ⟨congrArg LObs.w hobs, congrArg LObs.h hobs, congrArg LObs.props hobs, ?_⟩
    intro x' y'
    have h4 := congrFun (congrFun (congrArg (·.2.2.2) hobs) x') y'
    simp only [LayerM.obs] at h4
    rw [h4]
    have hins : o0.inside x' y' = (decide ((0 : Int) ≤ x') && decide ((0 : Int) ≤ y') && decide ((x' : Int) < a.w) && decide ((y' : Int) < a.h)) := rfl
    by_cases hc : (x' : Int) < a.w ∧ (y' : Int) < a.h
    · rw [if_pos hc, if_pos]
      rw [hins]
      simp only [Rect.right, Rect.bottom, Bool.and_eq_true, decide_eq_true_eq]
      omega
    · rw [if_neg hc, if_neg]
      · rfl
      · rw [hins]
        simp only [Bool.and_eq_true, decide_eq_true_eq]
        omega

/-- `Layer::stamp` of a `from_layer` snapshot at the area's origin: rows and cells hidden beyond the layer size stay as they are -/
theorem stamp_snapshot (l m snap : LayerM) (a : Rect) (hs : fromLayer l a = .ok snap) (hw : m.w = l.w) (hh : m.h = l.h) :
    (m.stamp a.x a.y snap).obs = (m.w, m.h, m.props, fun (x' y' : Nat) =>
      if a.isInside (x' : Int) (y' : Int) = true ∧ l.inside (x' : Int) (y' : Int) = true then rowsGet l.lines x' y' else rowsGet m.lines x' y') := by
  obtain ⟨s1, s2, s3, s4⟩ := fromLayer_spec l a snap hs
  unfold LayerM.stamp
  have hrect : snap.rect = ⟨0, 0, a.w, a.h⟩ := by
    simp only [LayerM.rect, s1, s2, s3]; rfl
  rw [hrect]
  simp only [Rect.bottom, Rect.right, Int.zero_add]
  rw [(foldl_obs (fun _ => True) _
    (fun o y => (intRange 0 a.w).foldl (fun o x => o.restoreChar (x + a.x) (y + a.y) (snap.getChar x y)) o)
    (fun l0 y _ => ⟨(foldl_obs (fun _ => True) _ _
      (fun l1 x _ => ⟨restoreChar_obs l1 (x + a.x) (y + a.y) (snap.getChar x y), trivial⟩) _ l0 trivial).1, trivial⟩) _ m trivial).1]
  have hsnap : ∀ X Y : Int, 0 ≤ X → 0 ≤ Y → X < a.w → Y < a.h → snap.getChar X Y = l.getChar (X + a.x) (Y + a.y) := by
    intro X Y hX hY hXw hYh
    have hin : snap.inside X Y = true := by
      simp only [LayerM.inside, s1, s2, Bool.and_eq_true, decide_eq_true_eq]; exact ⟨⟨⟨hX, hY⟩, hXw⟩, hYh⟩
    simp only [LayerM.getChar, hin, if_true]
    rw [s4]
    have e1 : ((X.toNat : Nat) : Int) = X := by omega
    have e2 : ((Y.toNat : Nat) : Int) = Y := by omega
    have hc : ((X.toNat : Nat) : Int) < a.w ∧ ((Y.toNat : Nat) : Int) < a.h := by omega
    rw [if_pos hc, e1, e2]
    rfl
  rw [LObs.foldl_restore_range]
  show (m.w, m.h, m.props, _) = (m.w, m.h, m.props, _)
  congr 3
  funext x' y'
  have hmin : m.obs.inside x' y' = l.inside x' y' := by simp only [LObs.inside, LayerM.inside, LayerM.obs, hw, hh]
  rw [hmin]
  by_cases hc : a.isInside x' y' = true ∧ l.inside x' y' = true
  · have := hc.1
    simp only [Rect.isInside, Bool.and_eq_true, decide_eq_true_eq] at this
    rw [if_pos hc, if_pos ⟨by omega, by omega, by omega, by omega, hc.2⟩, hsnap _ _ (by omega) (by omega) (by omega) (by omega),
      Int.sub_add_cancel, Int.sub_add_cancel]
    simp only [LayerM.getChar, hc.2, if_true, Int.toNat_natCast]
  · rw [if_neg hc, if_neg]
    · rfl
    · rintro ⟨h1, h2, h3, h4, h5⟩
      apply hc
      simp only [Rect.isInside, Bool.and_eq_true, decide_eq_true_eq]
      exact ⟨⟨⟨⟨by omega, by omega⟩, by omega⟩, by omega⟩, h5⟩

end IcyVerif.Undo
