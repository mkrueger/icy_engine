import IcyVerif.Lemmas.ArtAnsiAtoms
/-! # Every piece the ANSI writer extends `result` with is `ChunkOk` (C04, `output_line_length`)

One round of the cell loop `genLineEv` is described once (`genLineEv_cons`: font switch and rendition prefix, then one of the
three groups `GroupEv`, then the rest of the line); the proofs about `genLineEv` go by cases on the group.  The payload of
every `ext` event is one of the atoms of `Lemmas/ArtAnsiAtoms.lean`, provided every character can be encoded under the chosen
control-character handling (`EncDom`); hence (`chunksOf_ok`) every chunk handed to `push_result` is `ChunkOk`. -/
namespace IcyVerif.ArtIO
open IcyVerif.Gen.Art

/-- what one round of the cell loop of `generate` emits behind the font switch and the rendition prefix of its first cell,
    and how many further cells (`k`) it consumes; `rl` = the run the RLE scan found -/
inductive GroupEv (o : AnsiOpts) (w x : Nat) (cell : CharCell) (rl : Nat) : Nat → List Ev → Prop
  | cuf : o.compress = true → o.useCursorForward = true → cell.ch = 32 → cell.cur.bgIdx = 0 → cell.cur.bg = black →
      cell.cur.isBlink = false → x + rl + 1 < w → (csi [rl + 1] 67).length ≤ rl →
      GroupEv o w x cell rl rl [.push, .ext (csi [rl + 1] 67), .push]
  | rep : o.compress = true → o.useRepeatSequences = true → (csi [rl] 98).length ≤ rl →
      GroupEv o w x cell rl rl [.push, .ext (cellChar o cell.ch), .ext (csi [rl] 98), .push]
  | plain : GroupEv o w x cell rl 0 [.ext (cellChar o cell.ch), .push]

theorem genLineEv_cons (o : AnsiOpts) (w f x cur : Nat) (cell : CharCell) (rest : List CharCell) (fonts : List Nat) :
    ∃ k mid, GroupEv o w x cell (rleCountF cell (fonts.headD 0) rest fonts.tail) k mid ∧
      genLineEv o w (f + 1) x cur (cell :: rest) fonts =
        (((if cur ≠ fonts.headD 0 then [Ev.ext (fontSeq (fonts.headD 0)), Ev.push] else []) ++ sgrEvs cell) ++ mid ++
          (genLineEv o w f (x + k + 1) (fonts.headD 0) (rest.drop k) (fonts.tail.drop k)).1,
         (genLineEv o w f (x + k + 1) (fonts.headD 0) (rest.drop k) (fonts.tail.drop k)).2) := by
  rw [genLineEv]
  simp only []
  by_cases hc : o.compress = true
  · rw [if_pos hc]
    split
    · rename_i h
      obtain ⟨h1, h2, h3, h4, h5, h6, h7⟩ := h
      exact ⟨_, _, .cuf hc h1 h2 h3 h4 (by simpa using h5) h6 h7, rfl⟩
    · split
      · rename_i h
        exact ⟨_, _, .rep hc h.1 h.2, rfl⟩
      · exact ⟨0, _, .plain, rfl⟩
  · rw [if_neg hc]
    exact ⟨0, _, .plain, rfl⟩

/-- an event of the writer proper: the payload of an `ext` event is `ChunkOk`, and it is not `drop` (= the local `result` of
    `generate` goes out of scope with bytes that were never pushed) -/
def EvGood : Ev → Prop
  | .ext bs => ChunkOk bs
  | .drop => False
  | _ => True

def EvsOk (evs : List Ev) : Prop := ∀ e ∈ evs, EvGood e

theorem evsOk_nil : EvsOk [] := fun _ h => by simp at h

theorem EvsOk.append {a b : List Ev} (ha : EvsOk a) (hb : EvsOk b) : EvsOk (a ++ b) := by
  intro e h
  rcases List.mem_append.1 h with h | h
  · exact ha e h
  · exact hb e h

theorem evsOk_cons {e : Ev} {es : List Ev} (h : EvGood e) (he : EvsOk es) : EvsOk (e :: es) := by
  intro x hx
  rcases List.mem_cons.1 hx with q | q
  · rw [q]; exact h
  · exact he x q

theorem evsOk_ext_push {bs : List Nat} (h : ChunkOk bs) : EvsOk [.ext bs, .push] :=
  evsOk_cons (e := .ext bs) h (evsOk_cons (e := .push) trivial evsOk_nil)

theorem evsOk_cons_ext {bs : List Nat} {es : List Ev} (h : ChunkOk bs) (he : EvsOk es) : EvsOk (.ext bs :: es) :=
  evsOk_cons (e := .ext bs) h he

theorem evsOk_cons_push {es : List Ev} (he : EvsOk es) : EvsOk (.push :: es) := evsOk_cons (e := .push) trivial he

theorem EvsOk.ext {evs : List Ev} (h : EvsOk evs) : ∀ bs, Ev.ext bs ∈ evs → ChunkOk bs := fun bs hb => h (.ext bs) hb

theorem EvsOk.noDrop {evs : List Ev} (h : EvsOk evs) : Ev.drop ∉ evs := fun hd => h .drop hd

theorem evsOk_tc : ∀ (fuel : Nat) (tc : List Nat), EvsOk (tcEvs fuel tc) := by
  intro fuel
  induction fuel with
  | zero => intro tc; unfold tcEvs; exact evsOk_nil
  | succ f ih =>
    intro tc
    match tc with
    | [] => unfold tcEvs; exact evsOk_nil
    | [_] => unfold tcEvs; exact evsOk_nil
    | [_, _] => unfold tcEvs; exact evsOk_nil
    | [_, _, _] => unfold tcEvs; exact evsOk_nil
    | a :: b :: c :: d :: rest =>
      unfold tcEvs
      exact (evsOk_ext_push (chunkOk_csi [a, b, c, d] 116 (by unfold WriterFinal; omega))).append (ih rest)

theorem evsOk_sgr (cell : CharCell) : EvsOk (sgrEvs cell) := by
  unfold sgrEvs
  refine EvsOk.append ?_ (evsOk_tc _ _)
  split
  · exact evsOk_nil
  · exact evsOk_ext_push (chunkOk_csi _ 109 (by unfold WriterFinal; omega))

theorem evsOk_ite {c : Prop} [Decidable c] {a b : List Ev} (ha : c → EvsOk a) (hb : ¬ c → EvsOk b) : EvsOk (if c then a else b) := by
  by_cases h : c
  · rw [if_pos h]; exact ha h
  · rw [if_neg h]; exact hb h

theorem evsOk_genLine (o : AnsiOpts) (w : Nat) : ∀ (fuel x cur : Nat) (line : List CharCell) (fonts : List Nat),
    (∀ cc ∈ line, EncDom o cc.ch) → EvsOk (genLineEv o w fuel x cur line fonts).1 := by
  intro fuel
  induction fuel with
  | zero => intro x cur line fonts _; unfold genLineEv; exact evsOk_nil
  | succ f ih =>
    intro x cur line fonts hd
    match line with
    | [] => unfold genLineEv; exact evsOk_nil
    | cell :: rest =>
      have hcell := chunkOk_cellChar o cell.ch (hd cell List.mem_cons_self)
      obtain ⟨k, mid, hm, e⟩ := genLineEv_cons o w f x cur cell rest fonts
      rw [e]
      refine ((EvsOk.append (evsOk_ite (fun _ => evsOk_ext_push (chunkOk_fontSeq _)) fun _ => evsOk_nil) (evsOk_sgr cell)).append ?_).append
        (ih _ _ _ _ fun cc h => hd cc (List.mem_cons_of_mem _ (List.mem_of_mem_drop h)))
      cases hm with
      | cuf => exact evsOk_cons_push (evsOk_ext_push (chunkOk_csi _ 67 (by unfold WriterFinal; omega)))
      | rep => exact evsOk_cons_push (evsOk_cons_ext hcell (evsOk_ext_push (chunkOk_csi _ 98 (by unfold WriterFinal; omega))))
      | plain => exact evsOk_ext_push hcell

theorem evsOk_genLines (o : AnsiOpts) (skip : Nat → Bool) (w h : Nat) : ∀ (lines : List (List CharCell)) (frows : List (List Nat))
    (y : Nat) (first : Bool) (cur : Nat), (∀ line ∈ lines, ∀ cc ∈ line, EncDom o cc.ch) →
    EvsOk (genLinesEv o skip w h lines frows y first cur) := by
  intro lines
  induction lines with
  | nil => intro frows y first cur _; unfold genLinesEv; exact evsOk_nil
  | cons line rest ih =>
    intro frows y first cur hd
    have hl : ∀ cc ∈ line, EncDom o cc.ch := hd line List.mem_cons_self
    have hr : ∀ l ∈ rest, ∀ cc ∈ l, EncDom o cc.ch := fun l h => hd l (List.mem_cons_of_mem _ h)
    unfold genLinesEv
    refine evsOk_ite (fun _ => ih _ _ _ _ hr) (fun _ => ?_)
    refine EvsOk.append (EvsOk.append (EvsOk.append ?_ (evsOk_genLine o w _ _ _ _ _ hl)) ?_) (ih _ _ _ _ hr)
    · exact evsOk_ite (fun _ => EvsOk.append
          (evsOk_ite (fun _ => evsOk_cons_ext (chunkOk_csi _ 109 (by unfold WriterFinal; omega)) evsOk_nil) (fun _ => evsOk_nil))
          (evsOk_ext_push (chunkOk_csi _ 72 (by unfold WriterFinal; omega)))) (fun _ => evsOk_nil)
    · refine evsOk_ite (fun _ => evsOk_cons_ext ?_ (evsOk_cons (e := .eol) trivial evsOk_nil)) (fun _ => evsOk_nil)
      split
      · exact chunkOk_space
      · exact chunkOk_crlf

theorem evsOk_prep (o : AnsiOpts) (im : IceMode) : EvsOk (prepEvs o im) := by
  unfold prepEvs
  refine EvsOk.append ?_ ?_
  · split
    · exact evsOk_ext_push chunkOk_iceOn
    · exact evsOk_nil
  · cases o.prep with
    | none => exact evsOk_nil
    | clear =>
      have : ([27, 91, 50, 74] : List Nat) = csi [2] 74 := by decide
      simp only []
      rw [this]; exact evsOk_ext_push (chunkOk_csi _ 74 (by unfold WriterFinal; omega))
    | home =>
      have : ([27, 91, 49, 59, 49, 72] : List Nat) = csi [1, 1] 72 := by decide
      simp only []
      rw [this]; exact evsOk_ext_push (chunkOk_csi _ 72 (by unfold WriterFinal; omega))

theorem evsOk_end (im : IceMode) : EvsOk (endEvs im) := by
  unfold endEvs
  split
  · exact evsOk_ext_push chunkOk_iceOff
  · exact evsOk_nil

theorem encDom_space (o : AnsiOpts) : EncDom o 32 := by
  refine ⟨by omega, ?_⟩
  cases o.ctrl with
  | ignore => simp only []; unfold AnsiPrintable; omega
  | icyTerm => trivial
  | filterOut => simp only []; decide

theorem genCellsRow_enc (o : AnsiOpts) (pal : List Rgb) (im : IceMode) (row : List Cell) (hd : ∀ c ∈ row, EncDom o c.ch) :
    ∀ (n x : Nat) (st : AnsiState), ∀ cc ∈ (genCellsRow o pal im row n x st).1, EncDom o cc.ch := by
  intro n
  induction n with
  | zero => intro x st cc h; simp [genCellsRow] at h
  | succ k ih =>
    intro x st cc h
    have hget : EncDom o (row.getD x defaultCell).ch := by
      rw [List.getD_eq_getElem?_getD]
      cases hx : row[x]? with
      | none => exact encDom_space o
      | some c => exact hd c (List.mem_of_getElem? hx)
    unfold genCellsRow at h
    simp only [] at h
    split at h
    · rcases List.mem_cons.1 h with e | e
      · rw [e]; exact hget
      · exact ih _ _ cc e
    · rcases List.mem_cons.1 h with e | e
      · rw [e]; exact encDom_space o
      · exact ih _ _ cc e

theorem genCellsS_enc (o : AnsiOpts) (skip : Nat → Bool) (pal : List Rgb) (im : IceMode) (w : Nat) :
    ∀ (rows : List (List Cell)) (y : Nat) (st : AnsiState), (∀ r ∈ rows, ∀ c ∈ r, EncDom o c.ch) →
    ∀ line ∈ genCellsS o skip pal im w rows y st, ∀ cc ∈ line, EncDom o cc.ch := by
  intro rows
  induction rows with
  | nil => intro y st _ line h; simp [genCellsS] at h
  | cons row rest ih =>
    intro y st hd line h cc hcc
    have hr : ∀ r ∈ rest, ∀ c ∈ r, EncDom o c.ch := fun r hr => hd r (List.mem_cons_of_mem _ hr)
    unfold genCellsS at h
    split at h
    · rcases List.mem_cons.1 h with e | e
      · rw [e] at hcc; simp at hcc
      · exact ih _ _ hr line e cc hcc
    · simp only [] at h
      rcases List.mem_cons.1 h with e | e
      · rw [e] at hcc
        exact genCellsRow_enc o pal im row (hd row List.mem_cons_self) _ _ _ cc hcc
      · exact ih _ _ hr line e cc hcc

theorem evsOk_ansi (o : AnsiOpts) (skip : Nat → Bool) (frows : List (List Nat)) (p : Pic) (hd : ∀ r ∈ p.rows, ∀ c ∈ r, EncDom o c.ch) :
    EvsOk (prepEvs o p.ice ++ genLinesEv o skip p.w p.rows.length
      (genCellsS o skip p.pal p.ice p.w (p.rows.map fun r => r ++ List.replicate (p.w - r.length) defaultCell) 0 ansiState0) frows 0 true 0) := by
  refine EvsOk.append (evsOk_prep o p.ice) ?_
  apply evsOk_genLines
  apply genCellsS_enc
  intro r hr c hc
  obtain ⟨r0, hr0, e⟩ := List.mem_map.1 hr
  rw [← e] at hc
  rcases List.mem_append.1 hc with h | h
  · exact hd r0 hr0 c h
  · rw [List.eq_of_mem_replicate h]; exact encDom_space o

end IcyVerif.ArtIO
