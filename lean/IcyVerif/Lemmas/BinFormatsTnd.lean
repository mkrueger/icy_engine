import IcyVerif.Lemmas.BinFormatsPlace
/-!
# C05, Tundra: writer and loader in lock step (specification level)

`jstep` is what one cell does to the WRITER's running attribute and, through the bytes written for it, to the LOADER's
growing palette and running colour indices.  `jrows_good`: for every picture, every loaded cell carries palette indices
whose colours — in the palette as it is at the END of loading — are the colours the saved cell is displayed with.
The invariant: once the first cell is through, the loader's running foreground/background indices denote the colours of
the writer's running attribute.
At the end (namespace `SauceLoad`): one command of the loader's loop as data (`tndStep`, `Step.run`, `tndLoop_succ`), by which the `loop_*`
of `Lemmas/BinFormatsTndRun.lean`, the range proof of `Lemmas/BinFormatsResaveTnd.lean` and `Lemmas/SauceLoad.lean` step the loop.
-/
namespace IcyVerif.BinFormats
open IcyVerif.XbCompress IcyVerif.Gen

theorem tndLoop_nil (F : Nat) (s : TL) : tndLoop F [] s = .ok s := by
  cases F <;> simp [tndLoop]

/-- joint state: the writer's running attribute and "first cell" flag, the loader's palette and running indices -/
structure JS where
  wattr : Attr
  first : Bool
  lpal : List Rgb
  lfg : Nat
  lbg : Nat

def ctlChar (ch : Nat) : Bool := decide (BinFmt.tndCtlLo ≤ ch) && decide (ch ≤ BinFmt.tndCtlHi)

/-- the writer's two decisions for a cell -/
def wfOf (P : List Rgb) (s : JS) (c : Cell) : Bool :=
  getRgb P (tndShown s.wattr) != getRgb P (tndShown c.attr) || isBold s.wattr != isBold c.attr || ctlChar c.ch || s.first

def wbOf (P : List Rgb) (s : JS) (c : Cell) : Bool :=
  getRgb P s.wattr.bg != getRgb P c.attr.bg || s.first

def jstep (P : List Rgb) (s : JS) (c : Cell) : JS × Cell :=
  let wf := wfOf P s c
  let wb := wbOf P s c
  let r1 := if wf then insertColor s.lpal (getRgb P (tndShown c.attr)) else (s.lpal, s.lfg)
  let r2 := if wb then insertColor r1.1 (getRgb P c.attr.bg) else (r1.1, s.lbg)
  ({ wattr := if wf || wb then c.attr else s.wattr, first := false, lpal := r2.1, lfg := r1.2, lbg := r2.2 },
   ⟨c.ch, ⟨r1.2, r2.2, 0, Xb.defaultPage⟩⟩)

def jrow (P : List Rgb) : JS → List Cell → JS × List Cell
  | s, [] => (s, [])
  | s, c :: cs =>
    let r := jstep P s c
    let t := jrow P r.1 cs
    (t.1, r.2 :: t.2)

def jrows (P : List Rgb) : JS → List (List Cell) → JS × List (List Cell)
  | s, [] => (s, [])
  | s, r :: rs =>
    let a := jrow P s r
    let t := jrows P a.1 rs
    (t.1, a.2 :: t.2)

theorem jrow_append (P : List Rgb) : ∀ (a b : List Cell) (s : JS),
    jrow P s (a ++ b) = ((jrow P (jrow P s a).1 b).1, (jrow P s a).2 ++ (jrow P (jrow P s a).1 b).2) := by
  intro a
  induction a with
  | nil => intro b s; simp [jrow]
  | cons c cs ih => intro b s; simp [jrow, ih]

theorem jrows_flatten (P : List Rgb) : ∀ (rows : List (List Cell)) (s : JS),
    jrow P s rows.flatten = ((jrows P s rows).1, (jrows P s rows).2.flatten) := by
  intro rows
  induction rows with
  | nil => intro s; simp [jrow, jrows]
  | cons r rs ih =>
    intro s
    simp only [List.flatten_cons, jrow_append, jrows, ih]

theorem jrow_length (P : List Rgb) : ∀ (cs : List Cell) (s : JS), (jrow P s cs).2.length = cs.length := by
  intro cs
  induction cs with
  | nil => intro s; rfl
  | cons c cs ih => intro s; simp [jrow, ih]

theorem jrows_shape (P : List Rgb) (w : Nat) : ∀ (rows : List (List Cell)) (s : JS), (∀ r ∈ rows, r.length = w) →
    (jrows P s rows).2.length = rows.length ∧ ∀ r ∈ (jrows P s rows).2, r.length = w := by
  intro rows
  induction rows with
  | nil => intro s _; exact ⟨rfl, nofun⟩
  | cons r rs ih =>
    intro s h
    obtain ⟨h1, h2⟩ := ih (jrow P s r).1 fun r' hr' => h r' (List.mem_cons_of_mem _ hr')
    refine ⟨by simp [jrows, h1], fun q hq => ?_⟩
    rcases List.mem_cons.mp hq with rfl | hq
    · rw [jrow_length]; exact h r List.mem_cons_self
    · exact h2 q hq

def Pref (a b : List Rgb) : Prop := ∃ t, b = a ++ t

theorem Pref.refl (a : List Rgb) : Pref a a := ⟨[], by simp⟩
theorem Pref.trans {a b c : List Rgb} (h1 : Pref a b) (h2 : Pref b c) : Pref a c := by
  obtain ⟨t1, rfl⟩ := h1; obtain ⟨t2, rfl⟩ := h2; exact ⟨t1 ++ t2, by simp⟩
theorem Pref.length_le {a b : List Rgb} (h : Pref a b) : a.length ≤ b.length := by
  obtain ⟨t, rfl⟩ := h; simp
theorem Pref.getD {a b : List Rgb} (h : Pref a b) (i : Nat) (hi : i < a.length) (d : Rgb) : b.getD i d = a.getD i d := by
  obtain ⟨t, rfl⟩ := h; exact Basics.getD_append_left _ _ _ _ hi

theorem insertColor_spec (pal : List Rgb) (c : Rgb) :
    Pref pal (insertColor pal c).1 ∧ (insertColor pal c).2 < (insertColor pal c).1.length ∧
    (insertColor pal c).1.getD (insertColor pal c).2 (0, 0, 0) = c ∧ (insertColor pal c).1.length ≤ pal.length + 1 := by
  unfold insertColor
  cases h : pal.findIdx? (· == c) with
  | none =>
    refine ⟨⟨[c], rfl⟩, by simp, ?_, by simp⟩
    simp only
    rw [Basics.getD_append_right _ _ _ _ (Nat.le_refl _)]
    simp
  | some i =>
    have hi := List.findIdx?_eq_some_iff_getElem.mp h
    obtain ⟨hlt, hp, _⟩ := hi
    refine ⟨Pref.refl _, hlt, ?_, by simp⟩
    simp only
    rw [List.getD_eq_getElem?_getD, List.getElem?_eq_getElem hlt]
    simpa using hp

/-- a loaded cell `d` shows, through palette `L`, what the saved cell `c` is displayed with -/
def Good (P L : List Rgb) (c d : Cell) : Prop :=
  d.ch = c.ch ∧ d.attr.flags = 0 ∧ d.attr.page = 0 ∧ d.attr.fg < L.length ∧ d.attr.bg < L.length ∧
  L.getD d.attr.fg (0, 0, 0) = getRgb P (tndShown c.attr) ∧ L.getD d.attr.bg (0, 0, 0) = getRgb P c.attr.bg

theorem Good.mono {P L L' : List Rgb} {c d : Cell} (h : Good P L c d) (hp : Pref L L') : Good P L' c d := by
  obtain ⟨h1, h2, h3, h4, h5, h6, h7⟩ := h
  have := hp.length_le
  exact ⟨h1, h2, h3, by omega, by omega, by rw [hp.getD _ h4]; exact h6, by rw [hp.getD _ h5]; exact h7⟩

theorem isVisible_flags0 (c : Cell) (h : c.attr.flags = 0) : isVisible c = true := by
  unfold isVisible; rw [h]; decide

/-- `hL`: indices are looked up in the palette only below 2^31; `hnb`: the format has no blink -/
theorem Good.same {P L : List Rgb} {c d : Cell} (h : Good P L c d) (hL : L.length < 2147483648) (hnb : isBlink c.attr = false)
    (hp0 : c.attr.page = 0) : isVisible d = true ∧ cellSame P L c d = true ∧ d.attr.page = c.attr.page := by
  obtain ⟨g1, g2, g3, g4, g5, g6, g7⟩ := h
  refine ⟨isVisible_flags0 d g2, ?_, by rw [g3, hp0]⟩
  have hnbold : isBold d.attr = false := by unfold isBold; rw [g2]; decide
  have hnblink : isBlink d.attr = false := by unfold isBlink; rw [g2]; decide
  have hfg : dispFg L d = dispFg P c := by
    unfold dispFg
    simp only [hnbold, Bool.false_eq_true, false_and, if_false]
    conv => lhs; unfold getRgb
    rw [if_neg (by omega), g6]
    rfl
  have hbg : dispBg L d = dispBg P c := by
    unfold dispBg
    conv => lhs; unfold getRgb
    rw [if_neg (by omega), g7]
  unfold cellSame
  simp only [g1, hfg, hbg, hnblink, hnb, beq_self_eq_true, Bool.and_self]

/-- after the first cell: the loader's running indices denote the colours of the writer's running attribute -/
def JInv (P : List Rgb) (s : JS) : Prop :=
  s.first = false → s.lfg < s.lpal.length ∧ s.lbg < s.lpal.length ∧
    s.lpal.getD s.lfg (0, 0, 0) = getRgb P (tndShown s.wattr) ∧ s.lpal.getD s.lbg (0, 0, 0) = getRgb P s.wattr.bg

/-- one colour channel of a cell: the index the loader has after it — freshly inserted when the writer wrote the colour, else the
    old one, which already denoted it -/
theorem chan_spec (L : List Rgb) (i : Nat) (col : Rgb) (w : Bool) (h : w = false → i < L.length ∧ L.getD i (0, 0, 0) = col) :
    Pref L (if w then insertColor L col else (L, i)).1 ∧
    (if w then insertColor L col else (L, i)).2 < (if w then insertColor L col else (L, i)).1.length ∧
    (if w then insertColor L col else (L, i)).1.getD (if w then insertColor L col else (L, i)).2 (0, 0, 0) = col ∧
    (if w then insertColor L col else (L, i)).1.length ≤ L.length + 1 := by
  cases w
  · exact ⟨Pref.refl _, (h rfl).1, (h rfl).2, Nat.le_succ _⟩
  · exact insertColor_spec L col

theorem wfOf_false {P : List Rgb} {s : JS} {c : Cell} (h : wfOf P s c = false) :
    s.first = false ∧ getRgb P (tndShown s.wattr) = getRgb P (tndShown c.attr) := by
  unfold wfOf at h
  simp only [Bool.or_eq_false_iff, bne_eq_false_iff_eq] at h
  exact ⟨h.2, h.1.1.1⟩

theorem wbOf_false {P : List Rgb} {s : JS} {c : Cell} (h : wbOf P s c = false) :
    s.first = false ∧ getRgb P s.wattr.bg = getRgb P c.attr.bg := by
  unfold wbOf at h
  simp only [Bool.or_eq_false_iff, bne_eq_false_iff_eq] at h
  exact ⟨h.2, h.1⟩

theorem jstep_good (P : List Rgb) (s : JS) (c : Cell) (hinv : JInv P s) :
    JInv P (jstep P s c).1 ∧ Pref s.lpal (jstep P s c).1.lpal ∧ Good P (jstep P s c).1.lpal c (jstep P s c).2 ∧
    (jstep P s c).1.lpal.length ≤ s.lpal.length + 2 ∧ (jstep P s c).1.first = false := by
  unfold jstep
  generalize hwf : wfOf P s c = wf
  generalize hwb : wbOf P s c = wb
  dsimp only
  obtain ⟨hp1, hlt1, hget1, hlen1⟩ := chan_spec s.lpal s.lfg (getRgb P (tndShown c.attr)) wf fun h => by
    obtain ⟨hnf, heq⟩ := wfOf_false (hwf.trans h)
    exact ⟨(hinv hnf).1, (hinv hnf).2.2.1.trans heq⟩
  generalize (if wf then insertColor s.lpal (getRgb P (tndShown c.attr)) else (s.lpal, s.lfg)) = r1 at hp1 hlt1 hget1 hlen1 ⊢
  obtain ⟨hp2, hlt2, hget2, hlen2⟩ := chan_spec r1.1 s.lbg (getRgb P c.attr.bg) wb fun h => by
    obtain ⟨hnf, heq⟩ := wbOf_false (hwb.trans h)
    have := hp1.length_le
    exact ⟨by have := (hinv hnf).2.1; omega, by rw [hp1.getD _ (hinv hnf).2.1, (hinv hnf).2.2.2, heq]⟩
  generalize (if wb then insertColor r1.1 (getRgb P c.attr.bg) else (r1.1, s.lbg)) = r2 at hp2 hlt2 hget2 hlen2 ⊢
  have hl12 := hp2.length_le
  have hget1' : r2.1.getD r1.2 (0, 0, 0) = getRgb P (tndShown c.attr) := by rw [hp2.getD _ hlt1]; exact hget1
  -- the new running attribute is the cell's, or shows the same colours
  have hsh : getRgb P (tndShown (if (wf || wb) = true then c.attr else s.wattr)) = getRgb P (tndShown c.attr) := by
    subst hwf hwb
    cases h1 : wfOf P s c <;> cases h2 : wbOf P s c <;> first | rfl | exact (wfOf_false h1).2
  have hbg : getRgb P (if (wf || wb) = true then c.attr else s.wattr).bg = getRgb P c.attr.bg := by
    subst hwf hwb
    cases h1 : wfOf P s c <;> cases h2 : wbOf P s c <;> first | rfl | exact (wbOf_false h2).2
  exact ⟨fun _ => ⟨(by show r1.2 < r2.1.length; omega), hlt2, hget1'.trans hsh.symm, hget2.trans hbg.symm⟩, hp1.trans hp2,
    ⟨rfl, rfl, rfl, (by show r1.2 < r2.1.length; omega), hlt2, hget1', hget2⟩, (by show r2.1.length ≤ s.lpal.length + 2; omega), rfl⟩

def allGood (P L : List Rgb) : List Cell → List Cell → Prop
  | [], [] => True
  | c :: cs, d :: ds => Good P L c d ∧ allGood P L cs ds
  | _, _ => False

theorem allGood.mono {P L L' : List Rgb} : ∀ {cs ds : List Cell}, allGood P L cs ds → Pref L L' → allGood P L' cs ds := by
  intro cs
  induction cs with
  | nil => intro ds h _; cases ds <;> simp_all [allGood]
  | cons c cs ih =>
    intro ds h hp
    cases ds with
    | nil => simp [allGood] at h
    | cons d ds => exact ⟨h.1.mono hp, ih h.2 hp⟩

theorem jrow_good (P : List Rgb) : ∀ (cs : List Cell) (s : JS), JInv P s →
    JInv P (jrow P s cs).1 ∧ Pref s.lpal (jrow P s cs).1.lpal ∧ allGood P (jrow P s cs).1.lpal cs (jrow P s cs).2 ∧
    (jrow P s cs).1.lpal.length ≤ s.lpal.length + 2 * cs.length ∧ (cs ≠ [] → (jrow P s cs).1.first = false) := by
  intro cs
  induction cs with
  | nil => intro s h; exact ⟨h, Pref.refl _, trivial, by simp [jrow], fun h => absurd rfl h⟩
  | cons c cs ih =>
    intro s h
    obtain ⟨h1, h2, h3, h4, h5⟩ := jstep_good P s c h
    obtain ⟨k1, k2, k3, k4, k5⟩ := ih (jstep P s c).1 h1
    simp only [jrow]
    refine ⟨k1, h2.trans k2, ⟨h3.mono k2, k3⟩, by simp only [List.length_cons]; omega, fun _ => ?_⟩
    cases cs with
    | nil => simpa [jrow] using h5
    | cons _ _ => exact k5 (by simp)

def allGood2 (P L : List Rgb) : List (List Cell) → List (List Cell) → Prop
  | [], [] => True
  | r :: rs, q :: qs => allGood P L r q ∧ allGood2 P L rs qs
  | _, _ => False

theorem allGood2.mono {P L L' : List Rgb} : ∀ {rs qs : List (List Cell)}, allGood2 P L rs qs → Pref L L' → allGood2 P L' rs qs := by
  intro rs
  induction rs with
  | nil => intro qs h _; cases qs <;> simp_all [allGood2]
  | cons r rs ih =>
    intro qs h hp
    cases qs with
    | nil => simp [allGood2] at h
    | cons q qs => exact ⟨h.1.mono hp, ih h.2 hp⟩

theorem jrows_good (P : List Rgb) : ∀ (rows : List (List Cell)) (s : JS), JInv P s →
    JInv P (jrows P s rows).1 ∧ Pref s.lpal (jrows P s rows).1.lpal ∧ allGood2 P (jrows P s rows).1.lpal rows (jrows P s rows).2 ∧
    (jrows P s rows).1.lpal.length ≤ s.lpal.length + 2 * rows.flatten.length := by
  intro rows
  induction rows with
  | nil => intro s h; exact ⟨h, Pref.refl _, trivial, by simp [jrows]⟩
  | cons r rs ih =>
    intro s h
    obtain ⟨h1, h2, h3, h4, _⟩ := jrow_good P r s h
    obtain ⟨k1, k2, k3, k4⟩ := ih (jrow P s r).1 h1
    simp only [jrows]
    refine ⟨k1, h2.trans k2, ⟨h3.mono k2, k3⟩, ?_⟩
    simp only [List.flatten_cons, List.length_append]
    omega

theorem allGood_get (P L : List Rgb) : ∀ (cs ds : List Cell) (x : Nat), allGood P L cs ds → x < cs.length →
    Good P L (cs.getD x Cell.invisible) (ds.getD x Cell.invisible) := by
  intro cs
  induction cs with
  | nil => intro ds x _ hx; simp at hx
  | cons c cs ih =>
    intro ds x h hx
    cases ds with
    | nil => simp [allGood] at h
    | cons d ds =>
      cases x with
      | zero => exact h.1
      | succ x => simp only [List.getD_cons_succ]; exact ih ds x h.2 (by simpa using hx)

theorem allGood2_get (P L : List Rgb) : ∀ (rs qs : List (List Cell)) (y x : Nat), allGood2 P L rs qs → y < rs.length →
    x < (rs.getD y []).length →
    Good P L ((rs.getD y []).getD x Cell.invisible) ((qs.getD y []).getD x Cell.invisible) := by
  intro rs
  induction rs with
  | nil => intro qs y x _ hy; simp at hy
  | cons r rs ih =>
    intro qs y x h hy hx
    cases qs with
    | nil => simp [allGood2] at h
    | cons q qs =>
      cases y with
      | zero => exact allGood_get P L r q x h.1 (by simpa using hx)
      | succ y => simp only [List.getD_cons_succ] at hx ⊢; exact ih qs y x h.2 (by simpa using hy) hx

end IcyVerif.BinFormats

namespace IcyVerif.SauceLoad
open IcyVerif.BinFormats IcyVerif.Gen IcyVerif.XbCompress

/-- palette and current colours replaced (what the colour bytes of a command do to the loader state) -/
def recolour (s : TL) (pal : List Rgb) (fg bg : Nat) : TL := { s with buf := { s.buf with pal := pal }, fg := fg, bg := bg }

/-! ### one command of the loop, decoded from what it reads of the state: buffer width, palette, current colours -/

inductive Step
  | err | panic
  | move (rest : List Nat) (x y : Int)
  | put (rest : List Nat) (pal : List Rgb) (fg bg : Nat) (ch : Nat)

/-- the optional colour of a command (`flag` = foreground / background bit): palette and colour index after it -/
def colStep (flag cmd : Nat) (rest : List Nat) (pal : List Rgb) (cur : Nat) : Out (List Nat × List Rgb × Nat) :=
  if cmd &&& flag ≠ 0 then
    match rest with
    | _ :: r :: g :: b :: rest' => .ok (rest', insertColor pal (r, g, b))
    | _ => .err
  else .ok (rest, pal, cur)

/-- the body of `tndLoop` for a non-empty input, with the recursive calls as data -/
def tndStep (cmd : Nat) (rest : List Nat) (bw : Nat) (pal : List Rgb) (fg bg : Nat) : Step :=
  if cmd = BinFmt.tndPosition then
    match rest with
    | y0 :: y1 :: y2 :: y3 :: rest' =>
      if be32 y0 y1 y2 y3 ≥ BinFmt.tndMaxY then .err
      else
        match rest' with
        | x0 :: x1 :: x2 :: x3 :: rest'' =>
          if be32 x0 x1 x2 x3 ≥ (bw : Int) then .err
          else .move rest'' (be32 x0 x1 x2 x3) (be32 y0 y1 y2 y3)
        | _ => .err
    | _ => .err
  else if cmd > BinFmt.tndCmdAbove ∧ cmd ≤ BinFmt.tndCmdUpTo then
    match rest with
    | [] => .err
    | ch :: rest1 =>
      match colStep BinFmt.tndColorFg cmd rest1 pal fg with
      | .panic => .panic
      | .err => .err
      | .ok (rest2, pal2, fg2) =>
        match colStep BinFmt.tndColorBg cmd rest2 pal2 bg with
        | .panic => .panic
        | .err => .err
        | .ok (rest3, pal3, bg3) => .put rest3 pal3 fg2 bg3 ch
  else .put rest pal fg bg cmd

def Step.run (fuel : Nat) (s : TL) : Step → Out TL
  | .err => .err
  | .panic => .panic
  | .move rest x y => tndLoop fuel rest { s with x := x, y := y }
  | .put rest pal fg bg ch => tndLoop fuel rest (tndPut (recolour s pal fg bg) ch)

theorem run_ite (fuel : Nat) (s0 : TL) (c : Prop) [Decidable c] (a b : Step) :
    (if c then a else b).run fuel s0 = if c then a.run fuel s0 else b.run fuel s0 := by
  split <;> rfl

theorem tndLoop_succ (fuel cmd : Nat) (rest : List Nat) (s : TL) :
    tndLoop (fuel + 1) (cmd :: rest) s = (tndStep cmd rest s.buf.bw s.buf.pal s.fg s.bg).run fuel s := by
  rw [tndLoop.eq_def]
  simp only []
  unfold tndStep
  by_cases hp : cmd = BinFmt.tndPosition
  · simp only [hp, if_true]
    rcases rest with _ | ⟨y0, _ | ⟨y1, _ | ⟨y2, _ | ⟨y3, rest'⟩⟩⟩⟩ <;> try rfl
    simp only [run_ite]
    by_cases hy : be32 y0 y1 y2 y3 ≥ BinFmt.tndMaxY
    · simp only [hy, if_true]; rfl
    · simp only [hy, if_false]
      rcases rest' with _ | ⟨x0, _ | ⟨x1, _ | ⟨x2, _ | ⟨x3, rest''⟩⟩⟩⟩ <;> try rfl
      simp only [run_ite]
      by_cases hx : be32 x0 x1 x2 x3 ≥ (s.buf.bw : Int)
      · simp only [hx, if_true]; rfl
      · simp only [hx, if_false]; rfl
  · simp only [hp, if_false, run_ite]
    by_cases hc : cmd > BinFmt.tndCmdAbove ∧ cmd ≤ BinFmt.tndCmdUpTo
    · simp only [hc, and_self, if_true]
      rcases rest with _ | ⟨ch, rest1⟩
      · rfl
      · simp only [colStep]
        by_cases hfg : cmd &&& BinFmt.tndColorFg = 0 <;> by_cases hbg : cmd &&& BinFmt.tndColorBg = 0 <;>
          simp only [ne_eq, hfg, hbg, if_true, if_false, not_true_eq_false, not_false_eq_true]
        · rfl
        · rcases rest1 with _ | ⟨a, _ | ⟨r, _ | ⟨g, _ | ⟨b, rest2⟩⟩⟩⟩ <;> rfl
        · rcases rest1 with _ | ⟨a, _ | ⟨r, _ | ⟨g, _ | ⟨b, rest2⟩⟩⟩⟩ <;> rfl
        · rcases rest1 with _ | ⟨a, _ | ⟨r, _ | ⟨g, _ | ⟨b, rest2⟩⟩⟩⟩ <;> try rfl
          rcases rest2 with _ | ⟨a', _ | ⟨r', _ | ⟨g', _ | ⟨b', rest3⟩⟩⟩⟩ <;> rfl
    · simp only [hc, if_false]; rfl

end IcyVerif.SauceLoad
