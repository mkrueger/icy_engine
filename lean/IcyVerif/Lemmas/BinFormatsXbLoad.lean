import IcyVerif.Lemmas.BinFormatsSauce
/-!
# C05, XBin: the loader on a well-formed header + palette + font blocks + image data; the writer's file in blocks

`xbBody` is the one description of a record-free XBin file: `xbSave_ok_iff` says when the writer answers and that it writes `xbBody`;
`XbBlocks` is `xbBody` read as blocks, its clauses the fields of `XbLayout` (for the palette and font properties).  `xbLoad_ok_iff` / `xbBlocks_ok_iff`: the loader and its
block reader with their guards read off.
-/
namespace IcyVerif.BinFormats
open IcyVerif.XbCompress IcyVerif.Gen

theorem xbFlags_bits : ∀ font pal comp ice ext : Bool,
    (xbFlags font pal comp ice ext &&& Xb.flagPalette == Xb.flagPalette) = pal ∧
    (xbFlags font pal comp ice ext &&& Xb.flagFont == Xb.flagFont) = font ∧
    (xbFlags font pal comp ice ext &&& Xb.flagCompress == Xb.flagCompress) = comp ∧
    (xbFlags font pal comp ice ext &&& Xb.flagNonBlink == Xb.flagNonBlink) = ice ∧
    (xbFlags font pal comp ice ext &&& Xb.flag512 == Xb.flag512) = ext := by decide

/-- the font table of a loader's start buffer: the default font, or the font a SAUCE record names -/
def sauceFonts0 (s : Option Sauce.Sauce) : List (Nat × Font) :=
  match s with
  | none => [(0, defaultFont)]
  | some s' => startFonts s'

/-- everything but the font table is overwritten from the header -/
theorem xb_start (s : Option Sauce.Sauce) : ∃ bw lw : Nat, ∃ bh lh : Int, ∃ im : IceMode,
    (LBuf.start BinFmt.xbStartW BinFmt.xbStartH (BinFmt.xbClearsRows == 1)).setSauce true s =
      { bw := bw, bh := bh, lw := lw, lh := lh, lines := [], ice := im, pal := dosPalette, fonts := sauceFonts0 s,
        sauce := s.map metaOf } := by
  have hc : (BinFmt.xbClearsRows == 1) = true := by decide
  cases s with
  | none => exact ⟨_, _, _, _, _, by rw [hc, start_setSauce_none]; rfl⟩
  | some s => exact ⟨_, _, _, _, _, by rw [hc, start_setSauce']; rfl⟩

/-- the buffer the image data is placed into -/
def xbBase (w h fh : Nat) (fontF palF ice ext : Bool) (palB f0d f1d : List Nat) (fs0 : List (Nat × Font)) (m : Option Sauce.Meta) : LBuf :=
  { bw := w, bh := (h : Int), lw := w, lh := (h : Int), lines := [], ice := if ice then .ice else .blink,
    pal := if palF then from63 palB else dosPalette,
    fonts := if fontF then (if ext then [(0, mkFont fh f0d), (1, mkFont fh f1d)] else [(0, mkFont fh f0d)]) else fs0,
    sauce := m }

theorem xbBlocks_ok_iff (b1 : LBuf) (hasPal hasFont ext : Bool) (fs : Nat) (rest : List Nat) (r : LBuf × List Nat) :
    xbBlocks b1 hasPal hasFont ext fs rest = .ok r ↔
      (ext = true → hasFont = true) ∧ (hasPal = true → Xb.paletteLength ≤ rest.length) ∧
      (hasFont = true → fs * 256 ≤ (if hasPal then rest.drop Xb.paletteLength else rest).length) ∧
      (hasFont = true → ext = true → 2 * (fs * 256) ≤ (if hasPal then rest.drop Xb.paletteLength else rest).length) ∧
      r = ({ b1 with
              pal := if hasPal then from63 (rest.take Xb.paletteLength) else b1.pal,
              fonts := if hasFont then
                  (if ext then [(0, mkFont fs ((if hasPal then rest.drop Xb.paletteLength else rest).take (fs * 256))),
                                (1, mkFont fs (((if hasPal then rest.drop Xb.paletteLength else rest).drop (fs * 256)).take (fs * 256)))]
                   else [(0, mkFont fs ((if hasPal then rest.drop Xb.paletteLength else rest).take (fs * 256)))])
                else b1.fonts },
           if hasFont then (if hasPal then rest.drop Xb.paletteLength else rest).drop (if ext then 2 * (fs * 256) else fs * 256)
           else (if hasPal then rest.drop Xb.paletteLength else rest)) := by
  unfold xbBlocks
  cases hasPal <;> cases hasFont <;> cases ext <;>
    simp only [Bool.false_eq_true, if_false, if_true, false_and, true_and, and_true, and_false, not_true_eq_false, not_false_eq_true,
      false_implies, implies_true, forall_const, ok_ite_err_iff, Out.ok.injEq, Nat.not_lt, reduceCtorEq, eq_comm (b := r)]

theorem xbBlocks_blocks (b1 : LBuf) (fh : Nat) (fontF palF ext : Bool) (palB f0d f1d img : List Nat)
    (hpalB : palB.length = 48) (hf0 : f0d.length = fh * 256) (hf1 : f1d.length = fh * 256) (hext : ext = true → fontF = true) :
    xbBlocks b1 palF fontF ext fh ((if palF then palB else []) ++ ((if fontF then f0d else []) ++ ((if ext then f1d else []) ++ img))) =
      .ok ({ b1 with pal := if palF then from63 palB else b1.pal,
                     fonts := if fontF then (if ext then [(0, mkFont fh f0d), (1, mkFont fh f1d)] else [(0, mkFont fh f0d)]) else b1.fonts },
           img) := by
  have hpl : Xb.paletteLength = 48 := rfl
  have T1 : ∀ X : List Nat, (f0d ++ X).take (fh * 256) = f0d := fun X => List.take_left' hf0
  have D1 : ∀ X : List Nat, (f0d ++ X).drop (fh * 256) = X := fun X => List.drop_left' hf0
  have T2 : ∀ X : List Nat, (f1d ++ X).take (fh * 256) = f1d := fun X => List.take_left' hf1
  have D2 : ∀ X : List Nat, (f0d ++ (f1d ++ X)).drop (2 * (fh * 256)) = X := by
    intro X
    rw [← List.append_assoc]
    exact List.drop_left' (by simp [hf0, hf1]; omega)
  have TP : ∀ X : List Nat, (palB ++ X).take 48 = palB := fun X => List.take_left' hpalB
  have DP : ∀ X : List Nat, (palB ++ X).drop 48 = X := fun X => List.drop_left' hpalB
  have n1 : ∀ a b : Nat, ¬ (a + b < a) := by intro a b; omega
  have n2 : ∀ a b : Nat, ¬ (a + (a + b) < 2 * a) := by intro a b; omega
  have n3 : ∀ b : Nat, ¬ (48 + b < 48) := by intro b; omega
  unfold xbBlocks
  cases palF <;> cases fontF <;> cases ext <;>
    simp only [if_true, if_false, Bool.false_eq_true, List.nil_append, false_and, true_and, hpalB, hpl,
      List.length_append, hf0, hf1, and_self, and_true, not_true_eq_false, not_false_eq_true, T1, D1, T2, D2, TP, DP, n1, n2] <;>
    -- `rfl`, except 512-character mode without a font block, which `hext` rules out
    first | rfl | exact absurd (hext rfl) (by decide)

/-- the buffer the XBin loader hands to the block reader; the font table and the kept record are what `set_sauce` left -/
def xbHeadBuf (s : Option Sauce.Sauce) (w h : Nat) (ice : Bool) : LBuf :=
  { bw := w, bh := h, lw := w, lh := h, lines := [], ice := if ice then .ice else .blink, pal := dosPalette,
    fonts := sauceFonts0 s, sauce := s.map metaOf }

theorem xbLoad_ok_iff (data : List Nat) (s : Option Sauce.Sauce) (g : LBuf) :
    xbLoad data s = .ok g ↔
      ∃ eof wl wh hl hh fs0 flags rest b3 rest3,
        data = 88 :: 66 :: 73 :: 78 :: eof :: wl :: wh :: hl :: hh :: fs0 :: flags :: rest ∧
        (1 ≤ wl + wh * 256 ∧ wl + wh * 256 ≤ 4096) ∧ (if fs0 = 0 then 16 else fs0) ≤ 32 ∧
        xbBlocks (xbHeadBuf s (wl + wh * 256) (hl + hh * 256) (flags &&& Xb.flagNonBlink == Xb.flagNonBlink))
          (flags &&& Xb.flagPalette == Xb.flagPalette) (flags &&& Xb.flagFont == Xb.flagFont) (flags &&& Xb.flag512 == Xb.flag512)
          (if fs0 = 0 then 16 else fs0) rest = .ok (b3, rest3) ∧
        xbImage b3 (wl + wh * 256) (flags &&& Xb.flagCompress == Xb.flagCompress) (flags &&& Xb.flagNonBlink == Xb.flagNonBlink)
          (flags &&& Xb.flag512 == Xb.flag512) rest3 = .ok g := by
  obtain ⟨bw0, lw0, bh0, lh0, im0, hst⟩ := xb_start s
  unfold xbLoad
  rw [hst]
  split
  · rename_i i0 i1 i2 i3 eof wl wh hl hh fs0 flags rest
    dsimp only
    rw [ok_ite_err_iff, ok_ite_err_iff, ok_ite_err_iff]
    constructor
    · rintro ⟨hm, hw, hfs, h⟩
      obtain ⟨rfl, rfl, rfl, rfl⟩ : i0 = 88 ∧ i1 = 66 ∧ i2 = 73 ∧ i3 = 78 := by simpa using hm
      cases hx : xbBlocks (xbHeadBuf s (wl + wh * 256) (hl + hh * 256) (flags &&& Xb.flagNonBlink == Xb.flagNonBlink))
          (flags &&& Xb.flagPalette == Xb.flagPalette) (flags &&& Xb.flagFont == Xb.flagFont) (flags &&& Xb.flag512 == Xb.flag512)
          (if fs0 = 0 then 16 else fs0) rest with
      | ok r => have hx' := hx; unfold xbHeadBuf at hx'; rw [hx'] at h; exact ⟨eof, wl, wh, hl, hh, fs0, flags, rest, r.1, r.2, rfl, by omega, by omega, hx, h⟩
      | err => unfold xbHeadBuf at hx; rw [hx] at h; cases h
      | panic => unfold xbHeadBuf at hx; rw [hx] at h; cases h
    · rintro ⟨_, _, _, _, _, _, _, _, b3, rest3, he, hw, hfs, hx, hi⟩
      cases he
      unfold xbHeadBuf at hx
      exact ⟨by simp, by omega, by omega, by rw [hx]; exact hi⟩
  · rename_i hne
    exact ⟨nofun, fun ⟨_, _, _, _, _, _, _, _, _, _, he, _⟩ => (hne _ _ _ _ _ _ _ _ _ _ _ _ he).elim⟩

theorem xb_load (s : Option Sauce.Sauce) (w h fh : Nat) (fontF palF comp ice ext : Bool) (palB f0d f1d img : List Nat)
    (ps : List (Nat × Nat)) (hw1 : 1 ≤ w) (hw2 : w ≤ 4096) (hh : h ≤ 65535) (hfh1 : 1 ≤ fh) (hfh2 : fh ≤ 32)
    (hpalB : palB.length = 48) (hf0 : f0d.length = fh * 256) (hf1 : f1d.length = fh * 256) (hext : ext = true → fontF = true)
    (hps : (if comp then readCompressed img else some (readUncompressed img)) = some ps) :
    xbLoad (88 :: 66 :: 73 :: 78 :: 0x1A :: (w % 256) :: ((w / 256) % 256) :: (h % 256) :: ((h / 256) % 256) :: (fh % 256) ::
        xbFlags fontF palF comp ice ext ::
        ((if palF then palB else []) ++ ((if fontF then f0d else []) ++ ((if ext then f1d else []) ++ img)))) s =
      .ok (placeAll false false 0 (w - 1) (xbBase w h fh fontF palF ice ext palB f0d f1d (sauceFonts0 s) (s.map metaOf)) 0 0
          (ps.map (decodeChar ice ext))).1.crop := by
  obtain ⟨b1, b2, b3, b4, b5⟩ := xbFlags_bits fontF palF comp ice ext
  have ew : w % 256 + (w / 256) % 256 * 256 = w := by omega
  have eh : h % 256 + (h / 256) % 256 * 256 = h := by omega
  have efh : (if fh % 256 = 0 then 16 else fh % 256) = fh := by rw [if_neg (by omega)]; omega
  refine (xbLoad_ok_iff _ s _).mpr ⟨0x1A, w % 256, (w / 256) % 256, h % 256, (h / 256) % 256, fh % 256, _, _,
    xbBase w h fh fontF palF ice ext palB f0d f1d (sauceFonts0 s) (s.map metaOf), img, rfl, by omega, by omega, ?_, ?_⟩
  · rw [ew, eh, efh, b1, b2, b4, b5]
    exact xbBlocks_blocks _ fh fontF palF ext palB f0d f1d img hpalB hf0 hf1 hext
  · rw [ew, b3, b4, b5]
    unfold xbImage
    rw [hps]

theorem xbSave_eq (c s : Bool) (date : List Nat) (p : Pic) :
    xbSave c s date p = withSauce s .xbin p date (xbSave c false date p) := by
  show Sauces s .xbin p date _ _
  unfold xbSave
  dsimp only
  cases lookupFont p.fonts ((analyzeFontUsage p.rows.flatten).headD 0) with
  | none => exact .err
  | some font =>
    dsimp only
    refine .ite .err (.ite .err (.ite .err (.ite .err ?_)))
    cases ((analyzeFontUsage p.rows.flatten).length == 2)
    · cases imageData p.ice c p.rows with
      | none => exact .err
      | some img => exact .leaf _
    · cases lookupFont p.fonts ((analyzeFontUsage p.rows.flatten).getD 1 0) with
      | none => exact .err
      | some f2 =>
        refine .ite .err ?_
        cases imageData p.ice c p.rows with
        | none => exact .err
        | some img => exact .leaf _

/-- the writer tests "more than one font page", the flags byte says "two" -/
theorem two_pages (n : Nat) (h : n ≤ 2) : decide (n > 1) = (n == 2) := by
  rcases Nat.lt_or_ge 1 n with h1 | h1
  · rw [show n = 2 by omega]; rfl
  · rw [decide_eq_false (by omega), (beq_eq_false_iff_ne).mpr (by omega)]

/-- a flag test of the writer (`=`) in the form `xbFlags_bits` answers (`==`) -/
theorem flagProp (fl bit : Nat) : (fl &&& bit = bit) ↔ ((fl &&& bit == bit) = true) := by simp

/-- the XBin file without SAUCE record (`two`: 512-character mode; `f0`, `f1` the fonts of its pages; `img` its image data): `XBIN`
    and the EOF character, width, height, font height, flags, then the blocks the flags announce — the palette unless it is the default
    one, the font(s) unless there is one and it is the default font, the image data -/
def xbBody (p : Pic) (compress two : Bool) (f0 f1 : Font) (img : List Nat) : List Nat :=
  88 :: 66 :: 73 :: 78 :: 0x1A :: (p.w % 256) :: ((p.w / 256) % 256) :: (p.h % 256) :: ((p.h / 256) % 256) :: (f0.height % 256) ::
    xbFlags (!f0.isDefault || two) (!palIsDefault p.pal) compress (p.ice == .ice) two ::
    ((if (!palIsDefault p.pal) then asVec63 (fillTo16 p.pal) else []) ++ ((if (!f0.isDefault || two) then f0.data else []) ++
      ((if two then f1.data else []) ++ img)))

/-- the one place that follows `xbSave` for what it writes (with a record: `xbSave_eq`) -/
theorem xbSave_ok_iff (c : Bool) (date : List Nat) (p : Pic) (body : List Nat) :
    xbSave c false date p = .ok body ↔
      ∃ f0 f1 img, lookupFont p.fonts ((analyzeFontUsage p.rows.flatten).headD 0) = some f0 ∧
        (analyzeFontUsage p.rows.flatten).length ≤ 2 ∧ (1 ≤ f0.height ∧ f0.height ≤ 32) ∧
        (palIsDefault p.pal = false → (asVec63 (fillTo16 p.pal)).length = Xb.paletteLength) ∧
        ((!f0.isDefault || (analyzeFontUsage p.rows.flatten).length == 2) = true → f0.data.length = 256 * f0.height) ∧
        (((analyzeFontUsage p.rows.flatten).length == 2) = true →
          lookupFont p.fonts ((analyzeFontUsage p.rows.flatten).getD 1 0) = some f1 ∧ f1.data.length = f0.data.length) ∧
        imageData p.ice c p.rows = some img ∧
        body = xbBody p c ((analyzeFontUsage p.rows.flatten).length == 2) f0 f1 img := by
  unfold xbSave xbBody
  simp only [Bool.false_eq_true, if_false]
  generalize analyzeFontUsage p.rows.flatten = pages
  cases hf : lookupFont p.fonts (pages.headD 0) with
  | none => exact ⟨nofun, fun ⟨_, _, _, h, _⟩ => nomatch h⟩
  | some font =>
    -- with at most two pages "more than one" is "two"; the two flag tests in the form `xbFlags_bits` answers
    have h12 : pages.length ≤ 2 → decide (pages.length > 1) = (pages.length == 2) := two_pages _
    have flags : ∀ two : Bool, let FL := xbFlags (!font.isDefault || two) (!palIsDefault p.pal) c (p.ice == IceMode.ice) two
        ((FL &&& Xb.flagPalette = Xb.flagPalette) ↔ (!palIsDefault p.pal) = true) ∧
        ((FL &&& Xb.flagFont = Xb.flagFont) ↔ (!font.isDefault || two) = true) := fun two => by
      obtain ⟨bP, bF, _⟩ := xbFlags_bits (!font.isDefault || two) (!palIsDefault p.pal) c (p.ice == IceMode.ice) two
      exact ⟨by rw [flagProp, bP], by rw [flagProp, bF]⟩
    dsimp only
    constructor
    · intro h
      obtain ⟨hlen, h⟩ := ok_of_ite_err h
      rw [h12 (Nat.le_of_not_lt hlen)] at h
      obtain ⟨hP, hF⟩ := flags (pages.length == 2)
      simp only [hP, hF] at h
      obtain ⟨hh, h⟩ := ok_of_ite_err h
      obtain ⟨hpl, h⟩ := ok_of_ite_err h
      obtain ⟨hfl, h⟩ := ok_of_ite_err h
      have hpl' : palIsDefault p.pal = false → (asVec63 (fillTo16 p.pal)).length = Xb.paletteLength := fun hd =>
        Classical.not_not.mp fun hne => hpl ⟨by simp [hd], hne⟩
      have hfl' : (!font.isDefault || (pages.length == 2)) = true → font.data.length = 256 * font.height := fun hd =>
        Classical.not_not.mp fun hne => hfl ⟨hd, hne⟩
      cases htwo : (pages.length == 2)
      · rw [htwo] at h hfl'
        simp only [Bool.false_eq_true, if_false] at h
        cases himg : imageData p.ice c p.rows with
        | none => rw [himg] at h; cases h
        | some img =>
          rw [himg] at h
          exact ⟨font, font, img, rfl, Nat.le_of_not_lt hlen, by omega, hpl', hfl', nofun, rfl,
            by rw [← Out.ok.inj h]; simp only [Bool.false_eq_true, if_false, List.append_assoc, List.cons_append, List.nil_append]⟩
      · rw [htwo] at h hfl'
        simp only [if_true] at h
        cases hf2 : lookupFont p.fonts (pages.getD 1 0) with
        | none => rw [hf2] at h; cases h
        | some f2 =>
          rw [hf2] at h
          obtain ⟨hl2, h⟩ := ok_of_ite_err h
          cases himg : imageData p.ice c p.rows with
          | none => rw [himg] at h; cases h
          | some img =>
            rw [himg] at h
            exact ⟨font, f2, img, rfl, Nat.le_of_not_lt hlen, by omega, hpl', hfl', fun _ => ⟨rfl, Classical.not_not.mp hl2⟩, rfl,
              by rw [← Out.ok.inj h]; simp only [Bool.or_true, if_true, List.append_assoc, List.cons_append, List.nil_append]⟩
    · rintro ⟨f0, f1, img, hf0, hlen, hh, hpl, hfl, h2, himg, rfl⟩
      obtain rfl := Option.some.inj hf0
      obtain ⟨hP, hF⟩ := flags (pages.length == 2)
      rw [if_neg (by omega), h12 hlen]
      simp only [hP, hF]
      rw [if_neg (by omega), if_neg (fun h => h.2 (hpl (by simpa using h.1))), if_neg (fun h => h.2 (hfl h.1)), himg]
      cases htwo : (pages.length == 2)
      · simp only [Bool.false_eq_true, if_false, List.append_assoc, List.cons_append, List.nil_append]
      · obtain ⟨hf1, hl1⟩ := h2 htwo
        simp only [if_true, hf1, hl1, ne_eq, not_true_eq_false, if_false, Bool.or_true, List.append_assoc, List.cons_append,
          List.nil_append]

/-- `xbBody` read as blocks — what the palette and font properties look at: `font` the font of the first page in use, `fl` the flags
    byte, `fontBytes` the font block(s), `img` the image data -/
structure XbLayout (p : Pic) (body : List Nat) (font : Font) (fl : Nat) (fontBytes img : List Nat) : Prop where
  font0 : lookupFont p.fonts ((analyzeFontUsage p.rows.flatten).headD 0) = some font
  palBit : (fl &&& Xb.flagPalette == Xb.flagPalette) = !palIsDefault p.pal
  bit512 : (fl &&& Xb.flag512 == Xb.flag512) = ((analyzeFontUsage p.rows.flatten).length == 2)
  palLen : palIsDefault p.pal = false → (asVec63 (fillTo16 p.pal)).length = Xb.paletteLength
  fonts : if (!font.isDefault || decide ((analyzeFontUsage p.rows.flatten).length > 1)) = true then
      if ((analyzeFontUsage p.rows.flatten).length == 2) = true then
        ∃ f2, lookupFont p.fonts ((analyzeFontUsage p.rows.flatten).getD 1 0) = some f2 ∧ f2.data.length = font.data.length ∧
          fontBytes = font.data ++ f2.data
      else fontBytes = font.data
    else fontBytes = []
  body : body = [88, 66, 73, 78, 26, p.w % 256, p.w / 256 % 256, p.h % 256, p.h / 256 % 256, font.height % 256, fl] ++
    (if (!palIsDefault p.pal) = true then asVec63 (fillTo16 p.pal) else []) ++ fontBytes ++ img

def XbBlocks (p : Pic) (body : List Nat) : Prop := ∃ font fl fontBytes img, XbLayout p body font fl fontBytes img

theorem xbSave_blocks (c : Bool) (date : List Nat) (p : Pic) : Out.Holds (XbBlocks p) (xbSave c false date p) := by
  intro body h
  obtain ⟨f0, f1, img, hf0, hlen, _, hpl, _, h2, _, rfl⟩ := (xbSave_ok_iff c date p body).mp h
  obtain ⟨bP, _, _, _, bX⟩ := xbFlags_bits (!f0.isDefault || ((analyzeFontUsage p.rows.flatten).length == 2)) (!palIsDefault p.pal) c
    (p.ice == IceMode.ice) ((analyzeFontUsage p.rows.flatten).length == 2)
  refine ⟨f0, _, (if (!f0.isDefault || ((analyzeFontUsage p.rows.flatten).length == 2)) then f0.data else []) ++
    (if ((analyzeFontUsage p.rows.flatten).length == 2) then f1.data else []), img, hf0, bP, bX, hpl, ?_,
    by simp only [xbBody, List.append_assoc, List.cons_append, List.nil_append]⟩
  generalize analyzeFontUsage p.rows.flatten = pages at hlen h2 ⊢
  rw [two_pages _ hlen]
  cases htwo : (pages.length == 2)
  · cases (!f0.isDefault) <;> simp
  · obtain ⟨hf1, hl1⟩ := h2 htwo
    simp only [Bool.or_true, if_true]
    exact ⟨f1, hf1, hl1, rfl⟩

/-- the record-free file in its blocks, and `write_sauce_info` applied to it (`sauced_prefix` turns the last clause into
    `bytes = body ++ tail`) -/
theorem xbSave_layout (c s : Bool) (date : List Nat) (p : Pic) :
    Out.Holds (fun bytes => ∃ body, xbSave c false date p = .ok body ∧ XbBlocks p body ∧
        (if s then writeSauce .xbin p date body else .ok body) = .ok bytes)
      (xbSave c s date p) := by
  intro bytes h
  obtain ⟨body, hb, h⟩ := withSauce_ok ((xbSave_eq c s date p).symm.trans h)
  exact ⟨body, hb, xbSave_blocks c date p body hb, h⟩

end IcyVerif.BinFormats
