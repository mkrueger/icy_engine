import IcyVerif.Model.ColorOpt
/-! C12: blank glyphs render without their foreground, full glyphs without their background; the per-glyph font condition
`FontOk` and how it follows from a regenerated font summary. -/
namespace IcyVerif.ColorOpt
open IcyVerif.Comp IcyVerif.Gen.Fonts

theorem popcount8_zero {b : Nat} (h : popcount8 b = 0) : ∀ i < 8, b.testBit i = false := by
  unfold popcount8 at h
  have hnil := List.length_eq_zero_iff.mp h
  intro i hi
  have := (List.filter_eq_nil_iff.mp hnil) i (List.mem_range.mpr hi)
  simpa using this

theorem and_two_pow_ne_zero (b k : Nat) : (b &&& 2 ^ k != 0) = b.testBit k := by
  cases h : b.testBit k
  · have : b &&& 2 ^ k = 0 := by
      apply Nat.eq_of_testBit_eq
      intro i
      rw [Nat.testBit_and, Nat.testBit_two_pow, Nat.zero_testBit]
      by_cases hi : k = i
      · subst hi; rw [h]; rfl
      · simp [hi]
    rw [this]; rfl
  · have : (b &&& 2 ^ k).testBit k = true := by
      rw [Nat.testBit_and, Nat.testBit_two_pow, h]; simp
    have hne : b &&& 2 ^ k ≠ 0 := by
      intro h0; rw [h0, Nat.zero_testBit] at this; cases this
    simp [hne]

theorem bitSet_eq_testBit (b : Nat) {cx : Nat} (hcx : cx < 8) : bitSet b cx = b.testBit (7 - cx) := by
  have hpow : msbMask >>> cx = 2 ^ (7 - cx) := by
    have : ∀ cx < 8, msbMask >>> cx = 2 ^ (7 - cx) := by decide
    exact this cx hcx
  unfold bitSet
  rw [hpow]
  exact and_two_pow_ne_zero b (7 - cx)

theorem bitSet_of_popcount_zero {b : Nat} (h : popcount8 b = 0) {cx : Nat} (hcx : cx < 8) : bitSet b cx = false := by
  rw [bitSet_eq_testBit b hcx]
  exact popcount8_zero h (7 - cx) (by omega)

theorem exists_set_bit {rows : List Nat} (h : ones rows ≠ 0) :
    ∃ (cy b i : Nat), rows[cy]? = some b ∧ i < 8 ∧ b.testBit i = true := by
  unfold ones at h
  induction rows with
  | nil => simp at h
  | cons a rows ih =>
    simp only [List.map_cons, List.sum_cons] at h
    by_cases ha : popcount8 a = 0
    · obtain ⟨cy, b, i, h1, h2, h3⟩ := ih (by omega)
      exact ⟨cy + 1, b, i, by rw [List.getElem?_cons_succ]; exact h1, h2, h3⟩
    · unfold popcount8 at ha
      have hne : (List.filter (fun i => a.testBit i) (List.range 8)) ≠ [] := by
        intro hnil; rw [hnil] at ha; exact ha rfl
      obtain ⟨i, hi⟩ := List.exists_mem_of_ne_nil _ hne
      have := List.mem_filter.mp hi
      exact ⟨0, a, i, rfl, List.mem_range.mp this.1, this.2⟩

/-- every byte of a glyph whose bit count is 0 -/
def Blank (rows : List Nat) : Prop := ones rows = 0

theorem blank_byte {rows : List Nat} (h : Blank rows) {cy b : Nat} (hb : rows[cy]? = some b) : popcount8 b = 0 := by
  unfold Blank ones at h
  have hmem : b ∈ rows := List.mem_of_getElem? hb
  exact List.sum_eq_zero_iff_forall_eq_nat.mp h _ (List.mem_map.mpr ⟨b, hmem, rfl⟩)

/-- all in-range bits set (`w ≤ 8`): rows `0..h` exist and pass the bit test at columns `0..w` -/
def isFull (w h : Nat) (rows : List Nat) : Bool :=
  (List.range h).all fun cy => match rows[cy]? with
    | some b => (List.range w).all fun cx => bitSet b cx
    | none => false

/-- the pixel `render_to_rgba` writes at row `cy`, column `cx` of a glyph, inside the painted area -/
def glyphPx (rows : List Nat) (fgc bgc : Rgb) (cy cx : Nat) : Px :=
  match rows[cy]? with
  | none => .panic
  | some b => if 8 ≤ cx then .panic else if bitSet b cx then .rgb fgc else .rgb bgc

theorem renderGlyph_congr (w0 h0 : Nat) (f : Font) (rows rows' : List Nat) (fgc bgc fgc' bgc' : Rgb)
    (h : ∀ cy cx, cy < min f.h h0 → cx < min f.w w0 →
      glyphPx rows fgc bgc cy cx = glyphPx rows' fgc' bgc' cy cx) :
    renderGlyph w0 h0 f rows fgc bgc = renderGlyph w0 h0 f rows' fgc' bgc' := by
  unfold renderGlyph
  apply List.map_congr_left
  intro cy _
  apply List.map_congr_left
  intro cx _
  by_cases hc : cy < min f.h h0 ∧ cx < min f.w w0
  · simp only [hc, and_self, if_true]
    exact h cy cx hc.1 hc.2
  · simp only [hc, if_false]

theorem blank_px {rows : List Nat} (hb : Blank rows) {cy : Nat} (hcy : cy < rows.length) (cx : Nat) (fgc bgc : Rgb) :
    glyphPx rows fgc bgc cy cx = if 8 ≤ cx then Px.panic else Px.rgb bgc := by
  unfold glyphPx
  rw [List.getElem?_eq_getElem hcy]
  by_cases h8 : 8 ≤ cx
  · simp [h8]
  · simp [h8, bitSet_of_popcount_zero (blank_byte hb (List.getElem?_eq_getElem hcy)) (by omega : cx < 8)]

theorem renderGlyph_blank (w0 h0 : Nat) (f : Font) (rows rows' : List Nat) (fgc fgc' bgc : Rgb)
    (hb : Blank rows) (hb' : Blank rows') (hl : rows.length = rows'.length) :
    renderGlyph w0 h0 f rows fgc bgc = renderGlyph w0 h0 f rows' fgc' bgc := by
  apply renderGlyph_congr
  intro cy cx _ _
  by_cases hlt : cy < rows.length
  · rw [blank_px hb hlt, blank_px hb' (hl ▸ hlt)]
  · unfold glyphPx
    rw [List.getElem?_eq_none (by omega), List.getElem?_eq_none (by omega)]

set_option linter.unusedVariables false in
/-- `renderGlyph_blank` for two fonts whose painted region (the `min` with font 0's size) is the same; the optimiser never
    changes the font of a cell, so C12 uses the one-font form only (`h8` is not needed: beyond column 7 both sides panic alike) -/
theorem renderGlyph_blank2 (w0 h0 : Nat) (f f' : Font) (rows rows' : List Nat) (fgc fgc' bgc : Rgb)
    (hb : Blank rows) (hb' : Blank rows') (hl : f.h ≤ rows.length) (hl' : f'.h ≤ rows'.length)
    (hw : min f.w w0 = min f'.w w0) (hh : min f.h h0 = min f'.h h0) (h8 : f.w ≤ 8) :
    renderGlyph w0 h0 f rows fgc bgc = renderGlyph w0 h0 f' rows' fgc' bgc := by
  unfold renderGlyph
  apply List.map_congr_left
  intro cy _
  apply List.map_congr_left
  intro cx _
  rw [← hw, ← hh]
  by_cases hc : cy < min f.h h0 ∧ cx < min f.w w0
  · simp only [hc, and_self, if_true]
    exact (blank_px hb (by have := hc.1; omega) cx fgc bgc).trans
      (blank_px hb' (by have := hc.1; rw [hh] at this; omega) cx fgc' bgc).symm
  · simp only [hc, if_false]

theorem isFull_bit {w h : Nat} {rows : List Nat} (hf : isFull w h rows = true) {cy cx : Nat} (hcy : cy < h) (hcx : cx < w) :
    ∃ b, rows[cy]? = some b ∧ bitSet b cx = true := by
  unfold isFull at hf
  have h1 := (List.all_eq_true.mp hf) cy (List.mem_range.mpr hcy)
  cases hr : rows[cy]? with
  | none => rw [hr] at h1; simp at h1
  | some b =>
    rw [hr] at h1
    exact ⟨b, rfl, (List.all_eq_true.mp h1) cx (List.mem_range.mpr hcx)⟩

theorem renderGlyph_full (w0 h0 : Nat) (f : Font) (rows : List Nat) (fgc bgc bgc' : Rgb)
    (hw : f.w ≤ 8) (hf : isFull f.w f.h rows = true) :
    renderGlyph w0 h0 f rows fgc bgc = renderGlyph w0 h0 f rows fgc bgc' := by
  apply renderGlyph_congr
  intro cy cx hcy hcx
  obtain ⟨b, hb, hbit⟩ := isFull_bit hf (Nat.lt_of_lt_of_le hcy (Nat.min_le_left _ _))
    (Nat.lt_of_lt_of_le hcx (Nat.min_le_left _ _))
  have h8 : ¬ 8 ≤ cx := by
    have := Nat.lt_of_lt_of_le hcx (Nat.min_le_left _ _)
    omega
  unfold glyphPx
  rw [hb]
  simp [h8, hbit]

theorem renderGlyph_px (w0 h0 : Nat) (f : Font) (rows : List Nat) (fgc bgc : Rgb) {cy cx : Nat}
    (hcy : cy < h0) (hcx : cx < w0) :
    ((renderGlyph w0 h0 f rows fgc bgc)[cy]?.bind (·[cx]?)) =
      some (if cy < min f.h h0 ∧ cx < min f.w w0 then glyphPx rows fgc bgc cy cx else Px.keep) := by
  unfold renderGlyph
  rw [List.getElem?_map, List.getElem?_range hcy]
  simp only [Option.map_some, Option.bind_some]
  rw [List.getElem?_map, List.getElem?_range hcx]
  rfl

/-- what the optimiser needs from a font: every glyph has `height` data bytes (so a blank glyph and the blank `' '`
    paint the same rows), a NON-BLANK glyph whose bit count is width·height belongs to a font of at most 8 columns
    (so `count_ones` counts rendered columns only and `128 >> cx` cannot overflow on them) and has every in-range bit
    set, and the glyph of `' '` (the normalisation target) is blank whenever the font has a blank glyph at all.  Fonts wider than 8 columns satisfy the second
    clause vacuously (`wide_never_block`), 8-column fonts automatically (`C12.eight_wide_font_ok`). -/
structure FontOk (f : Font) : Prop where
  rows_len : ∀ ch rows, f.glyph ch = some rows → rows.length = f.h
  block_full : ∀ ch rows, f.glyph ch = some rows → ones rows ≠ 0 → ones rows = f.w * f.h →
    f.w ≤ 8 ∧ isFull f.w f.h rows = true
  space_blank : ∀ ch rows rows', f.glyph ch = some rows → ones rows = 0 → f.glyph spaceCh = some rows' → ones rows' = 0

/-- list traversal of a regenerated summary: every glyph has `h` bytes and "count = w·h ⇒ full" -/
def glyphSumOk (w h : Nat) : List Nat → List Nat → List Nat → Bool
  | l :: ls, o :: os, f :: fs => (l == h) && (o != w * h || f == 1) && glyphSumOk w h ls os fs
  | [], [], [] => true
  | _, _, _ => false

def SummaryOk (s : FontSum) : Bool :=
  decide (s.w ≤ 8) && glyphSumOk s.w s.h s.lens s.ones s.full &&
    (match s.ones[spaceCh]? with
      | some o => o == 0
      | none => true)

theorem glyphSumOk_get {w h : Nat} {ls os fs : List Nat} (hok : glyphSumOk w h ls os fs = true) {i l o fl : Nat}
    (hl : ls[i]? = some l) (ho : os[i]? = some o) (hf : fs[i]? = some fl) : l = h ∧ (o = w * h → fl = 1) := by
  induction ls generalizing os fs i with
  | nil => simp at hl
  | cons l0 ls ih =>
    cases os with
    | nil => simp at ho
    | cons o0 os =>
      cases fs with
      | nil => simp at hf
      | cons f0 fs =>
        simp only [glyphSumOk, Bool.and_eq_true, beq_iff_eq, Bool.or_eq_true, bne_iff_ne, ne_eq] at hok
        cases i with
        | zero =>
          simp only [List.getElem?_cons_zero, Option.some.injEq] at hl ho hf
          subst hl; subst ho; subst hf
          refine ⟨hok.1.1, fun h => ?_⟩
          rcases hok.1.2 with h' | h'
          · exact absurd h h'
          · exact h'
        | succ i =>
          simp only [List.getElem?_cons_succ] at hl ho hf
          exact ih hok.2 hl ho hf

/-- the summary really is the summary of the font (what the harness checks against the compiled crate) -/
def Summarizes (f : Font) (s : FontSum) : Prop :=
  f.w = s.w ∧ f.h = s.h ∧ ∀ ch rows, f.glyph ch = some rows →
    s.lens[ch]? = some rows.length ∧ s.ones[ch]? = some (ones rows) ∧
    s.full[ch]? = some (if isFull f.w f.h rows then 1 else 0)

theorem fontOk_of_summary {f : Font} {s : FontSum} (hs : Summarizes f s) (hok : SummaryOk s = true) : FontOk f := by
  obtain ⟨hw, hh, hg⟩ := hs
  unfold SummaryOk at hok
  simp only [Bool.and_eq_true, decide_eq_true_eq] at hok
  obtain ⟨⟨hle, hsum⟩, hsp⟩ := hok
  refine ⟨?_, ?_, ?_⟩
  · intro ch rows hgl
    obtain ⟨h1, h2, h3⟩ := hg ch rows hgl
    have := (glyphSumOk_get hsum h1 h2 h3).1
    omega
  · intro ch rows hgl _ hones
    obtain ⟨h1, h2, h3⟩ := hg ch rows hgl
    have := (glyphSumOk_get hsum h1 h2 h3).2 (by rw [hones, hw, hh])
    refine ⟨by omega, ?_⟩
    by_cases hfull : isFull f.w f.h rows = true
    · exact hfull
    · simp [hfull] at this
  · intro _ _ rows _ _ hgl
    obtain ⟨_, h2, _⟩ := hg spaceCh rows hgl
    rw [h2] at hsp
    simpa using hsp

theorem renderCell_eq {fonts : Nat → Option Font} (pal : Nat → Rgb) (w0 h0 : Nat) {c : Cell} {f : Font} {rows : List Nat}
    (hfont : fonts c.attr.page = some f) (hg : f.glyph c.ch = some rows) :
    renderCell fonts pal w0 h0 c = renderGlyph w0 h0 f rows (pal (renderFg c)) (pal c.attr.bg) := by
  unfold renderCell; rw [hfont]; simp only [hg]

theorem renderCell_blank (fonts : Nat → Option Font) (pal : Nat → Rgb) (w0 h0 : Nat) (c X : Cell) (f : Font)
    (rows rows' : List Nat)
    (hfont : fonts c.attr.page = some f) (hg : f.glyph c.ch = some rows) (hg' : f.glyph X.ch = some rows')
    (hb : Blank rows) (hb' : Blank rows') (hl : rows'.length = rows.length)
    (hp : X.attr.page = c.attr.page) (hbg : X.attr.bg = c.attr.bg) :
    renderCell fonts pal w0 h0 X = renderCell fonts pal w0 h0 c := by
  rw [renderCell_eq pal w0 h0 (hp ▸ hfont) hg', renderCell_eq pal w0 h0 hfont hg, hbg]
  exact renderGlyph_blank w0 h0 f rows' rows _ _ _ hb' hb hl

theorem renderCell_full (fonts : Nat → Option Font) (pal : Nat → Rgb) (w0 h0 : Nat) (c X : Cell) (f : Font)
    (rows : List Nat)
    (hfont : fonts c.attr.page = some f) (hg : f.glyph c.ch = some rows) (hw : f.w ≤ 8)
    (hfull : isFull f.w f.h rows = true)
    (hch : X.ch = c.ch) (hp : X.attr.page = c.attr.page) (hfg : X.attr.fg = c.attr.fg)
    (hfl : X.attr.flags = c.attr.flags) :
    renderCell fonts pal w0 h0 X = renderCell fonts pal w0 h0 c := by
  have : renderFg X = renderFg c := by unfold renderFg isBold; rw [hfg, hfl]
  rw [renderCell_eq pal w0 h0 (hp ▸ hfont) (hch ▸ hg), renderCell_eq pal w0 h0 hfont hg, this]
  exact renderGlyph_full w0 h0 f rows _ _ _ hw hfull

theorem flatStore_visible (c : Cell) : (flatStore c).isVisible = true := by
  unfold flatStore
  by_cases h : c.isVisible = true
  · simp only [h, if_true]
  · have h' : c.isVisible = false := by cases hc : c.isVisible <;> simp_all
    simp only [h', Bool.false_eq_true, if_false]
    have a : (defaultCell.withPage c.attr.page).isVisible = defaultCell.isVisible := rfl
    rw [a]; decide

theorem flatStore_invisible (p : Nat) : flatStore (invisibleCell.withPage p) = defaultCell.withPage p := by
  unfold flatStore
  have : (invisibleCell.withPage p).isVisible = false := by
    have a : (invisibleCell.withPage p).isVisible = invisibleCell.isVisible := rfl
    rw [a]; decide
  simp only [this, Bool.false_eq_true, if_false]
  rfl

theorem flatView_of_visible (t : Bool) {c : Cell} (h : c.isVisible = true) : flatView t c = c := by
  unfold flatView; simp only [h, if_true]

/-- same character, colours 7 on 0, not bold -/
theorem renderCell_default_invisible (fonts : Nat → Option Font) (pal : Nat → Rgb) (w0 h0 p : Nat) :
    renderCell fonts pal w0 h0 (defaultCell.withPage p) = renderCell fonts pal w0 h0 (invisibleCell.withPage p) := by
  unfold renderCell
  have h1 : (defaultCell.withPage p).attr.page = (invisibleCell.withPage p).attr.page := rfl
  have h2 : (defaultCell.withPage p).ch = (invisibleCell.withPage p).ch := rfl
  have h3 : renderFg (defaultCell.withPage p) = renderFg (invisibleCell.withPage p) := by
    have a : renderFg (defaultCell.withPage p) = renderFg defaultCell := rfl
    have b : renderFg (invisibleCell.withPage p) = renderFg invisibleCell := rfl
    rw [a, b]; decide
  have h4 : (defaultCell.withPage p).attr.bg = (invisibleCell.withPage p).attr.bg := rfl
  rw [h1, h2, h3, h4]

end IcyVerif.ColorOpt
