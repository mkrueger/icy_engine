import IcyVerif.Model.RowsOther
import IcyVerif.Lemmas.TermPrim
/-! # Totality of the content operations of `Model/Rows` under their explicit preconditions
For ALL row tables (`rows : List Nat` is never constrained: any ragged shape, any number of rows including none and
more than the screen height).  Every lemma states the precondition of the operation it is about; what the operations
keep is the layer width (`lw`, which `Line::create` / `Line::with_capacity` need non-negative). -/
namespace IcyVerif.Rows
open IcyVerif.Term

/-- the operation does not panic and its result satisfies `P`: `Holds NoErr` with a `match` of its own; the lemmas below
    are stated with `Holds NoErr` -/
def Ok {α : Type} (r : RRes α) (P : α → Prop) : Prop :=
  match r with
  | .ok a => P a
  | .error _ => False

@[simp] theorem ok_ok {α : Type} (a : α) (P : α → Prop) : Ok (.ok a : RRes α) P = P a := rfl
@[simp] theorem ok_error {α : Type} (e : String) (P : α → Prop) : Ok (.error e : RRes α) P = False := rfl

theorem andThen_ok {α β : Type} (a : α) (f : α → RRes β) : andThen (.ok a) f = f a := rfl

theorem _root_.IcyVerif.Term.Holds.andThen {α β : Type} {E : String → Prop} {r : RRes α} {f : α → RRes β} {P : α → Prop} {Q : β → Prop}
    (h : Holds E r P) (hf : ∀ a, P a → Holds E (f a) Q) : Holds E (andThen r f) Q := by
  cases r with
  | ok a => exact hf a h
  | error e => exact h

theorem loopFrom_ok {σ : Type} (f : Int → σ → RRes σ) (P : σ → Prop) (lo : Int)
    (hf : ∀ i s, lo ≤ i → P s → Holds NoErr (f i s) P) :
    ∀ (n : Nat) (i : Int) (s : σ), lo ≤ i → P s → Holds NoErr (loopFrom f n i s) P := by
  intro n
  induction n with
  | zero => intro i s _ hs; exact hs
  | succ n ih =>
    intro i s hi hs
    unfold loopFrom
    obtain ⟨s', hfi, h1⟩ := (hf i s hi hs).isOk
    rw [hfi]
    exact ih (i + 1) s' (by omega) h1

theorem loopDown_ok {σ : Type} (f : Int → σ → RRes σ) (P : σ → Prop)
    (hf : ∀ i s, P s → Holds NoErr (f i s) P) :
    ∀ (n : Nat) (i : Int) (s : σ), P s → Holds NoErr (loopDown f n i s) P := by
  intro n
  induction n with
  | zero => intro i s hs; exact hs
  | succ n ih =>
    intro i s hs
    unfold loopDown
    obtain ⟨s', hfi, h1⟩ := (hf i s hs).isOk
    rw [hfi]
    exact ih (i - 1) s' h1

theorem forRange_ok {σ : Type} (lo hi : Int) (f : Int → σ → RRes σ) (P : σ → Prop) (s : σ)
    (hf : ∀ i s, lo ≤ i → P s → Holds NoErr (f i s) P) (hs : P s) : Holds NoErr (forRange lo hi f s) P :=
  loopFrom_ok f P lo hf _ lo s (Int.le_refl _) hs

theorem forRangeRev_ok {σ : Type} (lo hi : Int) (f : Int → σ → RRes σ) (P : σ → Prop) (s : σ)
    (hf : ∀ i s, P s → Holds NoErr (f i s) P) (hs : P s) : Holds NoErr (forRangeRev lo hi f s) P :=
  loopDown_ok f P hf _ _ s hs

theorem times_ok {σ : Type} {n : Int} {f : σ → RRes σ} {P : σ → Prop} {s : σ}
    (hf : ∀ s, P s → Holds NoErr (f s) P) (hs : P s) : Holds NoErr (times n f s) P :=
  loopFrom_ok (fun _ => f) P 0 (fun _ s _ h => hf s h) _ 0 s (Int.le_refl _) hs

theorem lineSetChar_ok (n : Nat) (i : Int) (hi : 0 ≤ i) : Holds NoErr (lineSetChar n i) (fun _ => True) := by
  unfold lineSetChar
  simp only []
  apply Holds.ite
  · intro h
    split at h <;> omega
  · intro _; trivial

theorem lineInsertChar_ok (n : Nat) (i : Int) (hi : 0 ≤ i) : Holds NoErr (lineInsertChar n i) (fun n' => (i : Int) < n' ∧ n < n') := by
  unfold lineInsertChar lenInsert
  simp only []
  apply Holds.ite
  · intro h
    split at h <;> omega
  · intro _
    simp only [Holds.ok]
    split <;> omega

theorem vecIndex_eq {α : Type} (v : List α) (i : Int) (site : String) (h0 : 0 ≤ i) (h1 : i < v.length) :
    vecIndex v i site = .ok (v[i.toNat]'(by omega)) := by
  unfold vecIndex
  rw [if_neg (by omega), List.getElem?_eq_getElem (by omega)]

theorem vecIndex_ok {α : Type} (v : List α) (i : Int) (site : String) (h0 : 0 ≤ i) (h1 : i < v.length) :
    Holds NoErr (vecIndex v i site) (fun a => a ∈ v) := by
  rw [vecIndex_eq v i site h0 h1]
  exact List.getElem_mem _

theorem vecResize_ok {α : Type} (v : List α) (n : Int) (a : α) (site : String) (hn : 0 ≤ n) :
    Holds NoErr (vecResize v n a site) (fun v' => n ≤ v'.length) := by
  unfold vecResize
  rw [if_neg (by omega), Holds.ok]
  split
  · rw [List.length_take]; omega
  · rw [List.length_append, List.length_replicate]; omega

theorem lineCreate_ok (w : Int) (hw : 0 ≤ w) : lineCreate w = .ok w.toNat := by
  unfold lineCreate
  rw [if_neg (by omega)]

theorem lineWithCapacity_ok (w : Int) (hw : 0 ≤ w) : lineWithCapacity w = .ok 0 := by
  unfold lineWithCapacity
  rw [if_neg (by omega)]

abbrev W (w : Int) (t : Tab) : Prop := t.lw = w

theorem layerGetChar_ok (t : Tab) (x y : Int) : Holds NoErr (layerGetChar t x y) (fun _ => True) := by
  unfold layerGetChar
  apply Holds.ite
  · intro _; trivial
  · intro hg
    apply Holds.ite
    · intro hy
      refine (vecIndex_ok _ _ _ (by omega) hy).andThen (fun n _ => ?_)
      apply Holds.ite
      · intro _
        rw [if_neg (by omega)]
        trivial
      · intro _; trivial
    · intro _; trivial

/-- `Layer::set_char` never panics (needs only a non-negative layer width for `Line::create`) -/
theorem layerSetChar_ok (w : Int) (hw : 0 ≤ w) (t : Tab) (x y : Int) (ht : W w t) :
    Holds NoErr (layerSetChar t x y) (fun t' => W w t' ∧ t'.lh = t.lh) := by
  unfold layerSetChar
  apply Holds.ite
  · intro _; exact ⟨ht, rfl⟩
  · intro hg
    apply Holds.andThen (P := fun rows => (y : Int) < rows.length)
    · apply Holds.ite
      · intro _
        rw [lineCreate_ok t.lw (by rw [ht]; exact hw)]
        exact Holds.mono (vecResize_ok _ _ _ _ (by omega)) (fun _ h => by omega)
      · intro hlen; rw [Holds.ok]; omega
    · intro rows hrows
      refine (vecIndex_ok rows y _ (by omega) hrows).andThen (fun n _ => ?_)
      refine (lineSetChar_ok n x (by omega)).andThen (fun n' _ => ?_)
      rw [Holds.ok]
      split <;> exact ⟨ht, rfl⟩

theorem layerRemoveLine_ok (w : Int) (t : Tab) (i : Int) (ht : W w t) (h0 : 0 ≤ i) (h1 : i < t.rows.length) :
    Holds NoErr (layerRemoveLine t i) (fun t' => W w t' ∧ t'.lh = t.lh) := by
  unfold layerRemoveLine vecRemove
  rw [if_neg (by omega), if_neg (by omega)]
  exact ⟨ht, rfl⟩

theorem layerInsertLine_ok (w : Int) (hw : 0 ≤ w) (t : Tab) (i : Int) (l : Nat) (ht : W w t) (h0 : 0 ≤ i) :
    Holds NoErr (layerInsertLine t i l) (fun t' => W w t' ∧ t'.lh = t.lh) := by
  unfold layerInsertLine
  rw [if_neg (by omega)]
  apply Holds.andThen (P := fun rows => (i : Int) ≤ rows.length)
  · apply Holds.ite
    · intro _
      rw [lineCreate_ok t.lw (by rw [ht]; exact hw)]
      exact vecResize_ok _ _ _ _ h0
    · intro hlen; rw [Holds.ok]; omega
  · intro rows hrows
    unfold vecInsert
    rw [if_neg (by omega)]
    exact ⟨ht, rfl⟩

/-- an invariant of the row table that `Layer::set_char` and `Layer::clear` keep; what the model builds from these two
    alone keeps it too (instances: the layer width, the page shape of Viewdata / Mode 7) -/
structure SetInv (I : Tab → Prop) : Prop where
  set : ∀ t x y, I t → Holds NoErr (layerSetChar t x y) I
  clear : ∀ t, I t → I (layerClear t)

theorem SetInv.row {I : Tab → Prop} (hI : SetInv I) (lo hi y : Int) (t : Tab) (ht : I t) :
    Holds NoErr (forRange lo hi (fun x t => layerSetChar t x y) t) I :=
  forRange_ok _ _ _ I t (fun x t _ ht => hI.set t x y ht) ht

theorem SetInv.getSet {I : Tab → Prop} (hI : SetInv I) (t : Tab) (x y y' : Int) (ht : I t) :
    Holds NoErr (andThen (layerGetChar t x y') fun _ => layerSetChar t x y) I :=
  (layerGetChar_ok t x y').andThen (fun _ _ => hI.set t x y ht)

theorem SetInv.scrollUp {I : Tab → Prop} (hI : SetInv I) {s : Scr} {t : Tab} (ht : I t) : Holds NoErr (scrollUp s t) I := by
  unfold Rows.scrollUp
  apply forRange_ok _ _ _ I t _ ht
  intro x t _ ht
  apply Holds.andThen (P := I)
  · apply forRange_ok _ _ _ I t _ ht
    intro y t _ ht
    exact hI.getSet t x y (y + 1) ht
  · intro t ht; exact hI.set t x _ ht

theorem SetInv.scrollDown {I : Tab → Prop} (hI : SetInv I) {s : Scr} {t : Tab} (ht : I t) : Holds NoErr (scrollDown s t) I := by
  unfold Rows.scrollDown
  apply forRange_ok _ _ _ I t _ ht
  intro x t _ ht
  apply Holds.andThen (P := I)
  · apply forRangeRev_ok _ _ _ I t _ ht
    intro y t ht
    exact hI.getSet t x y (y - 1) ht
  · intro t ht; exact hI.set t x _ ht

theorem SetInv.setRect {I : Tab → Prop} (hI : SetInv I) {x0 x1 y0 y1 : Int} {t : Tab} (ht : I t) :
    Holds NoErr (setRect x0 x1 y0 y1 t) I :=
  forRange_ok _ _ _ I t (fun y t _ ht => hI.row x0 x1 y t ht) ht

theorem SetInv.clearBufferDown {I : Tab → Prop} (hI : SetInv I) {s : Scr} {c : Car} {t : Tab} (ht : I t) :
    Holds NoErr (clearBufferDown s c t) I := hI.setRect ht
theorem SetInv.clearBufferUp {I : Tab → Prop} (hI : SetInv I) {s : Scr} {c : Car} {t : Tab} (ht : I t) :
    Holds NoErr (clearBufferUp s c t) I := hI.setRect ht
theorem SetInv.clearLine {I : Tab → Prop} (hI : SetInv I) {s : Scr} {c : Car} {t : Tab} (ht : I t) :
    Holds NoErr (clearLine s c t) I := hI.row _ _ _ _ ht
theorem SetInv.clearLineEnd {I : Tab → Prop} (hI : SetInv I) {s : Scr} {c : Car} {t : Tab} (ht : I t) :
    Holds NoErr (clearLineEnd s c t) I := hI.row _ _ _ _ ht
theorem SetInv.clearLineStart {I : Tab → Prop} (hI : SetInv I) {s : Scr} {c : Car} {t : Tab} (ht : I t) :
    Holds NoErr (clearLineStart s c t) I := hI.row _ _ _ _ ht
theorem SetInv.repaintAll {I : Tab → Prop} (hI : SetInv I) {s : Scr} {t : Tab} (ht : I t) :
    Holds NoErr (repaintAll s t) I := hI.setRect ht
theorem SetInv.bsT {I : Tab → Prop} (hI : SetInv I) {c : Car} {t : Tab} (ht : I t) : Holds NoErr (bsT c t) I :=
  hI.set t _ _ ht

theorem SetInv.fillToEol {I : Tab → Prop} (hI : SetInv I) {s : Scr} {c : Car} {cnt : Nat} {t : Tab} (ht : I t) :
    Holds NoErr (fillToEol s c cnt t) I :=
  Holds.ite (fun _ => ht) (fun _ => hI.row _ _ _ _ ht)

theorem SetInv.checkScrollDownT {I : Tab → Prop} (hI : SetInv I) {s : Scr} {c : Car} {force : Bool} {t : Tab} (ht : I t) :
    Holds NoErr (checkScrollDownT s c force t) I :=
  Holds.ite (fun _ => hI.scrollUp ht) (fun _ => ht)

theorem SetInv.checkScrollUpT {I : Tab → Prop} (hI : SetInv I) {s : Scr} {c : Car} {force : Bool} {t : Tab} (ht : I t) :
    Holds NoErr (checkScrollUpT s c force t) I :=
  Holds.ite (fun _ => times_ok (fun _ => hI.scrollDown) ht) (fun _ => ht)

/-- rectangles: the parameter list must hold the four numbers that are indexed -/
theorem rectArea_ok (s : Scr) (t : Tab) (nums : List Int) (off : Nat) (hn : off + 3 < nums.length) :
    Holds NoErr (rectArea s t nums off) (fun _ => True) := by
  unfold rectArea
  simp only []
  refine (vecIndex_ok nums _ _ (by omega) (by omega)).andThen (fun _ _ => ?_)
  refine (vecIndex_ok nums _ _ (by omega) (by omega)).andThen (fun _ _ => ?_)
  refine (vecIndex_ok nums _ _ (by omega) (by omega)).andThen (fun _ _ => ?_)
  exact (vecIndex_ok nums _ _ (by omega) (by omega)).andThen (fun _ _ => trivial)

theorem SetInv.fillArea {I : Tab → Prop} (hI : SetInv I) {s : Scr} {t : Tab} {nums : List Int} {off : Nat} (ht : I t)
    (hn : off + 3 < nums.length) : Holds NoErr (fillArea s t nums off) I :=
  (rectArea_ok s t nums off hn).andThen (fun _ _ => hI.setRect ht)

theorem setInv_w {w : Int} (hw : 0 ≤ w) : SetInv (W w) :=
  ⟨fun t x y ht => Holds.mono (layerSetChar_ok w hw t x y ht) (fun _ h => h.1), fun _ ht => ht⟩
theorem setInv_wh {w h : Int} (hw : 0 ≤ w) : SetInv (fun t => W w t ∧ t.lh = h) :=
  ⟨fun t x y ht => Holds.mono (layerSetChar_ok w hw t x y ht.1) (fun _ h' => ⟨h'.1, h'.2.trans ht.2⟩), fun _ ht => ht⟩

/-- `scroll_left`: the column after the last editable one must not be negative (`Line::insert_char(end_column)`) -/
theorem scrollLeft_ok {w : Int} {s : Scr} {t : Tab} (ht : W w t) (hcol : 0 ≤ lastCol s + 1) :
    Holds NoErr (scrollLeft s t) (fun t' => W w t' ∧ t'.lh = t.lh) := by
  unfold scrollLeft
  apply forRange_ok _ _ _ (fun t' => W w t' ∧ t'.lh = t.lh) t _ ⟨ht, rfl⟩
  intro i t _ ht
  split
  · exact ht
  · rename_i n hn
    apply Holds.ite
    · intro ⟨hsc, hlen⟩
      refine (lineInsertChar_ok n _ hcol).andThen ?_
      intro n1 hn1
      unfold lenRemove
      rw [if_neg (by omega)]
      exact ht
    · intro _; exact ht

/-- `scroll_right`: the last editable column must not be negative (`end_column as usize + 1`) -/
theorem scrollRight_ok {w : Int} {s : Scr} {t : Tab} (ht : W w t) (hcol : 0 ≤ lastCol s) :
    Holds NoErr (scrollRight s t) (fun t' => W w t' ∧ t'.lh = t.lh) := by
  unfold scrollRight
  apply forRange_ok _ _ _ (fun t' => W w t' ∧ t'.lh = t.lh) t _ ⟨ht, rfl⟩
  intro i t _ ht
  split
  · exact ht
  · rename_i n hn
    apply Holds.ite
    · intro ⟨hsc, hlen⟩
      unfold lenInsert
      rw [if_neg (by omega)]
      simp only [andThen]
      rw [if_neg (by omega)]
      apply Holds.ite
      · intro ⟨h1, h2⟩
        unfold lenRemove
        rw [if_neg (by omega)]
        exact ht
      · intro _; exact ht
    · intro _; exact ht

def BottomOk (s : Scr) : Prop := ∀ a e, s.mtb = some (a, e) → 0 ≤ e

/-- `remove_terminal_line(line)`: a row that exists must not have a negative index; bottom margin not negative -/
theorem removeTerminalLine_ok {w : Int} (hw : 0 ≤ w) {s : Scr} {line : Int} {t : Tab} (ht : W w t)
    (hline : 0 ≤ line) (hb : BottomOk s) : Holds NoErr (removeTerminalLine s line t) (fun t' => W w t' ∧ t'.lh = t.lh) := by
  unfold removeTerminalLine
  apply Holds.ite
  · intro _; exact ⟨ht, rfl⟩
  · intro hlen
    refine (layerRemoveLine_ok w t line ht hline (by omega)).andThen ?_
    intro t1 ht1
    split
    · rename_i a e he
      rw [show t1.lw = w from ht1.1, lineWithCapacity_ok w hw]
      exact (layerInsertLine_ok w hw t1 e 0 ht1.1 (hb a e he)).mono fun _ h => ⟨h.1, h.2.trans ht1.2⟩
    · exact ht1

/-- `insert_terminal_line(line)`: `line` and the bottom margin must not be negative -/
theorem insertTerminalLine_ok {w : Int} (hw : 0 ≤ w) {s : Scr} {line : Int} {t : Tab} (ht : W w t)
    (hline : 0 ≤ line) (hb : BottomOk s) : Holds NoErr (insertTerminalLine s line t) (fun t' => W w t' ∧ t'.lh = t.lh) := by
  unfold insertTerminalLine
  apply Holds.andThen (P := fun t' => W w t' ∧ t'.lh = t.lh)
  · split
    · rename_i a e he
      apply Holds.ite
      · intro hlen
        unfold vecRemove
        have := hb a e he
        rw [if_neg (by omega)]
        exact ⟨ht, rfl⟩
      · intro _; exact ⟨ht, rfl⟩
    · exact ⟨ht, rfl⟩
  · intro t1 ht1
    rw [show t1.lw = w from ht1.1, lineWithCapacity_ok w hw]
    exact (layerInsertLine_ok w hw t1 line 0 ht1.1 hline).mono fun _ h => ⟨h.1, h.2.trans ht1.2⟩

/-- `Caret::lf`: the terminal width must not be negative (`Line::with_capacity(terminal width)`) -/
theorem lfT_ok {w : Int} (hw : 0 ≤ w) {s : Scr} {c : Car} {t : Tab} (ht : W w t) (htw : 0 ≤ s.tw) :
    Holds NoErr (lfT s c t) (fun t' => W w t' ∧ t'.lh = t.lh) := by
  unfold lfT
  apply Holds.andThen (P := fun t' => W w t' ∧ t'.lh = t.lh)
  · apply Holds.ite
    · intro _
      rw [lineWithCapacity_ok s.tw htw]
      exact ⟨ht, rfl⟩
    · intro _; exact ⟨ht, rfl⟩
  · intro t1 ht1
    apply Holds.ite
    · intro _; exact ht1
    · intro _; exact (setInv_wh hw).checkScrollDownT ht1

theorem vecGet?_some {α : Type} (v : List α) (i : Int) (a : α) (h : vecGet? v i = some a) : 0 ≤ i ∧ i < v.length := by
  unfold vecGet? at h
  split at h
  · cases h
  · have := List.getElem?_eq_some_iff.mp h
    obtain ⟨h1, _⟩ := this
    omega

/-- `Caret::del` / `Caret::ins` never panic: both are guarded by `lines.get_mut` and `i < len` -/
theorem delT_ok {w : Int} {c : Car} {t : Tab} (ht : W w t) : Holds NoErr (delT c t) (fun t' => W w t' ∧ t'.lh = t.lh) := by
  unfold delT
  split
  · exact ⟨ht, rfl⟩
  · apply Holds.ite
    · intro ⟨h1, h2⟩
      unfold lenRemove
      rw [if_neg (by omega)]
      exact ⟨ht, rfl⟩
    · intro _; exact ⟨ht, rfl⟩

theorem insT_ok {w : Int} {c : Car} {t : Tab} (ht : W w t) : Holds NoErr (insT c t) (fun t' => W w t' ∧ t'.lh = t.lh) := by
  unfold insT
  split
  · exact ⟨ht, rfl⟩
  · apply Holds.ite
    · intro ⟨h1, h2⟩
      unfold lenInsert
      rw [if_neg (by omega)]
      exact ⟨ht, rfl⟩
    · intro _; exact ⟨ht, rfl⟩

/-- `Caret::erase_charcter`: the cursor column must not be negative (`Line::set_char(x)`) -/
theorem echT_ok {w : Int} {s : Scr} {c : Car} {number : Int} {t : Tab} (ht : W w t) (hx : 0 ≤ c.x) :
    Holds NoErr (echT s c number t) (fun t' => W w t' ∧ t'.lh = t.lh) := by
  unfold echT
  simp only []
  apply Holds.ite
  · intro _; exact ⟨ht, rfl⟩
  · intro _
    split
    · exact ⟨ht, rfl⟩
    · rename_i n hn
      apply Holds.andThen (P := fun _ => True)
      · exact loopFrom_ok _ (fun _ => True) c.x (fun i n hi _ => lineSetChar_ok n i (by omega)) _ c.x n (Int.le_refl _) trivial
      · intro n' _; exact ⟨ht, rfl⟩

/-- `Buffer::print_char`: in insert mode the cursor must not have a negative coordinate; the terminal width must not be
    negative (line feed at the right edge) -/
theorem printCharT_ok {w : Int} (hw : 0 ≤ w) {s : Scr} {c : Car} {t : Tab} (ht : W w t)
    (hins : c.ins = true → 0 ≤ c.x ∧ 0 ≤ c.y) (htw : 0 ≤ s.tw) : Holds NoErr (printCharT s c t) (W w) := by
  unfold printCharT
  apply Holds.andThen (P := W w)
  · apply Holds.ite
    · intro hi
      obtain ⟨hx, hy⟩ := hins hi
      rw [if_neg (by omega)]
      apply Holds.andThen (P := fun rows => (c.y : Int) < rows.length)
      · apply Holds.ite
        · intro hlen
          rw [show t.lw = w from ht, lineWithCapacity_ok w hw]
          exact Holds.mono (vecResize_ok _ _ _ _ (by omega)) (fun _ h => by omega)
        · intro hlen; rw [Holds.ok]; omega
      · intro rows hrows
        refine (vecIndex_ok rows c.y _ hy hrows).andThen (fun n _ => ?_)
        exact (lineInsertChar_ok n c.x hx).andThen (fun n' _ => ht)
    · intro _; exact ht
  · intro t1 ht1
    simp only []
    have ht2 : W w (if c.y + 1 > t1.lh then { t1 with lh := c.y + 1 } else t1) := by
      split <;> exact ht1
    generalize (if c.y + 1 > t1.lh then ({ t1 with lh := c.y + 1 } : Tab) else t1) = t2 at ht2
    refine (layerSetChar_ok w hw t2 c.x c.y ht2).andThen ?_
    intro t3 ⟨ht3, _⟩
    apply Holds.ite
    · intro _
      apply Holds.ite
      · intro _; exact (lfT_ok (s := { s with bh := max s.bh (c.y + 1) }) hw ht3 htw).left
      · intro _; exact ht3
    · intro _; exact ht3

end IcyVerif.Rows
