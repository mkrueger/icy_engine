import IcyVerif.Model.IgsPaint
/-! The IGS `DrawExecutor` model: rules for the monad `Res`, the invariant `Good`, the contract `Runs` / `Paints` of a computation,
the contracts of `set_pixel`, `get_pixel` and `fill_rect`, and `get_picture_data`.  (The rules attach to `>>=` because the IGS model is written with `do`; the BGI
model sequences `Option` with `match`, which is not definitionally a bind: hence the second set of rules, `Bgi.Draws`.) -/
namespace IcyVerif.IgsPaint

theorem bind_ok {α β : Type} {r : Res α} {f : α → Res β} {b : β} (h : (r >>= f) = Res.ok b) :
    ∃ a, r = .ok a ∧ f a = .ok b := by
  cases r with
  | ok a => exact ⟨a, rfl, h⟩
  | panic => cases h
  | stall => cases h

theorem ok_bind {α β : Type} (a : α) (f : α → Res β) : (Res.ok a >>= f) = f a := rfl

theorem chk_ok {v r : Int} (h : chk v = .ok r) : r = v ∧ i32Min ≤ v ∧ v ≤ i32Max := by
  unfold chk at h
  split at h
  · cases h; rename_i hc; exact ⟨rfl, hc⟩
  · cases h

/-- a value inside i32 passes the check (the bounds written out, for `omega`) -/
theorem chk_in {v : Int} (h : -2147483648 ≤ v ∧ v ≤ 2147483647) : chk v = .ok v := by
  unfold chk; exact if_pos h

/-- partial correctness: if `r` returns, its value satisfies `P` -/
def Res.Sat {α : Type} (r : Res α) (P : α → Prop) : Prop := ∀ a, r = .ok a → P a

namespace Res.Sat
variable {α β : Type} {P : α → Prop} {Q : β → Prop} {r : Res α} {f : α → Res β}

theorem ok {a : α} (h : P a) : (Res.ok a).Sat P := fun _ e => by cases e; exact h
theorem panic : (Res.panic : Res α).Sat P := fun _ e => nomatch e
theorem stall : (Res.stall : Res α).Sat P := fun _ e => nomatch e

theorem bind (h1 : r.Sat P) (h2 : ∀ a, P a → (f a).Sat Q) : (r >>= f).Sat Q := fun b e => by
  obtain ⟨a, e1, e2⟩ := bind_ok e
  exact h2 a (h1 a e1) b e2

theorem skip (h : ∀ a, (f a).Sat Q) : (r >>= f).Sat Q := bind (P := fun _ => True) (fun _ _ => trivial) fun a _ => h a

theorem chk {v : Int} {f : Int → Res β} (h : (f v).Sat Q) : (chk v >>= f).Sat Q := fun b e => by
  obtain ⟨a, e1, e2⟩ := bind_ok e
  exact h b ((chk_ok e1).1 ▸ e2)

theorem ite {c : Prop} [Decidable c] {a b : Res α} (ha : c → a.Sat P) (hb : ¬ c → b.Sat P) : (if c then a else b).Sat P := by
  split
  · exact ha ‹_›
  · exact hb ‹_›

theorem mono {P' : α → Prop} (h : r.Sat P) (hp : ∀ a, P a → P' a) : r.Sat P' := fun a e => hp a (h a e)
end Res.Sat

/-- total correctness: `r` returns, and its value satisfies `P` (for the totality arguments that carry an invariant of their own) -/
def Res.Tot {α : Type} (r : Res α) (P : α → Prop) : Prop := ∃ a, r = .ok a ∧ P a

namespace Res.Tot
variable {α β : Type} {P Q' : α → Prop} {Q : β → Prop} {r : Res α} {f : α → Res β}

theorem ok {a : α} (h : P a) : (Res.ok a).Tot P := ⟨a, rfl, h⟩

theorem bind (h1 : r.Tot P) (h2 : ∀ a, P a → (f a).Tot Q) : (r >>= f).Tot Q := by
  obtain ⟨a, e, ha⟩ := h1
  rw [e]; exact h2 a ha

theorem chk {v : Int} {f : Int → Res β} (hv : -2147483648 ≤ v ∧ v ≤ 2147483647) (h : (f v).Tot Q) : (chk v >>= f).Tot Q := by
  rw [chk_in hv]; exact h

theorem chkv {v : Int} (hv : -2147483648 ≤ v ∧ v ≤ 2147483647) : (IgsPaint.chk v).Tot (· = v) := ⟨v, chk_in hv, rfl⟩

theorem ofOpt {γ : Type} {o : Option γ} {a : γ} {f : γ → Res β} (e : o = some a) (h : (f a).Tot Q) : (ofOpt o >>= f).Tot Q := by
  rw [e]; exact h

theorem ite {c : Prop} [Decidable c] {a b : Res α} (ha : c → a.Tot P) (hb : ¬ c → b.Tot P) : (if c then a else b).Tot P := by
  split
  · exact ha ‹_›
  · exact hb ‹_›

theorem mono {P' : α → Prop} (h : r.Tot P) (hp : ∀ a, P a → P' a) : r.Tot P' := by
  obtain ⟨a, e, ha⟩ := h; exact ⟨a, e, hp a ha⟩

theorem returns (h : r.Tot P) : ∃ a, r = .ok a := by obtain ⟨a, e, _⟩ := h; exact ⟨a, e⟩

theorem of_sat (h : r.Tot P) (hs : r.Sat Q') : r.Tot Q' := by obtain ⟨a, e, _⟩ := h; exact ⟨a, e, hs a e⟩
end Res.Tot

/-- what `get_picture_data` needs and every command keeps: a known resolution, a screen of exactly width x height
cells, sixteen pens, every cell of the screen and of the saved block a pen number, and pen numbers in the colour
registers the painting primitives write -/
structure Good (p : Paint) : Prop where
  res : p.res < 3
  size : p.screen.size = (resW p * resH p).toNat
  pix : ∀ v, v ∈ p.screen.toList → v < 16
  pens : p.pens.length = 16
  line : p.lineColor < 16
  fill : p.fillColor < 16
  mem : ∀ v, v ∈ p.mem.toList → v < 16

/-- nothing but the screen cells changed -/
def Kept (p p' : Paint) : Prop := p' = { p with screen := p'.screen } ∧ p'.screen.size = p.screen.size

theorem Kept.refl (p : Paint) : Kept p p := ⟨rfl, rfl⟩

theorem Kept.trans {a b c : Paint} (h1 : Kept a b) (h2 : Kept b c) : Kept a c := by
  obtain ⟨e1, s1⟩ := h1
  obtain ⟨e2, s2⟩ := h2
  refine ⟨?_, by rw [s2, s1]⟩
  rw [e2, e1]

theorem Kept.res {p p' : Paint} (h : Kept p p') : p'.res = p.res := by rw [h.1]
theorem Kept.resW {p p' : Paint} (h : Kept p p') : resW p' = resW p := by rw [h.1]; rfl
theorem Kept.resH {p p' : Paint} (h : Kept p p') : resH p' = resH p := by rw [h.1]; rfl
theorem Kept.fillColor {p p' : Paint} (h : Kept p p') : p'.fillColor = p.fillColor := by rw [h.1]
theorem Kept.lineColor {p p' : Paint} (h : Kept p p') : p'.lineColor = p.lineColor := by rw [h.1]
theorem Kept.lineType {p p' : Paint} (h : Kept p p') : p'.lineType = p.lineType := by rw [h.1]
theorem Kept.mem {p p' : Paint} (h : Kept p p') : p'.mem = p.mem := by rw [h.1]
theorem Kept.drawBorder {p p' : Paint} (h : Kept p p') : p'.drawBorder = p.drawBorder := by rw [h.1]

theorem Kept.fillPattern {p p' : Paint} (h : Kept p p') : p'.fillPattern = p.fillPattern := by rw [h.1]

abbrev PenCells (p : Paint) : Prop := ∀ v, v ∈ p.screen.toList → v < 16

/-- the colour registers the painting primitives read hold pen numbers -/
structure Pens (p : Paint) : Prop where
  fill : p.fillColor < 16
  line : p.lineColor < 16
  mem : ∀ v, v ∈ p.mem.toList → v < 16

theorem Pens.of_kept {p p' : Paint} (h : Pens p) (k : Kept p p') : Pens p' :=
  ⟨k.fillColor ▸ h.fill, k.lineColor ▸ h.line, k.mem ▸ h.mem⟩

theorem Good.regs {p : Paint} (g : Good p) : Pens p := ⟨g.fill, g.line, g.mem⟩

theorem Good.setFill {p : Paint} (hg : Good p) (c : Nat) (hc : c < 16) : Good { p with fillColor := c } :=
  ⟨hg.res, hg.size, hg.pix, hg.pens, hg.line, hc, hg.mem⟩

/-- a painting step: `Kept`, and a screen of pen numbers stays one if `h` (what was written are pen numbers) -/
def StepIf (h : Prop) (p p' : Paint) : Prop := Kept p p' ∧ (h → PenCells p → PenCells p')

theorem StepIf.refl (h : Prop) (p : Paint) : StepIf h p p := ⟨.refl p, fun _ hx => hx⟩

theorem StepIf.trans {h : Prop} {a b c : Paint} (h1 : StepIf h a b) (h2 : StepIf h b c) : StepIf h a c :=
  ⟨h1.1.trans h2.1, fun hh hx => h2.2 hh (h1.2 hh hx)⟩

theorem StepIf.imp {h h' : Prop} {p p' : Paint} (s : StepIf h p p') (hh : h' → PenCells p → h) : StepIf h' p p' :=
  ⟨s.1, fun h1 hx => s.2 (hh h1 hx) hx⟩

/-- a step that takes its colours from the registers -/
abbrev Step (p p' : Paint) : Prop := StepIf (Pens p) p p'

theorem Step.refl (p : Paint) : Step p p := StepIf.refl _ p

theorem Step.trans {a b c : Paint} (h1 : Step a b) (h2 : Step b c) : Step a c :=
  StepIf.trans h1 (StepIf.imp h2 fun hp _ => hp.of_kept h1.1)

theorem Good.of_step {p p' : Paint} (hg : Good p) (s : Step p p') : Good p' :=
  have k := s.1
  ⟨k.res ▸ hg.res, by rw [k.2, k.resW, k.resH]; exact hg.size, s.2 hg.regs hg.pix, by rw [k.1]; exact hg.pens, k.lineColor ▸ hg.line,
    k.fillColor ▸ hg.fill, k.mem ▸ hg.mem⟩

theorem Step.seq {p : Paint} {r : Res Paint} {f : Paint → Res Paint} (h1 : r.Sat (Step p)) (h2 : ∀ p1, Kept p p1 → (f p1).Sat (Step p1)) :
    (r >>= f).Sat (Step p) :=
  h1.bind fun p1 s1 => (h2 p1 s1.1).mono fun _ s2 => s1.trans s2

/-- The contract of a computation run in state `p`: `P` whenever it returns (all arguments); a return at a known resolution under `C`.
The rules compute `C` from the `do` block, so the unifier writes down its side conditions and the proof owes one implication (`weaken`). -/
structure Runs {α : Type} (p : Paint) (C : Prop) (P : α → Prop) (r : Res α) : Prop where
  sat : r.Sat P
  total : p.res < 3 → C → ∃ a, r = .ok a

abbrev Paints (p : Paint) (C : Prop) (r : Res Paint) : Prop := Runs p C (Step p) r

namespace Runs
variable {α β : Type} {p : Paint} {C C' C1 C2 : Prop} {P : α → Prop} {Q : β → Prop} {r : Res α} {f : α → Res β}

theorem ok {a : α} (h : P a) : Runs p True P (.ok a) := ⟨.ok h, fun _ _ => ⟨a, rfl⟩⟩

theorem bind (h1 : Runs p C1 P r) (h2 : ∀ a, P a → Runs p C2 Q (f a)) : Runs p (C1 ∧ C2) Q (r >>= f) where
  sat := h1.sat.bind fun a pa => (h2 a pa).sat
  total hr c := by
    obtain ⟨a, e⟩ := h1.total hr c.1
    rw [e]; exact (h2 a (h1.sat a e)).total hr c.2

/-- the resolution travels along the step, so the conditions need not mention the state -/
theorem seq {r : Res Paint} {f : Paint → Res Paint} (h1 : Paints p C1 r) (h2 : ∀ p1, Kept p p1 → Paints p1 C2 (f p1)) :
    Paints p (C1 ∧ C2) (r >>= f) where
  sat := Step.seq h1.sat fun p1 k1 => (h2 p1 k1).sat
  total hr c := by
    obtain ⟨p1, e1⟩ := h1.total hr c.1
    rw [e1]
    have k1 := (h1.sat p1 e1).1
    exact (h2 p1 k1).total (k1.res ▸ hr) c.2

theorem chk {v : Int} {f : Int → Res β} (h : Runs p C Q (f v)) : Runs p ((-2147483648 ≤ v ∧ v ≤ 2147483647) ∧ C) Q (chk v >>= f) where
  sat := .chk h.sat
  total hr c := by rw [chk_in c.1]; exact h.total hr c.2

theorem ite {c : Prop} [Decidable c] {a b : Res α} (ha : c → Runs p C1 P a) (hb : ¬ c → Runs p C2 P b) :
    Runs p ((c → C1) ∧ (¬ c → C2)) P (if c then a else b) := by
  split
  · rename_i hc; exact ⟨(ha hc).sat, fun hr h => (ha hc).total hr (h.1 hc)⟩
  · rename_i hc; exact ⟨(hb hc).sat, fun hr h => (hb hc).total hr (h.2 hc)⟩

theorem weaken (h : Runs p C P r) (hc : p.res < 3 → C' → C) : Runs p C' P r :=
  ⟨h.sat, fun hr c => h.total hr (hc hr c)⟩

theorem mono {P' : α → Prop} (h : Runs p C P r) (hp : ∀ a, P a → P' a) : Runs p C P' r := ⟨h.sat.mono hp, h.total⟩

/-- a test the condition cannot mention (a field of an intermediate state): both branches must be able to return -/
theorem either {c : Prop} [Decidable c] {a b : Res α} (ha : c → Runs p C1 P a) (hb : ¬ c → Runs p C2 P b) :
    Runs p (C1 ∧ C2) P (if c then a else b) :=
  (ite ha hb).weaken fun _ h => ⟨fun _ => h.1, fun _ => h.2⟩

theorem tot (h : Runs p C P r) (hr : p.res < 3) (hc : C) : r.Tot P := by
  obtain ⟨a, e⟩ := h.total hr hc
  exact ⟨a, e, h.sat a e⟩

theorem of_sat (h : r.Sat P) : Runs p False P r := ⟨h, fun _ c => c.elim⟩
end Runs

theorem Paints.ok {p : Paint} : Paints p True (.ok p) := Runs.ok (.refl p)

theorem Paints.good {p : Paint} {C : Prop} {r : Res Paint} (h : Paints p C r) (hg : Good p) (hc : C) : ∃ p', r = .ok p' ∧ Good p' := by
  obtain ⟨p', e⟩ := h.total hg.res hc
  exact ⟨p', e, hg.of_step (h.sat p' e)⟩

theorem getD_mem_lt {a : Array Nat} (hm : ∀ v, v ∈ a.toList → v < 16) (i : Nat) (hi : i < a.size) : a.getD i 0 < 16 := by
  have : a.getD i 0 = a[i] := by simp [Array.getD, hi]
  rw [this]
  exact hm _ (by simp)

theorem resWH (p : Paint) (hr : p.res < 3) : (resW p = 320 ∨ resW p = 640) ∧ (resH p = 200 ∨ resH p = 400) := by
  unfold resW resH
  have : p.res = 0 ∨ p.res = 1 ∨ p.res = 2 := by omega
  rcases this with h | h | h <;> rw [h] <;> decide

/-- `y * width + x` stays far inside i32 for a column within ±2^21 and a row within ±(2^20 + 400) -/
theorem offsetOf_ok (p : Paint) (hr : p.res < 3) (x y : Int) (hx : -2097152 ≤ x ∧ x ≤ 2097152)
    (hy : -1048576 - 400 ≤ y ∧ y ≤ 1048576 + 400) : offsetOf p x y = .ok (y * resW p + x) := by
  obtain ⟨hw, _⟩ := resWH p hr
  unfold offsetOf
  rw [chk_in (v := y * resW p) (by rcases hw with h | h <;> rw [h] <;> omega)]
  exact chk_in (by rcases hw with h | h <;> rw [h] <;> omega)

theorem clip_span (a b W : Int) : (min (max a b) (W - 1) - max (min a b) 0 + 1).toNat ≤ W.toNat ∧
    (0 < (min (max a b) (W - 1) - max (min a b) 0 + 1).toNat →
      0 ≤ max (min a b) 0 ∧ max (min a b) 0 + (min (max a b) (W - 1) - max (min a b) 0 + 1).toNat ≤ W) := by omega

theorem setPixel_step {p : Paint} {x y : Int} {c : Nat} : (setPixel p x y c).Sat (StepIf (c < 16) p) := by
  unfold setPixel
  refine .skip fun off => .ite (fun _ => .ok ⟨⟨rfl, by simp⟩, fun hc hx v hv => ?_⟩) fun _ => .ok (.refl _ p)
  rw [Array.toList_setIfInBounds] at hv
  rcases List.mem_or_eq_of_mem_set hv with h1 | h1
  · exact hx v h1
  · rw [h1]; exact hc

theorem setPixel_tot (p : Paint) (hr : p.res < 3) (x y : Int) (c : Nat)
    (h : (-2097152 ≤ x ∧ x ≤ 2097152) ∧ (-1048576 - 400 ≤ y ∧ y ≤ 1048576 + 400)) : (setPixel p x y c).Tot (StepIf (c < 16) p) := by
  have e : ∃ p', setPixel p x y c = .ok p' := by
    unfold setPixel
    rw [offsetOf_ok p hr x y h.1 h.2, ok_bind]
    split <;> exact ⟨_, rfl⟩
  obtain ⟨p', e⟩ := e
  exact ⟨p', e, setPixel_step p' e⟩

theorem setPixel_reg {p : Paint} {x y : Int} {c : Nat} (hc : Pens p → c < 16) : (setPixel p x y c).Sat (Step p) :=
  setPixel_step.mono fun _ s => s.imp fun h _ => hc h

theorem setPixel_paints (p : Paint) (x y : Int) {c : Nat} (hc : Pens p → PenCells p → c < 16) :
    Paints p ((-2097152 ≤ x ∧ x ≤ 2097152) ∧ (-1048576 - 400 ≤ y ∧ y ≤ 1048576 + 400)) (setPixel p x y c) where
  sat := setPixel_step.mono fun _ s => s.imp hc
  total hr h := (setPixel_tot p hr x y c h).returns

theorem getPixel_runs (p : Paint) (x y : Int) :
    Runs p ((-2097152 ≤ x ∧ x ≤ 2097152) ∧ (-1048576 - 400 ≤ y ∧ y ≤ 1048576 + 400)) (fun c => PenCells p → c < 16) (getPixel p x y) where
  sat := by
    unfold getPixel
    exact .skip fun off => .ite (fun _ => .ok fun hp => getD_mem_lt hp _ (by omega)) fun _ => .ok fun _ => by omega
  total hr h := by
    unfold getPixel
    rw [offsetOf_ok p hr x y h.1 h.2, ok_bind]
    split <;> exact ⟨_, rfl⟩

theorem fillPixel_paints (p : Paint) (x y : Int) :
    Paints p (p.fillPattern.length ≠ 0 ∧ (0 ≤ x ∧ x ≤ 1048576) ∧ (0 ≤ y ∧ y ≤ 1048576)) (fillPixel p x y) := by
  unfold fillPixel
  refine ⟨.ite (fun _ => .panic) fun _ => .ite (fun _ => setPixel_reg fun h => h.fill) fun _ => .ok (.refl p), fun hr h => ?_⟩
  rw [if_neg h.1]
  exact (Runs.ite (fun _ => setPixel_paints p x y fun h _ => h.fill) fun _ => Paints.ok).total hr ⟨fun _ => by omega, fun _ => trivial⟩

theorem fillRow_paints (y : Int) : ∀ (n : Nat) (p : Paint) (x : Int),
    Paints p (p.fillPattern.length ≠ 0 ∧ (0 ≤ y ∧ y ≤ 1048576) ∧ (0 < n → 0 ≤ x ∧ x + n ≤ 1048576)) (fillRow y n p x)
  | 0, p, _ => Paints.ok.weaken fun _ _ => trivial
  | n + 1, p, x => by
    unfold fillRow
    -- the pattern of the state after one pixel is the pattern of `p`
    have next (p1 : Paint) (k : Kept p p1) := (fillRow_paints y n p1 (x + 1)).weaken
      fun _ (h : p.fillPattern.length ≠ 0 ∧ (0 ≤ y ∧ y ≤ 1048576) ∧ (0 < n → 0 ≤ x + 1 ∧ x + 1 + n ≤ 1048576)) => k.fillPattern ▸ h
    exact (Runs.seq (fillPixel_paints p x y) next).weaken fun _ => by omega

theorem fillRows_paints (x0 : Int) (cols : Nat) : ∀ (n : Nat) (p : Paint) (y : Int),
    Paints p (p.fillPattern.length ≠ 0 ∧ (0 < cols → 0 ≤ x0 ∧ x0 + cols ≤ 1048576) ∧ (0 < n → 0 ≤ y ∧ y + n ≤ 1048576))
      (fillRows x0 cols n p y)
  | 0, p, _ => Paints.ok.weaken fun _ _ => trivial
  | n + 1, p, y => by
    unfold fillRows
    have next (p1 : Paint) (k : Kept p p1) := (fillRows_paints x0 cols n p1 (y + 1)).weaken
      fun _ (h : p.fillPattern.length ≠ 0 ∧ (0 < cols → 0 ≤ x0 ∧ x0 + cols ≤ 1048576) ∧ (0 < n → 0 ≤ y + 1 ∧ y + 1 + n ≤ 1048576)) =>
        k.fillPattern ▸ h
    exact (Runs.seq (fillRow_paints y cols p x0) next).weaken fun _ => by omega

/-- `fill_rect` cannot panic, for ALL corner coordinates (the rectangle is clipped to the screen first) -/
theorem fillRect_paints (p : Paint) (x0 y0 x1 y1 : Int) : Paints p (p.fillPattern.length ≠ 0) (fillRect p x0 y0 x1 y1) := by
  unfold fillRect
  refine (fillRows_paints ..).weaken fun hr hpat => ⟨hpat, fun hn => ?_, fun hn => ?_⟩
  · obtain ⟨hw, _⟩ := resWH p hr
    have := (clip_span x0 x1 (resW p)).2 hn; omega
  · obtain ⟨_, hh⟩ := resWH p hr
    have := (clip_span y0 y1 (resH p)).2 hn; omega

/-- number of `fill_pixel` calls of `fill_rect`: rows x columns of the rectangle clipped to the screen -/
def fillRectCost (p : Paint) (x0 y0 x1 y1 : Int) : Nat :=
  (min (max y0 y1) (resH p - 1) - max (min y0 y1) 0 + 1).toNat * (min (max x0 x1) (resW p - 1) - max (min x0 x1) 0 + 1).toNat

theorem fillRectCost_le (p : Paint) (x0 y0 x1 y1 : Int) : fillRectCost p x0 y0 x1 y1 ≤ (resH p).toNat * (resW p).toNat :=
  Nat.mul_le_mul (clip_span _ _ _).1 (clip_span _ _ _).1

theorem pixelBytes_some {pens : List Nat} {px : Nat} (h : px < pens.length) : ∃ b, pixelBytes pens px = some b ∧ b.length = 4 := by
  unfold pixelBytes
  have : pens[px]? = some pens[px] := by simp [h]
  rw [this]
  exact ⟨_, rfl, rfl⟩

def picList (pens : List Nat) : List Nat → Option (List Nat)
  | [] => some []
  | px :: t =>
    match pixelBytes pens px, picList pens t with
    | some b, some rest => some (b ++ rest)
    | _, _ => none

theorem pictureData_eq (p : Paint) : pictureData p = picList p.pens p.screen.toList := by
  unfold pictureData
  generalize p.screen.toList = l
  induction l with
  | nil => rfl
  | cons a t ih =>
    simp only [List.foldr_cons, picList, ih]
    cases pixelBytes p.pens a <;> cases picList p.pens t <;> rfl

theorem foldl_picStep_none {β : Type} (f : β → Nat → β) (pens : List Nat) : ∀ l : List Nat, l.foldl (picStep f pens) none = none := by
  intro l
  induction l with
  | nil => rfl
  | cons a t ih => simp only [List.foldl_cons, picStep, ih]

theorem foldl_picStep {β : Type} (f : β → Nat → β) (pens : List Nat) : ∀ (l : List Nat) (a : β),
    l.foldl (picStep f pens) (some a) = (picList pens l).map fun d => d.foldl f a := by
  intro l
  induction l with
  | nil => intro a; rfl
  | cons px t ih =>
    intro a
    simp only [List.foldl_cons, picList]
    cases hb : pixelBytes pens px with
    | none => simp only [picStep, hb, foldl_picStep_none]; rfl
    | some bs =>
      simp only [picStep, hb]
      rw [ih]
      cases picList pens t with
      | none => rfl
      | some rest => simp [List.foldl_append]

theorem picFold_eq {β : Type} (f : β → Nat → β) (init : β) (p : Paint) :
    picFold f init p = (pictureData p).map fun d => d.foldl f init := by
  unfold picFold
  rw [← Array.foldl_toList, foldl_picStep, pictureData_eq]

theorem picList_some (pens : List Nat) : ∀ (l : List Nat), (∀ v, v ∈ l → v < pens.length) →
    ∃ d, picList pens l = some d ∧ d.length = l.length * 4
  | [], _ => ⟨[], rfl, rfl⟩
  | a :: t, h => by
    obtain ⟨d, hd, hl⟩ := picList_some pens t fun v hv => h v (List.mem_cons_of_mem _ hv)
    obtain ⟨b, hb, hbl⟩ := pixelBytes_some (h a List.mem_cons_self)
    refine ⟨b ++ d, by simp only [picList, hd, hb], ?_⟩
    rw [List.length_append, hbl, hl, List.length_cons, Nat.add_mul]; omega

end IcyVerif.IgsPaint
