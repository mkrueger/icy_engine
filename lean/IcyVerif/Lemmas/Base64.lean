import IcyVerif.Model.Base64
import IcyVerif.Lemmas.FontRt
/-! # C17: base64 and decimal codec laws for the executable codec of `Model/Base64.lean`

`decode_encode` for every byte string (all three padding shapes), `parse_fmt` for every `n < 2^64`: `stdCodec` satisfies what
the DCS round trip needs (`std_load`). -/
namespace IcyVerif.B64

/-- the alphabet table against the decoder's character classes, all 64 entries -/
theorem decChar_encChar (n : Nat) : decChar (encChar n) = some (n % 64) := by
  have table : ∀ k, k < 64 → decChar (alphabet.getD k 65) = some k := by decide +kernel
  exact table _ (Nat.mod_lt _ (by decide))
theorem encChar_ne_pad (n : Nat) : encChar n ≠ 61 := by
  intro h
  have := decChar_encChar n
  rw [h] at this
  cases this

/-- three bytes as four 6-bit digits of the 24-bit number -/
theorem sextets (a b c : Nat) (ha : a < 256) (hb : b < 256) (hc : c < 256) :
    (a * 65536 + b * 256 + c) / 262144 % 64 = a / 4 ∧
    (a * 65536 + b * 256 + c) / 4096 % 64 = a % 4 * 16 + b / 16 ∧
    (a * 65536 + b * 256 + c) / 64 % 64 = b % 16 * 4 + c / 64 ∧
    (a * 65536 + b * 256 + c) % 64 = c % 64 := by omega

theorem octets (a b c : Nat) (hb : b < 256) (hc : c < 256) :
    a / 4 * 4 + (a % 4 * 16 + b / 16) / 16 = a ∧
    (a % 4 * 16 + b / 16) % 16 * 16 + (b % 16 * 4 + c / 64) / 4 = b ∧
    (b % 16 * 4 + c / 64) % 4 * 64 + c % 64 = c := by omega

/-- one or two bytes at the end are the three-byte case with zeros filled in -/
theorem decode_encode (x : List Nat) (hb : ∀ b ∈ x, b < 256) : decode (encode x) = some x := by
  -- cases = the clauses of `encode`: three or more bytes, two, one, none; `decode.eq_4` / `eq_3` / `eq_2` are the clauses of
  -- `decode` for a full quad (neither of its last two characters is `=`: `encChar_ne_pad`), `xyz=` and `xy==`
  fun_induction encode x
  case case1 a b c rest n ih =>
    have ha := hb a (by simp)
    have hbb := hb b (by simp)
    have hc := hb c (by simp)
    obtain ⟨e1, e2, e3, e4⟩ := sextets a b c ha hbb hc
    obtain ⟨o1, o2, o3⟩ := octets a b c hbb hc
    rw [decode.eq_4 _ _ _ _ _ (fun h => (encChar_ne_pad _ h).elim) (fun h => (encChar_ne_pad _ h).elim), decChar_encChar,
      decChar_encChar, decChar_encChar, decChar_encChar, ih (fun y hy => hb y (by simp [hy]))]
    simp only [n, Option.map_some, e1, e2, e3, e4, o1, o2, o3]
  case case2 a b n =>
    have ha := hb a (by simp)
    have hbb := hb b (by simp)
    obtain ⟨e1, e2, e3, _⟩ := sextets a b 0 ha hbb (by decide)
    obtain ⟨o1, o2, _⟩ := octets a b 0 hbb (by decide)
    simp only [Nat.add_zero, Nat.zero_div] at e1 e2 e3 o1 o2
    rw [decode.eq_3 _ _ _ (encChar_ne_pad _), decChar_encChar, decChar_encChar, decChar_encChar]
    simp only [n, e1, e2, e3, o1, o2, Nat.mul_mod_left, if_true]
  case case3 a n =>
    have ha := hb a (by simp)
    obtain ⟨e1, e2, _, _⟩ := sextets a 0 0 ha (by decide) (by decide)
    obtain ⟨o1, _, _⟩ := octets a 0 0 (by decide) (by decide)
    simp only [Nat.zero_mul, Nat.add_zero, Nat.zero_div] at e1 e2 o1
    rw [decode.eq_2, decChar_encChar, decChar_encChar]
    simp only [n, e1, e2, o1, Nat.mul_mod_left, if_true]
  case case4 => rfl

theorem encode_chars (x : List Nat) : ∀ c ∈ encode x, c = 61 ∨ (decChar c).isSome = true := by
  fun_induction encode x <;> simp_all [decChar_encChar]

theorem decode_chars (l r : List Nat) (h : decode l = some r) : ∀ c ∈ l, c = 61 ∨ (decChar c).isSome = true := by
  fun_induction decode l generalizing r <;> simp_all
  next ih => obtain ⟨r', hr', _⟩ := h; exact ih r' hr'

theorem digitsRev_spec : ∀ (fuel n : Nat), n < fuel →
    digitsRev fuel n ≠ [] ∧ (∀ c ∈ digitsRev fuel n, 48 ≤ c ∧ c ≤ 57) ∧
    (digitsRev fuel n).foldr (fun c acc => acc * 10 + (c - 48)) 0 = n := by
  intro fuel
  induction fuel with
  | zero => intro n h; omega
  | succ fuel ih =>
    intro n h
    unfold digitsRev
    by_cases h0 : n / 10 = 0
    · simp only [h0, if_true]
      refine ⟨by simp, ?_, ?_⟩
      · intro c hc; simp at hc; omega
      · simp; omega
    · simp only [h0, if_false]
      obtain ⟨_, h2, h3⟩ := ih (n / 10) (by omega)
      refine ⟨by simp, ?_, ?_⟩
      · intro c hc
        simp only [List.mem_cons] at hc
        rcases hc with rfl | hc
        · omega
        · exact h2 c hc
      · simp only [List.foldr_cons, h3]; omega

theorem fmtNat_digits (n : Nat) : ∀ c ∈ fmtNat n, 48 ≤ c ∧ c ≤ 57 := by
  intro c hc
  unfold fmtNat at hc
  exact (digitsRev_spec (n + 1) n (by omega)).2.1 c (by simpa using hc)

theorem parse_fmt (n : Nat) (hn : n < 18446744073709551616) : parseUsize (fmtNat n) = some n := by
  obtain ⟨hne, hd, hv⟩ := digitsRev_spec (n + 1) n (by omega)
  have hne' : fmtNat n ≠ [] := by unfold fmtNat; simpa using hne
  have hval : (fmtNat n).foldl (fun acc c => acc * 10 + (c - 48)) 0 = n := by
    unfold fmtNat; rw [List.foldl_reverse]; exact hv
  have hall : (fmtNat n).all (fun c => decide (48 ≤ c) && decide (c ≤ 57)) = true := by
    apply List.all_eq_true.mpr
    intro c hc
    have := fmtNat_digits n c hc
    simp [this.1, this.2]
  unfold parseUsize
  split
  · rename_i r heq
    have := fmtNat_digits n 43 (by rw [heq]; simp)
    omega
  · simp only [List.isEmpty_iff, hne', if_false, hall, if_true, hval, hn]

/-- `load_custom_font` after `encode_as_ansi` with the real codec: no assumption about base64 or number formatting left -/
theorem std_load (slot : Nat) (hs : slot < 18446744073709551616) (d : List Nat) (hb : ∀ b ∈ d, b < 256) :
    Font.loadCustomFont stdCodec (Font.prefixCTerm ++ stdCodec.fmt slot ++ [58] ++ stdCodec.b64e d) =
      (match Font.fromBytes d with | .ok g => .ok (slot, g) | .err => .err | .panic => .panic) :=
  Font.load_encoded stdCodec slot d (parse_fmt slot hs) (decode_encode d hb)
    fun h => by have := fmtNat_digits slot 58 h; omega

end IcyVerif.B64
