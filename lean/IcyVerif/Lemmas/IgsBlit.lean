import IcyVerif.Lemmas.IgsLine
/-! The IGS `DrawExecutor` model, the three blits: `blit_screen_to_screen` (corners within ±2^20; at most width x height cells copied),
`blit_screen_to_memory` (GrabScreen mode 1), `blit_memory_to_screen` (modes 2 and 3, source corners within ±2^21). -/
namespace IcyVerif.IgsPaint

theorem blitSSRow_paints (fx fy dx dy y : Int) : ∀ (n : Nat) (p : Paint) (x : Int),
    Paints p (Bd fx ∧ Bd fy ∧ Bd dx ∧ Bd dy ∧ (0 ≤ y ∧ y ≤ 400) ∧ 0 ≤ x ∧ x + n ≤ 640) (blitSSRow fx fy dx dy y n p x)
  | 0, p, _ => Paints.ok.weaken fun _ _ => trivial
  | n + 1, p, x => by
    unfold blitSSRow
    refine (Runs.chk <| .chk <| .bind (getPixel_runs p _ _) fun c hc => .chk <| .chk <|
      .seq (setPixel_paints p _ _ fun _ => hc) fun p1 _ => blitSSRow_paints fx fy dx dy y n p1 (x + 1)).weaken ?_
    unfold Bd
    omega

theorem blitSSRows_paints (fx fy dx dy : Int) (cols : Nat) : ∀ (n : Nat) (p : Paint) (y : Int),
    Paints p (Bd fx ∧ Bd fy ∧ Bd dx ∧ Bd dy ∧ cols ≤ 640 ∧ 0 ≤ y ∧ y + n ≤ 400) (blitSSRows fx fy dx dy cols n p y)
  | 0, p, _ => Paints.ok.weaken fun _ _ => trivial
  | n + 1, p, y => by
    unfold blitSSRows
    refine (Runs.seq (blitSSRow_paints fx fy dx dy y cols p 0) fun p1 _ => blitSSRows_paints fx fy dx dy cols n p1 (y + 1)).weaken ?_
    unfold Bd
    omega

/-- cells copied by `blit_screen_to_screen`: (to - from) clipped to the resolution in both directions -/
def blitCost (p : Paint) (fx fy tx ty : Int) : Nat := (min (tx - fx) (resW p)).toNat * (min (ty - fy) (resH p)).toNat

theorem blitCost_le (p : Paint) (fx fy tx ty : Int) : blitCost p fx fy tx ty ≤ (resW p).toNat * (resH p).toNat := by
  unfold blitCost
  apply Nat.mul_le_mul <;> omega

theorem blitScreenToScreen_paints (p : Paint) (fx fy tx ty dx dy : Int) :
    Paints p (Bd fx ∧ Bd fy ∧ Bd tx ∧ Bd ty ∧ Bd dx ∧ Bd dy) (blitScreenToScreen p fx fy tx ty dx dy) := by
  unfold blitScreenToScreen
  refine (Runs.chk <| .chk <| by exact blitSSRows_paints fx fy dx dy _ _ p 0).weaken fun hr h => ?_
  obtain ⟨hw, hh⟩ := resWH p hr
  have b := h
  unfold Bd at b
  exact ⟨by omega, by omega, h.1, h.2.1, h.2.2.2.2.1, h.2.2.2.2.2, by omega, Int.le_refl 0, by omega⟩

/-- within ±2^21 (what `to - from` of two values within ±2^20 can be; the saved block's size) -/
def Bd2 (v : Int) : Prop := -2097152 ≤ v ∧ v ≤ 2097152

theorem Bd.bd2 {v : Int} (h : Bd v) : Bd2 v := by unfold Bd at h; unfold Bd2; omega

theorem grabRow_runs (y : Int) : ∀ (n : Nat) (p : Paint) (x : Int) (m : Array Nat),
    Runs p ((-1048576 - 400 ≤ y ∧ y ≤ 1048576 + 400) ∧ -2097152 ≤ x ∧ x + n ≤ 2097152)
      (fun m' => PenCells p → (∀ v, v ∈ m.toList → v < 16) → ∀ v, v ∈ m'.toList → v < 16) (grabRow y n p x m)
  | 0, _, _, _ => (Runs.ok fun _ hm => hm).weaken fun _ _ => trivial
  | n + 1, p, x, m => by
    unfold grabRow
    refine ((getPixel_runs p x y).bind fun c hc => (grabRow_runs y n p (x + 1) (m.push c)).mono fun m' h hp hm => h hp fun v hv => ?_).weaken
      fun _ => by omega
    simp only [Array.toList_push, List.mem_append, List.mem_singleton] at hv
    rcases hv with h1 | h1
    · exact hm v h1
    · rw [h1]; exact hc hp

theorem grabRows_runs (fx : Int) (cols : Nat) : ∀ (n : Nat) (p : Paint) (y : Int) (m : Array Nat),
    Runs p ((-2097152 ≤ fx ∧ fx + cols ≤ 2097152) ∧ -1048576 - 400 ≤ y ∧ y + n ≤ 1048576 + 400)
      (fun m' => PenCells p → (∀ v, v ∈ m.toList → v < 16) → ∀ v, v ∈ m'.toList → v < 16) (grabRows fx cols n p y m)
  | 0, _, _, _ => (Runs.ok fun _ hm => hm).weaken fun _ _ => trivial
  | n + 1, p, y, m => by
    unfold grabRows
    exact ((grabRow_runs y cols p fx m).bind fun m1 h1 => (grabRows_runs fx cols n p (y + 1) m1).mono fun m' h hp hm => h hp (h1 hp hm)).weaken
      fun _ => by omega

theorem blitScreenToMemory_sat {p : Paint} {fx fy tx ty : Int} (hg : Good p) : (blitScreenToMemory p fx fy tx ty).Sat Good := by
  unfold blitScreenToMemory
  refine .chk <| .chk <| .chk <| .skip fun _ => (grabRows_runs ..).sat.bind fun m hm => .ok ?_
  exact ⟨hg.res, hg.size, hg.pix, hg.pens, hg.line, hg.fill, hm hg.pix (by intro v hv; simp at hv)⟩

theorem blitScreenToMemory_total (p : Paint) (hr : p.res < 3) (fx fy tx ty : Int) (hfx : Bd fx) (hfy : Bd fy) (htx : Bd tx) (hty : Bd ty) :
    (blitScreenToMemory p fx fy tx ty).Tot fun p' => p'.cur = p.cur ∧ p'.fillPattern = p.fillPattern ∧
      (Bd2 p'.memSize.1 ∧ p'.memSize.1 ≤ 640) ∧ (Bd2 p'.memSize.2 ∧ p'.memSize.2 ≤ 400) ∧ p'.polymarkerType = p.polymarkerType := by
  obtain ⟨hw, hh⟩ := resWH p hr
  unfold Bd at hfx hfy htx hty
  unfold blitScreenToMemory
  refine .chk (by omega) <| .chk (by omega) ?_
  simp only []
  have hW : min (tx - fx) (resW p) ≤ 640 ∧ -2097152 ≤ min (tx - fx) (resW p) := by omega
  have hH : min (ty - fy) (resH p) ≤ 400 ∧ -2097152 ≤ min (ty - fy) (resH p) := by omega
  generalize min (tx - fx) (resW p) = W at hW
  generalize min (ty - fy) (resH p) = H at hH
  refine .chk (by omega) <| Res.Tot.bind (P := fun _ => True) (.ite (fun _ => (Res.Tot.chkv (by omega)).mono fun _ _ => trivial) fun _ => .ok trivial) fun _ _ => ?_
  refine ((grabRows_runs fx W.toNat H.toNat p fy #[]).tot hr (by omega)).bind fun m _ => .ok ?_
  refine ⟨rfl, rfl, ⟨?_, hW.1⟩, ⟨?_, hH.1⟩, rfl⟩ <;> (unfold Bd2; simp only []; omega)

/-- 4194304 = 2^22: the span `to - from` of two `Bd2` values, what the loops of `blit_memory_to_screen` count up to -/
theorem blitMSRow_paints (fx dx dy yp width y : Int) : ∀ (n : Nat) (p : Paint) (x : Int),
    Paints p (Bd2 fx ∧ Bd dx ∧ Bd dy ∧ (0 ≤ y ∧ dy + y ≤ 400) ∧ 0 ≤ x ∧ x + n ≤ 4194304) (blitMSRow fx dx dy yp width y n p x)
  | 0, p, _ => Paints.ok.weaken fun _ _ => trivial
  | n + 1, p, x => by
    unfold blitMSRow
    -- one cell: copied if the source offset lies inside the saved block
    have cell : Paints p _ (if 0 ≤ yp * width + (x + fx) ∧ yp * width + (x + fx) < (p.mem.size : Int) then do
          let ty ← chk (dy + y)
          setPixel p (dx + x) ty (p.mem.getD (yp * width + (x + fx)).toNat 0)
        else pure p : Res Paint) :=
      .ite (fun hoff => .chk <| setPixel_paints p _ _ fun h _ => getD_mem_lt h.mem _ (by omega)) fun _ => Paints.ok
    refine (Runs.chk <| .chk <| .ite (fun _ => Paints.ok) fun _ =>
      .seq cell fun p1 _ => blitMSRow_paints fx dx dy yp width y n p1 (x + 1)).weaken fun hr h => ?_
    obtain ⟨hw, _⟩ := resWH p hr
    unfold Bd Bd2 at h
    refine ⟨by omega, by omega, fun _ => trivial, fun _ => ⟨⟨fun _ => by omega, fun _ => trivial⟩, ?_⟩⟩
    unfold Bd Bd2
    omega

theorem blitMSRows_paints (fx fy dx dy width : Int) (cols : Nat) : ∀ (n : Nat) (p : Paint) (y : Int),
    Paints p (Bd2 fx ∧ Bd2 fy ∧ Bd dx ∧ Bd dy ∧ cols ≤ 4194304 ∧ 0 ≤ y ∧ y + n ≤ 4194304) (blitMSRows fx fy dx dy width cols n p y)
  | 0, p, _ => Paints.ok.weaken fun _ _ => trivial
  | n + 1, p, y => by
    unfold blitMSRows
    refine (Runs.chk <| .chk <| .ite (fun _ => Paints.ok) fun _ =>
      .seq (blitMSRow_paints fx dx dy (y + fy) width y cols p 0) fun p1 _ => blitMSRows_paints fx fy dx dy width cols n p1 (y + 1)).weaken
      fun hr h => ?_
    obtain ⟨_, hh⟩ := resWH p hr
    unfold Bd Bd2 at h
    refine ⟨by omega, by omega, fun _ => trivial, fun _ => ?_⟩
    unfold Bd Bd2
    omega

theorem blitMemoryToScreen_paints (p : Paint) (fx fy tx ty dx dy : Int) :
    Paints p (Bd2 fx ∧ Bd2 fy ∧ Bd2 tx ∧ Bd2 ty ∧ Bd dx ∧ Bd dy) (blitMemoryToScreen p fx fy tx ty dx dy) := by
  unfold blitMemoryToScreen
  refine (Runs.chk <| .chk <| by exact blitMSRows_paints fx fy dx dy _ _ _ p 0).weaken fun _ h => ?_
  have b := h
  unfold Bd2 at b
  exact ⟨by omega, by omega, h.1, h.2.1, h.2.2.2.2.1, h.2.2.2.2.2, by omega, Int.le_refl 0, by omega⟩

end IcyVerif.IgsPaint
