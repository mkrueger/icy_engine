import IcyVerif.Model.BinFormats
import IcyVerif.Lemmas.ColorOptDoc
/-! C12: the colour optimiser on the pictures of the binary formats (C05's `Pic`).  Cell by cell the optimised picture is
    related to the original by `OptRel`, so every per-cell condition of the formats that is a condition on single fields
    survives; size, mode, palette, fonts and SAUCE data are not touched. -/
namespace IcyVerif.C12
open IcyVerif.Comp IcyVerif.ColorOpt IcyVerif.Gen.Fonts IcyVerif.BinFormats

/-- a cell of C05's pictures as a cell of the compositing / optimiser model, and back -/
def toC (c : XbCompress.Cell) : Comp.Cell := ⟨c.ch, ⟨c.attr.fg, c.attr.bg, c.attr.flags, c.attr.page⟩⟩
def ofC (c : Comp.Cell) : XbCompress.Cell := ⟨c.ch, ⟨c.attr.fg, c.attr.bg, c.attr.flags, c.attr.page⟩⟩

/-- a font of C05's pictures (256 glyphs of `height` bytes, 8 pixels wide) as the optimiser and the renderer see it -/
def fontOf (f : BinFormats.Font) : ColorOpt.Font :=
  ⟨8, f.height, fun ch => if ch < 256 then some ((f.data.drop (ch * f.height)).take f.height) else none⟩

def fontsOf (p : Pic) : Nat → Option ColorOpt.Font := fun page => (lookupFont p.fonts page).map fontOf

theorem toC_ofC (c : Comp.Cell) : toC (ofC c) = c := rfl

/-- `ColorOptimizer::optimize` on a picture of C05 (`none` = one of its `unwrap()`s panics) -/
def optPic (norm : Bool) (p : Pic) : Option Pic :=
  (optimizeRows (fontsOf p) norm defaultCell.attr (p.rows.map (·.map toC))).map fun r =>
    { p with rows := r.1.map (·.map ofC) }

/-- a cell of `p` and the cell of `optPic norm p` at the same place (`FieldsOk`, in this order: same font page, same flags,
    character kept or `' '`, `F` of the new foreground, `B` of the new background) -/
def OptRel (F B : Nat → Prop) (c c' : XbCompress.Cell) : Prop := FieldsOk F B (toC c) (toC c')

theorem optPic_some {norm : Bool} {p p' : Pic} (hopt : optPic norm p = some p') :
    ∃ rows' k', optimizeRows (fontsOf p) norm defaultCell.attr (p.rows.map (·.map toC)) = some (rows', k') ∧
      p' = { p with rows := rows'.map (·.map ofC) } := by
  unfold optPic at hopt
  cases ho : optimizeRows (fontsOf p) norm defaultCell.attr (p.rows.map (·.map toC)) with
  | none => rw [ho] at hopt; cases hopt
  | some r =>
    rw [ho] at hopt
    simp only [Option.map_some, Option.some.injEq] at hopt
    exact ⟨r.1, r.2, rfl, hopt.symm⟩

theorem optPic_shape (norm : Bool) (p p' : Pic) (hopt : optPic norm p = some p') : p' = { p with rows := p'.rows } := by
  obtain ⟨_, _, _, rfl⟩ := optPic_some hopt; rfl

theorem optPic_rel (F B : Nat → Prop) (norm : Bool) (p p' : Pic) (hopt : optPic norm p = some p') (hF : F 7) (hB : B 0)
    (hall : ∀ r ∈ p.rows, ∀ c ∈ r, F c.attr.fg ∧ B c.attr.bg) : Rel2 (Rel2 (OptRel F B)) p.rows p'.rows := by
  obtain ⟨rows', k', ho, rfl⟩ := optPic_some hopt
  have hrel := optimizeRows_fields F B ho ⟨hF, hB⟩ (by
    intro r hr c hc
    obtain ⟨r0, hr0, rfl⟩ := List.mem_map.mp hr
    obtain ⟨c0, hc0, rfl⟩ := List.mem_map.mp hc
    exact hall r0 hr0 c0 hc0)
  have e : rows' = (rows'.map (·.map ofC)).map (·.map toC) := by simp [Function.comp_def, toC_ofC]
  rw [e] at hrel
  exact ((Rel2.map_iff _ _).mp hrel).mono fun _ _ h => (Rel2.map_iff toC toC).mp h

theorem allCells_transfer (p p' : Pic) (pred : XbCompress.Cell → Bool) (R : XbCompress.Cell → XbCompress.Cell → Prop)
    (hrel : Rel2 (Rel2 R) p.rows p'.rows) (hstep : ∀ c c', R c c' → pred c = true → pred c' = true)
    (h : allCells p pred = true) : allCells p' pred = true := by
  unfold allCells at h ⊢
  rw [List.all_eq_true] at h ⊢
  exact Rel2.all_right (P := fun r => r.all pred = true) (Q := fun r => r.all pred = true)
    (fun r r' hrr hr => by
      rw [List.all_eq_true] at hr ⊢
      exact Rel2.all_right (P := fun c => pred c = true) (Q := fun c => pred c = true) hstep hrr hr) hrel h

theorem analyzeFontUsage_pages (cells : List XbCompress.Cell) :
    XbCompress.analyzeFontUsage cells = (cells.map (·.attr.page)).foldl (fun acc pg => XbCompress.insertSorted pg acc) [] := by
  unfold XbCompress.analyzeFontUsage
  rw [List.foldl_map]

theorem trueRel (norm : Bool) (p p' : Pic) (hopt : optPic norm p = some p') :
    Rel2 (Rel2 (OptRel (fun _ => True) (fun _ => True))) p.rows p'.rows :=
  optPic_rel _ _ norm p p' hopt trivial trivial (fun _ _ _ _ => ⟨trivial, trivial⟩)

theorem optPic_pages (norm : Bool) (p p' : Pic) (hopt : optPic norm p = some p') :
    XbCompress.analyzeFontUsage p'.rows.flatten = XbCompress.analyzeFontUsage p.rows.flatten := by
  rw [analyzeFontUsage_pages, analyzeFontUsage_pages]
  congr 1
  exact Rel2.map_eq (R := OptRel (fun _ => True) (fun _ => True)) (fun c => c.attr.page) (fun c => c.attr.page)
    (fun a b h => h.1) (Rel2.flatten (trueRel norm p p' hopt))

theorem optPic_wellFormed (norm : Bool) (p p' : Pic) (hopt : optPic norm p = some p') (h : wellFormed p = true) :
    wellFormed p' = true := by
  have hsh := optPic_shape norm p p' hopt
  have hrel := trueRel norm p p' hopt
  unfold wellFormed at h ⊢
  simp only [Bool.and_eq_true, beq_iff_eq, List.all_eq_true, decide_eq_true_eq] at h ⊢
  have hw : p'.w = p.w := by rw [hsh]
  have hh : p'.h = p.h := by rw [hsh]
  refine ⟨⟨by rw [hrel.length, hh]; exact h.1.1, ?_⟩, by rw [hh]; exact h.2⟩
  rw [hw]
  exact Rel2.all_right (P := fun r => r.length = p.w) (Q := fun r => r.length = p.w)
    (fun r r' hrr hr => by rw [hrr.length]; exact hr) hrel h.1.2

theorem OptRel.ch_le {F B : Nat → Prop} {c c' : XbCompress.Cell} (h : OptRel F B c c') (hc : c.ch ≤ 255) : c'.ch ≤ 255 := by
  rcases h.2.2.1 with h1 | h1
  · exact Nat.le_trans (Nat.le_of_eq h1) hc
  · exact Nat.le_trans (Nat.le_of_eq h1) (by decide)

theorem OptRel.flags {F B : Nat → Prop} {c c' : XbCompress.Cell} (h : OptRel F B c c') : c'.attr.flags = c.attr.flags :=
  h.2.1

theorem OptRel.fg {F B : Nat → Prop} {c c' : XbCompress.Cell} (h : OptRel F B c c') : F c'.attr.fg := h.2.2.2.1

theorem OptRel.bg {F B : Nat → Prop} {c c' : XbCompress.Cell} (h : OptRel F B c c') : B c'.attr.bg := h.2.2.2.2

theorem OptRel.blink_eq {F B : Nat → Prop} {c c' : XbCompress.Cell} (h : OptRel F B c c') :
    isBlink c'.attr = isBlink c.attr := by
  unfold isBlink; rw [h.flags]

theorem attrCell_step (ice : Bool) (c c' : XbCompress.Cell)
    (h : OptRel (fun v => v < 16) (fun v => if ice then v < 16 else v < 8) c c') (hc : attrCell ice c = true) :
    attrCell ice c' = true := by
  have hfg := h.fg
  have hbg := h.bg
  unfold attrCell at hc ⊢
  simp only [Bool.and_eq_true, decide_eq_true_eq] at hc ⊢
  refine ⟨⟨h.ch_le hc.1.1, hfg⟩, ?_⟩
  cases ice with
  | true =>
    simp only [if_true, Bool.and_eq_true, decide_eq_true_eq, Bool.not_eq_true'] at hc hbg ⊢
    exact ⟨hbg, by rw [h.blink_eq]; exact hc.2.2⟩
  | false =>
    simp only [Bool.false_eq_true, if_false, decide_eq_true_eq] at hc hbg ⊢
    exact hbg

theorem optPic_allCells (F B : Nat → Prop) (pred : XbCompress.Cell → Bool) (norm : Bool) (p p' : Pic)
    (hopt : optPic norm p = some p') (hF : F 7) (hB : B 0) (hpre : ∀ c, pred c = true → F c.attr.fg ∧ B c.attr.bg)
    (hstep : ∀ c c', OptRel F B c c' → pred c = true → pred c' = true) (h : allCells p pred = true) :
    allCells p' pred = true :=
  allCells_transfer p p' pred _
    (optPic_rel F B norm p p' hopt hF hB fun r hr c hc => hpre c (List.all_eq_true.mp (List.all_eq_true.mp h r hr) c hc)) hstep h

theorem optPic_attrCells (norm : Bool) (ice : Bool) (p p' : Pic) (hopt : optPic norm p = some p')
    (h : allCells p (attrCell ice) = true) : allCells p' (attrCell ice) = true := by
  refine optPic_allCells (fun v => v < 16) (fun v => if ice then v < 16 else v < 8) _ norm p p' hopt (by omega)
    (by cases ice <;> simp) (fun c hc => ?_) (attrCell_step ice) h
  unfold attrCell at hc
  simp only [Bool.and_eq_true, decide_eq_true_eq] at hc
  refine ⟨hc.1.2, ?_⟩
  cases ice with
  | true => simp only [if_true, Bool.and_eq_true, decide_eq_true_eq] at hc ⊢; exact hc.2.1
  | false => simp only [Bool.false_eq_true, if_false, decide_eq_true_eq] at hc ⊢; exact hc.2

theorem optPic_lowCells (norm : Bool) (p p' : Pic) (hopt : optPic norm p = some p')
    (h : allCells p (fun c => decide (c.attr.fg < 8) && !BinFormats.isBold c.attr) = true) :
    allCells p' (fun c => decide (c.attr.fg < 8) && !BinFormats.isBold c.attr) = true := by
  refine optPic_allCells (fun v => v < 8) (fun _ => True) _ norm p p' hopt (by omega) trivial
    (fun c hc => by simp only [Bool.and_eq_true, decide_eq_true_eq] at hc; exact ⟨hc.1, trivial⟩) (fun c c' hcc hc => ?_) h
  simp only [Bool.and_eq_true, decide_eq_true_eq, Bool.not_eq_true'] at hc ⊢
  refine ⟨hcc.fg, ?_⟩
  have : BinFormats.isBold c'.attr = BinFormats.isBold c.attr := by unfold BinFormats.isBold; rw [hcc.flags]
  rw [this]; exact hc.2

theorem optPic_tndCells (norm : Bool) (p p' : Pic) (hopt : optPic norm p = some p')
    (h : allCells p (fun c => decide (c.ch ≤ 255) && isVisible c && !isBlink c.attr && decide (c.attr.fg < 2147483648) &&
      decide (c.attr.bg < 2147483648)) = true) :
    allCells p' (fun c => decide (c.ch ≤ 255) && isVisible c && !isBlink c.attr && decide (c.attr.fg < 2147483648) &&
      decide (c.attr.bg < 2147483648)) = true := by
  refine optPic_allCells (fun v => v < 2147483648) (fun v => v < 2147483648) _ norm p p' hopt (by omega) (by omega)
    (fun c hc => by simp only [Bool.and_eq_true, decide_eq_true_eq] at hc; exact ⟨hc.1.2, hc.2⟩) ?_ h
  intro c c' hcc hc
  simp only [Bool.and_eq_true, decide_eq_true_eq, Bool.not_eq_true'] at hc ⊢
  obtain ⟨⟨⟨⟨hch0, hvis⟩, hbl⟩, _⟩, _⟩ := hc
  have hvis' : isVisible c' = true := by unfold isVisible at hvis ⊢; rw [hcc.flags]; exact hvis
  exact ⟨⟨⟨⟨hcc.ch_le hch0, hvis'⟩, by rw [hcc.blink_eq]; exact hbl⟩, hcc.fg⟩, hcc.bg⟩

end IcyVerif.C12
