import IcyVerif.Lemmas.RipLex
/-! `step` preserves the lexer invariant and never panics (well-formed table, parameter counter below i32::MAX). -/
namespace IcyVerif.Rip
open IcyVerif.RipSpec

/-- lexer invariant: while parameters are being read there is a command under construction, it belongs to the
table, and it satisfies `CmdGood` for the current parameter state -/
def Good (T : Table) (s : Lex) : Prop :=
  0 ≤ s.pstate ∧
  ((s.st = .readParams ∨ s.st = .skipEol) →
     ∃ c spec, s.cmd = some c ∧ T.cmds[c.idx]? = some spec ∧ CmdGood spec c s.pstate)

theorem good_of_other {T : Table} {s : Lex} (hp : 0 ≤ s.pstate) (h1 : s.st ≠ .readParams) (h2 : s.st ≠ .skipEol) : Good T s :=
  ⟨hp, fun h => by rcases h with h | h <;> contradiction⟩

theorem afterRun_st (T : Table) (s : Lex) (c : CmdSt) :
    (afterRun T s c).st = s.st ∧ (afterRun T s c).pstate = s.pstate ∧ (afterRun T s c).cmd = s.cmd := by
  unfold afterRun
  simp only []
  split
  · split
    · exact ⟨rfl, rfl, rfl⟩
    · split <;> exact ⟨rfl, rfl, rfl⟩
  · split <;> exact ⟨rfl, rfl, rfl⟩

theorem afterRun_good {T : Table} {s : Lex} (c : CmdSt) (hp : 0 ≤ s.pstate) (h1 : s.st ≠ .readParams) (h2 : s.st ≠ .skipEol) :
    Good T (afterRun T s c) ∧ (afterRun T s c).pstate = s.pstate := by
  obtain ⟨a1, a2, _⟩ := afterRun_st T s c
  exact ⟨good_of_other (a2 ▸ hp) (a1 ▸ h1) (a1 ▸ h2), a2⟩

theorem getInt_fresh (idx : Nat) (spec : CmdSpec) (i : Nat) : getInt (CmdSt.fresh idx spec) i = 0 := by
  simp only [getInt, CmdSt.fresh, List.getD]
  cases h : (List.replicate spec.nInts (0 : Int))[i]? with
  | none => rfl
  | some v =>
    have := List.mem_of_getElem? h
    simp at this
    simp [this.2]

theorem cmdGood_fresh (idx : Nat) (spec : CmdSpec) : CmdGood spec (CmdSt.fresh idx spec) 0 := by
  constructor
  · intro r _ h; simp at h
  · intro i _
    rw [getInt_fresh]
    exact ⟨by omega, fun _ => rfl, fun h => by omega, by omega⟩

theorem startCommand_good (T : Table) (s : Lex) (idx : Nat) (spec : CmdSpec) (h : T.cmds[idx]? = some spec) :
    Good T (startCommand T s idx) ∧ (startCommand T s idx).pstate = 0 := by
  simp only [startCommand, h]
  constructor
  · constructor
    · show (0 : Int) ≤ 0
      omega
    · intro _
      exact ⟨CmdSt.fresh idx spec, spec, rfl, by simpa [CmdSt.fresh] using h, cmdGood_fresh idx spec⟩
  · trivial

theorem lookup_mem {T : Table} {l ch : Nat} {d : Dispatch} (h : lookup T l ch = some d) : d ∈ T.dispatch :=
  List.mem_of_find?_eq_some h

theorem dispatchCmd_good (T : Table) (hT : tableOk T = true) (s : Lex) (hp : 0 ≤ s.pstate) (d : Dispatch) (hd : d ∈ T.dispatch) :
    ∃ s' o, dispatchCmd T s d = .ok s' o ∧ Good T s' ∧ s'.pstate ≤ s.pstate + 1 := by
  simp only [tableOk, Bool.and_eq_true, List.all_eq_true, decide_eq_true_eq] at hT
  have hlt := hT.2 d hd
  have hsome : ∃ spec, T.cmds[d.cmd]? = some spec := ⟨T.cmds[d.cmd], by simp [hlt]⟩
  obtain ⟨spec, hs⟩ := hsome
  simp only [dispatchCmd, hs]
  by_cases hi : d.immediate = true
  · simp only [hi, if_true]
    obtain ⟨g, e⟩ := afterRun_good (T := T) (s := { s with st := .gotRipStart }) (CmdSt.fresh d.cmd spec) hp nofun nofun
    exact ⟨_, _, rfl, g, by rw [e]; show s.pstate ≤ s.pstate + 1; omega⟩
  · simp only [hi]
    obtain ⟨hg, hz⟩ := startCommand_good T s d.cmd spec hs
    exact ⟨_, _, rfl, hg, by rw [hz]; omega⟩

theorem good_of_cmd {T : Table} {s : Lex} {c : CmdSt} {spec : CmdSpec} (hp : 0 ≤ s.pstate) (hc : s.cmd = some c)
    (hs : T.cmds[c.idx]? = some spec) (hg : CmdGood spec c s.pstate) : Good T s :=
  ⟨hp, fun _ => ⟨c, spec, hc, hs, hg⟩⟩

theorem parseParameter_good (T : Table) (hT : tableOk T = true) (s : Lex) (ch : Nat)
    (hp0 : 0 ≤ s.pstate) (hps : s.pstate < i32Max)
    (c : CmdSt) (spec : CmdSpec) (hc : s.cmd = some c) (hspec : T.cmds[c.idx]? = some spec) (hcg : CmdGood spec c s.pstate) :
    (∃ s' o, parseParameter T s ch = .done (.ok s' o) ∧ Good T s' ∧ s'.pstate = s.pstate) ∨
    (∃ c', parseParameter T s ch = .more { s with cmd := some c', pstate := s.pstate + 1 } ∧
        T.cmds[c'.idx]? = some spec ∧ CmdGood spec c' (s.pstate + 1)) := by
  have hT' := hT
  simp only [tableOk, Bool.and_eq_true, List.all_eq_true, decide_eq_true_eq] at hT'
  have hchk : T.checked = true := hT'.1.1
  have hspecOk : specOk spec = true := hT'.1.2 spec (List.mem_of_getElem? hspec)
  unfold parseParameter
  by_cases h92 : ch = 92
  · left; simp only [h92, if_true]
    exact ⟨_, _, rfl, good_of_cmd (c := c) (spec := spec) hp0 hc hspec hcg, rfl⟩
  · simp only [h92, if_false]
    by_cases h13 : ch = 13
    · left; simp only [h13, if_true]
      exact ⟨_, _, rfl, good_of_cmd (c := c) (spec := spec) hp0 hc hspec hcg, rfl⟩
    · simp only [h13, if_false]
      by_cases h10 : ch = 10
      · left; simp only [h10, if_true, hc]
        obtain ⟨g, e⟩ := afterRun_good (T := T) (s := { s with st := .dflt, cmd := none }) c hp0 nofun nofun
        exact ⟨_, _, rfl, g, e⟩
      · simp only [h10, if_false]
        by_cases h124 : ch = 124
        · left; simp only [h124, if_true, hc]
          obtain ⟨g, e⟩ := afterRun_good (T := T) (s := { s with st := .readCommand 0, cmd := none }) c hp0 nofun nofun
          exact ⟨_, _, rfl, g, e⟩
        · simp only [h124, if_false, hc, hspec, hchk]
          obtain ⟨hnp, hgood⟩ := cmdParse_good spec hspecOk c s.pstate ch hp0 hcg
          cases hcp : cmdParse true spec c s.pstate ch with
          | panic site => exact absurd hcp (hnp site)
          | err c' =>
            left
            simp only []
            exact ⟨_, _, rfl, good_of_other hp0 (by simp) (by simp), rfl⟩
          | ok c' b =>
            cases b with
            | false =>
              left
              simp only []
              obtain ⟨g, e⟩ := afterRun_good (T := T) (s := { s with st := .gotRipStart, cmd := none }) c' hp0 nofun nofun
              exact ⟨_, _, rfl, g, e⟩
            | true =>
              right
              simp only []
              have hle : s.pstate + 1 ≤ i32Max := by omega
              simp only [hle, if_true]
              refine ⟨c', rfl, ?_, hgood c' hcp⟩
              rw [cmdParse_idx hcp]; exact hspec

theorem handOver_good (T : Table) (s : Lex) (chars : List Nat) (hg : Good T s) :
    ∃ s' o, handOver s chars = .ok s' o ∧ Good T s' ∧ s'.pstate = s.pstate := by
  unfold handOver
  split
  · exact ⟨_, _, rfl, hg, rfl⟩
  · exact ⟨_, _, rfl, hg, rfl⟩

theorem step_good (T : Table) (hT : tableOk T = true) (s : Lex) (ch : Nat) (fb : Fb)
    (hg : Good T s) (hps : s.pstate < i32Max) :
    ∃ s' o, step T s ch fb = .ok s' o ∧ Good T s' ∧ s'.pstate ≤ s.pstate + 1 := by
  have hp0 := hg.1
  -- an answer with the state as it was
  have same : ∀ o, ∃ s' o', StepRes.ok s o = .ok s' o' ∧ Good T s' ∧ s'.pstate ≤ s.pstate + 1 :=
    fun o => ⟨s, o, rfl, hg, by omega⟩
  -- an answer in a lexer state outside the parameter machine, the parameter counter untouched
  have other : ∀ (s' : Lex) o, s'.pstate = s.pstate → s'.st ≠ .readParams → s'.st ≠ .skipEol →
      ∃ s'' o', StepRes.ok s' o = .ok s'' o' ∧ Good T s'' ∧ s''.pstate ≤ s.pstate + 1 :=
    fun s' o hp h1 h2 => ⟨s', o, rfl, good_of_other (hp ▸ hp0) h1 h2, by omega⟩
  have over : ∀ (s' : Lex) chars, s'.pstate = s.pstate → Good T s' →
      ∃ s'' o', handOver s' chars = .ok s'' o' ∧ Good T s'' ∧ s''.pstate ≤ s.pstate + 1 := fun s' chars hp hg' => by
    obtain ⟨s'', o, h1, h2, h3⟩ := handOver_good T s' chars hg'
    exact ⟨s'', o, h1, h2, by omega⟩
  -- `parse_parameter` with the command under construction: a finished answer, or one more parameter state
  have param : (s.st = .readParams ∨ s.st = .skipEol) →
      (∀ r, parseParameter T s ch = .done r → ∃ s' o, r = .ok s' o ∧ Good T s' ∧ s'.pstate ≤ s.pstate + 1) ∧
      (∀ s1, parseParameter T s ch = .more s1 → ∀ st, ∃ s' o, StepRes.ok { s1 with st := st } .noUpdate = .ok s' o ∧ Good T s' ∧
        s'.pstate ≤ s.pstate + 1) := fun hst => by
    obtain ⟨c, spec, hc, hspec, hcg⟩ := hg.2 hst
    rcases parseParameter_good T hT s ch hp0 hps c spec hc hspec hcg with ⟨s', o, hpp, hgood, hpe⟩ | ⟨c', hpp, hs', hcg'⟩
    · rw [hpp]
      exact ⟨fun r hr => (by cases hr; exact ⟨s', o, rfl, hgood, by omega⟩), fun s1 h1 => (by cases h1)⟩
    · rw [hpp]
      refine ⟨fun r hr => (by cases hr), fun s1 h1 st => ?_⟩
      cases h1
      exact ⟨_, _, rfl, good_of_cmd (c := c') (spec := spec) (by show 0 ≤ s.pstate + 1; omega) rfl hs' hcg', Int.le_refl _⟩
  fun_cases step T s ch fb
  -- ReadParams
  · rename_i hst r hr
    exact (param (Or.inl hst)).1 r hr
  · rename_i hst s1 h1
    exact (param (Or.inl hst)).2 s1 h1 s1.st
  -- SkipEol
  · exact same _
  · rename_i hst _ _
    obtain ⟨c, spec, hc, hspec, hcg⟩ := hg.2 (Or.inr hst)
    exact ⟨_, _, rfl, good_of_cmd (c := c) (spec := spec) hp0 hc hspec hcg, by show s.pstate ≤ _; omega⟩
  · rename_i hst _ _ r hr
    exact (param (Or.inr hst)).1 r hr
  · rename_i hst _ _ s1 h1
    exact (param (Or.inr hst)).2 s1 h1 .readParams
  -- EndRip
  · exact same _
  · exact other _ _ rfl nofun nofun
  · exact other _ _ rfl nofun nofun
  · exact other _ _ rfl nofun nofun
  -- ReadCommand
  · exact other _ _ rfl nofun nofun
  · rename_i hlk
    exact dispatchCmd_good T hT s hp0 _ (lookup_mem hlk)
  · exact other _ _ rfl nofun nofun
  · rename_i hlk
    exact dispatchCmd_good T hT s hp0 _ (lookup_mem hlk)
  · exact other _ _ rfl nofun nofun
  · exact other _ _ rfl nofun nofun
  · exact over _ _ rfl (good_of_other hp0 nofun nofun)
  -- GotRipStart
  · exact same _
  · exact same _
  · exact over _ _ rfl (good_of_other hp0 nofun nofun)
  · exact other _ _ rfl nofun nofun
  -- Default: the answer depends on what the fallback parser is doing
  · exact same _
  · exact same _
  · rename_i hst _
    exact other _ _ rfl (by show s.st ≠ _; rw [hst]; nofun) (by show s.st ≠ _; rw [hst]; nofun)
  · rename_i hst _
    exact other _ _ rfl (by show s.st ≠ _; rw [hst]; nofun) (by show s.st ≠ _; rw [hst]; nofun)
  · exact same _
  · exact over _ _ rfl hg
  · exact same _
  · exact other _ _ rfl nofun nofun
  · exact over _ _ rfl hg
  · exact over _ _ rfl hg

theorem run_good (T : Table) (hT : tableOk T = true) :
    ∀ (cs : List (Nat × Fb)) (s : Lex), Good T s → s.pstate + cs.length < i32Max →
      ∃ s' o, run T s cs = .ok s' o ∧ Good T s' := by
  intro cs
  induction cs with
  | nil => intro s hg _; exact ⟨s, .noUpdate, rfl, hg⟩
  | cons x rest ih =>
    intro s hg hlen
    obtain ⟨ch, fb⟩ := x
    simp only [List.length_cons] at hlen
    have hg0 := hg.1
    obtain ⟨s1, o1, hstep, hg1, hp1⟩ := step_good T hT s ch fb hg (by omega)
    simp only [run, hstep]
    exact ih s1 hg1 (by omega)

theorem good_init (T : Table) : Good T Lex.init := by
  apply good_of_other
  · show (0 : Int) ≤ 0; omega
  · simp [Lex.init]
  · simp [Lex.init]

end IcyVerif.Rip
