import IcyVerif.Lemmas.BinFormatsBasic
import IcyVerif.Model.Palette
import IcyVerif.Lemmas.PaletteSix
/-!
# The palette blocks of the whole-file model of C05 are those of the palette model of C16

The 6-bit palette block of XBin / IDF files as `Model/BinFormats.lean` reads and writes it: `from_63 ∘ as_vec_63 ∘ from_63 = from_63` for
EVERY byte block (also values above 63), and the C05 functions are the C16 ones (`Model/Palette.lean`) under the obvious conversion
(`from63_bridge`, `asVec63_bridge`).  The EGA register block of ADF files the same way; its round trip is the palette model's.
Not bridged: `insert_color` (C05 has its own `insertColor_spec`) and the attribute byte (`attrByte` / `unlByte` against `Codec.encByte` of C18);
the models stay separate, each with its own correspondence run.
-/
namespace IcyVerif.PaletteBridge
open IcyVerif.BinFormats

theorem expand6_fix : ∀ v, v < 256 → expand6 (expand6 v / 4) = expand6 v := by decide +kernel

theorem triples_thirds (l : List Rgb) :
    triples (l.flatMap fun c => [c.1 / 4, c.2.1 / 4, c.2.2 / 4]) = l.map fun c => (c.1 / 4, c.2.1 / 4, c.2.2 / 4) := by
  induction l with
  | nil => rfl
  | cons c l ih => simp only [List.flatMap_cons, List.cons_append, List.nil_append, triples, List.map_cons, ih]

theorem from63_asVec63_from63 (bs : List Nat) (hb : ∀ b ∈ bs, b < 256) :
    from63 (asVec63 (from63 bs)) = from63 bs := by
  unfold from63 asVec63
  rw [triples_thirds, List.map_map, List.map_map]
  apply List.map_congr_left
  intro c hc
  obtain ⟨h1, h2, h3⟩ := triples_mem bs c hc
  simp only [Function.comp]
  rw [expand6_fix _ (hb _ h1), expand6_fix _ (hb _ h2), expand6_fix _ (hb _ h3)]

def toC16 (c : Rgb) : Palette.Rgb := ⟨c.1, c.2.1, c.2.2⟩

theorem shifts : Gen.Palette.sixUp = [(2, 4), (2, 4), (2, 4)] ∧ Gen.Palette.sixDown = [2, 2, 2] := ⟨rfl, rfl⟩

theorem upWith_eq (v : Nat) : Palette.upWith (2, 4) v = expand6 v := by
  simp [Palette.upWith, expand6, Nat.shiftLeft_eq, Nat.shiftRight_eq_div_pow]

theorem from63_bridge (bs : List Nat) (h3 : bs.length % 3 = 0) :
    Palette.from63 bs = .ok ((from63 bs).map toC16) := by
  unfold from63
  induction bs using triples.induct with
  | case1 r g b rest ih =>
    have : rest.length % 3 = 0 := by simp only [List.length_cons] at h3; omega
    simp only [Palette.from63, ih this, triples, List.map_cons, toC16, Palette.up6, shifts.1, List.getD_cons_zero,
      List.getD_cons_succ, upWith_eq]
  | case2 bs h =>
    match bs, h with
    | [], _ => rfl
    | [_], _ => simp at h3
    | [_, _], _ => simp at h3
    | a :: b :: c :: rest, h => exact absurd rfl (h a b c rest)

theorem asVec63_bridge (pal : List Rgb) : asVec63 pal = Palette.asVec63 (pal.map toC16) := by
  unfold asVec63 Palette.asVec63
  induction pal with
  | nil => rfl
  | cons c cs ih =>
    rw [List.flatMap_cons, List.map_cons, List.flatMap_cons, ih]
    simp only [Palette.flat, Palette.down6, toC16, shifts.2, List.getD_cons_zero, List.getD_cons_succ, Nat.shiftRight_eq_div_pow]

theorem toC16_inj : Function.Injective toC16 := fun a b h => by
  obtain ⟨a1, a2, a3⟩ := a; obtain ⟨b1, b2, b3⟩ := b
  simp only [toC16, Palette.Rgb.mk.injEq] at h
  obtain ⟨rfl, rfl, rfl⟩ := h; rfl

theorem triples_bridge (l : List Nat) : (triples l).map toC16 = Palette.triples l := by
  induction l using triples.induct with
  | case1 r g b rest ih => simp only [triples, Palette.triples, List.map_cons, ih, toC16]
  | case2 bs h =>
    match bs, h with
    | [], _ => rfl
    | [_], _ => rfl
    | [_, _], _ => rfl
    | a :: b :: c :: rest, h => exact absurd rfl (h a b c rest)

/-- the loop of `to_ega_data` (`Palette.egaFill`) is the fold over the zipped registers -/
theorem egaFill_bridge (pal : List Rgb) : ∀ (os : List Nat) (i : Nat) (acc : List Rgb),
    Palette.egaFill (pal.map toC16) os i (acc.map toC16) =
      ((os.zip (pal.drop i)).foldl (fun acc jv => setAt acc jv.1 jv.2) acc).map toC16 := by
  intro os
  induction os with
  | nil => intro i acc; rfl
  | cons o os ih =>
    intro i acc
    simp only [Palette.egaFill, List.length_map]
    by_cases h : pal.length ≤ i
    · rw [if_pos h, List.drop_eq_nil_of_le h]; rfl
    · rw [if_neg h, List.drop_eq_getElem_cons (by omega), List.zip_cons_cons, List.foldl_cons, ← ih]
      congr 1
      simp [setAt, List.map_set, List.getD_eq_getElem?_getD, List.getElem?_eq_getElem (show i < pal.length by omega)]

theorem flat_down (c : Rgb) : Palette.flat (Palette.downEga (toC16 c)) = [c.1 / 4, c.2.1 / 4, c.2.2 / 4] := by
  simp only [Palette.flat, Palette.downEga, toC16, show Gen.Palette.egaDown = [2, 2, 2] from rfl, List.getD_cons_zero,
    List.getD_cons_succ, Nat.shiftRight_eq_div_pow]

theorem toEgaData_bridge (pal : List Rgb) : toEgaData pal = Palette.toEga (pal.map toC16) := by
  unfold toEgaData Palette.toEga
  have h := egaFill_bridge pal Gen.BinFmt.egaColorOffsets 0 (triples Gen.BinFmt.egaPalette)
  rw [triples_bridge, List.drop_zero] at h
  rw [show Gen.Palette.egaOffsets.take Gen.Palette.egaCount = Gen.BinFmt.egaColorOffsets from rfl]
  show _ = (Palette.egaFill _ _ 0 (Palette.triples Gen.BinFmt.egaPalette)).flatMap _
  rw [h, List.flatMap_map]
  simp only [flat_down]

theorem fromEgaData_bridge (bs : List Nat) : (fromEgaData bs).map toC16 = Gen.Palette.egaOffsets.map (Palette.slot bs) := by
  unfold fromEgaData
  rw [List.map_map]
  show Gen.BinFmt.egaColorOffsets.map _ = Gen.BinFmt.egaColorOffsets.map _
  refine List.map_congr_left fun i _ => ?_
  simp only [Function.comp, toC16, Palette.slot, Palette.upEga, show Gen.Palette.egaUp = [(2, 4), (2, 4), (2, 4)] from rfl,
    List.getD_cons_zero, List.getD_cons_succ, upWith_eq]

theorem q6_sixBit (c : Rgb) (h : (sixBit c.1 && sixBit c.2.1 && sixBit c.2.2) = true) : Palette.q6 (toC16 c) = toC16 c := by
  simp only [Bool.and_eq_true, sixBit, beq_iff_eq, decide_eq_true_eq] at h
  obtain ⟨⟨⟨h1, _⟩, h2, _⟩, h3, _⟩ := h
  simp only [Palette.q6, Palette.up6, Palette.down6, toC16, shifts.1, shifts.2, List.getD_cons_zero, List.getD_cons_succ,
    upWith_eq, Nat.shiftRight_eq_div_pow, Palette.Rgb.mk.injEq]
  exact ⟨h1, h2, h3⟩

end IcyVerif.PaletteBridge

namespace IcyVerif.BinFormats
open IcyVerif.PaletteBridge

/-- C16's `gather_toEga` through the bridges -/
theorem fromEga_toEga (pal : List Rgb) (hl : pal.length = 16)
    (h : pal.all (fun c => sixBit c.1 && sixBit c.2.1 && sixBit c.2.2) = true) : fromEgaData (toEgaData pal) = pal := by
  apply (List.map_inj_right (f := toC16) fun _ _ h => toC16_inj h).mp
  rw [fromEgaData_bridge, toEgaData_bridge, Palette.gather_toEga _ (by simp [hl]), List.take_of_length_le (by simp [hl]),
    List.map_map]
  exact List.map_congr_left fun c hc => q6_sixBit c (List.all_eq_true.mp h c hc)

theorem toEgaData_length (pal : List Rgb) : (toEgaData pal).length = 192 := by rw [toEgaData_bridge, Palette.toEga_length]

end IcyVerif.BinFormats
