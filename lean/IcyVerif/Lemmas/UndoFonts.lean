import IcyVerif.Lemmas.UndoOps
/-! # C08: the font table as a function (`fset`), the font-table lens `undoable_fonts`; `ReversedUndo` (`redoable_reversed`) -/
namespace IcyVerif.Undo

theorem fmLookup_remove (m : List (Nat × Nat)) (k k' : Nat) :
    fmLookup (fmRemove m k) k' = if k' = k then none else fmLookup m k' := by
  unfold fmLookup fmRemove
  induction m with
  | nil => simp
  | cons p m ih =>
    by_cases hp : p.1 = k
    · have h1 : (p.1 != k) = false := by simp [hp]
      simp only [List.filter_cons, h1, Bool.false_eq_true, if_false]
      rw [ih]
      by_cases hk : k' = k
      · simp [hk]
      · have h2 : (p.1 == k') = false := by
          simp only [beq_eq_false_iff_ne, ne_eq]; intro h; exact hk (h.symm.trans hp)
        simp [hk, h2]
    · have h1 : (p.1 != k) = true := by simp [hp]
      simp only [List.filter_cons, h1, if_true, List.find?_cons]
      by_cases h2 : (p.1 == k') = true
      · have : k' ≠ k := by
          intro h; apply hp; rw [← h]; exact (beq_iff_eq.mp h2)
        simp [h2, this]
      · have h2' : (p.1 == k') = false := by simpa using h2
        simp only [h2']
        exact ih

/-- the font table of an observation with slot `k` set to `v` (`none`: emptied) -/
def fset (f : Nat → Option Nat) (k : Nat) (v : Option Nat) : Nat → Option Nat := fun k' => if k' = k then v else f k'

theorem fmLookup_insert_fn (m : List (Nat × Nat)) (k v : Nat) : fmLookup (fmInsert m k v) = fset (fmLookup m) k (some v) := by
  funext k'
  show fmLookup (fmInsert m k v) k' = if k' = k then some v else fmLookup m k'
  unfold fmInsert
  by_cases hk : k' = k
  · subst hk
    simp [fmLookup]
  · have h2 : (k == k') = false := by
      simp only [beq_eq_false_iff_ne, ne_eq]; intro h; exact hk h.symm
    have : fmLookup ((k, v) :: fmRemove m k) k' = fmLookup (fmRemove m k) k' := by
      simp [fmLookup, h2]
    rw [this, fmLookup_remove]
    simp [hk]

theorem fmLookup_remove_fn (m : List (Nat × Nat)) (k : Nat) : fmLookup (fmRemove m k) = fset (fmLookup m) k none :=
  funext (fmLookup_remove m k)

theorem fset_fset (f : Nat → Option Nat) (k : Nat) (v w : Option Nat) : fset (fset f k v) k w = fset f k w := by
  funext k'
  by_cases h : k' = k <;> simp [fset, h]

theorem fset_self (f : Nat → Option Nat) (k : Nat) : fset f k (f k) = f := by
  funext k'
  by_cases h : k' = k <;> simp [fset, h]

/-- `ChangeFontSlot` on font tables: the font `f` of slot `src` moved onto `dst` (`r`: what `dst` held, if `dst ≠ src`), and
    moved back with `r` restored -/
theorem fset_move_back (D : Nat → Option Nat) (src dst f : Nat) (hlk : D src = some f) (r : Option Nat)
    (hr : r = if dst = src then none else D dst) :
    r.elim (fset (fset (fset (fset D src none) dst (some f)) dst none) src (some f))
      (fun g => fset (fset (fset (fset (fset D src none) dst (some f)) dst none) src (some f)) dst (some g)) = D := by
  funext k
  subst hr
  by_cases hsd : dst = src
  · subst hsd
    by_cases h1 : k = dst <;> simp [fset, h1, hlk]
  · have hsd' : ¬ src = dst := fun h => hsd h.symm
    cases hd : D dst with
    | none => by_cases h1 : k = src <;> by_cases h2 : k = dst <;> simp [fset, h1, h2, hsd, hd, hlk]
    | some g => by_cases h1 : k = src <;> by_cases h2 : k = dst <;> simp [fset, h1, h2, hsd, hsd', hd, hlk]

def DObs.setFonts (a : DObs) (f : Nat → Option Nat) : DObs := { a with x := { a.x with fonts := f } }

theorem setFonts_obs (d : Doc) (m : List (Nat × Nat)) : (d.setFonts m).obs = d.obs.setFonts (fmLookup m) := rfl

theorem obs_fonts {d e : Doc} (h : d.obs = e.obs) : fmLookup d.x.fonts = fmLookup e.x.fonts := congrArg (·.x.fonts) h

theorem setFonts_self_obs (d : Doc) (f : List (Nat × Nat)) (hf : fmLookup f = fmLookup d.x.fonts) : (d.setFonts f).obs = d.obs := by
  rw [setFonts_obs, hf]
  rfl

theorem setFonts_to {e : Doc} {m : List (Nat × Nat)} {F : Nat → Option Nat} (h : fmLookup m = F) : (e.setFonts m).obs = e.obs.setFonts F :=
  h ▸ rfl

/-- a record on the font table: obligations on lookups only (the caret's font page is not observed) -/
theorem undoable_fonts {d d1 : Doc} (U R : UndoOp → Prop) {op : UndoOp} (hU : U op) (F1 : Nat → Option Nat)
    (hu : ∀ o, U o → ∀ e' : Doc, fmLookup e'.x.fonts = F1 →
      ∃ o2 e2, o.undo e' = .ok (o2, e2) ∧ e2.obs = e'.obs.setFonts (fmLookup d.x.fonts) ∧ R o2)
    (hr : ∀ o, R o → ∀ e : Doc, fmLookup e.x.fonts = fmLookup d.x.fonts →
      ∃ o2 e2, o.redo e = .ok (o2, e2) ∧ e2.obs = e.obs.setFonts F1 ∧ U o2)
    (h1 : d1.obs = d.obs.setFonts F1) : Undoable op d.obs d1.obs :=
  undoable_obs U R (·.setFonts (fmLookup d.x.fonts)) (·.setFonts F1) hU h1.symm
    (fun o ho e' he' => hu o ho e' ((obs_fonts he').trans (congrArg (·.x.fonts) h1))) (fun o ho e he => hr o ho e (obs_fonts he)) (by rw [h1]; rfl)

theorem obs_setX_congr {d e : Doc} (h : d.obs = e.obs) {x y : Extra} (hxy : x.obs = y.obs) :
    ({ d with x := x } : Doc).obs = ({ e with x := y } : Doc).obs := by
  show (⟨d.w, d.h, d.layers.map LayerM.obs, x.obs⟩ : DObs) = ⟨e.w, e.h, e.layers.map LayerM.obs, y.obs⟩
  rw [obs_w h, obs_h h, obs_layers h, hxy]

/-- `ReversedUndo` (`push_reverse_undo`) -/
theorem redoable_reversed {op : UndoOp} {a b : DObs} (h : Undoable op a b) : Redoable (.reversed op) b a := by
  obtain ⟨U, R, hU, hL⟩ := h
  refine ⟨fun o => ∃ p, o = .reversed p ∧ R p, fun o => ∃ p, o = .reversed p ∧ U p, ⟨op, rfl, hU⟩, ?_, ?_⟩
  · rintro o ⟨p, rfl, hp⟩ e' he'
    obtain ⟨o2, e, h1, h2, h3⟩ := hL.redo_ok p hp e' he'
    exact ⟨.reversed o2, e, by simp [UndoOp.undo, h1], h2, o2, rfl, h3⟩
  · rintro o ⟨p, rfl, hp⟩ e he
    obtain ⟨o2, e', h1, h2, h3⟩ := hL.undo_ok p hp e he
    exact ⟨.reversed o2, e', by simp [UndoOp.redo, h1], h2, o2, rfl, h3⟩

end IcyVerif.Undo
