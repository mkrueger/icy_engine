import IcyVerif.Model.LoaderCost
import IcyVerif.Lemmas.LoadersBase
/-! The specification `Pot` of a counted computation (cost monad `RC`) and its rules.

`x.Pot S W R E P W' R' E'`: `x` spends at most `W` loop iterations, `R` allocated rows, `E` callee iterations whatever its outcome; it panics
only at a site in `S`; when it returns `a` then `P a`, and what it spent plus what `a` is still entitled to (`W' a`, `R' a`, `E' a`) stays within
`W`, `R`, `E`.  A loop invariant is a budget that depends on the state.  One walk over a loop of `Model/LoaderCost` gives both properties of a
loader: `Pot.sat` (with the `_res` lemmas: C02's statement about `Model/Loaders`) and `Pot.bound` (C03).
`Bd` (a plain bound and a post-condition) is not a working notion: it and its rules are what `Pot` gives without potentials (`Pot.toBd`). -/
namespace IcyVerif.LoaderCost
open IcyVerif.Bytes IcyVerif.Bytes.Res IcyVerif.Loaders

namespace RC
variable {α β : Type}
@[simp] theorem res_pure (a : α) : (pure a : RC α).res = .ok a := rfl
@[simp] theorem work_pure (a : α) : (pure a : RC α).work = 0 := rfl
@[simp] theorem rows_pure (a : α) : (pure a : RC α).rows = 0 := rfl
@[simp] theorem extra_pure (a : α) : (pure a : RC α).extra = 0 := rfl
theorem bind_def (x : RC α) (f : α → RC β) : x >>= f = RC.bind x f := rfl

@[simp] theorem res_bind (x : RC α) (f : α → RC β) : (x >>= f).res = x.res >>= fun a => (f a).res := by
  show (RC.bind x f).res = Res.bind x.res _
  unfold RC.bind Res.bind
  cases x.res <;> rfl

theorem res_ite {c : Prop} [Decidable c] {t e : RC α} {t' e' : Res α} (ht : c → t.res = t') (he : ¬ c → e.res = e') :
    (if c then t else e).res = if c then t' else e' := by
  by_cases h : c
  · rw [if_pos h, if_pos h]; exact ht h
  · rw [if_neg h, if_neg h]; exact he h

def Bd (x : RC α) (W R E : Nat) (P : α → Prop) : Prop :=
  x.work ≤ W ∧ x.rows ≤ R ∧ x.extra ≤ E ∧ ∀ a, x.res = .ok a → P a

theorem Bd.bind {x : RC α} {f : α → RC β} {W1 R1 E1 W2 R2 E2 : Nat} {P : α → Prop} {Q : β → Prop}
    (hx : x.Bd W1 R1 E1 P) (hf : ∀ a, P a → (f a).Bd W2 R2 E2 Q) : (x >>= f).Bd (W1 + W2) (R1 + R2) (E1 + E2) Q := by
  obtain ⟨h1, h2, h3, h4⟩ := hx
  show (RC.bind x f).Bd _ _ _ Q
  unfold RC.bind
  cases hr : x.res with
  | ok a =>
    obtain ⟨g1, g2, g3, g4⟩ := hf a (h4 a hr)
    exact ⟨Nat.add_le_add h1 g1, Nat.add_le_add h2 g2, Nat.add_le_add h3 g3, g4⟩
  | err => exact ⟨by simp only; omega, by simp only; omega, by simp only; omega, by intro a h; cases h⟩
  | panic s => exact ⟨by simp only; omega, by simp only; omega, by simp only; omega, by intro a h; cases h⟩

theorem Bd.weaken {x : RC α} {W R E W' R' E' : Nat} {P : α → Prop} (hx : x.Bd W R E P)
    (hW : W ≤ W') (hR : R ≤ R') (hE : E ≤ E') : x.Bd W' R' E' P :=
  ⟨Nat.le_trans hx.1 hW, Nat.le_trans hx.2.1 hR, Nat.le_trans hx.2.2.1 hE, hx.2.2.2⟩

/-- a budget on every outcome, panics only at sites in `S`; for a returned value `P` and the potentials the continuation may still spend -/
def Pot (x : RC α) (S : String → Prop) (W R E : Nat) (P : α → Prop) (W' R' E' : α → Nat) : Prop :=
  x.work ≤ W ∧ x.rows ≤ R ∧ x.extra ≤ E ∧
  x.res.SatS S (fun a => P a ∧ x.work + W' a ≤ W ∧ x.rows + R' a ≤ R ∧ x.extra + E' a ≤ E)

/-- the arithmetic of sequencing, for one counter: `s` spent with `w` kept, of which the continuation spends `t` and keeps `v` -/
theorem spent_bind {s t w v W : Nat} (h : s + w ≤ W) (hv : t + v ≤ w) : s + t + v ≤ W := by omega

theorem spent_mono {s w v W W₂ : Nat} (h : s + w ≤ W) (hW : W ≤ W₂) (hv : v ≤ w + (W₂ - W)) : s + v ≤ W₂ := by omega

variable {x : RC α} {S : String → Prop} {W R E : Nat} {P : α → Prop} {W' R' E' : α → Nat}

theorem Pot.sat (hx : x.Pot S W R E P W' R' E') : x.res.SatS S P := hx.2.2.2.mono (fun _ h => h.1)

theorem Pot.bound (hx : x.Pot S W R E P W' R' E') : x.work ≤ W ∧ x.rows ≤ R ∧ x.extra ≤ E := ⟨hx.1, hx.2.1, hx.2.2.1⟩

theorem Pot.toBd (hx : x.Pot S W R E P W' R' E') : x.Bd W R E P :=
  ⟨hx.1, hx.2.1, hx.2.2.1, fun _ ha => (hx.2.2.2.of_ok ha).1⟩

theorem Pot.bind {f : α → RC β} {Q : β → Prop} {W'' R'' E'' : β → Nat}
    (hx : x.Pot S W R E P W' R' E') (hf : ∀ a, P a → (f a).Pot S (W' a) (R' a) (E' a) Q W'' R'' E'') :
    (x >>= f).Pot S W R E Q W'' R'' E'' := by
  obtain ⟨h1, h2, h3, h4⟩ := hx
  show (RC.bind x f).Pot S _ _ _ Q _ _ _
  unfold RC.bind
  cases hr : x.res with
  | ok a =>
    rw [hr] at h4
    obtain ⟨hp, k1, k2, k3⟩ := h4
    obtain ⟨g1, g2, g3, g4⟩ := hf a hp
    refine ⟨Nat.le_trans (Nat.add_le_add_left g1 _) k1, Nat.le_trans (Nat.add_le_add_left g2 _) k2,
      Nat.le_trans (Nat.add_le_add_left g3 _) k3, g4.mono (fun b hb => ?_)⟩
    exact ⟨hb.1, spent_bind k1 hb.2.1, spent_bind k2 hb.2.2.1, spent_bind k3 hb.2.2.2⟩
  | err => exact ⟨h1, h2, h3, trivial⟩
  | panic s => rw [hr] at h4; exact ⟨h1, h2, h3, h4⟩

theorem Pot.mono {W₂ R₂ E₂ : Nat} {Q : α → Prop} {V' S' F' : α → Nat}
    (hx : x.Pot S W R E P W' R' E') (hW : W ≤ W₂) (hR : R ≤ R₂) (hE : E ≤ E₂)
    (hP : ∀ a, P a → Q a ∧ V' a ≤ W' a + (W₂ - W) ∧ S' a ≤ R' a + (R₂ - R) ∧ F' a ≤ E' a + (E₂ - E)) :
    x.Pot S W₂ R₂ E₂ Q V' S' F' := by
  obtain ⟨h1, h2, h3, h4⟩ := hx
  refine ⟨Nat.le_trans h1 hW, Nat.le_trans h2 hR, Nat.le_trans h3 hE, h4.mono (fun a ha => ?_)⟩
  obtain ⟨hp, k1, k2, k3⟩ := ha
  obtain ⟨hq, m1, m2, m3⟩ := hP a hp
  exact ⟨hq, spent_mono k1 hW m1, spent_mono k2 hR m2, spent_mono k3 hE m3⟩

theorem Pot.site {T : String → Prop} (hx : x.Pot S W R E P W' R' E') (hST : ∀ s, S s → T s) : x.Pot T W R E P W' R' E' :=
  ⟨hx.1, hx.2.1, hx.2.2.1, hx.2.2.2.weaken hST⟩

theorem Pot.pure {a : α} (h : P a)
    (hW : W' a ≤ W := by exact Nat.le_refl _) (hR : R' a ≤ R := by exact Nat.le_refl _) (hE : E' a ≤ E := by exact Nat.le_refl _) :
    (Pure.pure a : RC α).Pot S W R E P W' R' E' :=
  ⟨Nat.zero_le _, Nat.zero_le _, Nat.zero_le _,
    show P a ∧ _ from ⟨h, by simp only [work_pure]; omega, by simp only [rows_pure]; omega, by simp only [extra_pure]; omega⟩⟩

theorem Bd.pure {a : α} {P : α → Prop} (h : P a) : (Pure.pure a : RC α).Bd 0 0 0 P :=
  (Pot.pure (S := fun _ => True) (W' := fun _ => 0) (R' := fun _ => 0) (E' := fun _ => 0) h).toBd
end RC

open RC

@[simp] theorem res_lift {α : Type} (r : Res α) : (lift r).res = r := rfl
@[simp] theorem res_tick : tick.res = .ok () := rfl
@[simp] theorem res_spend (n : Nat) : (spend n).res = .ok () := rfl
@[simp] theorem res_fail {α : Type} : (fail : RC α).res = .err := rfl
@[simp] theorem res_setCharC (g : Geo) (x y : Int) : (setCharC g x y).res = .ok (g.setChar x y) := rfl
@[simp] theorem ok_bind {α β : Type} (a : α) (f : α → Res β) : (Res.ok a >>= f) = f a := rfl
@[simp] theorem err_bind {α β : Type} (f : α → Res β) : ((Res.err : Res α) >>= f) = .err := rfl
theorem bind_ok_map {α β : Type} (f : α → β) (x : Res α) : (x >>= fun a => Res.ok (f a)) = f <$> x := by
  cases x <;> rfl

@[simp] theorem panic_bind {α β : Type} (s : String) (f : α → Res β) : ((Res.panic s : Res α) >>= f) = .panic s := rfl

theorem bd_lift {α : Type} {r : Res α} {P : α → Prop} (h : r.Sat P) : (lift r).Bd 0 0 0 P :=
  ⟨Nat.le_refl _, Nat.le_refl _, Nat.le_refl _, by intro a ha; simp only [res_lift] at ha; subst ha; exact h⟩

theorem bd_lift_any {α : Type} (r : Res α) : (lift r).Bd 0 0 0 (fun a => r = .ok a) :=
  ⟨Nat.le_refl _, Nat.le_refl _, Nat.le_refl _, by intro a ha; exact ha⟩

theorem setChar_lines_ge (g : Geo) (x y : Int) : g.lines ≤ (g.setChar x y).lines := by
  unfold Geo.setChar; split
  · exact Nat.le_refl _
  · split
    · simp only; omega
    · exact Nat.le_refl _

theorem setChar_lines_le (g : Geo) (x y : Int) (B : Nat) (hg : g.lines ≤ B) (hy : y < B) : (g.setChar x y).lines ≤ B := by
  unfold Geo.setChar; split
  · exact hg
  · split
    · simp only; omega
    · exact hg

/-- what writing cells does to the geometry: the four size fields untouched, the line vector only grows -/
structure GeoKept (g g' : Geo) : Prop where
  bw : g'.bw = g.bw
  bh : g'.bh = g.bh
  lw : g'.lw = g.lw
  lh : g'.lh = g.lh
  lines : g.lines ≤ g'.lines

theorem GeoKept.refl (g : Geo) : GeoKept g g := ⟨rfl, rfl, rfl, rfl, Nat.le_refl _⟩

theorem GeoKept.trans {g g' g'' : Geo} (h : GeoKept g g') (h' : GeoKept g' g'') : GeoKept g g'' :=
  ⟨h'.bw.trans h.bw, h'.bh.trans h.bh, h'.lw.trans h.lw, h'.lh.trans h.lh, Nat.le_trans h.lines h'.lines⟩

theorem setChar_kept (g : Geo) (x y : Int) : GeoKept g (g.setChar x y) :=
  have h := setChar_fields g x y
  ⟨h.1, h.2.1, h.2.2.1, h.2.2.2, setChar_lines_ge g x y⟩

theorem pot_tick {S : String → Prop} : tick.Pot S 1 0 0 (fun _ => True) (fun _ => 0) (fun _ => 0) (fun _ => 0) :=
  ⟨Nat.le_refl _, Nat.zero_le _, Nat.zero_le _, show True ∧ _ from ⟨trivial, Nat.le_refl _, Nat.le_refl _, Nat.le_refl _⟩⟩

theorem pot_spend {S : String → Prop} (n : Nat) : (spend n).Pot S 0 0 n (fun _ => True) (fun _ => 0) (fun _ => 0) (fun _ => 0) :=
  ⟨Nat.zero_le _, Nat.zero_le _, Nat.le_refl _, show True ∧ _ from ⟨trivial, Nat.le_refl _, Nat.le_refl _, Nat.le_refl _⟩⟩

theorem pot_fail {α : Type} {S : String → Prop} {W R E : Nat} {P : α → Prop} {W' R' E' : α → Nat} : (fail : RC α).Pot S W R E P W' R' E' :=
  ⟨Nat.zero_le _, Nat.zero_le _, Nat.zero_le _, trivial⟩

/-- a step that allocates the rows from `a` up to `b <= B`: they come out of the potential `B - a`, `B - b` is left -/
theorem pot_rows {α : Type} {S : String → Prop} (v : α) {a b B : Nat} (h1 : a ≤ b) (h2 : b ≤ B) :
    (⟨.ok v, 0, b - a, 0⟩ : RC α).Pot S 0 (B - a) 0 (fun v' => v' = v) (fun _ => 0) (fun _ => B - b) (fun _ => 0) := by
  refine ⟨Nat.zero_le _, ?_, Nat.zero_le _, show v = v ∧ _ from ⟨rfl, Nat.le_refl _, ?_, Nat.le_refl _⟩⟩
  · show b - a ≤ B - a
    omega
  · show b - a + (B - b) ≤ B - a
    omega

theorem bd_tick : tick.Bd 1 0 0 (fun _ => True) := (pot_tick (S := fun _ => True)).toBd

theorem bd_spend (n : Nat) : (spend n).Bd 0 0 n (fun _ => True) := (pot_spend (S := fun _ => True) n).toBd

theorem bd_fail {α : Type} {P : α → Prop} : (fail : RC α).Bd 0 0 0 P :=
  (pot_fail (S := fun _ => True) (W' := fun _ => 0) (R' := fun _ => 0) (E' := fun _ => 0)).toBd

theorem bd_setCharC (g : Geo) (x y : Int) (B : Nat) (hg : g.lines ≤ B) (hy : y < B) :
    (setCharC g x y).Bd 0 (B - g.lines) 0 (fun g' => g' = g.setChar x y) :=
  (pot_rows (S := fun _ => True) (g.setChar x y) (setChar_lines_ge g x y) (setChar_lines_le g x y B hg hy)).toBd

namespace RC
variable {α β : Type} {S : String → Prop} {W R E : Nat} {P : α → Prop} {W' R' E' : α → Nat} {Q : β → Prop} {W'' R'' E'' : β → Nat}

/-- `Pot` with nothing asked of the result and nothing kept: the form the outer loops and the loaders are stated in -/
abbrev Spends (x : RC α) (S : String → Prop) (W R E : Nat) : Prop := x.Pot S W R E (fun _ => True) (fun _ => 0) (fun _ => 0) (fun _ => 0)

theorem pot_done (a : α) : (Pure.pure a : RC α).Spends S W R E :=
  Pot.pure trivial (Nat.zero_le _) (Nat.zero_le _) (Nat.zero_le _)

/-- frame + bind: what the first part leaves (its final potentials plus the rest of the budget) is the budget of the continuation -/
theorem Pot.bind_le {x : RC α} {f : α → RC β} {W₁ R₁ E₁ : Nat}
    (hx : x.Pot S W₁ R₁ E₁ P W' R' E') (hW : W₁ ≤ W) (hR : R₁ ≤ R) (hE : E₁ ≤ E)
    (hf : ∀ a, P a → (f a).Pot S (W' a + (W - W₁)) (R' a + (R - R₁)) (E' a + (E - E₁)) Q W'' R'' E'') :
    (x >>= f).Pot S W R E Q W'' R'' E'' := by
  refine Pot.bind (W' := fun a => W' a + (W - W₁)) (R' := fun a => R' a + (R - R₁)) (E' := fun a => E' a + (E - E₁)) ?_ hf
  exact Pot.mono hx hW hR hE (fun a h => ⟨h, Nat.le_refl _, Nat.le_refl _, Nat.le_refl _⟩)

theorem Pot.ite {c : Prop} [Decidable c] {t e : RC α}
    (ht : c → t.Pot S W R E P W' R' E') (he : ¬ c → e.Pot S W R E P W' R' E') : (if c then t else e).Pot S W R E P W' R' E' := by
  by_cases h : c
  · rw [if_pos h]; exact ht h
  · rw [if_neg h]; exact he h

theorem Pot.guard {c : Prop} [Decidable c] {e : RC α}
    (he : ¬ c → e.Pot S W R E P W' R' E') : (if c then fail else e).Pot S W R E P W' R' E' :=
  Pot.ite (fun _ => pot_fail) he

theorem Pot.dite {c : Prop} [Decidable c] {t : c → RC α} {e : ¬ c → RC α}
    (ht : ∀ h, (t h).Pot S W R E P W' R' E') (he : ∀ h, (e h).Pot S W R E P W' R' E') : (dite c t e).Pot S W R E P W' R' E' := by
  by_cases h : c
  · rw [dif_pos h]; exact ht h
  · rw [dif_neg h]; exact he h

/-- a larger budget; components that are not named stay as they are -/
theorem Pot.weaken {x : RC α} {W₂ R₂ E₂ : Nat} (hx : x.Pot S W R E P W' R' E')
    (hW : W ≤ W₂ := by exact Nat.le_refl _) (hR : R ≤ R₂ := by exact Nat.le_refl _) (hE : E ≤ E₂ := by exact Nat.le_refl _) :
    x.Pot S W₂ R₂ E₂ P W' R' E' :=
  Pot.mono hx hW hR hE (fun _ h => ⟨h, Nat.le_add_right _ _, Nat.le_add_right _ _, Nat.le_add_right _ _⟩)

theorem Pot.imp {x : RC α} {Q : α → Prop} (hx : x.Pot S W R E P W' R' E') (hQ : ∀ a, P a → Q a) : x.Pot S W R E Q W' R' E' :=
  Pot.mono hx (Nat.le_refl _) (Nat.le_refl _) (Nat.le_refl _)
    (fun a h => ⟨hQ a h, Nat.le_add_right _ _, Nat.le_add_right _ _, Nat.le_add_right _ _⟩)

/-! The bind rules of the primitives keep the budget in the shape the loop invariants state it in, so arithmetic is
    left only where a budget is really divided: at the call of an inner loop (`Pot.call`) and at the recursive call. -/

/-- an inner loop takes its share `W₁` of the work budget; the rest goes on with the row and callee potentials the loop leaves -/
theorem Pot.call {x : RC α} {f : α → RC β} {W₁ : Nat}
    (hx : x.Pot S W₁ R E P (fun _ => 0) R' E') (hW : W₁ ≤ W) (hf : ∀ a, P a → (f a).Pot S (W - W₁) (R' a) (E' a) Q W'' R'' E'') :
    (x >>= f).Pot S W R E Q W'' R'' E'' := by
  refine Pot.bind_le hx hW (Nat.le_refl _) (Nat.le_refl _) (fun a ha => ?_)
  rw [Nat.zero_add, Nat.sub_self, Nat.add_zero, Nat.sub_self, Nat.add_zero]
  exact hf a ha

/-- the `SatS` lemma of an operation of the byte cursor is used as it is: its sites, its value facts; the budget goes on untouched -/
theorem Pot.lift_bind {r : Res α} {f : α → RC β}
    (hr : r.SatS S P) (hf : ∀ a, P a → (f a).Pot S W R E Q W'' R'' E'') : (lift r >>= f).Pot S W R E Q W'' R'' E'' :=
  Pot.bind (x := lift r) (P := P) (W' := fun _ => W) (R' := fun _ => R) (E' := fun _ => E)
    ⟨Nat.zero_le _, Nat.zero_le _, Nat.zero_le _,
      hr.mono (fun _ ha => ⟨ha, Nat.le_of_eq (Nat.zero_add _), Nat.le_of_eq (Nat.zero_add _), Nat.le_of_eq (Nat.zero_add _)⟩)⟩ hf

theorem Pot.sat_bind {r : Res α} {f : α → RC β}
    (hr : r.Sat P) (hf : ∀ a, P a → (f a).Pot S W R E Q W'' R'' E'') : (lift r >>= f).Pot S W R E Q W'' R'' E'' :=
  Pot.lift_bind hr.toSatS hf

theorem Pot.tick_bind {f : Unit → RC β}
    (hW : 0 < W) (hf : (f ()).Pot S (W - 1) R E Q W'' R'' E'') : (tick >>= f).Pot S W R E Q W'' R'' E'' := by
  refine Pot.bind_le pot_tick hW (Nat.zero_le _) (Nat.zero_le _) (fun _ _ => ?_)
  rw [Nat.zero_add, Nat.zero_add, Nat.zero_add]
  exact hf

theorem Pot.spend_bind {n : Nat} {f : Unit → RC β}
    (hE : n ≤ E) (hf : (f ()).Pot S W R (E - n) Q W'' R'' E'') : (spend n >>= f).Pot S W R E Q W'' R'' E'' := by
  refine Pot.bind_le (pot_spend n) (Nat.zero_le _) (Nat.zero_le _) hE (fun _ _ => ?_)
  rw [Nat.zero_add, Nat.zero_add, Nat.zero_add]
  exact hf

theorem Pot.rows_bind {v : α} {a b B : Nat} {f : α → RC β} (h1 : a ≤ b) (h2 : b ≤ B) (hf : (f v).Pot S W (B - b) E Q W'' R'' E'') :
    ((⟨.ok v, 0, b - a, 0⟩ : RC α) >>= f).Pot S W (B - a) E Q W'' R'' E'' := by
  refine Pot.bind_le (pot_rows v h1 h2) (Nat.zero_le _) (Nat.le_refl _) (Nat.zero_le _) (fun v' hv' => ?_)
  subst hv'
  rw [Nat.zero_add, Nat.zero_add, Nat.sub_self, Nat.add_zero]
  exact hf

theorem Pot.setChar_bind {g : Geo} {x y : Int} {B : Nat} {f : Geo → RC β}
    (hg : g.lines ≤ B) (hy : y < B) (hf : (f (g.setChar x y)).Pot S W (B - (g.setChar x y).lines) E Q W'' R'' E'') :
    (setCharC g x y >>= f).Pot S W (B - g.lines) E Q W'' R'' E'' :=
  Pot.rows_bind (setChar_lines_ge g x y) (setChar_lines_le g x y B hg hy) hf
end RC

theorem initGeo_lines (w h : Nat) (c : Bool) (s : Option (Nat × Nat)) : (initGeo w h c s).lines = if c then 0 else h := by
  cases s with
  | none => rfl
  | some p => cases p; rfl

theorem lt_div_succ_mul (n w : Nat) (hw : 0 < w) : (n : Int) < ((n / w + 1 : Nat) : Int) * (w : Int) := by
  have := Int.ofNat_lt.mpr (Nat.lt_mul_div_succ n hw)
  rwa [Int.natCast_mul, Int.mul_comm] at this

theorem rows_mul_le {rows n w : Nat} (h : rows ≤ n / w + 1) : rows * w ≤ n + w := by
  calc rows * w ≤ (n / w + 1) * w := Nat.mul_le_mul_right _ h
    _ = n / w * w + w := by rw [Nat.add_mul, Nat.one_mul]
    _ ≤ n + w := Nat.add_le_add_right (Nat.div_mul_le_self _ _) _

theorem row_lt_of_budget {y w m : Int} {B : Nat} (hw : 0 < w) (hm : 0 ≤ m) (h : y * w + m < B * w) : y < B := by
  have h1 : y * w < (B : Int) * w := by omega
  exact Int.lt_of_mul_lt_mul_right h1 (Int.le_of_lt hw)

end IcyVerif.LoaderCost
