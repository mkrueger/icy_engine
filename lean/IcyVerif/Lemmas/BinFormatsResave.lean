import IcyVerif.Lemmas.BinFormatsResaveXb
import IcyVerif.Lemmas.BinFormatsResaveBin
import IcyVerif.Lemmas.BinFormatsResaveAdf
import IcyVerif.Lemmas.BinFormatsResaveIdf
import IcyVerif.Lemmas.BinFormatsResaveTnd
import IcyVerif.Lemmas.BinFormatsBin
import IcyVerif.Lemmas.BinFormatsTndRt
import IcyVerif.Lemmas.BinFormatsAdf
import IcyVerif.Lemmas.BinFormatsIdf
/-!
# C05: re-save stability for every file the loaders accept — what an accepted file is, what a writer with SAUCE appends

`Restable f o date g`: the picture the loaded buffer `g` shows is written by `save`, and the written file loads to the same
picture (with a SAUCE record always; without one unless its tail reads as a SAUCE record — the guard of `rt_nosauce_partial`).
-/
namespace IcyVerif.BinFormats
open IcyVerif.XbCompress IcyVerif.Gen

def Restable (f : Fmt) (o : Opts) (date : List Nat) (g : LBuf) : Prop :=
  ∃ b₂, save f o date g.toPic = .ok b₂ ∧
    ((o.sauce = true ∨ tailReadsAsSauce b₂ = false) → ∃ g₂, fromBytes f b₂ = .ok g₂ ∧ SamePicture f g.toPic g₂)

/-- the SAUCE variant each writer hands to `write_sauce_info` -/
def kindOf : Fmt → SauceKind
  | .xb => .xbin
  | .bin => .bin
  | .adf => .ansi
  | .idf => .bin
  | .tnd => .tundra

theorem save_eq (f : Fmt) (o : Opts) (date : List Nat) (p : Pic) :
    save f o date p = withSauce o.sauce (kindOf f) p date (save f ⟨false, o.compress⟩ date p) := by
  show Sauces o.sauce (kindOf f) p date _ _
  cases f <;> simp only [save, kindOf]
  · exact xbSave_eq o.compress o.sauce date p
  · exact binSave_eq o.sauce date p
  · exact adfSave_eq o.sauce date p
  · exact idfSave_eq o.compress o.sauce date p
  · exact tndSave_eq o.sauce date p

theorem loaded_sauce (f : Fmt) (content : List Nat) (hcb : ∀ b ∈ content, b < 256) (s : Option Sauce.Sauce)
    (hsw : ∀ s', s = some s' → s'.width < 65536) (g : LBuf) (h : loadBody f content s = .ok g) : g.sauce = s.map metaOf := by
  cases f
  · exact (xb_range content hcb s g h).sauce
  · exact (bin_range content hcb s g h).sauce
  · exact (adf_range content hcb s g h).sauce
  · exact (idf_range content hcb s g h).sauce
  · exact (tnd_range content hcb s hsw g h).sauce

theorem fromBytes_ok (f : Fmt) (bytes : List Nat) (hb : ∀ b ∈ bytes, b < 256) (g : LBuf) (h : fromBytes f bytes = .ok g) :
    ∃ content s, loadBody f content s = .ok g ∧ (∀ b ∈ content, b < 256) ∧ metaOk g.sauce = true ∧
      (∀ s', s = some s' → s'.width < 65536) ∧ content.length ≤ bytes.length ∧
      Sauce.fromBytesSplit dateOk bytes = .ok (content, s) := by
  unfold fromBytes at h
  cases hs : Sauce.fromBytesSplit dateOk bytes with
  | ok r =>
    obtain ⟨content, s⟩ := r
    rw [hs] at h
    obtain ⟨h1, h2⟩ := metaOk_split bytes hb content s hs
    obtain ⟨⟨n, rfl⟩, _⟩ := fromBytesSplit_ok hs
    have hsw : ∀ s', s = some s' → s'.width < 65536 := fun s' hs' => sauce_width_lt bytes hb s' ((fromBytesSplit_ok hs).2 s' hs')
    exact ⟨_, s, h, h2, loaded_sauce f _ h2 s hsw g h ▸ h1, hsw, by rw [List.length_take]; omega, rfl⟩
  | err e => rw [hs] at h; cases h
  | panic site => rw [hs] at h; cases h

theorem tinfo_name_rt (name : List Nat) (h1 : name.length ≤ 22) (h2 : name.contains 0 = false) (h3 : name.getLast? ≠ some 32) (h4 : name ≠ []) :
    Sauce.strText (Sauce.carryNul (Sauce.strFrom Gen.Sauce.tinfoLen name)) = name := by
  have ht : Gen.Sauce.tinfoLen = 22 := rfl
  have e1 : Sauce.strFrom Gen.Sauce.tinfoLen name = name := by
    unfold Sauce.strFrom; rw [ht]; exact List.take_of_length_le h1
  have h0 : 0 ∉ name := by
    intro hc
    have : name.contains 0 = true := List.contains_iff_mem.mpr hc
    rw [h2] at this; cases this
  have e2 : Sauce.carryNul name = name := Sauce.takeWhile_ne_zero_self name h0
  rw [e1, e2]
  unfold Sauce.strText Sauce.strLen
  obtain ⟨l, hl⟩ := List.getLast?_isSome.mpr h4 |> Option.isSome_iff_exists.mp
  obtain ⟨ys, hys⟩ := List.getLast?_eq_some_iff.mp hl
  have hrev : name.reverse = l :: ys.reverse := by rw [hys]; simp
  have hl0 : l ≠ 0 := by
    intro hc; subst hc
    exact h0 (List.mem_of_getLast? hl)
  have hl32 : l ≠ 32 := by
    intro hc; subst hc; exact h3 hl
  have hstrip : Gen.Sauce.stripSet.contains l = false := by
    have : Gen.Sauce.stripSet = [0, 32] := rfl
    rw [this]; simp [hl0, hl32]
  rw [hrev, List.dropWhile_cons, hstrip]
  simp only [Bool.false_eq_true, if_false]
  rw [← hrev, List.length_reverse, List.take_length]

end IcyVerif.BinFormats
