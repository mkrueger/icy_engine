import IcyVerif.Lemmas.RipCanvas
/-! One walk over the modelled RIP commands (`execCmd_post`): each keeps the geometry of the canvas whatever its parameters, and from a
`DrawState`, with parameters as the lexer delivers them, answers `Ok` or `Err` in a `DrawState` again. -/
namespace IcyVerif.Bgi

theorem Draws.draw {s : Bgi} {P : Bgi → Prop} {C : Prop} {o : Option Bgi} (h : Draws s id P C o) (hd : DrawState s) (hc : C) :
    ∃ s', o = some s' ∧ DrawState s' := by
  obtain ⟨s', e⟩ := h.total hc
  exact ⟨s', e, hd.framed (h.frame e)⟩

theorem setViewport_draw (s : Bgi) (hd : DrawState s) (x0 y0 x1 y1 : Int) (h0 : 0 ≤ x0 ∧ x0 ≤ 1295) (h1 : 0 ≤ y0 ∧ y0 ≤ 1295)
    (h2 : 0 ≤ x1 ∧ x1 ≤ 1295) (h3 : 0 ≤ y1 ∧ y1 ≤ 1295) : ∃ s', setViewport s x0 y0 x1 y1 = some s' ∧ DrawState s' := by
  unfold setViewport
  rw [chk_in (v := x1 - x0) (by omega), chk_in (v := y1 - y0) (by omega)]
  exact ⟨_, rfl, ⟨hd.1.winW, h0.1, h0.2, h1.1, h1.2, by dsimp only; omega, by dsimp only; omega, by dsimp only; omega, by dsimp only; omega,
    hd.1.userPat, hd.1.fillStyle⟩, hd.2.1, hd.2.2⟩

theorem setPalette_draw (s : Bgi) (hd : DrawState s) (cs : List Int) (h : ∀ v, v ∈ cs → 0 ≤ v ∧ v < 64) :
    ∃ s', setPalette s cs = some s' ∧ DrawState s' := by
  unfold setPalette
  rw [show Gen.Bgi.egaPaletteLen = 64 by decide,
    if_pos (List.all_eq_true.mpr fun v hv => decide_eq_true (show 0 ≤ v ∧ v < ((64 : Nat) : Int) from h v hv))]
  exact ⟨_, rfl, hd.of_eq rfl⟩

theorem setPaletteColor_draw (s : Bgi) (hd : DrawState s) (i c : Nat) (hc : c % 256 < 64) :
    ∃ s', setPaletteColor s i c = some s' ∧ DrawState s' := by
  unfold setPaletteColor
  rw [show Gen.Bgi.egaPaletteLen = 64 by decide, if_pos hc]
  exact ⟨_, rfl, hd.of_eq rfl⟩

theorem lookupFrom_lt (tab : List (Nat × Nat)) (d n : Nat) (hd : d < n) (ht : tab.all (fun p => decide (p.2 < n)) = true) (v : Nat) :
    lookupFrom tab d v < n := by
  unfold lookupFrom
  cases hf : tab.find? (fun p => p.1 = v) with
  | none => exact hd
  | some p =>
    obtain ⟨a, b⟩ := p
    have hm := List.mem_of_find?_eq_some hf
    rw [List.all_eq_true] at ht
    have := ht (a, b) hm
    simpa using this

end IcyVerif.Bgi

namespace IcyVerif.RipCanvas
open IcyVerif.Rip IcyVerif.Bgi

/-- parameters as the lexer delivers them: non-negative base-36 numbers; two digits (<= 1295) for every field of the
modelled commands and for polygon / palette lists, four digits only in LineStyle (kind 15: the user line pattern) -/
def ParamsOk (k : Nat) (c : CmdSt) : Prop :=
  (∀ i, 0 ≤ getInt c i ∧ getInt c i ≤ 1679615) ∧ (k ≠ 15 → ∀ i, getInt c i ≤ 1295) ∧ (∀ v, v ∈ c.vec → 0 ≤ v ∧ v ≤ 1295)

def RunOut.state? : RunOut → Option Bgi
  | .ok b _ => some b
  | .err b => some b
  | _ => none

/-- what one modelled command does: geometry kept whatever the parameters; from a `DrawState`, for a kind of the table and lexer
parameters, an answer in a `DrawState` -/
structure RPost (b : Bgi) (k : Nat) (c : CmdSt) (o : RunOut) : Prop where
  geom : ∀ b', o.state? = some b' → Geom b b'
  draw : DrawState b → 1 ≤ k ∧ k ≤ 17 → ParamsOk k c → ∃ b', o.state? = some b' ∧ DrawState b'

variable {b : Bgi} {k : Nat} {c : CmdSt}

theorem RPost.call {r : Option Bgi} {u : Bool} (hg : ∀ s', r = some s' → Geom b s')
    (hd : DrawState b → ParamsOk k c → ∃ s', r = some s' ∧ DrawState s') : RPost b k c (lift r u) := by
  cases r with
  | none => exact ⟨fun _ e => (nomatch e), fun h _ hp => by obtain ⟨_, e, _⟩ := hd h hp; cases e⟩
  | some s' => exact ⟨fun _ e => by cases e; exact hg s' rfl, fun h _ hp => by obtain ⟨_, e, d⟩ := hd h hp; cases e; exact ⟨_, rfl, d⟩⟩

theorem RPost.paint {r : Option Bgi} {u : Bool} {P : Bgi → Prop} {C : Prop} (h : Draws b id P C r)
    (hc : DrawState b → ParamsOk k c → C := by exact fun hd _ => DrawState.putOk hd) : RPost b k c (lift r u) :=
  .call (fun _ e => (h.frame e).geom) fun hd hp => h.draw hd (hc hd hp)

theorem RPost.set {b' : Bgi} {u : Bool} (hg : Geom b b') (hd : DrawState b → ParamsOk k c → DrawState b') : RPost b k c (.ok b' u) :=
  ⟨fun _ e => by cases e; exact hg, fun h _ hp => ⟨b', rfl, hd h hp⟩⟩

theorem RPost.refused : RPost b k c (.err b) := ⟨fun _ e => by cases e; exact .refl b, fun h _ _ => ⟨b, rfl, h⟩⟩

theorem RPost.none {o : RunOut} (ho : o.state? = none) (h : DrawState b → 1 ≤ k ∧ k ≤ 17 → ParamsOk k c → False) : RPost b k c o :=
  ⟨fun _ e => (by rw [ho] at e; cases e), fun hd hk hp => (h hd hk hp).elim⟩

/-- every modelled command (`k` = 1 .. 17: the kinds of `Gen.RipRun.runKind`, in the order of `execCmd`) -/
theorem execCmd_post (b : Bgi) (k : Nat) (c : CmdSt) : RPost b k c (execCmd b k c) := by
  have fill := floodFill_spec b
  -- `fun_cases` leaves the `let`s of `execCmd` (`g`, the corners of Bar, `b1` / `b2` of LineStyle) as local definitions that the
  -- hypotheses and `omega` do not see through; the `simp` substitutes them (`try`: the arms without a `let` give it nothing to do)
  fun_cases execCmd b k c <;> try simp +zetaDelta only [] at *
  -- 1 ViewPort
  · exact .call (fun _ => setViewport_geom) fun hd hp => setViewport_draw b hd _ _ _ _ ⟨(hp.1 0).1, hp.2.1 (by decide) 0⟩
      ⟨(hp.1 1).1, hp.2.1 (by decide) 1⟩ ⟨(hp.1 2).1, hp.2.1 (by decide) 2⟩ ⟨(hp.1 3).1, hp.2.1 (by decide) 3⟩
  -- 2 EraseView
  · refine .call (fun _ e => (barRect_framed e).geom) fun hd _ => ?_
    obtain ⟨hW, v1, v2, v3, v4, v5, v6, v7, v8, _, _⟩ := hd.1
    obtain ⟨s', h⟩ := barRect_total b hd.1 b.vp (by omega) (by omega) (by omega) (by omega)
    exact ⟨s', h, hd.framed (barRect_framed h)⟩
  -- 3 Color
  · exact .set (.refl b) fun hd _ => hd.of_eq rfl
  -- 4 SetPalette: an entry outside the EGA palette is refused / every entry an EGA colour
  · exact .refused
  · rename_i hany
    refine .call (fun _ => setPalette_geom) fun hd _ => setPalette_draw b hd _ fun v hv => ?_
    have : ¬ (!(decide (0 ≤ v) && decide (v < 64))) = true := fun h => hany (List.any_eq_true.mpr ⟨v, hv, h⟩)
    simpa using this
  -- 5 OnePalette: a colour outside the EGA palette is refused / a negative index (the model's panic) is not a lexer number / set
  · exact .refused
  · exact .none rfl fun _ _ hp => by have := (hp.1 0).1; omega
  · rename_i hval _
    refine .call (fun _ => setPaletteColor_geom) fun hd _ => setPaletteColor_draw b hd _ _ ?_
    have hval' : 0 ≤ getInt c 1 ∧ getInt c 1 < 64 := by simpa using hval
    unfold u8
    rw [Int.emod_eq_of_lt (by omega) (by omega)]
    omega
  -- 6 WriteMode, 7 Move
  · exact .set (.refl b) fun hd _ => hd.of_eq rfl
  · exact .set (.refl b) fun hd _ => hd.of_eq rfl
  -- 8 Pixel, 9 Line, 10 Rectangle
  · exact .paint (putPixel_draws ..)
  · exact .paint (line_draws ..)
  · exact .paint (rectangle_draws ..)
  -- 11 Bar
  · refine .paint (bar_draws ..) fun hd hp => ?_
    have b0 := hp.1 0; have b1 := hp.1 1; have b2 := hp.1 2; have b3 := hp.1 3
    have c0 := hp.2.1 (by decide) 0; have c1 := hp.2.1 (by decide) 1; have c2 := hp.2.1 (by decide) 2; have c3 := hp.2.1 (by decide) 3
    refine ⟨hd.1, ?_, ?_, ?_, ?_⟩ <;> (split <;> omega)
  -- 12 Polygon, 13 PolyLine
  · exact .paint (drawPoly_draws ..)
  · exact .paint (drawPolyLine_draws ..)
  -- 14 Fill: returned / a panic and a stall are excluded
  · rename_i hf
    refine .set (floodFill_framed hf).geom fun hd _ => ?_
    obtain ⟨s', n, kk, h, d, _⟩ := fill hd (getInt c 0) (getInt c 1) (u8 (getInt c 2))
    rw [h] at hf; cases hf
    exact d
  · rename_i hf
    exact .none rfl fun hd _ _ => by obtain ⟨_, _, _, h, _⟩ := fill hd (getInt c 0) (getInt c 1) (u8 (getInt c 2)); rw [h] at hf; cases hf
  · rename_i hf
    exact .none rfl fun hd _ _ => by obtain ⟨_, _, _, h, _⟩ := fill hd (getInt c 0) (getInt c 1) (u8 (getInt c 2)); rw [h] at hf; cases hf
  -- 15 LineStyle
  · by_cases h4 : getInt c 0 = 4
    · simp only [h4, if_true]; exact .set ⟨rfl, rfl, rfl⟩ fun hd _ => hd.of_eq rfl
    · simp only [h4, if_false]; exact .set ⟨rfl, rfl, rfl⟩ fun hd _ => hd.of_eq rfl
  -- 16 FillStyle
  · refine .set (.refl b) fun hd _ => ?_
    exact ⟨hd.1.of_style rfl hd.1.userPat (lookupFrom_lt _ _ 13 (by decide) (by decide) _), hd.2.1, hd.2.2⟩
  -- 17 FillPattern
  · refine .set (.refl b) fun hd _ => ?_
    refine ⟨hd.1.of_style rfl ?_ ?_, hd.2.1, hd.2.2⟩
    · show (List.map (fun x => x % 256) (List.map (fun i => u8 (getInt c i)) (List.range 8))).length = 8
      simp
    · show Gen.Bgi.fillStyleUser < 13
      decide
  -- any other kind is outside the model
  · exact .none rfl fun _ hk _ => by simp only [imp_false] at *; omega

theorem execCmd_canvas {b b' : Bgi} {k : Nat} {c : CmdSt} (hc : Canvas b) (h : (execCmd b k c).state? = some b') : Canvas b' :=
  hc.of_geom ((execCmd_post b k c).geom b' h)

theorem step_canvas (T : Table) (s s' : St) (ch : Nat) (fb : Fb) (o : COut) (hc : Canvas s.bgi)
    (h : RipCanvas.step T s ch fb = .ok s' o) : Canvas s'.bgi := by
  unfold RipCanvas.step at h
  split at h
  · cases h
  · split at h
    · cases h
    · rename_i k hk
      split at h
      · rename_i b u he
        cases h
        exact execCmd_canvas hc (by rw [he]; rfl)
      · rename_i b he
        cases h
        exact execCmd_canvas hc (by rw [he]; rfl)
      · cases h
      · cases h
      · cases h
  · cases h
    exact hc

end IcyVerif.RipCanvas
