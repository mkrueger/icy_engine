/-! # C08: facts about lists and about functions on indices that the Undo lemmas use -/
namespace IcyVerif.Undo

theorem map_set_self {α β : Type} (f : α → β) (l : List α) (i : Nat) (a : α) (h : l[i]? = some a) : (l.map f).set i (f a) = l.map f := by
  obtain ⟨hi, rfl⟩ := List.getElem?_eq_some_iff.mp h
  rw [← List.map_set, List.set_getElem_self hi]

theorem map_insertIdx {α β : Type} (f : α → β) (l : List α) (i : Nat) (a : α) :
    (l.insertIdx i a).map f = (l.map f).insertIdx i (f a) := by
  induction l generalizing i with
  | nil => cases i <;> simp
  | cons x xs ih => cases i <;> simp [ih]

theorem map_eraseIdx {α β : Type} (f : α → β) (l : List α) (i : Nat) :
    (l.eraseIdx i).map f = (l.map f).eraseIdx i := by
  induction l generalizing i with
  | nil => simp
  | cons x xs ih => cases i <;> simp [ih]

theorem insertIdx_eraseIdx_self {α : Type} (l : List α) (i : Nat) (a : α) (h : l[i]? = some a) :
    (l.eraseIdx i).insertIdx i a = l := by
  induction l generalizing i with
  | nil => simp at h
  | cons x xs ih =>
    cases i with
    | zero => simp at h; simp [h]
    | succ i => simp at h; simp [ih i h]

theorem splice_back {α : Type} (L new : List α) (k n : Nat) (hk : k ≤ L.length) :
    (L.take k ++ new ++ L.drop (k + n)).take k ++ (L.drop k).take n ++ (L.take k ++ new ++ L.drop (k + n)).drop (k + new.length) = L := by
  have hlen : (L.take k).length = k := by simp; omega
  rw [List.append_assoc (L.take k), List.take_left' hlen, ← List.append_assoc (L.take k), List.drop_left' (by simp [hlen]),
    List.append_assoc, ← List.drop_drop, List.take_append_drop, List.take_append_drop]

theorem splice_at {α : Type} (E os : List α) (k : Nat) (hk : k ≤ E.length) :
    (E.take k ++ os ++ E.drop k)[k + os.length]? = E[k]? ∧
      (E.take k ++ os ++ E.drop k).eraseIdx (k + os.length) = E.take k ++ os ++ E.drop (k + 1) := by
  have hlen : (E.take k ++ os).length = k + os.length := by simp; omega
  constructor
  · rw [List.getElem?_append_right (by omega), hlen, Nat.sub_self, List.getElem?_drop, Nat.add_zero]
  · rw [List.eraseIdx_append_of_length_le (by omega), hlen, Nat.sub_self, List.eraseIdx_zero, List.tail_drop]

/-- the transposition of `i` and `j` -/
def swapAt {ι : Type} [DecidableEq ι] (i j k : ι) : ι := if k = i then j else if k = j then i else k

theorem swapAt_swapAt {ι : Type} [DecidableEq ι] (i j k : ι) : swapAt i j (swapAt i j k) = k := by
  unfold swapAt
  by_cases h1 : k = i <;> by_cases h2 : k = j <;> by_cases h3 : j = i <;> simp_all

/-- `f` with the entry at `k` taken out: what follows moves down by one -/
def cutAt {α : Type} (k : Nat) (f : Nat → α) : Nat → α := fun i => if i < k then f i else f (i + 1)
/-- `f` with `v` put in at `k`: what follows moves up by one -/
def putAt {α : Type} (k : Nat) (v : α) (f : Nat → α) : Nat → α :=
  fun i => if i < k then f i else if i = k then v else f (i - 1)

theorem cutAt_putAt {α : Type} (k : Nat) (v : α) (f : Nat → α) : cutAt k (putAt k v f) = f := by
  funext i
  simp only [cutAt, putAt]
  by_cases h : i < k
  · rw [if_pos h, if_pos h]
  · rw [if_neg h, if_neg (by omega), if_neg (by omega)]
    rfl

theorem putAt_cutAt {α : Type} (k : Nat) (f : Nat → α) : putAt k (f k) (cutAt k f) = f := by
  funext i
  simp only [cutAt, putAt]
  by_cases h : i < k
  · rw [if_pos h, if_pos h]
  · rw [if_neg h]
    by_cases h2 : i = k
    · rw [if_pos h2, h2]
    · rw [if_neg h2, if_neg (by omega), show i - 1 + 1 = i by omega]

theorem getD_eraseIdx {α : Type} (l : List α) (k : Nat) (d : α) (i : Nat) :
    (l.eraseIdx k).getD i d = cutAt k (fun i => l.getD i d) i := by
  simp only [cutAt, List.getD_eq_getElem?_getD, List.getElem?_eraseIdx]
  split <;> rfl

theorem getD_insertIdx {α : Type} (l : List α) (k : Nat) (v d : α) (hk : k ≤ l.length) (i : Nat) :
    (l.insertIdx k v).getD i d = putAt k v (fun i => l.getD i d) i := by
  simp only [putAt, List.getD_eq_getElem?_getD, List.getElem?_insertIdx]
  split
  · rfl
  · split
    · rename_i h1 h2; subst h2; simp [hk]
    · rfl

/-- `f` with its first `h` entries rotated by `n` -/
def rotAt {α : Type} (h n : Nat) (f : Nat → α) : Nat → α :=
  fun y => if y < h then (if y + n < h then f (y + n) else f (y + n - h)) else f y

theorem rotAt_rotAt {α : Type} (h n : Nat) (f : Nat → α) (hn : n ≤ h) : rotAt h (h - n) (rotAt h n f) = f := by
  funext y
  simp only [rotAt]
  by_cases hy : y < h
  · rw [if_pos hy]
    by_cases h1 : y + (h - n) < h
    · rw [if_pos h1, if_pos h1, if_neg (by omega)]
      congr 1
      omega
    · rw [if_neg h1, if_pos (by omega), if_pos (by omega)]
      congr 1
      omega
  · rw [if_neg hy, if_neg hy]

end IcyVerif.Undo
