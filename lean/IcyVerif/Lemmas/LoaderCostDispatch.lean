import IcyVerif.Lemmas.LoaderCostXb
import IcyVerif.Lemmas.LoaderCostBin
import IcyVerif.Lemmas.LoaderCostIdfTnd
import IcyVerif.Lemmas.LoaderCostIcy
import IcyVerif.Lemmas.LoaderCostTdf
import IcyVerif.Lemmas.LoadersDispatch
/-! `Buffer::from_bytes` with counters: `_res`, and one theorem for C03 (one polynomial for all binary art loaders) and C02 (the only panic
    site of the whole path is inside `SauceData::extract`). -/
namespace IcyVerif.LoaderCost
open IcyVerif.Bytes IcyVerif.Bytes.Res IcyVerif.Loaders IcyVerif.Gen IcyVerif.Gen.Loaders RC

theorem fromBytesC_res (d : Bytes) (ext : String) (dateOk : Bool) : (fromBytesC d ext dateOk).res = fromBytes d ext dateOk := by
  unfold fromBytesC fromBytes
  generalize loaderFor ext = m
  simp only [res_bind, res_lift]
  congr 1; funext r
  have geo : ∀ {x : RC Geo} {y : Res Geo}, x.res = y → (x >>= fun g => pure (Obs.geo g)).res = Obs.geo <$> y :=
    fun {_ y} h => by rw [res_bind, h]; exact bind_ok_map Obs.geo y
  exact res_ite (fun _ => geo (loadXbC_res _ _)) fun _ => res_ite (fun _ => geo (loadBinC_res _ _)) fun _ =>
    res_ite (fun _ => geo (loadAdfC_res _ _)) fun _ => res_ite (fun _ => geo (loadIdfC_res _ _)) fun _ =>
    res_ite (fun _ => geo (loadTndC_res _ _)) fun _ => rfl

/-- the three budgets are maxima over the five loaders: IDF's work + BIN's `width + 1 ≤ 1001`; XBin's rows + the 65536 of IDF / Tundra;
    Tundra's `|d|²` + XBin's `|d|` + ADF's 4288 -/
theorem fromBytesC_pot (d : Bytes) (ext : String) (dateOk : Bool) :
    (fromBytesC d ext dateOk).Spends (fun s => SauceSite s ∨ ¬ FitsI32 d)
      (10923 * d.size + 1001) (64 * d.size + 65536) (d.size * d.size + d.size + 4288) := by
  unfold fromBytesC
  -- generalized first: otherwise `whnf` of the expected type evaluates the extension table at every rule
  generalize loaderFor ext = m
  refine Pot.lift_bind ((dispatchLen_spec d dateOk).weaken (fun _ h => Or.inl h)) (fun r hr => ?_)
  have hs := extract_size_le d r.1
  generalize d.extract 0 r.1 = data at hs
  have hsq : data.size * data.size ≤ d.size * d.size := Nat.mul_le_mul hs hs
  generalize hSq : d.size * d.size = Sq at hsq ⊢
  have geo : ∀ {x : RC Geo} {S : String → Prop} {W R E : Nat}, x.Spends S W R E → (∀ s, S s → SauceSite s ∨ ¬ FitsI32 d) →
      W ≤ 10923 * d.size + 1001 → R ≤ 64 * d.size + 65536 → E ≤ Sq + d.size + 4288 →
      (x >>= fun g => pure (Obs.geo g)).Spends (fun s => SauceSite s ∨ ¬ FitsI32 d) (10923 * d.size + 1001) (64 * d.size + 65536) (Sq + d.size + 4288) :=
    fun h hS hW hR hE => Pot.bind_le (h.site hS) hW hR hE (fun _ _ => pot_done _)
  have big : ∀ s, Unless (FitsI32 data) s → SauceSite s ∨ ¬ FitsI32 d := fun _ h => Or.inr (fun hd => h (by unfold FitsI32 at hd ⊢; omega))
  refine Pot.ite (fun _ => ?_) fun _ => Pot.ite (fun _ => ?_) fun _ => Pot.ite (fun _ => ?_) fun _ =>
    Pot.ite (fun _ => ?_) fun _ => Pot.ite (fun _ => ?_) fun _ => pot_done _
  · have hdiv : 64 * data.size / xbWidth data ≤ 64 * data.size := Nat.div_le_self _ _
    exact geo (loadXbC_pot data r.2) (fun _ h => h.elim) (by omega) (by omega) (by omega)
  · have hw := binWidth_range r.2
    have hdiv : data.size / binWidth r.2 ≤ data.size := Nat.div_le_self _ _
    exact geo (loadBinC_pot data r.2) big (by omega) (by omega) (by omega)
  · exact geo (loadAdfC_pot data r.2) big (by omega) (by omega) (by omega)
  · exact geo (loadIdfC_pot data r.2) (fun _ h => h.elim) (by omega) (by omega) (by omega)
  · have hbw := (tndGeo_bw r.2 (fun sw sh h => by have := hr.2 sw sh h; omega)).2
    exact geo (loadTndC_pot data r.2) (fun _ h => Or.inr (fun hd => h ⟨by unfold FitsI32 at hd ⊢; omega, hbw⟩)) (by omega) (by omega) (by omega)

end IcyVerif.LoaderCost

namespace IcyVerif.Loaders
open IcyVerif.Bytes IcyVerif.Bytes.Res IcyVerif.LoaderCost

theorem fromBytes_site (d : Bytes) (hd : FitsI32 d) (ext : String) (dateOk : Bool) :
    (fromBytes d ext dateOk).SatS SauceSite (fun _ => True) :=
  fromBytesC_res d ext dateOk ▸ (fromBytesC_pot d ext dateOk).sat.weaken (fun _ h => h.resolve_right (fun hn => hn hd))

end IcyVerif.Loaders
