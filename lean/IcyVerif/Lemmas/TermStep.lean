import IcyVerif.Lemmas.TermPrim
/-! # What one arm of the ANSI parser can do (`Eff`), and the invariants read off it
The dispatchers of `Model/TermAnsi` have some 250 arms but a dozen kinds of effect on the geometry.  Each dispatcher is gone
through once to show that every arm is an `Eff`; `GoodSt`, the frame of a step and, through `StepInv`, whatever the macro
machinery has to keep are case analyses on `Eff`, not further walks. -/
namespace IcyVerif.Term

/-- the state invariant: sizes/margins sane, cursor non-negative and near the buffer, and — as long as no
    text-area resize was executed — inside the visible screen (C09) -/
def GoodSt (st : St) : Prop :=
  ScrOk st.s ∧ CurOk st.s st.c ∧ (st.p.resized = false → InScr st.s st.c)

theorem GoodSt.scr {st : St} (h : GoodSt st) : ScrOk st.s := h.1
theorem GoodSt.cur {st : St} (h : GoodSt st) : CurOk st.s st.c := h.2.1
theorem GoodSt.inScr {st : St} (h : GoodSt st) (hr : st.p.resized = false) : InScr st.s st.c := h.2.2 hr

/-- C09 as the invariant has it: while no resize was executed the cursor is a cell of the visible screen -/
theorem GoodSt.cursor {st : St} (hg : GoodSt st) (hres : st.p.resized = false) :
    0 ≤ st.c.x ∧ st.c.x < st.s.tw ∧ st.s.fv ≤ st.c.y ∧ st.c.y < st.s.fv + st.s.th :=
  ⟨hg.cur.1, (hg.inScr hres).2⟩

abbrev GoodR (r : St × Out) : Prop := GoodSt r.1

theorem okOrOv_match_pair {α β : Type} (p : α × β) (f : α → β → R) (P : St × Out → Prop)
    (h : okOrOv (f p.1 p.2) P) : okOrOv (match p with | (a, b) => f a b) P := h

theorem setMarginsTB_ok (s : Scr) (a b : Int) (h : ScrOk s) : ScrOk (setMarginsTB s a b) :=
  ⟨h.tw1, h.tw2, h.th1, h.th2, h.bh0, fun t e he => margins_inside a b s.th t e he, h.mlr⟩
theorem setMarginsLR_ok (s : Scr) (a b : Int) (h : ScrOk s) : ScrOk (setMarginsLR s a b) :=
  ⟨h.tw1, h.tw2, h.th1, h.th2, h.bh0, h.mtb, fun t e he => margins_inside a b s.tw t e he⟩

theorem resetTerminal_ok (s : Scr) (h : ScrOk s) : ScrOk (resetTerminal s) :=
  ⟨h.tw1, h.tw2, h.th1, h.th2, h.bh0, fun _ _ hh => (nomatch hh), fun _ _ hh => (nomatch hh)⟩

/-- `s'` is `s` with other margins, modes or tab stops: the sizes are the same and the margins still lie inside -/
inductive Retouch (s : Scr) : Scr → Prop
  | same : Retouch s s
  | lr (a b : Int) : Retouch s (setMarginsLR s a b)
  | tb (a b : Int) : Retouch s (setMarginsTB s a b)
  | tblr (a b l r : Int) : Retouch s (setMarginsLR (setMarginsTB s a b) l r)
  | modes (aw dm : Bool) (tabs : List Int) : Retouch s { s with autowrap := aw, declrmm := dm, tabs := tabs }
  | nolr (aw dm : Bool) (tabs : List Int) : Retouch s { s with autowrap := aw, declrmm := dm, tabs := tabs, mlr := none }
  | nomargins (aw dm : Bool) (tabs : List Int) :
      Retouch s { s with autowrap := aw, declrmm := dm, tabs := tabs, mtb := none, mlr := none }
  | reset : Retouch s (resetTerminal s)

theorem Retouch.dims {s s' : Scr} (h : Retouch s s') : s'.bh = s.bh ∧ s'.th = s.th ∧ s'.tw = s.tw := by
  cases h <;> exact ⟨rfl, rfl, rfl⟩

theorem Retouch.scrOk {s s' : Scr} (h : Retouch s s') (hk : ScrOk s) : ScrOk s' := by
  cases h with
  | same => exact hk
  | lr a b => exact setMarginsLR_ok s a b hk
  | tb a b => exact setMarginsTB_ok s a b hk
  | tblr a b l r => exact setMarginsLR_ok _ l r (setMarginsTB_ok s a b hk)
  | modes aw dm tabs => exact ⟨hk.tw1, hk.tw2, hk.th1, hk.th2, hk.bh0, hk.mtb, hk.mlr⟩
  | nolr aw dm tabs => exact ⟨hk.tw1, hk.tw2, hk.th1, hk.th2, hk.bh0, hk.mtb, fun _ _ hh => (nomatch hh)⟩
  | nomargins aw dm tabs =>
    exact ⟨hk.tw1, hk.tw2, hk.th1, hk.th2, hk.bh0, fun _ _ hh => (nomatch hh), fun _ _ hh => (nomatch hh)⟩
  | reset => exact resetTerminal_ok s hk

/-- `s'` is `s` after clear screen, form feed or RIS: the scrollback is dropped, the buffer is one screen -/
inductive Cleared (s : Scr) : Scr → Prop
  | cs : Cleared s { s with bw := s.tw, bh := s.th }
  | ff : Cleared s { resetTerminal s with bw := s.tw, bh := s.th }
  | ris : Cleared s (resetTerminal { resetTerminal s with bw := s.tw, bh := s.th })

theorem Cleared.dims {s s' : Scr} (h : Cleared s s') : s'.bh = s'.th ∧ s'.th = s.th ∧ s'.tw = s.tw := by
  cases h <;> exact ⟨rfl, rfl, rfl⟩

theorem Cleared.scrOk {s s' : Scr} (h : Cleared s s') (hk : ScrOk s) : ScrOk s' := by
  cases h with
  | cs => exact ⟨hk.tw1, hk.tw2, hk.th1, hk.th2, hk.th1, hk.mtb, hk.mlr⟩
  | ff => exact ⟨hk.tw1, hk.tw2, hk.th1, hk.th2, hk.th1, fun _ _ hh => (nomatch hh), fun _ _ hh => (nomatch hh)⟩
  | ris => exact ⟨hk.tw1, hk.tw2, hk.th1, hk.th2, hk.th1, fun _ _ hh => (nomatch hh), fun _ _ hh => (nomatch hh)⟩

/-- the cursor moves that are not clamped by `limit`; `s'` is the screen afterwards -/
inductive Moved (c : Car) (s' : Scr) : Car → Prop
  | same : Moved c s' c
  | col0 : Moved c s' ⟨0, c.y, c.ins⟩
  | eol : Moved c s' ⟨s'.tw - 1, c.y, c.ins⟩
  | back : Moved c s' ⟨max 0 (c.x - 1), c.y, c.ins⟩
  | fwd : Moved c s' ⟨min (s'.tw - 1) (c.x + 1), c.y, c.ins⟩
  | ins (b : Bool) : Moved c s' ⟨c.x, c.y, b⟩
  | home (b : Bool) : Moved c s' ⟨0, s'.fv, b⟩

/-- the music fields after an arm: untouched, music mode entered, or one step of the music machine -/
inductive MusNext (m : Mus) : Mus → Prop
  | same : MusNext m m
  | enter : MusNext m (musicEnter m)
  | tune (k : MusicSt) (ch : Char) : MusNext m (musicStep k m ch).2.1

/-- the parser fields after an arm: tick, budget and `resized` as before; the other fields are free -/
structure ParStep (p p' : Par) : Prop where
  tick : p'.tick = p.tick
  budget : p'.budget = p.budget
  resized : p'.resized = p.resized
  mus : MusNext p.mus p'.mus

/-- the primitives that may grow the buffer -/
inductive Grow (s : Scr) (c : Car) : Res (Scr × Car) → Prop
  | lf : Grow s c (lf s c)
  | print : Grow s c (printChar s c)
  | rep (n : Nat) : Grow s c (printN n s c)

/-- What one arm of the parser does to the state `st` it starts from; each constructor names the control functions whose
    arms are instances of it. -/
inductive Eff (inv : Int → St → Res St) (st : St) : R → Prop
  /-- new screen, cursor and parser fields, nothing clamped.  Screen and cursor as before: SGR, DSR, DA, ICH, DCH, EL, ED 0/1,
      SU, SD, ECH / IL / DL past their guard, the framing of DCS / OSC / APS strings, parameter digits, unknown sequences, entering and running ANSI
      music.  Screen retouched: DECSTBM, DECSLRM, `CSI = r`, `CSI = m`, `CSI ? 7 / 69 h l`, HTS, TBC, `CSI Pn SP d`.
      Cursor moved without clamp: CR, BS, `CSI 1 ~` / `CSI 4 ~`, IRM, home after DECSTBM and after the soft reset. -/
  | upd (s' : Scr) (c' : Car) (p' : Par) (o : Out) (hs : Retouch st.s s') (hc : Moved st.c s' c') (hp : ParStep st.p p') :
      Eff inv st (ret ⟨s', c', p'⟩ o)
  /-- a cursor position computed from the parameters, clamped by `limit`: CUP / HVP, CUU, CUD, CUF, CUB, VPA, VPR, HPA,
      HPR, CHA, CNL, CPL, CHT, CBT, restore cursor (`CSI u`, `ESC 8`), IND, RI, NEL -/
  | clamp (c0 : Car) (p' : Par) (o : Out) (hp : ParStep st.p p') : Eff inv st (liftC ⟨st.s, st.c, p'⟩ (limit st.s c0) o)
  /-- line feed, a printed character, REP -/
  | grow (r : Res (Scr × Car)) (p' : Par) (o : Out) (hr : Grow st.s st.c r) (hp : ParStep st.p p') :
      Eff inv st (liftSC ⟨st.s, st.c, p'⟩ r o)
  /-- ED 2 / 3, form feed, RIS -/
  | clear (s' : Scr) (b : Bool) (p' : Par) (o : Out) (hs : Cleared st.s s') (hp : ParStep st.p p') :
      Eff inv st (ret ⟨s', ⟨0, 0, b⟩, p'⟩ o)
  /-- `CSI 8 ; h ; w t` -/
  | resize (w h : Int) (p' : Par) (ht : p'.tick = st.p.tick) (hb : p'.budget = st.p.budget) (hm : p'.mus = st.p.mus)
      (hr : p'.resized = true) :
      Eff inv st (ret ⟨{ st.s with tw := max (min w 132) 1, th := max (min h 60) 1, tabs := resetTabs (max (min w 132) 1),
                                   mtb := none, mlr := none }, st.c, p'⟩ .resize)
  /-- macro invocation (`CSI Pn * z`, and `ESC [ Pn * z` met inside a DCS string) that returned -/
  | call (id : Int) (p' : Par) (st' : St) (o : Out) (h : inv id ⟨st.s, st.c, p'⟩ = .ok st') (hp : ParStep st.p p') :
      Eff inv st (ret st' o)
  /-- … that panicked -/
  | callErr (id : Int) (p' : Par) (e : Panic) (h : inv id ⟨st.s, st.c, p'⟩ = .error e) (hp : ParStep st.p p') :
      Eff inv st (.error e)
  /-- ECH behind its index guard -/
  | ech (n : Int) (e : Panic) (h : EchPanics st.s st.c n) : Eff inv st (.error e)
  /-- IL, DL behind their index guard (with a parameter the path condition is `Pn > 0 ∧` this) -/
  | lineOp (e : Panic) (h : LineOpPanics st.s st.c.y) : Eff inv st (.error e)
  /-- the `i32` guard in front of every step -/
  | overflow (site : String) : Eff inv st (.error (.overflow site))

theorem Eff.ite {inv : Int → St → Res St} {st : St} {c : Prop} [Decidable c] {a b : R}
    (ha : c → Eff inv st a) (hb : ¬ c → Eff inv st b) : Eff inv st (if c then a else b) := iteInduction ha hb

/-! A leaf that `fun_cases` leaves of a dispatcher is literally an instance of a constructor of `Eff`; `eff` finds which.  The
side conditions are `rfl` (the arm does not write the field) or a constructor of `Retouch`, `Moved`, `Cleared`, `Grow`, `MusNext`.
Trap: `fun_cases` leaves a pair pattern `let (a, b) := f x` as an equation and a `let`-bound `match` as a local
definition; such an arm is treated by its number `caseN` = its position in source order. -/
macro "eff" : tactic => `(tactic| first
  | exact .upd _ _ _ _ (by constructor) (by constructor) ⟨rfl, rfl, rfl, by constructor⟩
  | exact .clamp _ _ _ ⟨rfl, rfl, rfl, .same⟩
  | exact .grow _ _ _ (by constructor) ⟨rfl, rfl, rfl, .same⟩
  | exact .clear _ _ _ _ (by constructor) ⟨rfl, rfl, rfl, .same⟩
  | exact .resize _ _ _ rfl rfl rfl rfl
  | exact .ech _ _ (by assumption)
  | exact .lineOp _ (by assumption)
  | exact .lineOp _ (And.right (by assumption)))

theorem csiFinal_eff (cfg : Cfg) (o : Orc) (inv : Int → St → Res St) (st : St) (isStart : Bool) (ch : Char) :
    Eff inv st (csiFinal cfg o st isStart ch) := by
  fun_cases csiFinal cfg o st isStart ch
  case case47 =>
    -- `J` with 2 or 3: the pattern `(s', c')` is `clearScreen s c`
    rename_i x; cases x; eff
  case case64 =>
    -- `r` with at most two parameters: the new screen is `let`-bound to a `match`, each arm of which sets the
    -- top/bottom margins
    rename_i s'
    have hs : Retouch st.s s' := by
      show Retouch st.s (match st.p.nums with
        | [a, b] => setMarginsTB st.s (a - 1) (b - 1)
        | [a] => setMarginsTB st.s 0 (a - 1)
        | _ => setMarginsTB st.s 0 st.s.th)
      split <;> constructor
    exact .upd _ _ _ _ hs (.home _) ⟨rfl, rfl, rfl, .same⟩
  all_goals eff

theorem escChar_eff (inv : Int → St → Res St) (st : St) (ch : Char) : Eff inv st (escChar st ch) := by
  fun_cases escChar st ch
  case case6 =>
    -- RIS: the pattern `(s1, _)` is `ff s c`
    rename_i x _; cases x; eff
  all_goals eff

/-- `dfltChar` also runs on `dflt st` (RIP state), hence for any parser fields `p'` that `st` may have got -/
theorem dfltChar_eff (cfg : Cfg) (inv : Int → St → Res St) (st : St) (ch : Char) (p' : Par) (hp : ParStep st.p p') :
    Eff inv st (dfltChar cfg ⟨st.s, st.c, p'⟩ ch) := by
  unfold dfltChar
  refine .ite (fun _ => .upd _ _ _ _ .same .same ⟨hp.tick, hp.budget, hp.resized, hp.mus⟩) fun _ => ?_
  refine .ite (fun _ => .grow _ _ _ .lf hp) fun _ => ?_
  refine .ite (fun _ => .clear _ _ _ _ .ff hp) fun _ => ?_
  refine .ite (fun _ => .upd _ _ _ _ .same .col0 hp) fun _ => ?_
  refine .ite (fun _ => .upd _ _ _ _ .same .same hp) fun _ => ?_
  refine .ite (fun _ => .upd _ _ _ _ .same .same hp) fun _ => ?_
  refine .ite (fun _ => .upd _ _ _ _ .same .back hp) fun _ => ?_
  exact .ite (fun _ => .upd _ _ _ _ .same .same hp) fun _ => .grow _ _ _ .print hp

/-- An arm that leaves the cursor alone, retouches the screen and resets the parser state or keeps it: every arm of the
    geometry-free control functions `csiCmd`, `csiReq`, `devAttr`, which the file-buffer parser (Model/TermFile) runs too. -/
inductive Upd (st : St) : R → Prop
  | mk (s' : Scr) (p' : Par) (o : Out) (hs : Retouch st.s s') (hp : ParStep st.p p') (hst : p'.st = .dflt ∨ p'.st = st.p.st) :
      Upd st (ret ⟨s', st.c, p'⟩ o)

theorem Upd.eff {inv : Int → St → Res St} {st : St} {r : R} (h : Upd st r) : Eff inv st r := by
  cases h with
  | mk s' p' o hs hp hst => exact .upd _ _ _ _ hs .same hp

theorem Upd.num {st st' : St} {ch : Char} (o : Out) (h : numChar st ch = some st') : Upd st (ret st' o) := by
  rcases numChar_cases st ch with e | ⟨n, e⟩ <;> rw [e] at h <;> cases h
  exact .mk _ _ _ .same ⟨rfl, rfl, rfl, .same⟩ (.inr rfl)

/-- `eff` for `Upd`: a digit or `;`, or a state written out with the parser state reset or kept -/
macro "upd" : tactic => `(tactic| first
  | exact .num _ (by assumption)
  | exact .mk _ _ _ (by constructor) ⟨rfl, rfl, rfl, .same⟩ (.inl rfl)
  | exact .mk _ _ _ (by constructor) ⟨rfl, rfl, rfl, .same⟩ (.inr rfl))

theorem csiCmd_upd (st : St) (ch : Char) : Upd st (csiCmd st ch) := by
  fun_cases csiCmd st ch
  all_goals upd

theorem setSpecificMargin_upd (st : St) : Upd st (setSpecificMargin st) := by
  fun_cases setSpecificMargin st
  all_goals upd

theorem csiReq_upd (st : St) (ch : Char) : Upd st (csiReq st ch) := by
  fun_cases csiReq st ch
  iterate 3 upd  -- `n` with one / another number of parameters, `r`
  · exact setSpecificMargin_upd st  -- `m`
  all_goals upd

theorem devAttr_upd (st : St) (ch : Char) : Upd st (devAttr st ch) := by
  fun_cases devAttr st ch
  all_goals upd

theorem endCsi_eff (o : Orc) (inv : Int → St → Res St) (st : St) (f ch : Char) : Eff inv st (endCsi o inv st f ch) := by
  fun_cases endCsi o inv st f ch
  -- the first two leaves are `* z`: the invoked macro returned / panicked
  · rename_i hh; exact .call _ _ _ _ hh ⟨rfl, rfl, rfl, .same⟩
  · rename_i hh; exact .callErr _ _ _ hh ⟨rfl, rfl, rfl, .same⟩
  all_goals eff

theorem executeDcs_parStep (p : Par) (o : Orc) :
    ParStep p (executeDcs p o).1 ∧ (executeDcs p o).1.st = p.st ∧ (executeDcs p o).1.mus = p.mus := by
  unfold executeDcs
  repeat' split
  all_goals exact ⟨⟨rfl, rfl, rfl, .same⟩, rfl, rfl⟩

/-- parser fields only (the framing of DCS / OSC / APS strings): screen and cursor as they were -/
theorem Eff.par {inv : Int → St → Res St} {st : St} (p' : Par) (o : Out) (ht : p'.tick = st.p.tick := by rfl)
    (hb : p'.budget = st.p.budget := by rfl) (hr : p'.resized = st.p.resized := by rfl) (hm : p'.mus = st.p.mus := by rfl) :
    Eff inv st (ret ⟨st.s, st.c, p'⟩ o) := .upd _ _ _ _ .same .same ⟨ht, hb, hr, hm ▸ .same⟩

theorem stepCore_eff (cfg : Cfg) (o : Orc) (inv : Int → St → Res St) (st : St) (ch : Char) :
    Eff inv st (stepCore cfg o inv st ch) := by
  unfold stepCore
  refine .ite (fun _ => .overflow _) fun _ => ?_
  split
  · exact .upd _ _ _ _ .same .same ⟨rfl, rfl, rfl, .tune _ _⟩
  · exact escChar_eff inv st ch
  · exact .ite (fun _ => .par _ _) fun _ => .par _ _
  · exact .ite (fun _ => .par _ _) fun _ => .par _ _
  · -- dcsMacro: digits, `[`, `*` each in their place, or the sequence is given up
    simp only []
    refine .ite (fun _ => .ite (fun _ => .par _ _) fun _ => .par _ _) fun _ => ?_
    refine .ite (fun _ => .ite (fun _ => .par _ _) fun _ => .par _ _) fun _ => ?_
    refine .ite (fun _ => .ite (fun _ => .par _ _) fun _ => .par _ _) fun _ => ?_
    refine .ite (fun _ => .ite (fun _ => .par _ _) fun _ => ?_) fun _ => .par _ _
    -- `z` with one parameter: the macro is invoked on the state with `mdcs` extended and the parser state `dcs`
    split
    · split
      · rename_i hh; exact .call _ _ _ _ hh ⟨rfl, rfl, rfl, .same⟩
      · rename_i hh; exact .callErr _ _ _ hh ⟨rfl, rfl, rfl, .same⟩
    · exact .par _ _
  · exact .ite (fun _ => .par _ _) fun _ => .par _ _
  · -- dcsEsc
    refine .ite (fun _ => ?_) fun _ => ?_
    · have hx := (executeDcs_parStep { st.p with st := .dflt } o).1
      generalize executeDcs { st.p with st := .dflt } o = r at hx
      obtain ⟨p, out⟩ := r
      exact .upd _ _ _ _ .same .same ⟨hx.tick, hx.budget, hx.resized, hx.mus⟩
    · exact .ite (fun _ => .par _ _) fun _ => .par _ _
  · exact .ite (fun _ => .par _ _) fun _ => .par _ _
  · exact .ite (fun _ => .par _ _) fun _ => .par _ _
  · exact (csiCmd_upd st ch).eff
  · exact (csiReq_upd st ch).eff
  · -- rip: soft reset, or the character is parsed again in the default state
    exact .ite (fun _ => .upd _ _ _ _ .reset (.home _) ⟨rfl, rfl, rfl, .same⟩) fun _ =>
      dfltChar_eff cfg inv st ch _ ⟨rfl, rfl, rfl, .same⟩
  · exact (devAttr_upd st ch).eff
  · exact endCsi_eff o inv st _ ch
  · exact csiFinal_eff cfg o inv st _ ch
  · exact dfltChar_eff cfg inv st ch st.p ⟨rfl, rfl, rfl, .same⟩

/-- `CurOk` and `InScr` only look at the sizes -/
theorem good_scr (st : St) (s' : Scr) (p' : Par) (h : GoodSt st) (hk : ScrOk s') (h1 : s'.bh = st.s.bh) (h2 : s'.th = st.s.th)
    (h3 : s'.tw = st.s.tw) (hr : p'.resized = st.p.resized) : GoodSt { s := s', c := st.c, p := p' } := by
  obtain ⟨_, g2, g3⟩ := h
  refine ⟨hk, ?_, ?_⟩
  · unfold CurOk at *; rw [h1]; exact g2
  · unfold InScr at *; rw [fv_congr st.s s' h1 h2, h1, h2, h3, hr]; exact g3

theorem good_keep (st : St) (p' : Par) (h : GoodSt st) (hr : p'.resized = st.p.resized) :
    GoodSt { s := st.s, c := st.c, p := p' } := good_scr st st.s p' h h.1 rfl rfl rfl hr

theorem liftSC_good (st d : St) (r : Res (Scr × Car)) (o : Out) (h : GoodSt st) (hr : d.p.resized = st.p.resized)
    (hspec : Holds IsOv r (fun r => ScrStep st.s r.1 ∧ CurOk r.1 r.2 ∧ (InScr st.s st.c → InScr r.1 r.2))) :
    Holds IsOv (liftSC d r o) GoodR := by
  obtain ⟨g1, g2, g3⟩ := h
  cases r with
  | error e => exact hspec
  | ok p =>
    obtain ⟨s', c'⟩ := p
    obtain ⟨⟨e1, e2⟩, k2, k3⟩ := hspec
    simp only at e1 e2 k2 k3
    simp only [liftSC, ret, Holds.ok, GoodR, GoodSt, hr]
    refine ⟨?_, k2, fun hh => k3 (g3 hh)⟩
    rw [e1]; exact scrOk_bh _ _ g1 (by have := g1.bh0; omega)

theorem Grow.step {s : Scr} {c : Car} {r : Res (Scr × Car)} (h : Grow s c r) (hk : ScrOk s) (hc : CurOk s c)
    (hb : s.bh ≤ 1073741854) : Holds IsOv r (fun r => ScrStep s r.1 ∧ CurOk r.1 r.2 ∧ (InScr s c → InScr r.1 r.2)) := by
  cases h with
  | lf =>
    refine Holds.of_noErr (Holds.mono (lf_spec s c hk hc.2.2.1 hc.2.2.2 (by omega)) ?_)
    exact fun r ⟨h1, _, h4, _, h6⟩ => ⟨h1, h4, fun hi => h6 ⟨hi.1, hi.2.2.1, hi.2.2.2⟩⟩
  | print =>
    refine Holds.of_noErr (Holds.mono (printChar_spec s c hk hc (by omega)) ?_)
    exact fun r ⟨h1, _, h4, _, h6⟩ => ⟨h1, h4, h6⟩
  | rep n => exact Holds.mono (printN_spec n s c hk hc) fun r ⟨h1, h2, _, h4⟩ => ⟨h1, h2, h4⟩

theorem good_cur (st : St) (c' : Car) (h : GoodSt st) (hy : c'.y = st.c.y) (h0 : 0 ≤ c'.x) (h1 : c'.x ≤ 132)
    (h2 : c'.x < st.s.tw ∨ c'.x ≤ st.c.x) : GoodSt { s := st.s, c := c', p := st.p } := by
  obtain ⟨g1, ⟨c0, c1, c2, c3⟩, g3⟩ := h
  refine ⟨g1, ⟨h0, h1, by rw [hy]; exact c2, by rw [hy]; exact c3⟩, fun hh => ?_⟩
  obtain ⟨i1, i2, i3, i4⟩ := g3 hh
  exact ⟨i1, (by show c'.x < st.s.tw; omega), by rw [hy]; exact i3, by rw [hy]; exact i4⟩

theorem good_clear (s' : Scr) (p' : Par) (b : Bool) (hk : ScrOk s') (h1 : s'.bh = s'.th) :
    GoodSt { s := s', c := { x := 0, y := 0, ins := b }, p := p' } := by
  have := hk.tw1; have := hk.th1; have := hk.th2
  refine ⟨hk, ?_, fun _ => ?_⟩
  · simp only [CurOk]; omega
  · simp only [InScr, Scr.fv, satSub, sat, h1]; omega

/-- CSI 8;h;w t: afterwards only the weak invariant is claimed (`resized` is set) -/
theorem good_resize (st : St) (p' : Par) (w h' : Int) (h : GoodSt st) (hr : p'.resized = true) :
    GoodSt { s := { st.s with tw := max (min w 132) 1, th := max (min h' 60) 1, tabs := resetTabs (max (min w 132) 1), mtb := none, mlr := none },
             c := st.c, p := p' } := by
  obtain ⟨g1, g2, g3⟩ := h
  refine ⟨⟨by simp only; omega, by simp only; omega, by simp only; omega, by simp only; omega, g1.bh0,
    fun _ _ hh => (nomatch hh), fun _ _ hh => (nomatch hh)⟩, g2, fun hh => ?_⟩
  rw [hr] at hh; cases hh

theorem good_moved (st : St) (c' : Car) (h : GoodSt st) (hb : st.s.bh ≤ 1073741854) (hc : Moved st.c st.s c') :
    GoodSt { s := st.s, c := c', p := st.p } := by
  have := h.1.tw1; have := h.1.tw2; have := h.2.1.1; have := h.2.1.2.1
  cases hc with
  | same => exact h
  | col0 => exact good_cur st _ h rfl (Int.le_refl 0) (by simp only; omega) (.inl (by simp only; omega))
  | eol => exact good_cur st _ h rfl (by simp only; omega) (by simp only; omega) (.inl (by simp only; omega))
  | back => exact good_cur st _ h rfl (by simp only; omega) (by simp only; omega) (.inr (by simp only; omega))
  | fwd => exact good_cur st _ h rfl (by simp only; omega) (by simp only; omega) (.inl (by simp only; omega))
  | ins b => exact good_cur st _ h rfl (by assumption) (by assumption) (.inr (Int.le_refl _))
  | home b =>
    obtain ⟨g1, ⟨c0, c1, c2, c3⟩, g3⟩ := h
    have := g1.th1; have := g1.th2; have := g1.bh0
    have hfv := fv_eq st.s g1 (by omega)
    refine ⟨g1, ?_, fun hh => ?_⟩
    · simp only [CurOk]; omega
    · obtain ⟨i1, i2, i3, i4⟩ := g3 hh
      simp only [InScr]; omega

/-- the invoker's guarantee is asked only where an arm calls it: on `st` with other parser fields -/
theorem Eff.good {inv : Int → St → Res St} {st : St} {r : R} (h : Eff inv st r)
    (hinv : ∀ id p', ParStep st.p p' → Holds IsOv (inv id ⟨st.s, st.c, p'⟩) GoodSt) (hg : GoodSt st)
    (hb : st.s.bh ≤ 1073741854) : Holds IsOv r GoodR := by
  cases h with
  | upd s' c' p' o hs hc hp =>
    have hd := hs.dims
    exact good_moved ⟨s', st.c, p'⟩ c' (good_scr st s' p' hg (hs.scrOk hg.scr) hd.1 hd.2.1 hd.2.2 hp.resized)
      (by rw [hd.1]; exact hb) hc
  | clamp c0 p' o hp =>
    -- whatever the cursor was, `limit` puts it on the screen
    obtain ⟨c', he, hl⟩ := (limit_full st.s c0 hg.scr (by omega)).isOk
    rw [he]
    exact ⟨hg.scr, hl.1, fun hh => hl.2.2 (hg.inScr (hp.resized ▸ hh)).1⟩
  | grow r p' o hr hp => exact liftSC_good st _ r o hg hp.resized (hr.step hg.scr hg.cur hb)
  | clear s' b p' o hs hp => exact good_clear s' p' b (hs.scrOk hg.scr) hs.dims.1
  | resize w h p' ht hb' hm hr => exact good_resize st p' w h hg hr
  | call id p' _ _ h hp | callErr id p' _ h hp =>
    have := hinv id p' hp
    rw [h] at this; exact this
  | ech n e h => exact (not_echPanics _ _ n hg.cur.1 h).elim
  | lineOp e h => exact (not_lineOpPanics _ _ hg.scr.mtb hg.cur.2.2.1 h).elim
  | overflow site => exact ⟨site, rfl⟩

/-- An invariant of the ANSI machine up to the panics `E`: every kind of arm keeps it if the macro invoker does; from it the
    macro machinery and the wrappers are gone through once.  A relation to an earlier state is the invariant `Rel st0` (`rel_inv`). -/
structure StepInv (E : Panic → Prop) (P : St → Prop) : Prop where
  counters : ∀ st t b, P st → P { st with p := { st.p with tick := t, budget := b } }
  ov : ∀ site, E (.overflow site)
  arm : ∀ {inv st r}, Eff inv st r → RangeOk st.s st.c → (∀ id d, P d → Holds E (inv id d) P) → P st →
    Holds E r (fun r => P r.1)

section
variable {E : Panic → Prop} {P : St → Prop}

theorem stepCore_holds (hP : StepInv E P) (cfg : Cfg) (o : Orc) (inv : Int → St → Res St) (st : St) (ch : Char)
    (hinv : ∀ id d, P d → Holds E (inv id d) P) (h : P st) : Holds E (stepCore cfg o inv st ch) (fun r => P r.1) := by
  by_cases hr : RangeOk st.s st.c
  · exact hP.arm (stepCore_eff cfg o inv st ch) hr hinv h
  · unfold stepCore
    rw [if_pos fun hh => hr hh.1]
    exact hP.ov _

theorem replay_holds (hP : StepInv E P) (stepf : St → Char → R)
    (hstep : ∀ st ch, P st → Holds E (stepf st ch) (fun r => P r.1)) :
    ∀ (body : List Char) (st : St), P st → Holds E (replay stepf body st) P := by
  intro body
  induction body with
  | nil => intro st h; exact h
  | cons ch rest ih =>
    intro st h
    unfold replay
    refine .ite (fun _ => h) fun _ => ?_
    have h2 := hstep _ ch (hP.counters st st.p.tick (st.p.budget - 1) h)
    simp only []
    generalize stepf { st with p := { st.p with budget := st.p.budget - 1 } } ch = x at h2 ⊢
    rcases x with e | ⟨st', out⟩
    · exact h2
    · exact ih st' h2

theorem invoker_holds (hP : StepInv E P) (stepf : St → Char → R) (top : Bool)
    (hstep : ∀ st ch, P st → Holds E (stepf st ch) (fun r => P r.1)) (id : Int) (st : St) (h : P st) :
    Holds E (invoker stepf top id st) P := by
  unfold invoker
  split
  · exact h
  · refine replay_holds hP stepf hstep _ _ ?_
    split
    · exact hP.counters st st.p.tick _ h
    · exact h

theorem stepD_holds (hP : StepInv E P) : ∀ (d : Nat) (cfg : Cfg) (o : Nat → Orc) (st : St) (ch : Char),
    P st → Holds E (stepD d cfg o st ch) (fun r => P r.1) := by
  intro d
  induction d with
  | zero =>
    intro cfg o st ch h
    unfold stepD
    exact stepCore_holds hP cfg _ _ _ ch (fun _ _ hd => hd) (hP.counters st _ st.p.budget h)
  | succ d ih =>
    intro cfg o st ch h
    unfold stepD
    exact stepCore_holds hP cfg _ _ _ ch (invoker_holds hP _ _ fun st ch hs => ih cfg o st ch hs)
      (hP.counters st _ st.p.budget h)

theorem step_holds (hP : StepInv E P) (cfg : Cfg) (o : Nat → Orc) (st : St) (ch : Char) (h : P st) :
    Holds E (step cfg o st ch) (fun r => P r.1) := stepD_holds hP _ cfg o st ch h

theorem run_holds (hP : StepInv E P) (cfg : Cfg) (o : Nat → Orc) : ∀ (cs : List Char) (st : St), P st →
    Holds E (run cfg o st cs) P := by
  intro cs
  induction cs with
  | nil => intro st h; exact h
  | cons ch rest ih =>
    intro st h
    unfold run
    have h2 := step_holds hP cfg o st ch h
    generalize step cfg o st ch = x at h2 ⊢
    rcases x with e | ⟨st', out⟩
    · exact h2
    · exact ih st' h2
end

theorem goodSt_inv : StepInv IsOv GoodSt where
  counters st _ _ h := good_keep st _ h rfl
  ov site := ⟨site, rfl⟩
  arm {_ st _} h hr hinv hg := h.good (fun id p' hp => hinv id _ (good_keep st p' hg hp.resized)) hg (rangeOk_bh _ _ hg.scr hr)

theorem step_good (cfg : Cfg) (o : Nat → Orc) (st : St) (ch : Char) (h : GoodSt st) :
    Holds IsOv (step cfg o st ch) GoodR := step_holds goodSt_inv cfg o st ch h

theorem run_good (cfg : Cfg) (o : Nat → Orc) : ∀ (cs : List Char) (st : St), GoodSt st → okOrOv (run cfg o st cs) GoodSt :=
  fun cs st h => okOrOv_iff.2 (run_holds goodSt_inv cfg o cs st h)

theorem initSt_good (w h : Int) (hw1 : 1 ≤ w) (hw2 : w ≤ 132) (hh1 : 1 ≤ h) (hh2 : h ≤ 60) : GoodSt (initSt w h) :=
  good_clear _ _ _ ⟨hw1, hw2, hh1, hh2, hh1, fun _ _ hh => (nomatch hh), fun _ _ hh => (nomatch hh)⟩ rfl

theorem run_reach (w h : Int) (hw1 : 1 ≤ w) (hw2 : w ≤ 132) (hh1 : 1 ≤ h) (hh2 : h ≤ 60) (cfg : Cfg) (o : Nat → Orc)
    (bytes : List Char) (st : St) (hrun : run cfg o (initSt w h) bytes = .ok st) : GoodSt st :=
  Holds.val (run_holds goodSt_inv cfg o bytes (initSt w h) (initSt_good w h hw1 hw2 hh1 hh2)) hrun

/-- what a step leaves alone: tick and budget; the music fields, up to `MusNext`; the terminal size, unless it sets
    `resized`; the buffer width, unless it sets it to the terminal width -/
structure Frame (st x : St) : Prop where
  tick : x.p.tick = st.p.tick
  budget : x.p.budget = st.p.budget
  mus : MusNext st.p.mus x.p.mus
  size : x.p.resized = true ∨ (x.p.resized = st.p.resized ∧ x.s.tw = st.s.tw ∧ x.s.th = st.s.th)
  bw : x.s.bw = st.s.bw ∨ x.s.bw = st.s.tw

theorem ParStep.frame {st : St} {s' : Scr} {c' : Car} {p' : Par} (hp : ParStep st.p p') (htw : s'.tw = st.s.tw)
    (hth : s'.th = st.s.th) (hbw : s'.bw = st.s.bw ∨ s'.bw = st.s.tw) : Frame st ⟨s', c', p'⟩ :=
  ⟨hp.tick, hp.budget, hp.mus, .inr ⟨hp.resized, htw, hth⟩, hbw⟩

theorem Retouch.bw {s s' : Scr} (h : Retouch s s') : s'.bw = s.bw := by cases h <;> rfl
theorem Cleared.bw {s s' : Scr} (h : Cleared s s') : s'.bw = s.tw := by cases h <;> rfl

theorem Grow.onlyBh {s : Scr} {c : Car} {r : Res (Scr × Car)} (h : Grow s c r) : OnlyBh s r := by
  cases h with
  | lf => exact lf_onlyBh s c
  | print => exact printChar_onlyBh s c
  | rep n => exact printN_onlyBh n s c

theorem Eff.frame {inv : Int → St → Res St} {st : St} {r : R} (h : Eff inv st r) :
    Holds AnyErr r (fun r => Frame st r.1 ∨ ∃ id p', ParStep st.p p' ∧ inv id ⟨st.s, st.c, p'⟩ = .ok r.1) := by
  cases h with
  | upd s' c' p' o hs hc hp => exact .inl (hp.frame hs.dims.2.2 hs.dims.2.1 (.inl hs.bw))
  | clamp c0 p' o hp =>
    cases limit st.s c0 with
    | ok c => exact .inl (hp.frame rfl rfl (.inl rfl))
    | error e => trivial
  | grow r p' o hr hp =>
    have hk := hr.onlyBh
    rcases r with e | ⟨s', c'⟩
    · trivial
    · have hk' : s' = { st.s with bh := s'.bh } := hk
      refine .inl ?_
      show Frame st ⟨s', c', p'⟩
      rw [hk']; exact hp.frame rfl rfl (.inl rfl)
  | clear s' b p' o hs hp => exact .inl (hp.frame hs.dims.2.2 hs.dims.2.1 (.inr hs.bw))
  | resize w h p' ht hb hm hr => exact .inl ⟨ht, hb, hm ▸ .same, .inl hr, .inl rfl⟩
  | call id p' st' o h hp => exact .inr ⟨id, p', hp, h⟩
  | callErr | ech | lineOp | overflow => trivial

theorem rel_inv {Rel : St → St → Prop} (trans : ∀ {a b c}, Rel a b → Rel b c → Rel a c)
    (hf : ∀ {st x}, Frame st x → Rel st x) (hc : ∀ st t b, Rel st { st with p := { st.p with tick := t, budget := b } })
    (st0 : St) : StepInv AnyErr (Rel st0) where
  counters st t b h := trans h (hc st t b)
  ov _ := trivial
  arm {_ st _} he _ hinv h := by
    refine he.frame.mono fun r hr => ?_
    rcases hr with f | ⟨id, p', hp, hi⟩
    · exact trans h (hf f)
    · exact (hinv id _ (trans h (hf (hp.frame rfl rfl (.inl rfl))))).val hi

end IcyVerif.Term
