import IcyVerif.Lemmas.UndoHistory
/-! # C08: how the layer primitives (`get_char`, `set_char`, `restore_char`, `swap_char`, `set_offset`) act on the observation
(`LayerM.obs`), with their cancellation laws; facts about the row storage (`growTo`, `rowsGet`) -/
namespace IcyVerif.Undo

theorem getD_replicate_invisible (w x : Nat) : (List.replicate w Cell.invisible).getD x Cell.invisible = Cell.invisible := by
  simp only [List.getD_eq_getElem?_getD, List.getElem?_replicate]
  split <;> rfl

theorem rowsGet_growTo_rows (ls : List Row) (n w : Nat) (x y : Nat) :
    rowsGet (growTo ls n (List.replicate w Cell.invisible)) x y = rowsGet ls x y := by
  unfold rowsGet growTo
  by_cases hy : y < ls.length
  · rw [show (ls ++ List.replicate (n - ls.length) (List.replicate w Cell.invisible)).getD y [] = ls.getD y [] by
      simp only [List.getD_eq_getElem?_getD, List.getElem?_append_left hy]]
  · -- beyond the rows of `ls`: a padding row or none at all reads `invisible` everywhere, and so does `ls` there
    have hy' : ls.length ≤ y := Nat.le_of_not_lt hy
    have h1 : ls.getD y [] = [] := by
      simp only [List.getD_eq_getElem?_getD, List.getElem?_eq_none hy']
      rfl
    have h2 : (ls ++ List.replicate (n - ls.length) (List.replicate w Cell.invisible)).getD y [] = List.replicate w Cell.invisible ∨
        (ls ++ List.replicate (n - ls.length) (List.replicate w Cell.invisible)).getD y [] = [] := by
      simp only [List.getD_eq_getElem?_getD, List.getElem?_append_right hy', List.getElem?_replicate]
      split
      · exact .inl rfl
      · exact .inr rfl
    rw [h1]
    rcases h2 with h | h <;> rw [h]
    · exact getD_replicate_invisible w x

theorem rowsGet_growTo (ls : List Row) (n : Nat) : rowsGet (growTo ls n []) = rowsGet ls :=
  funext fun x => funext fun y => by simpa using rowsGet_growTo_rows ls n 0 x y

theorem getD_setCell (r : Row) (x : Nat) (c : Cell) (x' : Nat) :
    (r.setCell x c).getD x' Cell.invisible = if x' = x then c else r.getD x' Cell.invisible := by
  simp only [Row.setCell, growTo, List.getD_eq_getElem?_getD, List.getElem?_set, List.getElem?_append, List.getElem?_replicate,
    List.length_append, List.length_replicate]
  by_cases h : x = x'
  · subst h
    have : x < List.length r + (x + 1 - List.length r) := by omega
    simp [this]
  · have h' : ¬ x' = x := fun hh => h hh.symm
    simp only [h, h', if_false]
    split
    · rfl
    · rename_i h3
      have : r[x']? = none := List.getElem?_eq_none (by omega)
      rw [this]
      split <;> simp

theorem rowsGet_set (ls : List Row) (y : Nat) (r : Row) (x' y' : Nat) (hy : y < ls.length) :
    rowsGet (ls.set y r) x' y' = if y' = y then r.getD x' Cell.invisible else rowsGet ls x' y' := by
  simp only [rowsGet, List.getD_eq_getElem?_getD, List.getElem?_set]
  by_cases h : y = y'
  · subst h; simp [hy]
  · have h' : ¬ y' = y := fun hh => h hh.symm
    simp [h, h']

/-! The layer primitives once more, on observations; the `*_obs` lemmas tie them to `LayerM.getChar`, `setChar`, `restoreChar`. -/
abbrev LObs.w (a : LObs) : Int := a.1
abbrev LObs.h (a : LObs) : Int := a.2.1
def LObs.cells (a : LObs) : Nat → Nat → Cell := a.2.2.2
def LObs.props (a : LObs) : Props := a.2.2.1
def LObs.inside (a : LObs) (x y : Int) : Bool := 0 ≤ x && 0 ≤ y && x < a.1 && y < a.2.1
def LObs.getChar (a : LObs) (x y : Int) : Cell := if a.inside x y then a.cells x.toNat y.toNat else Cell.invisible
def LObs.writes (a : LObs) (x y : Int) : Bool :=
  a.inside x y && !(a.props.locked || !a.props.visible) &&
    !(a.props.hasAlpha && a.props.alphaLocked && !(a.cells x.toNat y.toNat).isVisible)
/-- `c` written at `(x, y)` if `b`: what `set_char` (`b`: the layer takes the write) and `restore_char` (`b`: the position
    is inside) have in common -/
def LObs.put (a : LObs) (b : Bool) (x y : Int) (c : Cell) : LObs :=
  (a.1, a.2.1, a.2.2.1, fun x' y' => if b = true ∧ x' = x.toNat ∧ y' = y.toNat then c else a.cells x' y')

def LObs.setChar (a : LObs) (x y : Int) (c : Cell) : LObs := a.put (a.writes x y) x y c

theorem LObs.put_false (a : LObs) (x y : Int) (c : Cell) : a.put false x y c = a := by
  obtain ⟨w, h, p, cells⟩ := a
  simp [LObs.put, LObs.cells]

theorem getChar_obs (l : LayerM) (x y : Int) : l.getChar x y = l.obs.getChar x y := rfl

theorem write_obs (l : LayerM) (x y : Nat) (c : Cell) (w : Nat) :
    ({ l with lines := ((growTo l.lines (y + 1) (List.replicate w Cell.invisible)).set y
        (((growTo l.lines (y + 1) (List.replicate w Cell.invisible)).getD y []).setCell x c)) } : LayerM).obs =
      (l.w, l.h, l.props, fun x' y' => if x' = x ∧ y' = y then c else rowsGet l.lines x' y') := by
  have hy : y < (growTo l.lines (y + 1) (List.replicate w Cell.invisible)).length := by
    simp [growTo]; omega
  simp only [LayerM.obs]
  congr 3
  funext x' y'
  rw [rowsGet_set _ _ _ _ _ hy, getD_setCell]
  by_cases hy' : y' = y
  · subst hy'
    by_cases hx' : x' = x
    · simp [hx']
    · simp only [hx', if_false, if_true, false_and]
      exact rowsGet_growTo_rows _ _ _ _ _
  · simp only [hy', if_false, and_false]
    exact rowsGet_growTo_rows _ _ _ _ _

theorem setChar_obs (l : LayerM) (x y : Int) (c : Cell) : (l.setChar x y c).obs = l.obs.setChar x y c := by
  have hin : l.obs.inside x y = l.inside x y := rfl
  have hpr : l.obs.props = l.props := rfl
  have hce : l.obs.cells = rowsGet l.lines := rfl
  have key : l.obs.writes x y = false → l.obs.setChar x y c = l.obs := by
    intro hb
    unfold LObs.setChar
    rw [hb, LObs.put_false]
  unfold LayerM.setChar
  split
  · rename_i h1
    rw [key (by simp [LObs.writes, hin]; intro h; simp [h] at h1)]
  · rename_i h1
    have h1' : l.inside x y = true := by simpa using h1
    split
    · rename_i h2
      rw [key (by simp only [LObs.writes, hin, hpr, h1', h2]; simp)]
    · rename_i h2
      have h2' : (l.props.locked || !l.props.visible) = false := by simpa using h2
      simp only []
      split
      · rename_i h3
        rw [rowsGet_growTo_rows] at h3
        rw [key (by simp only [LObs.writes, hin, hpr, hce, h1', h2', h3]; simp)]
        show (l.w, l.h, l.props, rowsGet (growTo l.lines (y.toNat + 1) (List.replicate l.w.toNat Cell.invisible))) = (l.w, l.h, l.props, rowsGet l.lines)
        congr 3
        funext x' y'
        exact rowsGet_growTo_rows _ _ _ _ _
      · rename_i h3
        rw [rowsGet_growTo_rows] at h3
        have h3' : (l.props.hasAlpha && l.props.alphaLocked && !(rowsGet l.lines x.toNat y.toNat).isVisible) = false := by simpa using h3
        have : l.obs.writes x y = true := by
          simp only [LObs.writes, hin, hpr, hce, h1', h2', h3']; simp
        rw [write_obs]
        simp only [LObs.setChar, LObs.put, this, true_and]
        rfl

/-- `a.put (a.inside x y) x y c` (`restoreChar_eq_put`) -/
def LObs.restoreChar (a : LObs) (x y : Int) (c : Cell) : LObs :=
  (a.1, a.2.1, a.2.2.1, fun x' y' => if a.inside x y ∧ x' = x.toNat ∧ y' = y.toNat then c else a.cells x' y')

theorem LObs.restoreChar_eq_put (a : LObs) (x y : Int) (c : Cell) : a.restoreChar x y c = a.put (a.inside x y) x y c := rfl

theorem LObs.writes_inside {a : LObs} {x y : Int} (h : a.writes x y = true) : a.inside x y = true := by
  simp only [LObs.writes, Bool.and_eq_true] at h
  exact h.1.1

theorem LObs.put_put (a : LObs) (b b' : Bool) (x y : Int) (c v : Cell) (h : b = true → b' = true) :
    (a.put b x y c).put b' x y v = a.put b' x y v := by
  show (a.1, a.2.1, a.2.2.1, _) = (a.1, a.2.1, a.2.2.1, _)
  congr 3
  funext x' y'
  by_cases hc : b' = true ∧ x' = x.toNat ∧ y' = y.toNat
  · rw [if_pos hc, if_pos hc]
  · rw [if_neg hc, if_neg hc]
    show (if b = true ∧ x' = x.toNat ∧ y' = y.toNat then c else a.cells x' y') = _
    rw [if_neg fun hb => hc ⟨h hb.1, hb.2⟩]

theorem LObs.put_self (a : LObs) (b : Bool) (x y : Int) : a.put b x y (a.cells x.toNat y.toNat) = a := by
  obtain ⟨w, h, p, cells⟩ := a
  show (w, h, p, _) = (w, h, p, cells)
  congr 3
  funext x' y'
  split
  · rename_i hc; rw [hc.2.1, hc.2.2]; rfl
  · rfl

theorem restoreChar_obs (l : LayerM) (x y : Int) (c : Cell) : (l.restoreChar x y c).obs = l.obs.restoreChar x y c := by
  have hin : l.obs.inside x y = l.inside x y := rfl
  unfold LayerM.restoreChar LObs.restoreChar
  rw [hin]
  split
  · rename_i h1
    have : l.inside x y = false := by simpa using h1
    simp [this, LayerM.obs, LObs.cells]
  · rename_i h1
    have h1' : l.inside x y = true := by simpa using h1
    simp only [write_obs, h1', true_and]
    rfl

theorem length_growTo {α : Type} (l : List α) (n : Nat) (a : α) : n ≤ (growTo l n a).length := by
  simp [growTo]; omega

theorem rowsGet_beyond (ls : List Row) (x y : Nat) (h : ls.length ≤ y) : rowsGet ls x y = Cell.invisible := by
  simp [rowsGet, List.getD_eq_getElem?_getD, List.getElem?_eq_none h]

theorem getD_beyond (r : Row) (x : Nat) (h : r.length ≤ x) : r.getD x Cell.invisible = Cell.invisible := by
  simp [List.getD_eq_getElem?_getD, List.getElem?_eq_none h]

theorem getD_growTo_inv (r : Row) (n x : Nat) : (growTo r n Cell.invisible).getD x Cell.invisible = r.getD x Cell.invisible := by
  simp only [growTo, List.getD_eq_getElem?_getD, List.getElem?_append, List.getElem?_replicate]
  split
  · rfl
  · rename_i h
    have : r[x]? = none := List.getElem?_eq_none (by omega)
    rw [this]
    split <;> simp

theorem LObs.restore_self (a : LObs) (x y : Int) : a.restoreChar x y (a.getChar x y) = a := by
  rw [LObs.restoreChar_eq_put, LObs.getChar]
  cases a.inside x y
  · exact a.put_false x y _
  · exact a.put_self true x y

theorem LObs.restore_absorbs_set (a : LObs) (x y : Int) (c v : Cell) : (a.setChar x y c).restoreChar x y v = a.restoreChar x y v :=
  a.put_put _ _ x y c v LObs.writes_inside

theorem LObs.restore_idem (b : LObs) (x y : Int) (v : Cell) : (b.restoreChar x y v).restoreChar x y v = b.restoreChar x y v :=
  b.put_put _ _ x y v v id

theorem LObs.restore_setChar (a : LObs) (x y : Int) (old new : Cell) (hold : old = a.getChar x y) :
    (a.setChar x y new).restoreChar x y old = a := by
  rw [LObs.restore_absorbs_set, hold, LObs.restore_self]

theorem LObs.getChar_setChar_ne (a : LObs) (X Y x y : Int) (c : Cell) (hne : x ≠ X) : (a.setChar X Y c).getChar x y = a.getChar x y := by
  have hin : (a.setChar X Y c).inside x y = a.inside x y := rfl
  unfold LObs.getChar
  rw [hin]
  by_cases hi : a.inside x y = true
  · simp only [hi, if_true]
    show (if a.writes X Y = true ∧ x.toNat = X.toNat ∧ y.toNat = Y.toNat then c else a.cells x.toNat y.toNat) = _
    have : ¬ (a.writes X Y = true ∧ x.toNat = X.toNat ∧ y.toNat = Y.toNat) := by
      rintro ⟨hw, hx, _⟩
      have hI := LObs.writes_inside hw
      simp only [LObs.inside, Bool.and_eq_true, decide_eq_true_eq] at hi hI
      omega
    rw [if_neg this]
  · simp [hi]

def LObs.swapChar (a : LObs) (x1 y1 x2 y2 : Int) : LObs :=
  if !a.inside x1 y1 || !a.inside x2 y2 then a
  else if a.props.hasAlpha && a.props.alphaLocked && !((a.getChar x1 y1).isVisible && (a.getChar x2 y2).isVisible) then a
  else (a.setChar x1 y1 (a.getChar x2 y2)).setChar x2 y2 (a.getChar x1 y1)

theorem swapChar_obs (l : LayerM) (x1 y1 x2 y2 : Int) : (l.swapChar x1 y1 x2 y2).obs = l.obs.swapChar x1 y1 x2 y2 := by
  have e : l.obs.swapChar x1 y1 x2 y2 =
      if (!l.inside x1 y1 || !l.inside x2 y2) = true then l.obs
      else if (l.props.hasAlpha && l.props.alphaLocked && !((l.getChar x1 y1).isVisible && (l.getChar x2 y2).isVisible)) = true then l.obs
      else (l.obs.setChar x1 y1 (l.obs.getChar x2 y2)).setChar x2 y2 (l.obs.getChar x1 y1) := rfl
  rw [e]
  unfold LayerM.swapChar
  split
  · rfl
  · split
    · rfl
    · simp only [setChar_obs, getChar_obs]

/-- the cells with those at `p1` and `p2` exchanged, if `W` (the layer takes writes) -/
def swapCells (W : Bool) (p1 p2 : Nat × Nat) (c : Nat → Nat → Cell) : Nat → Nat → Cell := fun x y =>
  if W = true ∧ x = p2.1 ∧ y = p2.2 then c p1.1 p1.2
  else if W = true ∧ x = p1.1 ∧ y = p1.2 then c p2.1 p2.2
  else c x y

theorem swapCells_swapCells (W : Bool) (p1 p2 : Nat × Nat) (c : Nat → Nat → Cell) :
    swapCells W p1 p2 (swapCells W p1 p2 c) = c := by
  obtain ⟨a1, b1⟩ := p1
  obtain ⟨a2, b2⟩ := p2
  funext x y
  simp only [swapCells]
  cases W
  · simp
  · by_cases q2 : x = a2 ∧ y = b2
    · obtain ⟨rfl, rfl⟩ := q2
      by_cases q12 : a1 = x ∧ b1 = y <;> simp [q12]
    · by_cases q1 : x = a1 ∧ y = b1
      · obtain ⟨rfl, rfl⟩ := q1
        simp [q2]
      · simp [q1, q2]

/-- after the exchange the two cells are the old ones the other way round (or the same ones) -/
theorem swapCells_sym (W : Bool) (p1 p2 : Nat × Nat) (c : Nat → Nat → Cell) (f : Cell → Cell → Bool) (hf : ∀ u v, f u v = f v u) :
    f (swapCells W p1 p2 c p1.1 p1.2) (swapCells W p1 p2 c p2.1 p2.2) = f (c p1.1 p1.2) (c p2.1 p2.2) := by
  obtain ⟨a1, b1⟩ := p1
  obtain ⟨a2, b2⟩ := p2
  simp only [swapCells]
  cases W
  · simp
  · by_cases q : a1 = a2 ∧ b1 = b2
    · obtain ⟨rfl, rfl⟩ := q
      simp
    · simp [q]
      exact hf _ _
theorem LObs.swapChar_eq (a : LObs) (x1 y1 x2 y2 : Int) (i1 : a.inside x1 y1 = true) (i2 : a.inside x2 y2 = true)
    (hg : (a.props.hasAlpha && a.props.alphaLocked &&
      !((a.cells x1.toNat y1.toNat).isVisible && (a.cells x2.toNat y2.toNat).isVisible)) = false) :
    a.swapChar x1 y1 x2 y2 = (a.1, a.2.1, a.2.2.1,
      swapCells (!(a.props.locked || !a.props.visible)) (x1.toNat, y1.toNat) (x2.toNat, y2.toNat) a.cells) := by
  have g1 : a.getChar x1 y1 = a.cells x1.toNat y1.toNat := by simp [LObs.getChar, i1]
  have g2 : a.getChar x2 y2 = a.cells x2.toNat y2.toNat := by simp [LObs.getChar, i2]
  have w1 : a.writes x1 y1 = !(a.props.locked || !a.props.visible) := by
    unfold LObs.writes
    rw [i1]
    revert hg
    cases a.props.hasAlpha <;> cases a.props.alphaLocked <;> cases (a.cells x1.toNat y1.toNat).isVisible <;> simp
  have w2 : (a.setChar x1 y1 (a.cells x2.toNat y2.toNat)).writes x2 y2 = !(a.props.locked || !a.props.visible) := by
    have hc : (a.setChar x1 y1 (a.cells x2.toNat y2.toNat)).cells x2.toNat y2.toNat = a.cells x2.toNat y2.toNat := by
      show (if _ then _ else _) = _
      split <;> rfl
    show (a.inside x2 y2 && !(a.props.locked || !a.props.visible) &&
      !(a.props.hasAlpha && a.props.alphaLocked && !((a.setChar x1 y1 (a.cells x2.toNat y2.toNat)).cells x2.toNat y2.toNat).isVisible)) = _
    rw [hc, i2]
    revert hg
    cases a.props.hasAlpha <;> cases a.props.alphaLocked <;> cases (a.cells x2.toNat y2.toNat).isVisible <;> simp
  unfold LObs.swapChar
  rw [g1, g2, i1, i2, hg]
  simp only [Bool.not_true, Bool.or_self, Bool.false_eq_true, if_false]
  rw [LObs.setChar, w2, LObs.setChar, w1]
  rfl

/-- after `fix: Layer::swap_char on an alpha-locked layer swaps only two visible cells…`: the swapped layer passes the same
    tests (`swapCells_sym`), and exchanging twice restores the cells -/
theorem LObs.swapChar_swapChar (a : LObs) (x1 y1 x2 y2 : Int) :
    (a.swapChar x1 y1 x2 y2).swapChar x1 y1 x2 y2 = a := by
  by_cases hin : (!a.inside x1 y1 || !a.inside x2 y2) = true
  · simp [LObs.swapChar, hin]
  · have i1 : a.inside x1 y1 = true := by
      cases hh : a.inside x1 y1 <;> simp [hh] at hin ⊢
    have i2 : a.inside x2 y2 = true := by
      cases hh : a.inside x2 y2 <;> simp [hh] at hin ⊢
    have g1 : a.getChar x1 y1 = a.cells x1.toNat y1.toNat := by simp [LObs.getChar, i1]
    have g2 : a.getChar x2 y2 = a.cells x2.toNat y2.toNat := by simp [LObs.getChar, i2]
    by_cases hg : (a.props.hasAlpha && a.props.alphaLocked &&
        !((a.cells x1.toNat y1.toNat).isVisible && (a.cells x2.toNat y2.toNat).isVisible)) = true
    · have e1 : a.swapChar x1 y1 x2 y2 = a := by
        simp only [LObs.swapChar, g1, g2, i1, i2, hg, Bool.not_true, Bool.or_self, Bool.false_eq_true, if_false, if_true]
      rw [e1, e1]
    · have hg' := Bool.eq_false_iff.mpr hg
      rw [LObs.swapChar_eq a x1 y1 x2 y2 i1 i2 hg']
      obtain ⟨w0, h0, p, c⟩ := a
      have i1' : ∀ cs, LObs.inside (w0, h0, p, cs) x1 y1 = true := fun _ => i1
      have i2' : ∀ cs, LObs.inside (w0, h0, p, cs) x2 y2 = true := fun _ => i2
      rw [LObs.swapChar_eq _ x1 y1 x2 y2 (i1' _) (i2' _) (by
        rw [← hg']
        exact congrArg (fun b => p.hasAlpha && p.alphaLocked && !b)
          (swapCells_sym _ (x1.toNat, y1.toNat) (x2.toNat, y2.toNat) c (fun u v => u.isVisible && v.isVisible) fun _ _ => Bool.and_comm _ _))]
      exact congrArg (fun cs => ((w0, h0, p, cs) : LObs)) (swapCells_swapCells (!(p.locked || !p.visible)) _ _ c)

def LObs.setOffset (a : LObs) (x y : Int) : LObs :=
  if a.props.posLocked then a else (a.1, a.2.1, { a.2.2.1 with offX := x, offY := y }, a.2.2.2)

theorem setOffset_obs (l : LayerM) (x y : Int) : (l.setOffset x y).obs = l.obs.setOffset x y := by
  unfold LayerM.setOffset LObs.setOffset
  have : l.obs.props = l.props := rfl
  rw [this]
  split <;> rfl

end IcyVerif.Undo
