import IcyVerif.Model.IgsCanvas
import IcyVerif.Lemmas.IgsTotal
/-! Lemmas about the IGS canvas model (lexer + DrawExecutor): every character and every loop step keeps the executor
invariant; the fresh executor satisfies it. -/
namespace IcyVerif.IgsCanvas
open IcyVerif.Igs IcyVerif.IgsPaint

theorem runExec_good {lex' : Igs} {paint : Paint} {c : Nat} {ps : Res (List Int)} {s' : St} {o : COut}
    (hg : Good paint) (h : runExec lex' paint c ps = .ok s' o) : Good s'.paint := by
  unfold runExec at h
  split at h
  · cases h
  · cases h
  · split at h
    · rename_i p l he
      cases h
      exact (exec_post hg).good.of_state (by rw [he]; rfl)
    · rename_i p he
      cases h
      exact (exec_post hg).good.of_state (by rw [he]; rfl)
    · cases h
    · cases h
    · cases h

theorem step_good {s s' : St} {ch : Nat} {o : COut} (hg : Good s.paint) (h : IgsCanvas.step s ch = .ok s' o) : Good s'.paint := by
  unfold IgsCanvas.step at h
  split at h
  · cases h
  · split at h
    · exact runExec_good hg h
    · exact runExec_good hg h
  · cases h; exact hg

theorem nextAction_good {s s' : St} {o : COut} (hg : Good s.paint) (h : IgsCanvas.nextAction s = .ok s' o) : Good s'.paint := by
  unfold IgsCanvas.nextAction at h
  split at h
  · cases h
  · split at h
    · exact runExec_good hg h
    · cases h
  · cases h; exact hg

theorem drain_good : ∀ (n : Nat) (s s' : St) (o : COut), Good s.paint → drain n s = .ok s' o → Good s'.paint := by
  intro n
  induction n with
  | zero => intro s s' o hg h; unfold drain at h; cases h; exact hg
  | succ k ih =>
    intro s s' o hg h
    unfold drain at h
    split at h
    · cases h; exact hg
    · split at h
      · rename_i s1 o1 hn
        exact ih s1 s' o (nextAction_good hg hn) h
      · rename_i r hne
        exact absurd h (hne s' o)

theorem paint_new_good : Good Paint.new := by
  refine ⟨by decide, ?_, ?_, by decide, by decide, by decide, ?_⟩
  · show (Array.replicate (320 * 200) 1).size = _
    simp
    rfl
  · intro v hv
    exact mem_replicate_one hv
  · intro v hv
    simp [Paint.new] at hv

end IcyVerif.IgsCanvas
