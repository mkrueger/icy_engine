import IcyVerif.Lemmas.BinFormatsRange
import IcyVerif.Lemmas.BinFormatsTnd
/-!
# C05, Tundra: every file the loader accepts loads to a picture the writer reproduces

The command loop keeps: every cell it wrote is a visible 8-bit character on page 0 without attribute flags whose colour
indices are below `K` (the loader's start colours 7 / 0, or indices `insert_color_rgb` returned — the palette cannot grow
beyond one entry per four bytes of the file).
-/
namespace IcyVerif.BinFormats
open IcyVerif.XbCompress IcyVerif.Gen IcyVerif.SauceLoad

def TCell (K : Nat) (c : Cell) : Prop :=
  c.ch < 256 ∧ c.attr.flags = 0 ∧ c.attr.page = 0 ∧ c.attr.fg < K ∧ c.attr.bg < K

/-- loop invariant: `N` bounds palette length + unread bytes -/
structure TInv (K N : Nat) (rest : List Nat) (s : TL) : Prop where
  cells : CellsOK (TCell K) s.buf.lines
  fg : s.fg < K
  bg : s.bg < K
  pal : s.buf.pal.length + rest.length ≤ N
  bytes : ∀ b ∈ rest, b < 256

theorem tndPut_inv (K N : Nat) (rest : List Nat) (s : TL) (ch : Nat) (hch : ch < 256) (h : TInv K N rest s) :
    TInv K N rest (tndPut s ch) ∧ TFrame s.buf (tndPut s ch).buf ∧ (tndPut s ch).buf.pal = s.buf.pal := by
  unfold tndPut
  simp only
  have hcell : TCell K ⟨ch, ⟨s.fg, s.bg, 0, Xb.defaultPage⟩⟩ := ⟨hch, rfl, rfl, h.fg, h.bg⟩
  have key : CellsOK (TCell K) (({ s.buf with lh := s.y + 1 } : LBuf).setCharI s.x s.y ⟨ch, ⟨s.fg, s.bg, 0, Xb.defaultPage⟩⟩).lines ∧
      TFrame s.buf (({ s.buf with lh := s.y + 1 } : LBuf).setCharI s.x s.y ⟨ch, ⟨s.fg, s.bg, 0, Xb.defaultPage⟩⟩) ∧
      (({ s.buf with lh := s.y + 1 } : LBuf).setCharI s.x s.y ⟨ch, ⟨s.fg, s.bg, 0, Xb.defaultPage⟩⟩).pal = s.buf.pal := by
    unfold LBuf.setCharI
    split
    · exact ⟨h.cells, ⟨rfl, rfl, rfl, rfl, rfl⟩, rfl⟩
    · have hf := (setChar_frame ({ s.buf with lh := s.y + 1 } : LBuf) s.x.toNat s.y.toNat ⟨ch, ⟨s.fg, s.bg, 0, Xb.defaultPage⟩⟩).1
      exact ⟨cellsOK_setChar _ _ _ _ _ h.cells (fun _ => hcell), (TFrame.trans (b := { s.buf with lh := s.y + 1 }) ⟨rfl, rfl, rfl, rfl, rfl⟩ hf.toTFrame), hf.pal⟩
  split
  · exact ⟨⟨key.1, h.fg, h.bg, by show _ + _ ≤ N; rw [key.2.2]; exact h.pal, h.bytes⟩, key.2.1, key.2.2⟩
  · exact ⟨⟨key.1, h.fg, h.bg, by show _ + _ ≤ N; rw [key.2.2]; exact h.pal, h.bytes⟩, key.2.1, key.2.2⟩

/-- a colour operand costs four bytes and adds at most one palette entry: the bound `N` holds with `d` to spare -/
theorem colStep_ok (K N d : Nat) (hK : N < K) (flag cmd : Nat) (rest : List Nat) (pal : List Rgb) (cur : Nat)
    (rest' : List Nat) (pal' : List Rgb) (cur' : Nat) (hcur : cur < K) (hp : pal.length + rest.length + d + 1 ≤ N)
    (hb : ∀ b ∈ rest, b < 256) (h : colStep flag cmd rest pal cur = .ok (rest', pal', cur')) :
    cur' < K ∧ pal'.length + rest'.length + d ≤ N ∧ ∀ b ∈ rest', b < 256 := by
  unfold colStep at h
  split at h
  · split at h
    · rename_i _ r g b rest2
      obtain ⟨rfl, hins⟩ := Prod.mk.inj (Out.ok.inj h)
      obtain ⟨_, i0, _, i2⟩ := insertColor_spec pal (r, g, b)
      rw [hins] at i0 i2
      dsimp only at i0 i2
      simp only [List.length_cons] at hp
      exact ⟨by omega, by omega, fun x hx => hb x (by simp [hx])⟩
    · cases h
  · cases h
    exact ⟨hcur, by omega, hb⟩

/-- what a decoded command hands on to the loop: less input, and with a cell its colour indices, below `K`, within the bound -/
theorem tndStep_ok (K N : Nat) (hK : N < K) (cmd : Nat) (rest : List Nat) (bw : Nat) (pal : List Rgb) (fg bg : Nat)
    (hfg : fg < K) (hbg : bg < K) (hp : pal.length + (cmd :: rest).length ≤ N) (hb : ∀ b ∈ cmd :: rest, b < 256) :
    match tndStep cmd rest bw pal fg bg with
    | .move r _ _ => pal.length + r.length ≤ N ∧ ∀ b ∈ r, b < 256
    | .put r pal' fg' bg' ch => fg' < K ∧ bg' < K ∧ pal'.length + r.length ≤ N ∧ (∀ b ∈ r, b < 256) ∧ ch < 256
    | _ => True := by
  generalize hst : tndStep cmd rest bw pal fg bg = st
  unfold tndStep at hst
  simp only [List.length_cons] at hp
  repeat' split at hst
  all_goals subst hst
  all_goals try trivial
  · exact ⟨by simp only [List.length_cons] at hp; omega, fun b hb' => hb b (by simp [hb'])⟩
  · rename_i ch rest1 _ rest2 pal2 fg2 h1 _ rest3 pal3 bg3 h2
    obtain ⟨a1, a2, a3⟩ := colStep_ok K N 1 hK _ _ _ _ _ _ _ _ hfg (by simp only [List.length_cons] at hp; omega)
      (fun b hb' => hb b (by simp [hb'])) h1
    obtain ⟨b1, b2, b3⟩ := colStep_ok K N 0 hK _ _ _ _ _ _ _ _ hbg a2 a3 h2
    exact ⟨a1, b1, b2, b3, hb ch (by simp)⟩
  · exact ⟨hfg, hbg, by omega, fun b hb' => hb b (List.mem_cons_of_mem _ hb'), hb cmd List.mem_cons_self⟩

theorem tndLoop_inv (K N : Nat) (hK : N < K) (fuel : Nat) (rest : List Nat) (s r : TL) (hi : TInv K N rest s)
    (h : tndLoop fuel rest s = .ok r) : CellsOK (TCell K) r.buf.lines ∧ TFrame s.buf r.buf := by
  induction fuel generalizing rest s with
  | zero => rw [tndLoop.eq_1] at h; cases h; exact ⟨hi.cells, TFrame.refl _⟩
  | succ fuel ih =>
    cases rest with
    | nil => rw [tndLoop_nil] at h; cases h; exact ⟨hi.cells, TFrame.refl _⟩
    | cons cmd rest =>
      rw [tndLoop_succ] at h
      have hst := tndStep_ok K N hK cmd rest s.buf.bw s.buf.pal s.fg s.bg hi.fg hi.bg hi.pal hi.bytes
      cases hs : tndStep cmd rest s.buf.bw s.buf.pal s.fg s.bg with
      | err => rw [hs] at h; cases h
      | panic => rw [hs] at h; cases h
      | move r' x y =>
        rw [hs] at h hst
        exact ih r' { s with x := x, y := y } ⟨hi.cells, hi.fg, hi.bg, hst.1, hst.2⟩ h
      | put r' pal fg bg ch =>
        rw [hs] at h hst
        obtain ⟨h1, h2, h3, h4, h5⟩ := hst
        obtain ⟨hi4, hf4, _⟩ := tndPut_inv K N r' (recolour s pal fg bg) ch h5 ⟨hi.cells, h1, h2, h3, h4⟩
        obtain ⟨r1, r2⟩ := ih r' _ hi4 h
        exact ⟨r1, (TFrame.trans (a := s.buf) (b := (recolour s pal fg bg).buf) ⟨rfl, rfl, rfl, rfl, rfl⟩ hf4).trans r2⟩

/-- what `TundraDraw::load_buffer` can return (`K` bounds the colour indices) -/
structure TndRange (K : Nat) (s : Option Sauce.Sauce) (g : LBuf) : Prop where
  w1 : 1 ≤ g.bw
  w2 : g.bw ≤ 65535
  lw : g.lw = g.bw
  lh : g.lh = g.bh
  ice : g.ice = .ice
  font : (lookupFont g.fonts 0).isSome = true
  sauce : g.sauce = s.map metaOf
  cells : CellsOK (TCell K) g.lines

theorem tndStart_ok (s : Option Sauce.Sauce) (hsw : ∀ s', s = some s' → s'.width < 65536) :
    (tndStart s).lines = [] ∧ (tndStart s).lw = (tndStart s).bw ∧ 1 ≤ (tndStart s).bw ∧ (tndStart s).bw ≤ 65535 ∧
    (lookupFont (tndStart s).fonts 0).isSome = true ∧ (tndStart s).sauce = s.map metaOf := by
  cases s with
  | none => rw [tnd_start_none]; exact ⟨rfl, rfl, by decide, by decide, by decide, rfl⟩
  | some s' =>
    have hw := hsw s' rfl
    have hwa : BinFmt.tndWideAbove = 1000 := rfl
    unfold tndStart
    rw [show (BinFmt.tndClearsRows == 1) = true from rfl, start_setSauce']
    dsimp only
    split
    · exact ⟨rfl, rfl, by show 1 ≤ s'.width; omega, by show s'.width ≤ 65535; omega, lookup_startFonts s', rfl⟩
    · exact ⟨rfl, rfl, sauceW_pos s', by show sauceW s' ≤ 65535; have := sauceW_le s'; omega, lookup_startFonts s', rfl⟩

theorem tnd_range (data : List Nat) (hb : ∀ b ∈ data, b < 256) (s : Option Sauce.Sauce) (hsw : ∀ s', s = some s' → s'.width < 65536)
    (g : LBuf) (h : tndLoad data s = .ok g) : TndRange (data.length + 8) s g := by
  unfold tndLoad at h
  obtain ⟨t1, t2, t3, t4, t5, t6⟩ := tndStart_ok s hsw
  generalize tndStart s = b0 at h t1 t2 t3 t4 t5 t6
  dsimp only at h
  obtain ⟨c1, h⟩ := ok_of_ite_err h
  obtain ⟨c2, h⟩ := ok_of_ite_err h
  have hhl : BinFmt.tndHeader.length = 8 := rfl
  generalize hrest : data.drop (1 + BinFmt.tndHeader.length) = rest at h
  have hrl : rest.length + 9 = data.length := by rw [← hrest, List.length_drop, hhl]; rw [hhl] at c1; omega
  have hrb : ∀ b ∈ rest, b < 256 := by intro b hbm; rw [← hrest] at hbm; exact hb b (List.mem_of_mem_drop hbm)
  cases hl : tndLoop (rest.length + 1) rest ⟨{ b0 with pal := [(0, 0, 0)], ice := IceMode.ice }, Xb.defaultFg, Xb.defaultBg, 0, 0⟩ with
  | err => rw [hl] at h; cases h
  | panic => rw [hl] at h; cases h
  | ok r =>
    rw [hl] at h
    dsimp only at h
    have hg := Out.ok.inj h
    have hinv : TInv (data.length + 8) (rest.length + 1) rest
        ⟨{ b0 with pal := [(0, 0, 0)], ice := IceMode.ice }, Xb.defaultFg, Xb.defaultBg, 0, 0⟩ :=
      ⟨by show CellsOK _ b0.lines; rw [t1]; exact cellsOK_nil _, by show Xb.defaultFg < _; have : Xb.defaultFg = 7 := rfl; omega,
       by show Xb.defaultBg < _; have : Xb.defaultBg = 0 := rfl; omega, by show ([(0, 0, 0)] : List Rgb).length + _ ≤ _; simp; omega, hrb⟩
    obtain ⟨r1, r2⟩ := tndLoop_inv (data.length + 8) (rest.length + 1) (by omega) _ rest _ r hinv hl
    rw [← hg]
    exact ⟨by show 1 ≤ r.buf.lw; rw [r2.lw]; show 1 ≤ b0.lw; omega, by show r.buf.lw ≤ 65535; rw [r2.lw]; show b0.lw ≤ 65535; omega,
      rfl, rfl, by show r.buf.ice = _; rw [r2.ice], by show (lookupFont r.buf.fonts 0).isSome = true; rw [r2.fonts]; exact t5,
      by show r.buf.sauce = _; rw [r2.sauce]; exact t6, r1⟩

theorem tnd_loaded_representable (o : Opts) (K : Nat) (s : Option Sauce.Sauce) (g : LBuf) (hr : TndRange K s g) (hm : metaOk g.sauce = true)
    (hK : K ≤ 2147483648) (hh : 1 ≤ g.bh) (harea : g.bw * g.bh.toNat < 1073741824) (hs : o.sauce = true ∨ g.bw = 80) :
    Representable .tnd o g.toPic = true := by
  have hwf := toPic_wellFormed g hh
  have hpg : analyzeFontUsage g.toPic.rows.flatten = [0] :=
    toPic_usage_zero g hh hr.w1 (fun l hl c hc hv => (hr.cells l hl c hc hv).2.2.1)
  have hcells : allCells g.toPic (fun c => decide (c.ch ≤ 255) && isVisible c && !isBlink c.attr && decide (c.attr.fg < 2147483648) &&
      decide (c.attr.bg < 2147483648)) = true := by
    unfold allCells
    apply List.all_eq_true.mpr
    intro r hrow
    apply List.all_eq_true.mpr
    intro c hc
    simp only [LBuf.toPic, List.mem_map, List.mem_range] at hrow
    obtain ⟨y, hy, rfl⟩ := hrow
    have hylh : (y : Int) < g.lh := by rw [hr.lh]; omega
    rcases mem_rowCells_inside g y c hc (by rw [hr.lw]; exact Nat.le_refl _) hylh with h1 | ⟨hv, line, hl, hcl⟩
    · rw [h1]; decide
    · obtain ⟨a, b, _, d, e⟩ := hr.cells line hl c hcl hv
      have hbl : isBlink c.attr = false := by unfold isBlink; rw [b]; decide
      simp only [Bool.and_eq_true, decide_eq_true_eq, Bool.not_eq_true']
      exact ⟨⟨⟨⟨by omega, hv⟩, hbl⟩, by omega⟩, by omega⟩
  refine (representable_tnd o _).mpr ⟨hm, hwf, ?_, harea, hr.ice, hpg, Or.inr hr.font, hcells⟩
  rcases hs with h | h
  · exact Or.inr ⟨⟨h, hr.w1⟩, hr.w2⟩
  · exact Or.inl h

end IcyVerif.BinFormats
