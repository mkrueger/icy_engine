import IcyVerif.Lemmas.BinFormatsCells
import IcyVerif.Props.C11
/-!
# C05: `from_bytes` on a file the engine wrote with / without a SAUCE record

The SAUCE model is C11's (`Model/Sauce.lean`); its theorem `load_ignores_sauce` (the loader is handed exactly the content and the
record the variant can carry, for every content and all metadata) and `Sauce.fromBytesSplit_eq` / `extract_eq` (the SAUCE side of
`from_bytes` as a total function of the file) do the work here.  `roundtrip_of_body` is the half of every round trip that no format
has a say in.  `withSauce` / `Sauces`: the last line of every writer — `write_sauce_info` on the record-free file — and the rules by
which the writers are followed to it.
-/
namespace IcyVerif.BinFormats
open IcyVerif.XbCompress IcyVerif.Gen

theorem kind_lt (k : SauceKind) : k.idx < 9 := by cases k <;> decide

/-- `metaOk` is C11's `Valid` plus the comment limit -/
theorem metaOk_valid (p : Pic) (name : List Nat) (h : metaOk p.sauce = true) :
    Sauce.Valid (bufInfo p name) ∧ (p.sauce.getD {}).comments.length ≤ Gen.Sauce.commentLimit := by
  unfold metaOk at h
  cases hs : p.sauce with
  | none =>
    refine ⟨⟨?_, ?_, ?_, ?_⟩, ?_⟩ <;> simp [bufInfo, hs]
  | some m =>
    rw [hs] at h
    simp only [Bool.and_eq_true, decide_eq_true_eq, List.all_eq_true] at h
    obtain ⟨⟨⟨⟨h1, h2⟩, h3⟩, h4⟩, h5⟩ := h
    refine ⟨⟨?_, ?_, ?_, ?_⟩, ?_⟩ <;> simp only [bufInfo, hs, Option.getD_some]
    · exact h1
    · exact h2
    · exact h3
    · exact h4
    · exact h5

/-- when `writeSauce` answers and with what; only the refusal `bin_loaded_refused` unfolds it again, for its `.err` -/
theorem writeSauce_ok_iff (k : SauceKind) (p : Pic) (date body bytes : List Nat) :
    writeSauce k p date body = .ok bytes ↔
      (p.sauce.getD {}).comments.length ≤ Gen.Sauce.commentLimit ∧
      ∃ f0, lookupFont p.fonts 0 = some f0 ∧ Sauce.writeSauceInfo k.idx (bufInfo p f0.name) date body = .ok bytes := by
  unfold writeSauce
  rw [ok_ite_err_iff, Nat.not_lt]
  refine and_congr_right fun _ => ?_
  cases lookupFont p.fonts 0 with
  | none => simp
  | some f0 =>
    cases hw : Sauce.writeSauceInfo k.idx (bufInfo p f0.name) date body <;> simp [hw]

theorem writeSauce_info (k : SauceKind) (p : Pic) (date body bytes : List Nat) (h : writeSauce k p date body = .ok bytes) :
    ∃ f0, lookupFont p.fonts 0 = some f0 ∧ Sauce.writeSauceInfo k.idx (bufInfo p f0.name) date body = .ok bytes :=
  ((writeSauce_ok_iff k p date body bytes).mp h).2

theorem writeSauce_prefix (k : SauceKind) (p : Pic) (date body bytes : List Nat)
    (h : writeSauce k p date body = .ok bytes) : ∃ tail, bytes = body ++ tail := by
  obtain ⟨f0, _, hw⟩ := writeSauce_info k p date body bytes h
  obtain ⟨_, tail, _, rfl, _⟩ := Sauce.writeSauceInfo_ok hw
  exact ⟨[Gen.Sauce.eofByte] ++ tail, by rw [List.append_assoc]⟩

theorem fromBytes_sauced (f : Fmt) (k : SauceKind) (p : Pic) (date body : List Nat) (f0 : Font)
    (hf0 : lookupFont p.fonts 0 = some f0) (hm : metaOk p.sauce = true) (hbin : k = .bin → p.w / 2 ≤ 255)
    (hdate : dateOk date = true) :
    ∃ bytes, writeSauce k p date body = .ok bytes ∧ body.length ≤ bytes.length ∧
      fromBytes f bytes = loadBody f body (some (Sauce.carry k.idx (bufInfo p f0.name) (bytes.length - body.length))) := by
  obtain ⟨hv, hc⟩ := metaOk_valid p f0.name hm
  have hd8 : date.length = Gen.Sauce.dateLen := dateOk_length date hdate
  have hout := IcyVerif.C11.write_outcome k.idx (bufInfo p f0.name) date body
  have hcl : ¬ ((p.sauce.getD {}).comments.length > Gen.Sauce.commentLimit) := by omega
  rcases hout with ⟨bytes, hw⟩ | ⟨_, hgt⟩ | ⟨_, hnone, hgt⟩
  · have hws : writeSauce k p date body = .ok bytes := (writeSauce_ok_iff k p date body bytes).mpr ⟨hc, f0, hf0, hw⟩
    refine ⟨bytes, hws, ?_, ?_⟩
    · obtain ⟨tail, rfl⟩ := writeSauce_prefix k p date body bytes hws
      simp
    · unfold fromBytes
      rw [IcyVerif.C11.load_ignores_sauce dateOk k.idx (kind_lt k) (bufInfo p f0.name) hv date hd8 hdate body bytes hw]
  · exact absurd hgt (by simpa [bufInfo] using hcl)
  · exfalso
    cases k with
    | bin => have := hbin rfl; simp only [bufInfo] at hgt; omega
    | xbin => revert hnone; decide
    | ansi => revert hnone; decide
    | tundra => revert hnone; decide

/-- also when `extract` answers an error -/
theorem fromBytes_plain (f : Fmt) (bytes : List Nat) (h : tailReadsAsSauce bytes = false) :
    fromBytes f bytes = loadBody f bytes none := by
  unfold fromBytes
  rw [Sauce.fromBytesSplit_eq]
  unfold tailReadsAsSauce at h
  cases hx : Sauce.extract dateOk bytes with
  | ok o =>
    cases o with
    | none => rfl
    | some s => rw [hx] at h; exact absurd h (by simp)
  | err e => rfl
  | panic site => rfl

/-- the part of the round trip that no format has a say in (`hsauce`: the loader makes the same picture of `body` whatever SAUCE
    record of that variant, for that buffer, comes with it) -/
theorem roundtrip_of_body (f : Fmt) (k : SauceKind) (o : Opts) (date : List Nat) (p : Pic) (body : List Nat)
    (hsave : save f o date p = if o.sauce then writeSauce k p date body else .ok body)
    (hm : metaOk p.sauce = true) (hdate : dateOk date = true)
    (hsauce : o.sauce = true → ∃ f0, lookupFont p.fonts 0 = some f0 ∧ (k = .bin → p.w / 2 ≤ 255) ∧
      ∀ hl, ∃ g, loadBody f body (some (Sauce.carry k.idx (bufInfo p f0.name) hl)) = .ok g ∧ SamePicture f p g)
    (hplain : o.sauce = false → ∃ g, loadBody f body none = .ok g ∧ SamePicture f p g) :
    ∃ bytes, save f o date p = .ok bytes ∧
      ((o.sauce = true ∨ tailReadsAsSauce bytes = false) → ∃ g, fromBytes f bytes = .ok g ∧ SamePicture f p g) := by
  rw [hsave]
  cases hs : o.sauce with
  | true =>
    obtain ⟨f0, hf0, hbin, hload⟩ := hsauce hs
    obtain ⟨bytes, hw, _, hfb⟩ := fromBytes_sauced f k p date body f0 hf0 hm hbin hdate
    exact ⟨bytes, hw, fun _ => hfb ▸ hload _⟩
  | false =>
    refine ⟨body, rfl, fun hor => ?_⟩
    rw [fromBytes_plain f body (hor.resolve_left (by decide))]
    exact hplain hs

theorem extract_found {dateOk : List Nat → Bool} {data : List Nat} {s : Sauce.Sauce} (h : Sauce.extract dateOk data = .ok (some s)) :
    Gen.Sauce.sauceLen ≤ data.length ∧ ∃ hd cs len,
      Sauce.headerOf dateOk (Sauce.decFields Sauce.sauceLayout (data.drop (data.length - Gen.Sauce.sauceLen))) = .ok (some hd) ∧
      Sauce.commentsOf data hd.nComments = .ok (cs, len) ∧ s = Sauce.interpret hd cs (data.length - (len - Gen.Sauce.eofLen)) := by
  rw [Sauce.extract_eq, Sauce.extractOf] at h
  split at h
  · cases h
  obtain ⟨oh, hh, h⟩ := Sauce.bind_eq_ok h
  cases oh with
  | none => cases h
  | some hd =>
    obtain ⟨r, hr, h⟩ := Sauce.bind_eq_ok h
    exact ⟨by omega, hd, r.1, r.2, hh, hr, (Option.some.inj (Sauce.Res.ok.inj h)).symm⟩

theorem sauce_header_ge (dateOk : List Nat → Bool) (data : List Nat) (s : Sauce.Sauce)
    (h : Sauce.extract dateOk data = .ok (some s)) : 128 ≤ s.headerLen := by
  obtain ⟨hd, _, _, len, _, hr, rfl⟩ := extract_found h
  have := (Sauce.commentsOf_ok hd hr).1
  have : Gen.Sauce.eofLen = 1 := rfl
  have : Gen.Sauce.sauceLen = 128 := rfl
  show 128 ≤ data.length - (len - Gen.Sauce.eofLen)
  omega

theorem fromBytesSplit_ok {dateOk : List Nat → Bool} {bytes content : List Nat} {s : Option Sauce.Sauce}
    (h : Sauce.fromBytesSplit dateOk bytes = .ok (content, s)) :
    (∃ n, content = bytes.take n) ∧ ∀ s', s = some s' → Sauce.extract dateOk bytes = .ok (some s') := by
  rw [Sauce.fromBytesSplit_eq] at h
  have e := Sauce.Res.ok.inj h
  split at e
  · obtain ⟨rfl, rfl⟩ := Prod.mk.inj e
    exact ⟨⟨_, rfl⟩, fun _ hs => Option.some.inj hs ▸ ‹_›⟩
  · obtain ⟨rfl, rfl⟩ := Prod.mk.inj e
    exact ⟨⟨bytes.length, List.take_length.symm⟩, nofun⟩

theorem tail_of_looks (bytes : List Nat) (h : looksLikeSauce bytes = false) : tailReadsAsSauce bytes = false := by
  unfold tailReadsAsSauce
  rw [Sauce.extract_eq, Sauce.extractOf]
  by_cases hlen : bytes.length < Gen.Sauce.sauceLen
  · rw [if_pos hlen]
  · -- the first field of the record is not the signature
    generalize hw : bytes.drop (bytes.length - Gen.Sauce.sauceLen) = w
    have hid : Gen.Sauce.sauceId ≠ Sauce.bytesAt (Sauce.decFields Sauce.sauceLayout w) 0 := by
      show Gen.Sauce.sauceId ≠ w.take Gen.Sauce.sauceIdSlice
      unfold looksLikeSauce at h
      have hge : bytes.length ≥ BinFmt.sauceLen := Nat.le_of_not_lt hlen
      simp only [hge, decide_true, Bool.true_and, beq_eq_false_iff_ne, ne_eq] at h
      rw [← hw]
      exact fun hc => h hc.symm
    rw [if_neg hlen, Sauce.headerOf, if_pos hid]
    rfl

theorem looksLikeSauce_append (pre tail : List Nat) (h : 128 ≤ tail.length) : looksLikeSauce (pre ++ tail) = looksLikeSauce tail := by
  unfold looksLikeSauce
  rw [show BinFmt.sauceLen = 128 from rfl]
  have hd : (pre ++ tail).drop ((pre ++ tail).length - 128) = tail.drop (tail.length - 128) := by
    rw [List.length_append, show pre.length + tail.length - 128 = pre.length + (tail.length - 128) by omega, List.drop_append,
      List.drop_eq_nil_of_le (Nat.le_add_right _ _), Nat.add_sub_cancel_left, List.nil_append]
  have hl : (pre ++ tail).length ≥ 128 := by rw [List.length_append]; omega
  rw [hd, decide_eq_true hl, decide_eq_true h]

/-- the font table after `set_sauce`: font 0 is the font the record names when that is one of `SAUCE_FONT_NAMES` -/
def startFonts (s : Sauce.Sauce) : List (Nat × Font) :=
  match s.font.bind sauceFontByName with
  | some f => setFont [(0, defaultFont)] 0 f
  | none => [(0, defaultFont)]

/-- the width `Buffer::set_sauce` takes from a record: 0 and widths above 1000 are distrusted -/
def sauceW (s : Sauce.Sauce) : Nat := if s.width = 0 ∨ s.width > BinFmt.sauceMaxWidth then BinFmt.sauceFallbackWidth else s.width

theorem sauceW_pos (s : Sauce.Sauce) : 1 ≤ sauceW s := by unfold sauceW; split <;> first | decide | omega

theorem sauceW_le (s : Sauce.Sauce) : sauceW s ≤ 1000 := by
  unfold sauceW; split
  · decide
  · rw [show BinFmt.sauceMaxWidth = 1000 from rfl] at *; omega

theorem sauceW_eq (s : Sauce.Sauce) (h1 : 1 ≤ s.width) (h2 : s.width ≤ 1000) : sauceW s = s.width :=
  if_neg (by rw [show BinFmt.sauceMaxWidth = 1000 from rfl]; omega)

theorem start_setSauce' (w0 h0 : Nat) (s : Sauce.Sauce) :
    (LBuf.start w0 h0 true).setSauce true (some s) =
      { bw := sauceW s, bh := s.height, lw := sauceW s, lh := s.height, lines := [], ice := if s.ice then .ice else .unlimited,
        pal := dosPalette, fonts := startFonts s, sauce := some (metaOf s) } := by
  unfold LBuf.setSauce LBuf.start startFonts sauceW
  simp only [if_true]
  cases s.font.bind sauceFontByName <;> rfl

theorem start_setSauce (w0 h0 : Nat) (s : Sauce.Sauce) (hw1 : 1 ≤ s.width) (hw2 : s.width ≤ 1000) :
    (LBuf.start w0 h0 true).setSauce true (some s) =
      { bw := s.width, bh := s.height, lw := s.width, lh := s.height, lines := [], ice := if s.ice then .ice else .unlimited,
        pal := dosPalette, fonts := startFonts s, sauce := some (metaOf s) } := by
  rw [start_setSauce', sauceW_eq s hw1 hw2]

theorem start_setSauce_none (w0 h0 : Nat) :
    (LBuf.start w0 h0 true).setSauce true none =
      { bw := w0, bh := h0, lw := w0, lh := h0, lines := [], ice := .unlimited, pal := dosPalette, fonts := [(0, defaultFont)],
        sauce := none } := by
  unfold LBuf.setSauce LBuf.start
  simp

theorem tnd_start_none : tndStart none =
    ({ bw := 80, bh := 25, lw := 80, lh := 25, lines := [], ice := IceMode.unlimited, pal := dosPalette,
       fonts := [(0, defaultFont)], sauce := none } : LBuf) := by
  unfold tndStart
  have hc : (BinFmt.tndClearsRows == 1) = true := by decide
  rw [hc, start_setSauce_none]
  rfl

theorem setSauce_false (b : LBuf) (s : Option Sauce.Sauce) (hb : b.sauce = none) :
    b.setSauce false s = { b with sauce := s.map metaOf } := by
  cases s with
  | none => cases b; simp only [LBuf.setSauce, Option.map_none]; simp at hb; rw [hb]
  | some s' => rfl

theorem sauced_prefix (sauce : Bool) (k : SauceKind) (p : Pic) (date body : List Nat) :
    Out.Holds (fun bytes => ∃ tail, bytes = body ++ tail) (if sauce then writeSauce k p date body else .ok body) := by
  intro bytes h
  cases sauce
  · simp only [Bool.false_eq_true, if_false] at h
    injection h with h
    exact ⟨[], by simp [h]⟩
  · simp only [if_true] at h
    exact writeSauce_prefix k p date body bytes h

/-- the last line of every writer, applied to the outcome of the writer run without a record: `write_sauce_info` on the file -/
def withSauce (s : Bool) (k : SauceKind) (p : Pic) (date : List Nat) : Out (List Nat) → Out (List Nat)
  | .ok body => if s then writeSauce k p date body else .ok body
  | .err => .err
  | .panic => .panic

/-- `r` is what `write_sauce_info` makes of `r0`; closed under the writers' guards -/
def Sauces (s : Bool) (k : SauceKind) (p : Pic) (date : List Nat) (r r0 : Out (List Nat)) : Prop := r = withSauce s k p date r0

theorem withSauce_ok {s : Bool} {k : SauceKind} {p : Pic} {date : List Nat} {r : Out (List Nat)} {bytes : List Nat}
    (h : withSauce s k p date r = .ok bytes) :
    ∃ body, r = .ok body ∧ (if s then writeSauce k p date body else .ok body) = .ok bytes := by
  cases r with
  | ok body => exact ⟨body, rfl, h⟩
  | err => cases h
  | panic => cases h

theorem Sauces.err {s k p date} : Sauces s k p date .err .err := rfl

theorem Sauces.ite {s k p date} {c : Prop} [Decidable c] {a b a0 b0 : Out (List Nat)} (ha : Sauces s k p date a a0)
    (hb : Sauces s k p date b b0) : Sauces s k p date (if c then a else b) (if c then a0 else b0) := by
  split <;> assumption

theorem Sauces.leaf {s k p date} (body : List Nat) :
    Sauces s k p date (if s then writeSauce k p date body else .ok body) (if false = true then writeSauce k p date body else .ok body) := rfl

end IcyVerif.BinFormats
