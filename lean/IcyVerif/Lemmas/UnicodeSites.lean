import IcyVerif.Lemmas.Unicode
import IcyVerif.Model.Font
/-! C10, the sites: hex macros, clipboard records, glyph tables -/
namespace IcyVerif.Uni

theorem position_lt (v : Nat) (t : List Nat) (i : Nat) (h : position v t = some i) : i < t.length := by
  induction t generalizing i with
  | nil => simp [position] at h
  | cons x xs ih =>
    unfold position at h
    split at h
    · injection h with h; subst h; simp
    · cases hp : position v xs with
      | none => rw [hp] at h; simp at h
      | some j =>
        rw [hp] at h; simp at h; subst h
        have := ih j hp
        simp; omega

def HexGood (s : HexM) : Prop := (∀ c ∈ s.macroRec, c < 256) ∧ (∀ c ∈ s.repeatRec, c < 256)

theorem mem_replicate_flatten (n : Nat) (r : List Nat) (c : Nat) (h : c ∈ (List.replicate n r).flatten) : c ∈ r := by
  induction n with
  | zero => simp at h
  | succ n ih =>
    rw [List.replicate_succ, List.flatten_cons] at h
    rcases List.mem_append.mp h with h | h
    · exact h
    · exact ih h

theorem repeatAppend_lt (m r : List Nat) (n : Int) (hm : ∀ c ∈ m, c < 256) (hr : ∀ c ∈ r, c < 256) :
    ∀ c ∈ repeatAppend m n r, c < 256 := by
  intro c hc
  unfold repeatAppend at hc
  split at hc
  · exact hm c hc
  · rcases List.mem_append.mp hc with h | h
    · exact hm c h
    · exact hr c (mem_replicate_flatten _ _ _ h)

theorem hexStep_good (table : List Nat) (ht : table.length ≤ 16) (s s' : HexM) (ch : Nat)
    (hg : HexGood s) (h : hexStep table s ch = some s') : HexGood s' := by
  obtain ⟨hm, hr⟩ := hg
  unfold hexStep at h
  cases hst : s.state with
  | firstHex =>
    simp only [hst] at h
    split at h
    · injection h with h; subst h
      exact ⟨repeatAppend_lt _ _ _ hm hr, hr⟩
    · split at h <;> (injection h with h; subst h; exact ⟨hm, hr⟩)
  | secondHex first =>
    simp only [hst] at h
    split at h
    · rename_i f sec hf hsec
      have h1 := position_lt _ _ _ hf
      have h2 := position_lt _ _ _ hsec
      have hc : f * 16 + sec < 256 := by omega
      split at h
      · injection h with h; subst h
        refine ⟨hm, ?_⟩
        intro c hc'
        rcases List.mem_append.mp hc' with h | h
        · exact hr c h
        · simp at h; subst h; exact hc
      · injection h with h; subst h
        refine ⟨?_, hr⟩
        intro c hc'
        rcases List.mem_append.mp hc' with h | h
        · exact hm c h
        · simp at h; subst h; exact hc
    · cases h
  | repeatNumber n =>
    simp only [hst] at h
    split at h
    · injection h with h; subst h; exact ⟨hm, hr⟩
    · split at h
      · injection h with h; subst h; exact ⟨hm, by simp⟩
      · cases h

theorem hexRun_good (table : List Nat) (ht : table.length ≤ 16) (body : List Nat) (s s' : HexM)
    (hg : HexGood s) (h : hexRun table s body = some s') : HexGood s' := by
  induction body generalizing s with
  | nil => simp [hexRun] at h; subst h; exact hg
  | cons c cs ih =>
    unfold hexRun at h
    split at h
    · rename_i s1 hs1
      exact ih s1 (hexStep_good table ht s s1 c hg hs1) h
    · cases h

theorem hexMacro_lt (table : List Nat) (ht : table.length ≤ 16) (body m : List Nat)
    (h : hexMacro table body = some m) : ∀ c ∈ m, c < 256 := by
  unfold hexMacro at h
  split at h
  · rename_i s hs
    have hg : HexGood s := hexRun_good table ht body {} s ⟨by simp, by simp⟩ hs
    injection h with h; subst h
    split
    · exact repeatAppend_lt _ _ _ hg.1 hg.2
    · exact hg.1
  · cases h

theorem lt256_scalar (c : Nat) (h : c < 256) : isScalar c = true := by
  rw [isScalar_iff]; omega

theorem charFromU32_scalar (v c : Nat) (h : charFromU32 v = some c) : isScalar c = true ∧ c = v := by
  unfold charFromU32 at h
  split at h
  · injection h with h; subst h; exact ⟨by assumption, rfl⟩
  · cases h

theorem clipChar_scalar (lo hi : Nat) : isScalar (clipChar lo hi) = true := by
  unfold clipChar
  cases h : charFromU32 (lo + 256 * hi) with
  | none => exact scalar_fffd
  | some c => exact (charFromU32_scalar _ _ h).1

theorem clipCells_scalar (n : Nat) (data cs : List Nat) (h : clipCells n data = some cs) :
    ∀ c ∈ cs, isScalar c = true := by
  induction n generalizing data cs with
  | zero => simp [clipCells] at h; subst h; simp
  | succ n ih =>
    unfold clipCells at h
    split at h
    · split at h
      · cases h
      · simp only [Option.map_eq_some_iff] at h
        obtain ⟨r, hr, rfl⟩ := h
        intro c hc
        rcases List.mem_cons.mp hc with h | h
        · subst h; exact clipChar_scalar _ _
        · exact ih _ _ hr c h
    · cases h

theorem Clip.ok_of_ite_none {c : Prop} [Decidable c] {x : Clip} {w h : Nat} {cs : List Nat}
    (e : (if c then Clip.none else x) = .ok w h cs) : x = .ok w h cs := by
  split at e
  · cases e
  · exact e

theorem fromClipboard_cells {data : List Nat} {w h : Nat} {cs : List Nat} (hr : fromClipboard data = .ok w h cs) :
    ∃ n cells, clipCells n cells = some cs := by
  unfold fromClipboard at hr
  split at hr
  · cases hr
  have hr := Clip.ok_of_ite_none hr
  split at hr
  · have hr := Clip.ok_of_ite_none hr
    split at hr
    · rename_i cs' hcs
      cases hr
      exact ⟨_, _, hcs⟩
    · cases hr
  · cases hr

/-- the scalar predicate is constant on every 0x800-aligned block: 0xD800, 0xE000 and 0x110000 are multiples of 0x800 -/
theorem scalar_block_constant (v : Nat) : isScalar v = isScalar (v / 2048 * 2048) := by
  have h1 := isScalar_iff v
  have h2 := isScalar_iff (v / 2048 * 2048)
  apply Bool.eq_iff_iff.mpr
  rw [h1, h2]
  omega

theorem asU32_nat (v : Nat) (h : v < 4294967296) : asU32 (v : Int) = v := by
  unfold asU32
  omega

end IcyVerif.Uni

namespace IcyVerif.Font
open IcyVerif.Uni

/-- every index of the table that holds a glyph is a scalar value, shifted by the loop's start index -/
def KeysScalarFrom (ch : Nat) (gs : List (Option Glyph)) : Prop :=
  ∀ i g, gs[i]? = some (some g) → isScalar (ch + i) = true

theorem glyphLoop_keys (h fuel ch : Nat) (data : List Nat) : KeysScalarFrom ch (glyphLoop h fuel ch data) := by
  induction fuel generalizing ch data with
  | zero => intro i g hi; simp [glyphLoop] at hi
  | succ fuel ih =>
    unfold glyphLoop
    split
    · intro i g hi; simp at hi
    · rename_i g rest _
      intro i g' hi
      cases i with
      | zero =>
        simp at hi
        simpa using hi.1
      | succ j =>
        simp at hi
        have := ih (ch + 1) rest j g' hi
        rw [show ch + (j + 1) = ch + 1 + j by omega]; exact this

theorem glyphsFromU8_keys (h : Nat) (data : List Nat) : KeysScalarFrom 0 (glyphsFromU8 h data) := by
  unfold glyphsFromU8
  split
  · intro i g hi; simp at hi
  · exact glyphLoop_keys _ _ _ _

def KeysScalar (f : BitFont) : Prop := ∀ k g, f.get k = some g → isScalar k = true

theorem keysScalar_of_from (f : BitFont) (h : KeysScalarFrom 0 f.glyphs) : KeysScalar f := by
  intro k g hk
  unfold BitFont.get at hk
  have := h k g
  simp only [Nat.zero_add] at this
  apply this
  cases hh : f.glyphs[k]? with
  | none => rw [hh] at hk; simp at hk
  | some o => rw [hh] at hk; simp at hk; rw [hk]

/-- the glyph table was built by `glyphsFromU8` (`glyphs_from_u8_data`) -/
def FromU8 (f : BitFont) : Prop := ∃ h d, f.glyphs = glyphsFromU8 h d

theorem ok_of_ite_err {α : Type} {c : Prop} [Decidable c] {x : Res α} {a : α} (h : (if c then .err else x) = .ok a) : x = .ok a := by
  split at h
  · cases h
  · exact h

theorem loadPsf1_fromU8 {data : List Nat} {f : BitFont} (h : loadPsf1 data = .ok f) : FromU8 f := by
  unfold loadPsf1 at h
  split at h
  · cases h; exact ⟨_, _, rfl⟩
  · cases h

theorem loadPlain_fromU8 {data : List Nat} {f : BitFont} (h : loadPlain data = .ok f) : FromU8 f := by
  cases ok_of_ite_err h
  exact ⟨_, _, rfl⟩

theorem loadPsf2_fromU8 {data : List Nat} {f : BitFont} (h : loadPsf2 data = .ok f) : FromU8 f := by
  have h := ok_of_ite_err h
  split at h
  · cases ok_of_ite_err (ok_of_ite_err h)
    exact ⟨_, _, rfl⟩
  · cases h

theorem fromBytes_fromU8 {data : List Nat} {f : BitFont} (h : fromBytes data = .ok f) : FromU8 f := by
  unfold fromBytes at h
  split at h
  · split at h
    · exact loadPsf1_fromU8 (ok_of_ite_err h)
    · split at h
      · exact loadPsf2_fromU8 h
      · exact loadPlain_fromU8 h
  · cases h

theorem FromU8.keys {f : BitFont} (h : FromU8 f) : KeysScalar f := by
  obtain ⟨ht, d, e⟩ := h
  exact keysScalar_of_from f (e ▸ glyphsFromU8_keys ht d)

theorem lookups_some {g : Glyph} : ∀ (n : Nat) (gs : List (Option Glyph)) (i : Nat),
    (lookups n gs)[i]? = some (some g) → gs[i]? = some (some g) := by
  intro n
  induction n with
  | zero => intro gs i h; simp [lookups] at h
  | succ n ih =>
    intro gs i h
    cases gs with
    | nil =>
      cases i with
      | zero => simp [lookups] at h
      | succ j => simp [lookups] at h; have := ih [] j h; simp at this
    | cons x xs =>
      cases i with
      | zero => simpa [lookups] using h
      | succ j => simp [lookups] at h; simpa using ih xs j h

end IcyVerif.Font
