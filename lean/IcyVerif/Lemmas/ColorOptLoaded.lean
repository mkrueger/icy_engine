import IcyVerif.Lemmas.ColorOptFont
import IcyVerif.Lemmas.Font
/-! Fonts that come out of the font LOADERS (`BitFont::from_bytes`: PSF1, PSF2, raw;
`from_basic`/`create_8`: the fonts embedded in XBin / ADF / IDF files), through C17's model of `src/fonts.rs`
(`Model/Font.lean`, tied to the real loaders by C17's correspondence run).  Every glyph such a font holds has exactly
`height` data bytes — the `rows_len` clause of `FontOk` — and PSF1 / raw / embedded fonts are 8 columns wide. -/
namespace IcyVerif.ColorOpt
open IcyVerif.Font IcyVerif.Uni

/-- a loaded `BitFont` as the colour optimiser and the renderer see it -/
def ofLoaded (b : BitFont) : Font := ⟨b.w.toNat, b.h.toNat, b.get⟩

theorem get_mem {b : BitFont} {k : Nat} {r : Glyph} (h : b.get k = some r) : some r ∈ b.glyphs := by
  unfold BitFont.get at h
  cases hk : b.glyphs[k]? with
  | none => rw [hk] at h; cases h
  | some o =>
    rw [hk] at h
    simp only [Option.join_some] at h
    subst h
    exact List.mem_of_getElem? hk

theorem rowsLen_of_glyphs {b : BitFont} {h : Nat} {data : List Nat} (hg : b.glyphs = glyphsFromU8 h data)
    (hh : b.h.toNat = h) : RowsLen (ofLoaded b) := by
  intro ch rows hget
  have hm := get_mem (b := b) hget
  rw [hg] at hm
  show rows.length = b.h.toNat
  rw [hh]
  exact glyphsFromU8_rows h data rows hm

theorem loadPsf1_shape {d : List Nat} {b : BitFont} (h : loadPsf1 d = .ok b) :
    b.w = 8 ∧ ∃ hh data, b.glyphs = glyphsFromU8 hh data ∧ b.h.toNat = hh := by
  unfold loadPsf1 at h
  split at h
  · cases h; exact ⟨rfl, _, _, rfl, by simp⟩
  · cases h

theorem loadPlain_shape {d : List Nat} {b : BitFont} (h : loadPlain d = .ok b) :
    b.w = 8 ∧ ∃ hh data, b.glyphs = glyphsFromU8 hh data ∧ b.h.toNat = hh := by
  unfold loadPlain at h
  split at h
  · cases h
  · cases h
    refine ⟨rfl, _, _, rfl, ?_⟩
    show ((d.length : Int) / 256).toNat = d.length / 256
    omega

theorem asI32_le (n : Nat) : asI32 n ≤ 2147483647 := by
  unfold asI32
  simp only
  split
  · omega
  · have := Nat.mod_lt n (show 4294967296 > 0 by omega); omega

theorem loadPsf2_shape {d : List Nat} {b : BitFont} (h : loadPsf2 d = .ok b) :
    ∃ hh data, b.glyphs = glyphsFromU8 hh data ∧ b.h.toNat = hh := by
  unfold loadPsf2 at h
  split at h
  · cases h
  · split at h
    · rename_i version hs len cs height width _ _ _ _ _ _
      split at h
      · cases h
      · simp only at h
        split at h
        · cases h
        · rename_i hcond
          cases h
          refine ⟨height, _, rfl, ?_⟩
          show (asI32 height).toNat = height
          -- charsize = height * ceil(width / 8) is a positive i32, so height < 2^31
          have hc : ¬ (asI32 cs ≤ 0) := fun hle => hcond (Or.inr (Or.inl hle))
          have he : asI32 cs = ((height * ((width + 7) / 8) : Nat) : Int) := by
            by_cases hq : asI32 cs = ((height * ((width + 7) / 8) : Nat) : Int)
            · exact hq
            · exact absurd (Or.inr (Or.inr (Or.inr hq))) hcond
          have hle := asI32_le cs
          have hpos : 0 < height * ((width + 7) / 8) := by omega
          have hk : 1 ≤ (width + 7) / 8 := by
            rcases Nat.eq_zero_or_pos ((width + 7) / 8) with h0 | h0
            · rw [h0] at hpos; omega
            · exact h0
          have hlt : height < 2147483648 := by
            have : height * 1 ≤ height * ((width + 7) / 8) := Nat.mul_le_mul_left _ hk
            omega
          rw [asI32_small _ hlt]; simp
    · cases h

/-- the hypothesis of the second part says: not a PSF2 file -/
theorem fromBytes_shape {d : List Nat} {b : BitFont} (h : fromBytes d = .ok b) :
    (∃ hh data, b.glyphs = glyphsFromU8 hh data ∧ b.h.toNat = hh) ∧
    ((∀ a0 a1 a2 a3 rest, d = a0 :: a1 :: a2 :: a3 :: rest → (a0 = 0x36 ∧ a1 = 0x04) ∨ le32 a0 a1 a2 a3 ≠ psf2Magic) → b.w = 8) := by
  unfold fromBytes at h
  split at h
  · rename_i a0 a1 a2 a3 rest
    split at h
    · split at h
      · cases h
      · obtain ⟨hw, hg⟩ := loadPsf1_shape h; exact ⟨hg, fun _ => hw⟩
    · rename_i hn1
      split at h
      · rename_i h2
        exact ⟨loadPsf2_shape h, fun hnot2 => (hnot2 a0 a1 a2 a3 rest rfl).elim (absurd · hn1) (absurd h2)⟩
      · obtain ⟨hw, hg⟩ := loadPlain_shape h; exact ⟨hg, fun _ => hw⟩
  · cases h

/-- `from_basic` / `create_8` with `height` rows: the fonts embedded in XBin, ADF and IDF files -/
theorem fromBasic_rowsLen (w h : Nat) (data : List Nat) : RowsLen (ofLoaded (fromBasic w h data)) :=
  rowsLen_of_glyphs (b := fromBasic w h data) rfl (by simp [fromBasic])

end IcyVerif.ColorOpt
