import IcyVerif.Lemmas.Bgi
/-! `bar_rect` and `bar` of the BGI core model are total in a state a RIP stream can reach (`StreamState`) for corners within
±2^20: the clip rectangle exists, the row loops do not overflow, the pattern row index is in range. -/
namespace IcyVerif.Bgi

theorem remI_nonneg_lt {a : Int} (h : 0 ≤ a) : 0 ≤ remI a 8 ∧ remI a 8 < 8 := by
  unfold remI
  rw [Int.tmod_eq_emod_of_nonneg h]
  omega

theorem solidRows_some {w : Int} (hw : 0 ≤ w) (rows : Nat) : ∀ (scr : Array Nat) (ystart : Int) (cols : Nat) (c cost : Nat),
    -2147483648 ≤ ystart → ystart + (rows : Int) * w ≤ 2147483647 →
    ∃ r, solidRows scr ystart rows cols w c cost = some r := by
  induction rows with
  | zero => intro scr ystart cols c cost _ _; exact ⟨_, rfl⟩
  | succ k ih =>
    intro scr ystart cols c cost h1 h2
    unfold solidRows
    simp only []
    have hk : ((k + 1 : Nat) : Int) * w = (k : Int) * w + w := by rw [Int.natCast_add, Int.add_mul]; simp
    rw [hk] at h2
    have hkw : 0 ≤ (k : Int) * w := Int.mul_nonneg (by omega) hw
    rw [chk_in (by omega)]
    simp only []
    apply ih
    · omega
    · omega

theorem patRows_some {w : Int} (hw : 0 ≤ w) (rows : Nat) : ∀ (scr : Array Nat) (ystart : Int) (cols : Nat) (left ypat : Int) (pattern : List Nat) (fc bk cost : Nat),
    -2147483648 ≤ ystart → ystart + (rows : Int) * w ≤ 2147483647 → 0 ≤ left → 0 ≤ ypat → ypat < 8 → pattern.length = 8 →
    ∃ r, patRows scr ystart rows cols w left ypat pattern fc bk cost = some r := by
  induction rows with
  | zero => intro scr ystart cols left ypat pattern fc bk cost _ _ _ _ _ _; exact ⟨_, rfl⟩
  | succ k ih =>
    intro scr ystart cols left ypat pattern fc bk cost h1 h2 hl hy0 hy8 hp
    unfold patRows
    simp only []
    have hk : ((k + 1 : Nat) : Int) * w = (k : Int) * w + w := by rw [Int.natCast_add, Int.add_mul]; simp
    rw [hk] at h2
    have hkw : 0 ≤ (k : Int) * w := Int.mul_nonneg (by omega) hw
    have hsh := (remI_nonneg_lt hl).1
    have : ¬ remI left 8 < 0 := by omega
    simp only [this, if_false]
    have : ¬ ypat < 0 := by omega
    simp only [this, if_false]
    have hidx : ypat.toNat < pattern.length := by omega
    have : pattern[ypat.toNat]? = some pattern[ypat.toNat] := by simp [hidx]
    rw [this]
    simp only []
    rw [chk_in (by omega)]
    simp only []
    have hy' := remI_nonneg_lt (a := ypat + 1) (by omega)
    apply ih
    · omega
    · omega
    · exact hl
    · exact hy'.1
    · exact hy'.2
    · exact hp

/-- what a RIP stream can make of the drawing state: the window is 640 wide, the viewport starts at non-negative
coordinates (two base-36 digits each), the user pattern has 8 rows, the fill style is one of the 13 -/
def StreamState (s : Bgi) : Prop :=
  s.winW = 640 ∧ 0 ≤ s.vp.x ∧ s.vp.x ≤ 1295 ∧ 0 ≤ s.vp.y ∧ s.vp.y ≤ 1295 ∧
  -1295 ≤ s.vp.w ∧ s.vp.w ≤ 1295 ∧ -1295 ≤ s.vp.h ∧ s.vp.h ≤ 1295 ∧ s.userPat.length = 8 ∧ s.fillStyle < 13

/-- the conjuncts by name: window, viewport extent, pattern and style -/
theorem StreamState.winW {s : Bgi} (h : StreamState s) : s.winW = 640 := h.1
theorem StreamState.vpw {s : Bgi} (h : StreamState s) : -1295 ≤ s.vp.w ∧ s.vp.w ≤ 1295 := ⟨h.2.2.2.2.2.1, h.2.2.2.2.2.2.1⟩
theorem StreamState.userPat {s : Bgi} (h : StreamState s) : s.userPat.length = 8 := h.2.2.2.2.2.2.2.2.2.1
theorem StreamState.fillStyle {s : Bgi} (h : StreamState s) : s.fillStyle < 13 := h.2.2.2.2.2.2.2.2.2.2

/-- a change of pattern and style only -/
theorem StreamState.of_style {s s' : Bgi} (h : StreamState s) (e : (s'.winW, s'.vp) = (s.winW, s.vp)) (hu : s'.userPat.length = 8)
    (hf : s'.fillStyle < 13) : StreamState s' := by
  simp only [Prod.mk.injEq] at e
  obtain ⟨hW, v1, v2, v3, v4, v5, v6, v7, v8, _, _⟩ := h
  unfold StreamState
  rw [e.1, e.2]
  exact ⟨hW, v1, v2, v3, v4, v5, v6, v7, v8, hu, hf⟩

theorem StreamState.putOk {s : Bgi} (hs : StreamState s) : PutOk s := by
  obtain ⟨hW, v1, v2, v3, v4, v5, v6, v7, v8, _, _⟩ := hs
  refine ⟨?_, by omega, by omega⟩
  unfold VpSane
  omega

theorem streamState_new : StreamState Bgi.new := by
  unfold StreamState
  decide

theorem fillPattern_length (s : Bgi) (h1 : s.userPat.length = 8) (h2 : s.fillStyle < 13) : (fillPattern s).length = 8 := by
  unfold fillPattern
  split
  · exact h1
  · have : Gen.Bgi.fillPatternsFlat.length = 104 := by decide
    simp [List.length_take, List.length_drop, this]
    omega

/-- ±(2^21 + 1): the extent `r - l + 1` of a `bar` with corners within ±2^20 -/
theorem barRect_total (s : Bgi) (hs : StreamState s) (r : Rect)
    (hx : -1048576 ≤ r.x ∧ r.x ≤ 1048576) (hy : -1048576 ≤ r.y ∧ r.y ≤ 1048576)
    (hw : -2097153 ≤ r.w ∧ r.w ≤ 2097153) (hh : -2097153 ≤ r.h ∧ r.h ≤ 2097153) :
    ∃ s', barRect s r = some s' := by
  obtain ⟨hW, v1, v2, v3, v4, v5, v6, v7, v8, hup, hfs⟩ := hs
  obtain ⟨rc, hrc, ex, ey, er, eb⟩ := intersect_small (a := r) (b := s.vp) (by unfold Rect.Small; omega) (by unfold Rect.Small; omega)
  -- the clipped rectangle starts inside the viewport's quadrant and ends before the viewport does
  have bx : 0 ≤ rc.x ∧ rc.x ≤ 1048576 := by clear ey er eb; omega
  have by' : 0 ≤ rc.y ∧ rc.y ≤ 1048576 := by clear ex er eb; omega
  -- -(2^20 + 2^21 + 1): corner + extent of `r`; 2590 = 2 * 1295: corner + extent of the viewport
  have br : -3145729 ≤ rc.x + rc.w ∧ rc.x + rc.w ≤ 2590 := by clear ex ey eb; omega
  have bb : -3145729 ≤ rc.y + rc.h ∧ rc.y + rc.h ≤ 2590 := by clear ex ey er; omega
  clear ex ey er eb hx hy hw hh v1 v2 v3 v4 v5 v6 v7 v8
  unfold barRect barRectCost
  rw [hrc]
  simp only []
  split
  · exact ⟨_, rfl⟩
  · rw [bottomRight_small (by unfold Rect.Small; omega)]
    simp only []
    rw [hW, chk_in (v := rc.y * 640) (by omega)]
    simp only []
    rw [chk_in (v := rc.y * 640 + rc.x) (by omega)]
    simp only []
    split
    · obtain ⟨res, hres⟩ := solidRows_some (w := 640) (by decide) (rc.y + rc.h - rc.y).toNat s.screen (rc.y * 640 + rc.x) (rc.x + rc.w - rc.x).toNat s.fillColor 0
        (by omega) (by omega)
      rw [hres]
      exact ⟨_, rfl⟩
    · obtain ⟨res, hres⟩ := patRows_some (w := 640) (by decide) (rc.y + rc.h - rc.y).toNat s.screen (rc.y * 640 + rc.x) (rc.x + rc.w - rc.x).toNat
        rc.x (remI rc.y 8) (fillPattern s) s.fillColor s.bk 0
        (by omega) (by omega) bx.1 (remI_nonneg_lt by'.1).1 (remI_nonneg_lt by'.1).2 (fillPattern_length s hup hfs)
      rw [hres]
      exact ⟨_, rfl⟩

theorem bar_total (s : Bgi) (hs : StreamState s) (l t r b : Int)
    (hl : -1048576 ≤ l ∧ l ≤ 1048576) (ht : -1048576 ≤ t ∧ t ≤ 1048576)
    (hr : -1048576 ≤ r ∧ r ≤ 1048576) (hb : -1048576 ≤ b ∧ b ≤ 1048576) :
    ∃ s', bar s l t r b = some s' := by
  unfold bar
  rw [chk_in (v := r - l) (by omega)]
  rw [chk_in (v := b - t) (by omega)]
  simp only []
  rw [chk_in (v := r - l + 1) (by omega)]
  rw [chk_in (v := b - t + 1) (by omega)]
  simp only []
  exact barRect_total s hs ⟨l, t, r - l + 1, b - t + 1⟩ hl ht (by simp only []; omega) (by simp only []; omega)

theorem bar_draws (s : Bgi) (l t r b : Int) : Draws s id (fun _ => True) (StreamState s ∧ (-1048576 ≤ l ∧ l ≤ 1048576) ∧
    (-1048576 ≤ t ∧ t ≤ 1048576) ∧ (-1048576 ≤ r ∧ r ≤ 1048576) ∧ (-1048576 ≤ b ∧ b ≤ 1048576)) (bar s l t r b) :=
  ⟨fun _ e => ⟨bar_framed e, trivial⟩, fun ⟨hs, hl, ht, hr, hb⟩ => bar_total s hs l t r b hl ht hr hb⟩

end IcyVerif.Bgi
