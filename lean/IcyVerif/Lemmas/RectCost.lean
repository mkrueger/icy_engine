import IcyVerif.Model.RectCost
/-! # What the rectangle clauses of C03 (`rqcra_count_le`, `rect_count_le`, `rect_param_bounded`) rest on -/
namespace IcyVerif.RectCost

theorem sat_le (v : Int) : sat v ≤ 2147483647 := by unfold sat i32Max i32Min; split <;> (try split) <;> omega
theorem sat_ge (v : Int) : -2147483648 ≤ sat v := by unfold sat i32Max i32Min; split <;> (try split) <;> omega

theorem parseNextNumber_le (x : Int) (ch : Nat) : parseNextNumber x ch ≤ 2147483647 := sat_le _

theorem foldl_parse_le : ∀ (ds : List Nat) (acc : Int), acc ≤ 2147483647 → ds.foldl parseNextNumber acc ≤ 2147483647 := by
  intro ds
  induction ds with
  | nil => intro acc h; exact h
  | cons d ds ih => intro acc _; exact ih _ (parseNextNumber_le acc d)

theorem rqcraOk_bounds {nums : List Int} {tw th : Int} (h : rqcraOk nums tw th = true) :
    0 ≤ num nums 2 ∧ num nums 2 ≤ num nums 4 ∧ num nums 4 ≤ th ∧ 0 ≤ num nums 3 ∧ num nums 3 ≤ num nums 5 ∧ num nums 5 ≤ tw := by
  unfold rqcraOk at h
  simp only [Bool.and_eq_true, Bool.not_eq_true', Bool.or_eq_false_iff, decide_eq_false_iff_not] at h
  omega

/-- the accepted rectangle lies inside the screen: this is what the guard is for (four conjuncts of `rqcraOk_bounds`) -/
theorem rqcra_inside (nums : List Int) (tw th : Int) (h : rqcraOk nums tw th = true) :
    0 ≤ num nums 2 ∧ num nums 4 ≤ th ∧ 0 ≤ num nums 3 ∧ num nums 5 ≤ tw := by
  have := rqcraOk_bounds h; omega

theorem span_le (a b r : Int) (hr : 1 ≤ r) : (min (max b 1) r - 1 - (min (max a 1) r - 1) + 1).toNat ≤ r.toNat := by
  omega

theorem areaCount_le (nums : List Int) (off : Nat) (lines tw th : Int) (h1 : 1 ≤ tw) (h2 : 1 ≤ th) :
    areaCount (rectArea nums off lines tw th) ≤ tw.toNat * (max lines th).toNat := by
  rw [Nat.mul_comm tw.toNat]
  exact Nat.mul_le_mul (span_le _ _ _ (by omega)) (span_le _ _ _ h1)

end IcyVerif.RectCost
