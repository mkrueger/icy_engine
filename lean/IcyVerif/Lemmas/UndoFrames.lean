import IcyVerif.Lemmas.UndoSnapshot
import IcyVerif.Model.UndoApi
/-! # C08: the frame of an area operation (`Frame`, `Framed`, `stamp_back`); the `UndoLayerChange`-based operations stay inside theirs -/
namespace IcyVerif.Undo

/-- `o'` is `o` edited inside the area only: same size and properties, all cells outside `area ∩ layer` (hidden rows and
    cells included) untouched -/
def Frame (a : Rect) (o o' : LObs) : Prop :=
  o'.1 = o.1 ∧ o'.2.1 = o.2.1 ∧ o'.2.2.1 = o.2.2.1 ∧
    ∀ x y : Nat, ¬ (a.isInside x y = true ∧ o.inside x y = true) → o'.cells x y = o.cells x y

/-- what an area operation returned for `l` is fine: an error, or `l` edited inside the area only -/
def Framed (a : Rect) (l : LayerM) : Except Err LayerM → Prop
  | .ok l' => Frame a l.obs l'.obs
  | .error _ => True

theorem Frame.refl (a : Rect) (o : LObs) : Frame a o o := ⟨rfl, rfl, rfl, fun _ _ _ => rfl⟩

theorem Frame.trans {a : Rect} {o1 o2 o3 : LObs} (h12 : Frame a o1 o2) (h23 : Frame a o2 o3) : Frame a o1 o3 := by
  obtain ⟨a1, a2, a3, a4⟩ := h12
  obtain ⟨b1, b2, b3, b4⟩ := h23
  refine ⟨b1.trans a1, b2.trans a2, b3.trans a3, ?_⟩
  intro x y hn
  have hin : o2.inside x y = o1.inside x y := by simp only [LObs.inside, a1, a2]
  rw [b4 x y (by rw [hin]; exact hn), a4 x y hn]

theorem Frame.setChar {a : Rect} {o0 o : LObs} (h : Frame a o0 o) (X Y : Int) (c : Cell) (hin : a.isInside X Y = true) :
    Frame a o0 (o.setChar X Y c) := by
  apply h.trans
  refine ⟨rfl, rfl, rfl, ?_⟩
  intro x y hn
  show (if o.writes X Y = true ∧ x = X.toNat ∧ y = Y.toNat then c else o.cells x y) = o.cells x y
  by_cases hw : o.writes X Y = true ∧ x = X.toNat ∧ y = Y.toNat
  · exfalso
    obtain ⟨hw1, rfl, rfl⟩ := hw
    have hi := LObs.writes_inside hw1
    have hnn : 0 ≤ X ∧ 0 ≤ Y := LObs.inside_nonneg hi
    have e1 : ((X.toNat : Nat) : Int) = X := by omega
    have e2 : ((Y.toNat : Nat) : Int) = Y := by omega
    apply hn
    rw [e1, e2]
    exact ⟨hin, hi⟩
  · rw [if_neg hw]

theorem Frame.foldl {α : Type} {a : Rect} {o0 : LObs} (step : LObs → α → LObs) (xs : List α)
    (hstep : ∀ o x, x ∈ xs → Frame a o0 o → Frame a o0 (step o x)) (o : LObs) (h : Frame a o0 o) : Frame a o0 (xs.foldl step o) :=
  List.foldlRecOn xs step h fun o ho x hx => hstep o x hx ho

theorem Frame.symm {a : Rect} {o o' : LObs} (h : Frame a o o') : Frame a o' o := by
  obtain ⟨h1, h2, h3, h4⟩ := h
  refine ⟨h1.symm, h2.symm, h3.symm, fun x y hn => (h4 x y ?_).symm⟩
  have hin : o'.inside x y = o.inside x y := by simp only [LObs.inside, h1, h2]
  rwa [hin] at hn

theorem stamp_back {a : Rect} {l l2 m snap : LayerM} (hs : fromLayer l a = .ok snap) (hm : m.obs = l2.obs)
    (hf : Frame a l.obs l2.obs) : (layerChangeApply m a.x a.y snap).obs = l.obs := by
  obtain ⟨mw, mh, mp, mc⟩ := LayerM.obs_eq.mp hm
  obtain ⟨f1, f2, f3, f4⟩ := hf
  have f1' : l2.w = l.w := f1
  have f2' : l2.h = l.h := f2
  have f3' : l2.props = l.props := f3
  have f4' : ∀ x y : Nat, ¬ (a.isInside x y = true ∧ l.inside x y = true) → rowsGet l2.lines x y = rowsGet l.lines x y := f4
  unfold layerChangeApply
  rw [stamp_snapshot l m snap a hs (mw.trans f1') (mh.trans f2')]
  show (m.w, m.h, m.props, _) = (l.w, l.h, l.props, rowsGet l.lines)
  rw [mw, mh, mp, f1', f2', f3']
  congr 3
  funext x' y'
  by_cases hc : a.isInside x' y' = true ∧ l.inside x' y' = true
  · rw [if_pos hc]
  · rw [if_neg hc, mc, f4' x' y' hc]

theorem isInside_iff (r : Rect) (X Y : Int) : r.isInside X Y = true ↔ r.x ≤ X ∧ r.y ≤ Y ∧ X < r.x + r.w ∧ Y < r.y + r.h := by
  simp only [Rect.isInside, Bool.and_eq_true, decide_eq_true_eq]
  constructor
  · rintro ⟨⟨⟨h1, h2⟩, h3⟩, h4⟩; exact ⟨h1, h2, h3, h4⟩
  · rintro ⟨h1, h2, h3, h4⟩; exact ⟨⟨⟨h1, h2⟩, h3⟩, h4⟩

theorem frame_setChar_in {a : Rect} {l0 l : LayerM} (h : Frame a l0.obs l.obs) (X Y : Int) (c : Cell)
    (hx : a.x ≤ X) (hx' : X < a.x + a.w) (hy : a.y ≤ Y) (hy' : Y < a.y + a.h) : Frame a l0.obs (l.setChar X Y c).obs := by
  rw [setChar_obs]
  exact h.setChar X Y c ((isInside_iff _ _ _).mpr ⟨hx, hy, hx', hy'⟩)

theorem frame_range {a : Rect} {l0 : LayerM} (lo hi : Int) (step : LayerM → Int → LayerM)
    (hstep : ∀ l x, lo ≤ x → x < hi → Frame a l0.obs l.obs → Frame a l0.obs (step l x).obs) {l : LayerM} (h : Frame a l0.obs l.obs) :
    Frame a l0.obs ((intRange lo hi).foldl step l).obs :=
  List.foldlRecOn (motive := fun l => Frame a l0.obs l.obs) _ step h fun l hl x hx =>
    hstep l x (mem_intRange.mp hx).1 (mem_intRange.mp hx).2 hl

theorem frame_w {a : Rect} {l0 l : LayerM} (h : Frame a l0.obs l.obs) : l.w = l0.w := h.1
theorem frame_h {a : Rect} {l0 l : LayerM} (h : Frame a l0.obs l.obs) : l.h = l0.h := h.2.1
theorem frame_props {a : Rect} {l0 l : LayerM} (h : Frame a l0.obs l.obs) : l.props = l0.props := h.2.2.1

theorem flipX_frame (d : Doc) (l : LayerM) (a : Rect) : Framed a l (flipXF d l a) := by
  refine of_ite (fun _ => trivial) fun _ => ?_
  · refine frame_range _ _ _ (fun l1 y hy1 hy2 h1 => frame_range _ _ _ (fun l2 x hx1 hx2 h2 => ?_) h1) (Frame.refl _ _)
    simp only [Rect.bottom, Rect.right] at hy2 ⊢
    exact frame_setChar_in (frame_setChar_in h2 _ _ _ (by omega) (by omega) (by omega) (by omega)) _ _ _
      (by omega) (by omega) (by omega) (by omega)

theorem flipY_frame (d : Doc) (l : LayerM) (a : Rect) : Framed a l (flipYF d l a) := by
  refine of_ite (fun _ => trivial) fun _ => ?_
  · refine frame_range _ _ _ (fun l1 x hx1 hx2 h1 => frame_range _ _ _ (fun l2 y hy1 hy2 h2 => ?_) h1) (Frame.refl _ _)
    simp only [Rect.bottom, Rect.right] at hx2 ⊢
    exact frame_setChar_in (frame_setChar_in h2 _ _ _ (by omega) (by omega) (by omega) (by omega)) _ _ _
      (by omega) (by omega) (by omega) (by omega)

theorem justifyLeft_frame (d : Doc) (l : LayerM) (a : Rect) : Framed a l (justifyLeftF d l a) := by
  refine frame_range _ _ _ (fun l1 y hy1 hy2 h1 => ?_) (Frame.refl _ _)
  dsimp only
  split
  · exact h1
  · refine frame_range _ _ _ (fun l2 x hx1 hx2 h2 => ?_) h1
    simp only [Rect.bottom, Rect.right] at hy2 hx2
    exact frame_setChar_in h2 _ _ _ (by omega) (by omega) (by omega) (by omega)

theorem justifyRight_frame (d : Doc) (l : LayerM) (a : Rect) : Framed a l (justifyRightF d l a) := by
  refine frame_range _ _ _ (fun l1 y hy1 hy2 h1 => ?_) (Frame.refl _ _)
  dsimp only
  split
  · exact h1
  · refine List.foldlRecOn (motive := fun (l2 : LayerM) => Frame a l.obs l2.obs) _ _ h1 fun l2 h2 x hx => ?_
    obtain ⟨hx1, hx2⟩ := mem_intRange.mp (List.mem_reverse.mp hx)
    simp only [Rect.bottom, Rect.right] at hy2 hx2
    exact frame_setChar_in h2 _ _ _ (by omega) (by omega) (by omega) (by omega)

theorem center_frame (d : Doc) (l : LayerM) (a : Rect) : Framed a l (centerF d l a) := by
  refine frame_range _ _ _ (fun l1 y hy1 hy2 h1 => ?_) (Frame.refl _ _)
  dsimp only
  split
  · exact h1
  · refine frame_range _ _ _ (fun l2 x hx1 hx2 h2 => ?_) h1
    simp only [Rect.bottom, Rect.right] at hy2 ⊢
    exact frame_setChar_in h2 _ _ _ (by omega) (by omega) (by omega) (by omega)

theorem getArea_inside (sel : Option Sel) (l : LayerM) (x y : Nat) (h : (getArea sel l.rect).isInside x y = true) :
    l.inside x y = true := by
  simp only [Rect.isInside, Bool.and_eq_true, decide_eq_true_eq] at h
  simp only [LayerM.inside, Bool.and_eq_true, decide_eq_true_eq]
  unfold getArea at h
  cases sel with
  | none =>
    simp only [Rect.shift, LayerM.rect] at h
    omega
  | some s =>
    simp only [Rect.shift, LayerM.rect, Rect.intersect, Rect.right, Rect.bottom] at h
    omega

theorem getArea_nonneg (sel : Option Sel) (l : LayerM) : 0 ≤ (getArea sel l.rect).x ∧ 0 ≤ (getArea sel l.rect).y := by
  unfold getArea
  cases sel with
  | none => simp only [Rect.shift, LayerM.rect]; omega
  | some s => simp only [Rect.shift, LayerM.rect, Rect.intersect, Rect.right, Rect.bottom]; omega

theorem mapAreaRows_frame (l : LayerM) (a : Rect) (f : Nat → Row → Row)
    (hsub : ∀ x y : Nat, a.isInside x y = true → l.inside x y = true)
    (hf : ∀ (y : Nat) (r : Row) (k : Nat), a.right.toNat ≤ r.length → (k < a.x.toNat ∨ a.right.toNat ≤ k) →
      (f y r).getD k Cell.invisible = r.getD k Cell.invisible) :
    Frame a l.obs (mapAreaRows l a f).obs := by
  refine ⟨rfl, rfl, rfl, ?_⟩
  intro x y hn
  show rowsGet (mapAreaRows l a f).lines x y = rowsGet l.lines x y
  simp only [mapAreaRows, rowsGet, List.getD_eq_getElem?_getD, List.getElem?_mapIdx]
  cases hr : l.lines[y]? with
  | none => simp
  | some r =>
    simp only [Option.map_some, Option.getD_some]
    by_cases hy : a.y.toNat ≤ y ∧ y < a.bottom.toNat
    · rw [if_pos hy]
      have hlen : a.right.toNat ≤ (growTo r a.right.toNat Cell.invisible).length := length_growTo _ _ _
      by_cases hx : x < a.x.toNat ∨ a.right.toNat ≤ x
      · have := hf y (growTo r a.right.toNat Cell.invisible) x hlen hx
        simp only [List.getD_eq_getElem?_getD] at this
        rw [this]
        have g := getD_growTo_inv r a.right.toNat x
        simp only [List.getD_eq_getElem?_getD] at g
        exact g
      · exfalso
        apply hn
        have hin : a.isInside x y = true := by
          apply (isInside_iff _ _ _).mpr
          simp only [Rect.right, Rect.bottom, Int.lt_toNat, Int.toNat_le, not_or] at hx hy
          omega
        exact ⟨hin, hsub x y hin⟩
    · rw [if_neg hy]

/-- core's `List.getD_eq_getElem?_getD` -/
theorem getD_eq_getElem?_getD' {α : Type} (l : List α) (k : Nat) (d : α) : l.getD k d = (l[k]?).getD d := List.getD_eq_getElem?_getD ..

/-- `chars.remove(i)`, `chars.insert(j, ch)` -/
theorem move_row (r : Row) (i j k L R : Nat) (hi : L ≤ i) (hi' : i < R) (hj : L ≤ j) (hj' : j < R) (hk : k < L ∨ R ≤ k) :
    ((r.eraseIdx i).insertIdx j (r.getD i Cell.invisible)).getD k Cell.invisible = r.getD k Cell.invisible := by
  simp only [List.getD_eq_getElem?_getD, List.getElem?_insertIdx, List.getElem?_eraseIdx]
  rcases hk with hk | hk
  · have h1 : k < i := by omega
    have h2 : k < j := by omega
    simp [h1, h2]
  · have c1 : ¬ k < j := by omega
    have c2 : ¬ k = j := by omega
    have c3 : ¬ k - 1 < i := by omega
    have c4 : k - 1 + 1 = k := by omega
    simp [c1, c2, c3, c4]

theorem putArea_row (r cells : Row) (L R k : Nat) (hLR : L ≤ R) (hR : R ≤ r.length) (hc : cells.length = R - L) (hk : k < L ∨ R ≤ k) :
    (r.take L ++ cells ++ r.drop R).getD k Cell.invisible = r.getD k Cell.invisible := by
  simp only [List.getD_eq_getElem?_getD]
  rcases hk with hk | hk
  · rw [List.append_assoc, List.getElem?_append_left (by simp; omega)]
    simp [hk]
  · rw [List.getElem?_append_right (by simp; omega)]
    simp only [List.length_append, List.length_take, hc, List.getElem?_drop]
    have : R + (k - (min L r.length + (R - L))) = k := by omega
    rw [this]

theorem areaCells_length (l : LayerM) (a : Rect) (y : Nat) (hx0 : 0 ≤ a.x) (hw : 0 ≤ a.w) : (areaCells l a y).length = a.right.toNat - a.x.toNat := by
  have hR : a.right.toNat = a.x.toNat + a.w.toNat := Int.toNat_add hx0 hw
  simp only [areaCells, List.length_take, List.length_drop, growTo, List.length_append, List.length_replicate, hR]
  generalize a.x.toNat = X
  generalize a.w.toNat = W
  omega

theorem isEmpty_false {a : Rect} (h : a.isEmpty = false) : 0 < a.w ∧ 0 < a.h := by
  simp only [Rect.isEmpty, Bool.or_eq_false_iff, decide_eq_false_iff_not] at h
  omega

theorem scrollLR_frame (d : Doc) (l : LayerM) (left : Bool) (he : (getArea d.sel l.rect).isEmpty = false) :
    Framed (getArea d.sel l.rect) l
      (if left then scrollLeftF d l (getArea d.sel l.rect) else scrollRightF d l (getArea d.sel l.rect)) := by
  obtain ⟨hw, hh⟩ := isEmpty_false he
  obtain ⟨hx0, hy0⟩ := getArea_nonneg d.sel l
  have hLR : (getArea d.sel l.rect).x.toNat < (getArea d.sel l.rect).right.toNat := by
    simp only [Rect.right]
    omega
  have hR1 := Nat.le_sub_one_of_lt hLR
  have hR2 := Nat.sub_lt (Nat.zero_lt_of_lt hLR) Nat.one_pos
  cases left with
  | true =>
    simp only [if_true, scrollLeftF, he, Bool.false_eq_true, if_false]
    exact of_ite (fun _ => trivial) fun _ => mapAreaRows_frame l _ _ (getArea_inside d.sel l)
      (fun y r k hlen hk => move_row r _ _ k _ _ (Nat.le_refl _) hLR hR1 hR2 hk)
  | false =>
    simp only [Bool.false_eq_true, if_false, scrollRightF, he]
    exact of_ite (fun _ => trivial) fun _ => mapAreaRows_frame l _ _ (getArea_inside d.sel l)
      (fun y r k hlen hk => move_row r _ _ k _ _ hR1 hR2 (Nat.le_refl _) hLR hk)

theorem scrollPartial_frame (up : Bool) (d : Doc) (l : LayerM) (he : (getArea d.sel l.rect).isEmpty = false) :
    Framed (getArea d.sel l.rect) l (scrollPartialF up l (getArea d.sel l.rect)) := by
  obtain ⟨hw, hh⟩ := isEmpty_false he
  obtain ⟨hx0, hy0⟩ := getArea_nonneg d.sel l
  refine of_ite (fun _ => trivial) fun _ => mapAreaRows_frame l _ _ (getArea_inside d.sel l) fun y r k hlen hk => ?_
  unfold putAreaCells
  exact putArea_row r _ _ _ k (by simp only [Rect.right]; omega) hlen (areaCells_length l _ _ hx0 (by omega)) hk

end IcyVerif.Undo
