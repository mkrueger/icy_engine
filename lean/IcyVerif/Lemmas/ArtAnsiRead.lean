import IcyVerif.Lemmas.ArtFormats
/-! # The ANSI reader on the writer's control sequences (C04)

`ansiStep` state by state for the bytes the writers emit; then whole sequences: reading back `csi ps final` (numbers below
1000) leaves the parser in the CSI state with exactly the parameters `ps` when the final byte arrives (`csi_read`), hence what
each of the writer's sequences does (`ansiRun_sgr`, `ansiRun_cuf`, …). -/
namespace IcyVerif.ArtIO
open IcyVerif.Gen.Art

def ansiRun (p : AnsiP) (c : Core) (bs : List Nat) : AnsiP × Core :=
  bs.foldl (fun pc ch => ansiStep pc.1 pc.2 ch) (p, c)

theorem ansiRun_nil (p : AnsiP) (c : Core) : ansiRun p c [] = (p, c) := rfl
theorem ansiRun_cons (p : AnsiP) (c : Core) (b : Nat) (bs : List Nat) :
    ansiRun p c (b :: bs) = ansiRun (ansiStep p c b).1 (ansiStep p c b).2 bs := rfl
theorem ansiRun_append (p : AnsiP) (c : Core) (a b : List Nat) :
    ansiRun p c (a ++ b) = ansiRun (ansiRun p c a).1 (ansiRun p c a).2 b := by
  simp [ansiRun, List.foldl_append]

theorem ansiRun_append_of_eq {p p1 : AnsiP} {c c1 : Core} {a : List Nat} (h : ansiRun p c a = (p1, c1)) (b : List Nat) :
    ansiRun p c (a ++ b) = ansiRun p1 c1 b := by
  rw [ansiRun_append, h]

theorem run_ansi_eq (bs : List Nat) : ∀ (r : RS),
    run .ansi r bs = { r with ansi := (ansiRun r.ansi r.core bs).1, core := (ansiRun r.ansi r.core bs).2 } := by
  induction bs with
  | nil => intro r; rfl
  | cons b bs ih =>
    intro r
    show run .ansi (step .ansi r b) bs = _
    rw [ih]
    simp [step, ansiRun_cons]

theorem ansiRun_crlf (p : AnsiP) (core : Core) (hs : core.stuck = false) (hg : p.st = .ground) :
    ansiRun p core [13, 10] = (p, { core with scr := core.scr.exec Op.nl }) := by
  rw [ansiRun_cons, ansiStep_cr p core hs hg]
  simp only []
  rw [ansiRun_cons, ansiStep_lf p { core with scr := core.scr.cr } hs hg, ansiRun_nil]
  rfl

theorem ansiStep_stuck (p : AnsiP) (c : Core) (ch : Nat) (h : c.stuck = true) : ansiStep p c ch = (p, c) := by
  unfold ansiStep; rw [if_pos h]

theorem ansiRun_stuck (k : List Nat) (p : AnsiP) (c : Core) (h : c.stuck = true) : ansiRun p c k = (p, c) :=
  List.foldlRecOn k _ (motive := fun pc => pc = (p, c)) rfl fun _ hb ch _ => by rw [hb]; exact ansiStep_stuck p c ch h

theorem ansiStep_esc (p : AnsiP) (c : Core) (hs : c.stuck = false) (hg : p.st = .ground) : ansiStep p c 27 = ({ p with st := .esc }, c) := by
  unfold ansiStep; rw [if_neg (by rw [hs]; decide), hg]; rfl

section esc
variable (p : AnsiP) (c : Core) (hs : c.stuck = false) (hp : p.st = .esc)
include hs hp

theorem ansiStep_esc_csi : ansiStep p c 91 = ({ p with st := .csi [] true }, c) := by
  unfold ansiStep; rw [if_neg (by rw [hs]; decide), hp]; rfl

theorem ansiStep_esc_print (ch : Nat) (h91 : ch ≠ 91) (he : escPrintable ch = true) :
    ansiStep p c ch = ({ p with st := .ground, lastCh := ch }, c.printAnsi ch) := by
  unfold ansiStep; rw [if_neg (by rw [hs]; decide), hp]
  simp only []
  rw [if_neg h91, if_pos he]

end esc

section csi
variable (p : AnsiP) (c : Core) (nums : List Nat) (st : Bool) (hs : c.stuck = false) (hp : p.st = .csi nums st)
include hs hp

theorem ansiStep_sgr : ansiStep p c 109 = ({ p with st := .ground }, sgr c nums) := by
  unfold ansiStep; rw [if_neg (by rw [hs]; decide), hp]; rfl

theorem ansiStep_cup : ansiStep p c 72 = ({ p with st := .ground }, { c with scr := cup c.scr nums }) := by
  unfold ansiStep; rw [if_neg (by rw [hs]; decide), hp]; rfl

theorem ansiStep_cuf : ansiStep p c 67 = ({ p with st := .ground }, { c with scr := c.scr.right (nums.headD 1) }) := by
  unfold ansiStep; rw [if_neg (by rw [hs]; decide), hp]; rfl

theorem ansiStep_rep : ansiStep p c 98 = ({ p with st := .ground }, rep c p.lastCh nums) := by
  unfold ansiStep; rw [if_neg (by rw [hs]; decide), hp]; rfl

theorem ansiStep_color24 (h4 : nums.length = 4) : ansiStep p c 116 = ({ p with st := .ground }, color24 c nums) := by
  unfold ansiStep; rw [if_neg (by rw [hs]; decide), hp]; exact if_pos h4

theorem ansiStep_clear (h : nums.head? = some 2) : ansiStep p c 74 = ({ p with st := .ground }, { c with scr := c.scr.clear }) := by
  unfold ansiStep; rw [if_neg (by rw [hs]; decide), hp]
  simp only [h]; rfl

theorem ansiStep_save : ansiStep p c 115 = ({ p with st := .ground, saved := (c.scr.cx, c.scr.cy) }, c) := by
  unfold ansiStep; rw [if_neg (by rw [hs]; decide), hp]; rfl

theorem ansiStep_restore :
    ansiStep p c 117 = ({ p with st := .ground }, { c with scr := { c.scr with cx := p.saved.1, cy := p.saved.2 }.limit }) := by
  unfold ansiStep; rw [if_neg (by rw [hs]; decide), hp]; rfl

theorem ansiStep_csi_sp : ansiStep p c 32 = ({ p with st := .csiSp nums }, c) := by
  unfold ansiStep; rw [if_neg (by rw [hs]; decide), hp]; rfl

theorem ansiStep_csi_q (hst : st = true) : ansiStep p c 63 = ({ p with st := .csiQ nums }, c) := by
  unfold ansiStep; rw [if_neg (by rw [hs]; decide), hp]; exact if_pos hst

theorem ansiStep_csi_semi : ansiStep p c 59 = ({ p with st := .csi (nums ++ [0]) false }, c) := by
  unfold ansiStep; rw [if_neg (by rw [hs]; decide), hp]; rfl

end csi

section csiQ
variable (p : AnsiP) (c : Core) (nums : List Nat) (hs : c.stuck = false) (hp : p.st = .csiQ nums)
include hs hp

theorem ansiStep_csiQ_digit (b : Nat) (hd : isDigit b = true) : ansiStep p c b = ({ p with st := .csiQ (numsDigit nums b) }, c) := by
  unfold ansiStep; rw [if_neg (by rw [hs]; decide), hp]; exact if_pos hd

theorem ansiStep_iceOn (h : nums = [33]) : ansiStep p c 104 = ({ p with st := .ground }, { c with bufIce := .ice, caretIce := true }) := by
  unfold ansiStep; rw [if_neg (by rw [hs]; decide), hp]; exact if_pos h

theorem ansiStep_iceOff (h : nums = [33]) : ansiStep p c 108 = ({ p with st := .ground }, { c with caretIce := false }) := by
  unfold ansiStep; rw [if_neg (by rw [hs]; decide), hp]; exact if_pos h

end csiQ

theorem ansiStep_font (p : AnsiP) (c : Core) (nums : List Nat) (hs : c.stuck = false) (hp : p.st = .csiSp nums)
    (h : nums.length = 2 ∧ nums.getD 1 0 < ansiFonts) : ansiStep p c 68 = ({ p with st := .ground }, c) := by
  unfold ansiStep; rw [if_neg (by rw [hs]; decide), hp]; exact if_pos h

theorem numsDigit_snoc (pre : List Nat) (d ch : Nat) : numsDigit (pre ++ [d]) ch = pre ++ [parseNextNumber d ch] := by
  simp [numsDigit]

theorem numsDigit_nil (ch : Nat) : numsDigit [] ch = [parseNextNumber 0 ch] := by simp [numsDigit]

theorem parse_digit (x d : Nat) (hx : x < 100000) (hd : d < 10) : parseNextNumber x (48 + d) = x * 10 + d := by
  unfold parseNextNumber i32Max; omega

theorem isDigit_bounds {b : Nat} (h : isDigit b = true) : 48 ≤ b ∧ b ≤ 57 := by
  simp [isDigit] at h; exact h

theorem ansiStep_csi_digit (p : AnsiP) (c : Core) (nums : List Nat) (st : Bool) (b : Nat) (hd : isDigit b = true)
    (hs : c.stuck = false) (hp : p.st = .csi nums st) :
    ansiStep p c b = ({ p with st := .csi (numsDigit nums b) false }, c) := by
  obtain ⟨l, u⟩ := isDigit_bounds hd
  unfold ansiStep; rw [if_neg (by rw [hs]; decide), hp]
  simp only []
  rw [if_neg (by omega), if_neg (by omega), if_neg (by omega), if_neg (by omega), if_neg (by omega), if_neg (by omega), if_neg (by omega),
    if_neg (by omega), if_neg (by omega), if_neg (by omega), if_pos hd]

/-- the parameter list with its last entry replaced by `n` (`[n]` for the empty list); the lemmas below state the lists directly and do not use it -/
def afterNum (nums : List Nat) (n : Nat) : List Nat :=
  match nums.reverse with
  | [] => [n]
  | _ :: rest => rest.reverse ++ [n]

/-- feeding the decimal digits of `n < 1000` to the CSI state when the current parameter is still 0 (fresh sequence, or
    right after `;`) -/
theorem csi_digits (p : AnsiP) (c : Core) (pre : List Nat) (b : Bool) (n : Nat) (hn : n < 1000) (hs : c.stuck = false)
    (hst : p.st = .csi (pre ++ [0]) b ∨ (p.st = .csi [] b ∧ pre = [])) :
    ansiRun p c (digits n) = ({ p with st := .csi (pre ++ [n]) false }, c) := by
  have step : ∀ (q : AnsiP) (v : Nat) (b' : Bool) (d : Nat), v < 1000 → d < 10 → q.st = .csi (pre ++ [v]) b' →
      ansiStep q c (48 + d) = ({ q with st := .csi (pre ++ [v * 10 + d]) false }, c) := by
    intro q v b' d hv hd hq
    rw [ansiStep_csi_digit q c _ b' (48 + d) (by simp [isDigit]; omega) hs hq, numsDigit_snoc, parse_digit v d (by omega) hd]
  -- the first digit replaces the pending 0 (or starts the list), the others extend it
  have first : ∀ d, d < 10 → ansiStep p c (48 + d) = ({ p with st := .csi (pre ++ [d]) false }, c) := by
    intro d hd
    rcases hst with h | ⟨h, hp⟩
    · rw [step p 0 b d (by omega) hd h, Nat.zero_mul, Nat.zero_add]
    · subst hp
      rw [ansiStep_csi_digit p c [] b (48 + d) (by simp [isDigit]; omega) hs h, numsDigit_nil, parse_digit 0 d (by omega) hd,
        Nat.zero_mul, Nat.zero_add]
      rfl
  unfold digits
  by_cases h1 : n < 10
  · rw [if_pos h1, ansiRun_cons, first n h1, ansiRun_nil]
  · rw [if_neg h1]
    by_cases h2 : n < 100
    · rw [if_pos h2, ansiRun_cons, first (n / 10) (by omega), ansiRun_cons,
        step _ (n / 10) false (n % 10) (by omega) (by omega) rfl, ansiRun_nil,
        show n / 10 * 10 + n % 10 = n by omega]
    · rw [if_neg h2, if_pos hn, ansiRun_cons, first (n / 100) (by omega), ansiRun_cons,
        step _ (n / 100) false (n / 10 % 10) (by omega) (by omega) rfl, ansiRun_cons,
        step _ (n / 100 * 10 + n / 10 % 10) false (n % 10) (by omega) (by omega) rfl, ansiRun_nil,
        show (n / 100 * 10 + n / 10 % 10) * 10 + n % 10 = n by omega]

theorem csi_params (c : Core) (hs : c.stuck = false) : ∀ (ps : List Nat) (p : AnsiP) (pre : List Nat) (b : Bool),
    ps ≠ [] → (∀ n ∈ ps, n < 1000) → (p.st = .csi (pre ++ [0]) b ∨ (p.st = .csi [] b ∧ pre = [])) →
    ansiRun p c (params ps) = ({ p with st := .csi (pre ++ ps) false }, c) := by
  intro ps
  induction ps with
  | nil => intro p pre b h; exact absurd rfl h
  | cons n rest ih =>
    intro p pre b _ hlt hst
    have hn : n < 1000 := hlt n List.mem_cons_self
    cases rest with
    | nil =>
      show ansiRun p c (digits n) = _
      exact csi_digits p c pre b n hn hs hst
    | cons m rest2 =>
      show ansiRun p c (digits n ++ [59] ++ params (m :: rest2)) = _
      rw [List.append_assoc, ansiRun_append, csi_digits p c pre b n hn hs hst]
      simp only []
      rw [List.singleton_append, ansiRun_cons, ansiStep_csi_semi _ c (pre ++ [n]) false hs rfl]
      simp only []
      have := ih { p with st := .csi (pre ++ [n] ++ [0]) false } (pre ++ [n]) false (by simp)
        (fun k hk => hlt k (List.mem_cons_of_mem _ hk)) (Or.inl rfl)
      rw [this]
      simp

theorem ansiRun_csi_intro (p : AnsiP) (c : Core) (hs : c.stuck = false) (hg : p.st = .ground) :
    ansiRun p c [27, 91] = ({ p with st := .csi [] true }, c) := by
  rw [ansiRun_cons, ansiStep_esc p c hs hg, ansiRun_cons, ansiStep_esc_csi _ c hs rfl]; rfl

theorem csi_read (p : AnsiP) (c : Core) (ps : List Nat) (final : Nat) (hs : c.stuck = false) (hg : p.st = .ground)
    (hne : ps ≠ []) (hlt : ∀ n ∈ ps, n < 1000) :
    ansiRun p c (csi ps final) = ansiStep { p with st := .csi ps false } c final := by
  unfold csi
  rw [List.append_assoc, ansiRun_append, ansiRun_csi_intro p c hs hg]
  simp only []
  rw [ansiRun_append, csi_params c hs ps { p with st := .csi [] true } [] true hne hlt (Or.inr ⟨rfl, rfl⟩)]
  simp only [List.nil_append]
  rfl

section table
variable (p : AnsiP) (c : Core) (hs : c.stuck = false) (hg : p.st = .ground)
include hs hg

/-- `CSI p1;…;pn m` -/
theorem ansiRun_sgr (ps : List Nat) (hne : ps ≠ []) (hlt : ∀ n ∈ ps, n < 1000) :
    ansiRun p c (csi ps 109) = ({ p with st := .ground }, sgr c ps) := by
  rw [csi_read p c ps 109 hs hg hne hlt, ansiStep_sgr _ c ps false hs rfl]

/-- `CSI n C` -/
theorem ansiRun_cuf (n : Nat) (hn : n < 1000) : ansiRun p c (csi [n] 67) = ({ p with st := .ground }, { c with scr := c.scr.right n }) := by
  rw [csi_read p c [n] 67 hs hg (by simp) (by simpa using hn), ansiStep_cuf _ c [n] false hs rfl]; rfl

/-- `CSI n b` -/
theorem ansiRun_rep (n : Nat) (hn : n < 1000) : ansiRun p c (csi [n] 98) = ({ p with st := .ground }, rep c p.lastCh [n]) := by
  rw [csi_read p c [n] 98 hs hg (by simp) (by simpa using hn), ansiStep_rep _ c [n] false hs rfl]

/-- `CSI k;r;g;b t` -/
theorem ansiRun_color24 (k r g b : Nat) (hlt : ∀ n ∈ [k, r, g, b], n < 1000) :
    ansiRun p c (csi [k, r, g, b] 116) = ({ p with st := .ground }, color24 c [k, r, g, b]) := by
  rw [csi_read p c [k, r, g, b] 116 hs hg (by simp) hlt, ansiStep_color24 _ c [k, r, g, b] false hs rfl rfl]

/-- `CSI 2 J` -/
theorem ansiRun_clear : ansiRun p c (csi [2] 74) = ({ p with st := .ground }, { c with scr := c.scr.clear }) := by
  rw [csi_read p c [2] 74 hs hg (by simp) (by simp), ansiStep_clear _ c [2] false hs rfl rfl]

/-- `CSI r;c H` -/
theorem ansiRun_cup (r col : Nat) (hr : r < 1000) (hc : col < 1000) :
    ansiRun p c (csi [r, col] 72) = ({ p with st := .ground }, { c with scr := cup c.scr [r, col] }) := by
  rw [csi_read p c [r, col] 72 hs hg (by simp) (by intro n hn; simp at hn; omega), ansiStep_cup _ c [r, col] false hs rfl]

/-! ### the iCE switch `ESC [ ? 33 h / l` -/

theorem ansiRun_iceQ : ansiRun p c [27, 91, 63, 51, 51] = ({ p with st := .csiQ [33] }, c) := by
  rw [ansiRun_cons, ansiStep_esc p c hs hg, ansiRun_cons, ansiStep_esc_csi _ c hs rfl, ansiRun_cons, ansiStep_csi_q _ c [] true hs rfl rfl,
    ansiRun_cons, ansiStep_csiQ_digit _ c [] hs rfl 51 rfl, ansiRun_cons, ansiStep_csiQ_digit _ c _ hs rfl 51 rfl]
  rfl

theorem ansiRun_iceOn : ansiRun p c [27, 91, 63, 51, 51, 104] = ({ p with st := .ground }, { c with bufIce := .ice, caretIce := true }) := by
  rw [show [27, 91, 63, 51, 51, 104] = [27, 91, 63, 51, 51] ++ [104] from rfl, ansiRun_append_of_eq (ansiRun_iceQ p c hs hg), ansiRun_cons,
    ansiStep_iceOn _ c [33] hs rfl rfl]
  rfl

theorem ansiRun_iceOff : ansiRun p c [27, 91, 63, 51, 51, 108] = ({ p with st := .ground }, { c with caretIce := false }) := by
  rw [show [27, 91, 63, 51, 51, 108] = [27, 91, 63, 51, 51] ++ [108] from rfl, ansiRun_append_of_eq (ansiRun_iceQ p c hs hg), ansiRun_cons,
    ansiStep_iceOff _ c [33] hs rfl rfl]
  rfl

end table

end IcyVerif.ArtIO
