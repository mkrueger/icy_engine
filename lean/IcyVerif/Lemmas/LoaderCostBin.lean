import IcyVerif.Lemmas.LoaderCostBase
/-! BIN and ADF loaders: `_res`, and one walk over the shape the two counted models share (`cellRowC` / `cellLoopC`): a file that fits the
    `i32` row counter cannot panic (C02, through `_res`), every file keeps within the budget (C03). -/
namespace IcyVerif.LoaderCost
open IcyVerif.Bytes IcyVerif.Bytes.Res IcyVerif.Loaders IcyVerif.Gen IcyVerif.Gen.Loaders RC

/-- The BIN and the ADF loader run the same two loops; they differ in the panic site, in what is returned when the data ends (`fin`),
    and BIN tests the end of the data in two steps. -/
def cellRowC (site : String) (fin : Geo → Geo) (d : Bytes) : Nat → Nat → Pos → Geo → RC (Option Geo × Nat × Pos × Geo)
  | 0, o, p, g => pure (none, o, p, g)
  | n + 1, o, p, g => do
    tick
    if o + 2 > d.size then pure (some (fin g), o, p, g)
    else do
      let lh ← lift (chk32 site (p.y + 1))
      let g : Geo := { g with lh := lh }
      let _ ← lift (rd site d (o + 1))
      let _ ← lift (rd site d o)
      let g' ← setCharC g p.x p.y
      let x ← lift (chk32 site (p.x + 1))
      cellRowC site fin d n (o + 2) ⟨x, p.y⟩ g'

def cellLoopC (site : String) (fin : Geo → Geo) (d : Bytes) : Nat → Nat → Pos → Geo → RC Geo
  | fuel, o, p, g => do
    tick
    let r ← cellRowC site fin d g.bw.toNat o p g
    match r.1 with
    | some res => pure res
    | none =>
      match fuel with
      | 0 => lift (.panic sFuel)
      | fuel + 1 => do
        let y ← lift (chk32 site (r.2.2.1.y + 1))
        cellLoopC site fin d fuel r.2.1 ⟨0, y⟩ r.2.2.2

theorem adfRowC_eq (d : Bytes) : ∀ n o p g, adfRowC d n o p g = cellRowC sAdf Geo.crop d n o p g
  | 0, _, _, _ => rfl
  | n + 1, o, p, g => by simp only [adfRowC, cellRowC, adfRowC_eq d n]

theorem binRowC_eq (d : Bytes) : ∀ n o p g, binRowC d n o p g = cellRowC sBin (fun g => { g with bh := g.lh }) d n o p g := by
  intro n
  induction n with
  | zero => intro o p g; rfl
  | succ n ih =>
    intro o p g
    unfold binRowC cellRowC
    congr 1; funext _
    by_cases h : o + 2 > d.size
    · rw [if_pos h]
      by_cases h0 : o ≥ d.size
      · rw [if_pos h0]
      · rw [if_neg h0, if_pos (by omega)]
    · rw [if_neg h, if_neg (by omega), if_neg (by omega)]
      simp only [ih]

theorem adfLoopC_eq (d : Bytes) : ∀ fuel o p g, adfLoopC d fuel o p g = cellLoopC sAdf Geo.crop d fuel o p g := by
  intro fuel
  induction fuel with
  | zero =>
    intro o p g
    unfold adfLoopC cellLoopC
    rw [adfRowC_eq]
    rfl
  | succ fuel ih =>
    intro o p g
    unfold adfLoopC cellLoopC
    simp only [adfRowC_eq, ih]
    rfl

theorem binLoopC_eq (d : Bytes) : ∀ fuel o p g, binLoopC d fuel o p g = cellLoopC sBin (fun g => { g with bh := g.lh }) d fuel o p g := by
  intro fuel
  induction fuel with
  | zero =>
    intro o p g
    unfold binLoopC cellLoopC
    rw [binRowC_eq]
    rfl
  | succ fuel ih =>
    intro o p g
    unfold binLoopC cellLoopC
    simp only [binRowC_eq, ih]
    rfl

theorem binRowC_res (d : Bytes) : ∀ n o p g, (binRowC d n o p g).res = binRow d n o p g
  | 0, _, _, _ => rfl
  | n + 1, o, p, g => by simp only [binRowC, binRow, res_bind, res_tick, ok_bind, apply_ite RC.res, res_pure, res_lift, res_setCharC, binRowC_res d n]

theorem adfRowC_res (d : Bytes) : ∀ n o p g, (adfRowC d n o p g).res = adfRow d n o p g
  | 0, _, _, _ => rfl
  | n + 1, o, p, g => by simp only [adfRowC, adfRow, res_bind, res_tick, ok_bind, apply_ite RC.res, res_pure, res_lift, res_setCharC, adfRowC_res d n]

theorem res_rowTail {x : RC (Option Geo × Nat × Pos × Geo)} {y : Res (Option Geo × Nat × Pos × Geo)} (h : x.res = y)
    {k : Option Geo × Nat × Pos × Geo → RC Geo} {k' : Option Geo × Nat × Pos × Geo → Res Geo} (hk : ∀ r, (k r).res = k' r) :
    (tick >>= fun _ => x >>= k).res = y >>= k' := by
  simp only [res_bind, res_tick, ok_bind, h, hk]

theorem binLoopC_res (d : Bytes) : ∀ fuel o p g, (binLoopC d fuel o p g).res = binLoop d fuel o p g
  | 0, _, _, _ => by
    unfold binLoopC binLoop
    exact res_rowTail (binRowC_res ..) (fun r => by obtain ⟨r1, _⟩ := r; cases r1 <;> rfl)
  | fuel + 1, _, _, _ => by
    unfold binLoopC binLoop
    exact res_rowTail (binRowC_res ..) (fun r => by obtain ⟨r1, _⟩ := r; cases r1 <;> simp only [res_bind, res_lift, res_pure, binLoopC_res d fuel] <;> rfl)

theorem adfLoopC_res (d : Bytes) : ∀ fuel o p g, (adfLoopC d fuel o p g).res = adfLoop d fuel o p g
  | 0, _, _, _ => by
    unfold adfLoopC adfLoop
    exact res_rowTail (adfRowC_res ..) (fun r => by obtain ⟨r1, _⟩ := r; cases r1 <;> rfl)
  | fuel + 1, _, _, _ => by
    unfold adfLoopC adfLoop
    exact res_rowTail (adfRowC_res ..) (fun r => by obtain ⟨r1, _⟩ := r; cases r1 <;> simp only [res_bind, res_lift, res_pure, adfLoopC_res d fuel] <;> rfl)

theorem loadBinC_res (d : Bytes) (sauce : Option (Nat × Nat)) : (loadBinC d sauce).res = loadBin d sauce :=
  binLoopC_res d _ _ _ _

theorem loadAdfC_res (d : Bytes) (sauce : Option (Nat × Nat)) : (loadAdfC d sauce).res = loadAdf d sauce := by
  unfold loadAdfC loadAdf
  simp only [res_bind, res_spend, res_fail, ok_bind, apply_ite RC.res, res_lift, adfLoopC_res]

/-- what a row pass of `n` cells from offset `o` returns: a complete row has consumed `2 * n` bytes -/
structure RowPost (d : Bytes) (B : Nat) (n o : Nat) (p : Pos) (g : Geo) (r : Option Geo × Nat × Pos × Geo) : Prop where
  full : r.1 = none → r.2.1 = o + 2 * n
  le : r.2.1 ≤ d.size
  y : r.2.2.1.y = p.y
  bw : r.2.2.2.bw = g.bw
  lines : r.2.2.2.lines ≤ B

/-- what holds at the head of every iteration of the row pass, `n` cells before the end of the row -/
structure RowInv (d : Bytes) (B n o : Nat) (p : Pos) (g : Geo) : Prop where
  off : o ≤ d.size
  /-- the row ends at a column `<= 1000`, the widest row there is (a SAUCE width; BIN has 160, ADF 80 without one): `x + 1` is an `i32` -/
  col : 0 ≤ p.x ∧ p.x + n ≤ 1000
  /-- the row counter is below the offset: `y + 1` is an `i32` in a file that fits -/
  row : 0 ≤ p.y ∧ p.y ≤ o
  rowB : p.y < B
  lines : g.lines ≤ B

theorem cellRowC_pot (site : String) (fin : Geo → Geo) (d : Bytes) (B : Nat) :
    ∀ (n o : Nat) (p : Pos) (g : Geo), RowInv d B n o p g →
      (cellRowC site fin d n o p g).Pot (Unless (FitsI32 d)) n (B - g.lines) 0 (fun r => RowPost d B n o p g r)
        (fun _ => 0) (fun r => B - r.2.2.2.lines) (fun _ => 0) := by
  unfold FitsI32
  intro n
  induction n with
  | zero =>
    intro o p g h
    exact Pot.pure ⟨fun _ => rfl, h.off, rfl, rfl, h.lines⟩
  | succ n ih =>
    intro o p g h
    obtain ⟨ho, ⟨hx, hxn⟩, ⟨hy0, hyo⟩, hy, hg⟩ := h
    unfold cellRowC
    refine Pot.tick_bind (Nat.succ_pos n) (Pot.ite (fun _ => ?_) (fun h2 => ?_))
    · exact Pot.pure ⟨fun h => (by cases h), ho, rfl, rfl, hg⟩ (hW := Nat.zero_le _) (hE := Nat.zero_le _)
    refine Pot.lift_bind (chk32_unless (fun _ => by omega)) (fun lh _ => Pot.sat_bind (rd_sat (by omega)) (fun _ _ => Pot.sat_bind (rd_sat (by omega)) (fun _ _ => ?_)))
    refine Pot.setChar_bind (g := { g with lh := lh }) hg hy (Pot.sat_bind (chk32_sat (by omega)) (fun x hx' => ?_))
    subst hx'
    have hf := setChar_fields { g with lh := lh } p.x p.y
    refine (ih (o + 2) ⟨p.x + 1, p.y⟩ _
      { off := by omega
        col := ⟨by show 0 ≤ p.x + 1; omega, by show p.x + 1 + _ ≤ _; omega⟩
        row := ⟨hy0, by show p.y ≤ _; omega⟩
        rowB := hy
        lines := setChar_lines_le { g with lh := lh } p.x p.y B hg hy }).imp ?_
    exact fun r hr => ⟨fun h => by have := hr.full h; omega, hr.le, hr.y, hr.bw.trans hf.1, hr.lines⟩

/-- what holds at the head of every iteration of the outer `loop`, at the start of row `p.y` of `bwN` cells -/
structure LoopInv (d : Bytes) (bwN B fuel o : Nat) (p : Pos) (g : Geo) : Prop where
  fuel : d.size < fuel + o
  off : o ≤ d.size
  width : g.bw = bwN
  col : p.x = 0
  /-- every completed row has consumed `2 * width >= 2` bytes, so the row counter stays below the offset -/
  row : 0 ≤ p.y ∧ p.y ≤ o
  /-- the rows so far and one cell for every byte left fit into `B` rows: rows are allocated only as far as the bytes read reach -/
  budget : p.y * (bwN : Int) + ((d.size - o : Nat) : Int) < (B : Int) * (bwN : Int)
  lines : g.lines ≤ B

theorem cellLoopC_pot (site : String) (fin : Geo → Geo) (d : Bytes) (bwN : Nat) (hbw : 1 ≤ bwN ∧ bwN ≤ 1000) (B : Nat) :
    ∀ (fuel o : Nat) (p : Pos) (g : Geo), LoopInv d bwN B fuel o p g →
      (cellLoopC site fin d fuel o p g).Spends (Unless (FitsI32 d)) ((d.size - o) + bwN + 1) (B - g.lines) 0 := by
  unfold FitsI32
  intro fuel
  induction fuel with
  | zero => intro o p g h; have := h.fuel; have := h.off; omega
  | succ fuel ih =>
    intro o p g h
    obtain ⟨hf, ho, hgb, hx, ⟨hy0, hyo⟩, hi, hg⟩ := h
    unfold cellLoopC
    have hgb' : g.bw.toNat = bwN := by omega
    rw [hgb']
    have hrow : RowInv d B bwN o p g :=
      { off := ho, col := by omega, row := ⟨hy0, hyo⟩, rowB := row_lt_of_budget (by omega) (Int.natCast_nonneg _) hi, lines := hg }
    refine Pot.tick_bind (by omega) (Pot.call (cellRowC_pot site fin d B bwN o p g hrow) (by omega) (fun r hr => ?_))
    obtain ⟨r1, r2, r3, r4⟩ := r
    cases r1 with
    | some res => exact pot_done _
    | none =>
      have hfull : r2 = o + 2 * bwN := hr.full rfl
      have hle : r2 ≤ d.size := hr.le
      have hry : r3.y = p.y := hr.y
      refine Pot.lift_bind (chk32_unless (v := r3.y + 1) (fun _ => by omega)) (fun y hy' => ?_)
      subst hy'
      have hnew : (r3.y + 1) * (bwN : Int) + ((d.size - r2 : Nat) : Int) < (B : Int) * (bwN : Int) := by
        rw [Int.add_mul, Int.one_mul, hry]
        generalize p.y * (bwN : Int) = m at hi ⊢
        omega
      exact Pot.weaken (ih r2 ⟨0, r3.y + 1⟩ r4
        { fuel := by omega, off := hle, width := hr.bw.trans hgb, col := rfl
          row := ⟨by show 0 ≤ r3.y + 1; omega, by show r3.y + 1 ≤ _; omega⟩, budget := hnew, lines := hr.lines }) (by omega)

/-- the row width of a BIN file: 160, or what the SAUCE record says (1..=1000) -/
def binWidth (sauce : Option (Nat × Nat)) : Nat := (initGeo binInitW binInitH binLinesCleared sauce).bw.toNat

theorem binWidth_range (sauce : Option (Nat × Nat)) : 1 ≤ binWidth sauce ∧ binWidth sauce ≤ 1000 := by
  have hb := initGeo_bw binInitW binInitH binLinesCleared sauce (by decide)
  have hw : binInitW = 160 := rfl
  unfold binWidth
  omega

theorem loadBinC_pot (d : Bytes) (sauce : Option (Nat × Nat)) :
    (loadBinC d sauce).Spends (Unless (FitsI32 d)) (d.size + binWidth sauce + 1) (d.size / binWidth sauce + 1) 0 := by
  have hr := binWidth_range sauce
  have hB := lt_div_succ_mul d.size (binWidth sauce) (by omega)
  generalize d.size / binWidth sauce + 1 = R0 at hB ⊢
  unfold loadBinC
  rw [binLoopC_eq]
  have hg : (initGeo binInitW binInitH binLinesCleared sauce).lines = 0 := by rw [initGeo_lines]; simp [binLinesCleared]
  have hb := initGeo_bw binInitW binInitH binLinesCleared sauce (by decide)
  exact Pot.weaken (cellLoopC_pot _ _ d (binWidth sauce) hr R0 (d.size + 1) 0 ⟨0, 0⟩ _
    { fuel := by omega, off := Nat.zero_le _, width := by unfold binWidth; omega, col := rfl, row := ⟨Int.le_refl _, Int.le_refl _⟩
      budget := by simp only [Int.zero_mul]; omega, lines := by omega }) (by omega) (Nat.sub_le _ _)

/-- ADF: rows are 80 cells; 4288 bytes of palette and font are copied -/
theorem loadAdfC_pot (d : Bytes) (sauce : Option (Nat × Nat)) :
    (loadAdfC d sauce).Spends (Unless (FitsI32 d)) (d.size + 81) (d.size / 80 + 1) 4288 := by
  generalize hR0 : d.size / 80 + 1 = R0
  have hR0' : d.size < 80 * R0 := hR0 ▸ Nat.lt_mul_div_succ d.size (by omega)
  unfold loadAdfC
  have h1 : adfHeaderLength = 4289 := rfl
  have h2 : adfPaletteSize = 192 := rfl
  have h3 : adfFontSize = 4096 := rfl
  have h4 : adfWidth = 80 := rfl
  refine Pot.guard (fun hlen => Pot.sat_bind (rd_sat (by omega)) (fun v _ => Pot.guard (fun _ => ?_)))
  refine Pot.sat_bind (slice_sat (by omega)) (fun _ _ => Pot.sat_bind (slice_sat (by omega)) (fun _ _ => Pot.spend_bind (by omega) ?_))
  have hg : (initGeo 80 25 adfLinesCleared sauce).lines = 0 := by rw [initGeo_lines]; simp [adfLinesCleared]
  rw [adfLoopC_eq]
  exact Pot.weaken (cellLoopC_pot _ _ d 80 (by omega) R0 (d.size + 1) _ ⟨0, 0⟩ _
    { fuel := by omega, off := by omega, width := by simp only [h4], col := rfl, row := ⟨Int.le_refl _, by show (0 : Int) ≤ _; omega⟩
      budget := by simp only [Int.zero_mul]; omega, lines := by show (initGeo 80 25 adfLinesCleared sauce).lines ≤ R0; omega })
    (by omega) (Nat.sub_le _ _) (Nat.zero_le _)

end IcyVerif.LoaderCost

namespace IcyVerif.Loaders
open IcyVerif.Bytes IcyVerif.Bytes.Res IcyVerif.LoaderCost

/-- the row pass as such, of the shape and of the two C02 models; the loader theorems below do not go through these -/
theorem cellRowC_sat (site : String) (fin : Geo → Geo) (d : Bytes) (hd : FitsI32 d) (n o : Nat) (p : Pos) (g : Geo)
    (ho : o ≤ d.size) (hx : 0 ≤ p.x ∧ p.x + n ≤ 1000) (hy : 0 ≤ p.y ∧ p.y ≤ o) :
    (cellRowC site fin d n o p g).res.Sat (fun r => (r.1 = none → r.2.1 = o + 2 * n) ∧ r.2.1 ≤ d.size ∧ r.2.2.1.y = p.y ∧ r.2.2.2.bw = g.bw) :=
  ((cellRowC_pot site fin d (g.lines + (p.y.toNat + 1)) n o p g ⟨ho, hx, hy, by omega, by omega⟩).sat.toSat (fun _ h => h hd)).mono
    (fun _ hr => ⟨hr.full, hr.le, hr.y, hr.bw⟩)

theorem binRow_sat (d : Bytes) (hd : FitsI32 d) (n o : Nat) (p : Pos) (g : Geo) (ho : o ≤ d.size) (hx : 0 ≤ p.x ∧ p.x + n ≤ 1000) (hy : 0 ≤ p.y ∧ p.y ≤ o) :
    (binRow d n o p g).Sat (fun r => (r.1 = none → r.2.1 = o + 2 * n) ∧ r.2.1 ≤ d.size ∧ r.2.2.1.y = p.y ∧ r.2.2.2.bw = g.bw) := by
  rw [← binRowC_res, binRowC_eq]; exact cellRowC_sat _ _ d hd n o p g ho hx hy

theorem adfRow_sat (d : Bytes) (hd : FitsI32 d) (n o : Nat) (p : Pos) (g : Geo) (ho : o ≤ d.size) (hx : 0 ≤ p.x ∧ p.x + n ≤ 1000) (hy : 0 ≤ p.y ∧ p.y ≤ o) :
    (adfRow d n o p g).Sat (fun r => (r.1 = none → r.2.1 = o + 2 * n) ∧ r.2.1 ≤ d.size ∧ r.2.2.1.y = p.y ∧ r.2.2.2.bw = g.bw) := by
  rw [← adfRowC_res, adfRowC_eq]; exact cellRowC_sat _ _ d hd n o p g ho hx hy

theorem loadBin_sat (d : Bytes) (hd : FitsI32 d) (sauce : Option (Nat × Nat)) : (loadBin d sauce).Sat (fun _ => True) :=
  loadBinC_res d sauce ▸ (loadBinC_pot d sauce).sat.toSat (fun _ h => h hd)

theorem loadAdf_sat (d : Bytes) (hd : FitsI32 d) (sauce : Option (Nat × Nat)) : (loadAdf d sauce).Sat (fun _ => True) :=
  loadAdfC_res d sauce ▸ (loadAdfC_pot d sauce).sat.toSat (fun _ h => h hd)

end IcyVerif.Loaders
