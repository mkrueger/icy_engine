import IcyVerif.Lemmas.ArtScreen
/-! # Picture-level round trip on the screen (C15, C04)

The writers' shared row loop, seen from the reader's screen: every row is printed cell by cell from column 0; a row
that is shorter than the screen and is not the last one is ended with CR LF, a FULL-WIDTH row relies on the auto-wrap
of `print_char`, the last row is never ended. -/
namespace IcyVerif.ArtIO

theorem mem_takeWhile_imp {α : Type} (p : α → Bool) (l : List α) (c : α) (h : c ∈ l.takeWhile p) : p c = true := by
  induction l with
  | nil => simp at h
  | cons a l ih =>
    rw [List.takeWhile_cons] at h
    by_cases hp : p a = true
    · simp [hp] at h
      rcases h with h | h
      · subst h; exact hp
      · exact ih h
    · simp [hp] at h

theorem trimRow_prefix (r : List Cell) : ∃ t, r = trimRow r ++ t ∧ ∀ c ∈ t, c.isTransparent = true := by
  refine ⟨(r.reverse.takeWhile Cell.isTransparent).reverse, ?_, ?_⟩
  · unfold trimRow
    rw [← List.reverse_append, List.takeWhile_append_dropWhile, List.reverse_reverse]
  · intro c hc
    rw [List.mem_reverse] at hc
    exact mem_takeWhile_imp _ _ _ hc

theorem trimRow_length_le (r : List Cell) : (trimRow r).length ≤ r.length := by
  obtain ⟨t, h, _⟩ := trimRow_prefix r
  have := congrArg List.length h
  simp at this; omega

theorem trimRow_getD (r : List Cell) (x : Nat) (d : Cell) (h : x < (trimRow r).length) :
    (trimRow r).getD x d = r.getD x d := by
  obtain ⟨t, e, _⟩ := trimRow_prefix r
  conv => rhs; rw [e, Basics.getD_append_left _ _ _ _ h]

theorem trimRow_rest_transparent (r : List Cell) (x : Nat) (h : (trimRow r).length ≤ x) :
    (r.getD x defaultCell).isTransparent = true := by
  obtain ⟨t, e, ht⟩ := trimRow_prefix r
  have hget : r.getD x defaultCell = t.getD (x - (trimRow r).length) defaultCell := by
    conv => lhs; rw [e, Basics.getD_append_right _ _ _ _ h]
  rw [hget, List.getD_eq_getElem?_getD]
  cases hi : t[x - (trimRow r).length]? with
  | none => rfl
  | some c => exact ht c (List.mem_of_getElem? hi)

/-! `cut` is what the writer keeps of a row: `trimRow` (`get_line_length`) for the C15 writers, the ANSI writer's own trimming or
the whole row for C04. -/

section
variable (cut : List Cell → List Cell)

def rowOps (img : Cell → Cell) (w : Nat) (r : List Cell) (more : Bool) : List Op :=
  putOps ((cut r).map img) ++ (if (cut r).length < w ∧ more = true then [Op.nl] else [])

def picOps (img : Cell → Cell) (w : Nat) : List (List Cell) → List Op
  | [] => []
  | r :: rest => rowOps cut img w r (!rest.isEmpty) ++ picOps img w rest

/-- what one row of the writers' loop does to the reader's screen; the `len_*` fields are for `crop_loaded_file` -/
structure RowSpec (img : Cell → Cell) (s s' : Screen) (r : List Cell) (more : Bool) : Prop
    extends RowEndSpec (cut r).length (fun x _ => shown (img ((cut r).getD x defaultCell))) s s' more where
  len_more : more = true → s.lines.length ≤ s.cy + 1 → s'.lines.length ≤ s.cy + 2
  len_last : more = false → cut r ≠ [] → s.lines.length ≤ s.cy + 1 →
    (s'.lines.length = s.cy + 1 ∧ RowNonEmpty s'.lines s.cy) ∨
    (s'.lines.length = s.cy + 2 ∧ s'.lines[s.cy + 1]? = some [] ∧ RowNonEmpty s'.lines s.cy)

theorem row_spec (img : Cell → Cell) (s : Screen) (r : List Cell) (more : Bool)
    (hcx : s.cx = 0) (hw : 0 < s.w) (hfit : (cut r).length ≤ s.w) :
    RowSpec cut img s (s.runOps (rowOps cut img s.w r more)) r more := by
  unfold rowOps
  rw [runOps_append]
  have hlm : ((cut r).map img).length = (cut r).length := List.length_map _
  have P := puts_spec ((cut r).map img) s (by rw [hcx, hlm]; omega)
  have E := P.toStepsSpec.row_end more hcx hw (by rw [hlm]; exact hfit)
  obtain ⟨⟨_, Pin, _, _⟩, Plin, Plwrap⟩ := P
  rw [hcx, hlm, Nat.zero_add] at Pin Plin Plwrap
  rw [hlm] at E
  have hne_iff : (cut r).map img ≠ [] ↔ cut r ≠ [] := by simp
  have hne_full : (cut r).length = s.w → (cut r).map img ≠ [] := fun h =>
    hne_iff.2 (fun e => by rw [e] at h; exact absurd h.symm (Nat.ne_of_gt hw))
  have hops : ∀ t : Screen, t.runOps (if (cut r).length < s.w ∧ more = true then [Op.nl] else []) =
      if (cut r).length < s.w ∧ more = true then t.exec Op.nl else t := by
    intro t; split <;> rfl
  rw [hops]
  refine ⟨⟨E.w_eq, E.pos, fun x' y' => (E.view x' y').trans ?_⟩, fun hm hl => ?_, fun hm hne hl => ?_⟩
  · by_cases hc : y' = s.cy ∧ x' < (cut r).length
    · rw [if_pos hc, if_pos hc, Basics.getD_map img _ _ defaultCell _ hc.2]
    · rw [if_neg hc, if_neg hc]
  · by_cases hlt : (cut r).length < s.w
    · obtain ⟨_, _, _, _, nlen⟩ := nl_spec (s.runOps (putOps ((cut r).map img)))
      rw [if_pos ⟨hlt, hm⟩, nlen, (Pin hlt).2]
      by_cases hne : cut r = []
      · rw [hne]; show max s.lines.length (s.cy + 2) ≤ s.cy + 2; omega
      · rw [(Plin (hne_iff.2 hne) hl hlt).1]; omega
    · rw [if_neg (fun h => hlt h.1)]
      have := (Plwrap (hne_full (by omega)) hl (by omega)).1
      omega
  · rw [if_neg (fun h => by rw [hm] at h; cases h.2)]
    rcases Nat.lt_or_ge (cut r).length s.w with hlt | hge
    · exact Or.inl (Plin (hne_iff.2 hne) hl hlt)
    · exact Or.inr (Plwrap (hne_iff.2 hne) hl (by omega))

set_option linter.unusedVariables false in
/-- one written row leaves the width of the screen alone: `runOps_w`, which needs none of the hypotheses -/
theorem picOps_w (img : Cell → Cell) (s : Screen) (r : List Cell) (more : Bool) (hcx : s.cx = 0) (hw : 0 < s.w)
    (hfit : (cut r).length ≤ s.w) : (s.runOps (rowOps cut img s.w r more)).w = s.w :=
  runOps_w _ _

/-- rows written one below the other from screen row `y0` on: starting from the view `v`, each row changed the columns
    `< len row` of its own screen row, from `old` to `F row x old`, and nothing else; `v'` is the view after the last one -/
inductive Stacked {ρ : Type} (len : ρ → Nat) (F : ρ → Nat → Cell → Cell) :
    List ρ → Nat → (Nat → Nat → Cell) → (Nat → Nat → Cell) → Prop
  | nil (y0 : Nat) (v : Nat → Nat → Cell) : Stacked len F [] y0 v v
  | cons (r : ρ) (rest : List ρ) (y0 : Nat) (v v1 v' : Nat → Nat → Cell) :
      (∀ x y, v1 x y = if y = y0 ∧ x < len r then F r x (v x y) else v x y) → Stacked len F rest (y0 + 1) v1 v' →
      Stacked len F (r :: rest) y0 v v'

theorem Stacked.view {ρ : Type} {len : ρ → Nat} {F : ρ → Nat → Cell → Cell} (d : ρ) {rows : List ρ} {y0 : Nat}
    {v v' : Nat → Nat → Cell} (h : Stacked len F rows y0 v v') (x y : Nat) :
    v' x y = if y0 ≤ y ∧ y < y0 + rows.length ∧ x < len (rows.getD (y - y0) d) then F (rows.getD (y - y0) d) x (v x y) else v x y := by
  induction h with
  | nil y0 v => rw [if_neg (fun h => by have := h.2.1; rw [List.length_nil] at this; omega)]
  | cons r rest y0 v v1 v' h1 _ ih =>
    rw [ih, h1, List.length_cons]
    rcases Nat.lt_trichotomy y y0 with hlt | heq | hgt
    · rw [if_neg (fun h => by omega), if_neg (fun h => by omega), if_neg (fun h => by omega)]
    · subst heq
      rw [if_neg (fun h => by omega), Nat.sub_self, List.getD_cons_zero]
      by_cases hx : x < len r
      · rw [if_pos ⟨rfl, hx⟩, if_pos ⟨Nat.le_refl _, by omega, hx⟩]
      · rw [if_neg (fun h => hx h.2), if_neg (fun h => hx h.2.2)]
    · rw [if_neg (fun h : y = y0 ∧ x < len r => by omega), show y - y0 = (y - (y0 + 1)) + 1 by omega, List.getD_cons_succ]
      by_cases hc : y0 + 1 ≤ y ∧ y < y0 + 1 + rest.length ∧ x < len (rest.getD (y - (y0 + 1)) d)
      · rw [if_pos hc, if_pos ⟨by omega, by omega, hc.2.2⟩]
      · rw [if_neg hc, if_neg (fun h => hc ⟨by omega, by omega, h.2.2⟩)]

/-- after the whole picture: the layer has exactly `cy0 + rows.length` rows, or one more EMPTY row (the auto-wrap of a
    full-width last row), and the picture's last row holds at least one cell -/
def LenSpec (lines : List (List Cell)) (h : Nat) : Prop :=
  (lines.length = h ∧ RowNonEmpty lines (h - 1)) ∨
  (lines.length = h + 1 ∧ lines[h]? = some [] ∧ RowNonEmpty lines (h - 1))

theorem pic_spec (img : Cell → Cell) : ∀ (rows : List (List Cell)) (s : Screen), s.cx = 0 → 0 < s.w →
    (∀ r ∈ rows, (cut r).length ≤ s.w) →
    Stacked (fun r => (cut r).length) (fun r x _ => shown (img ((cut r).getD x defaultCell))) rows s.cy
      (shownAt s.lines) (shownAt (s.runOps (picOps cut img s.w rows)).lines) ∧
    (rows ≠ [] → (∀ r, rows.getLast? = some r → cut r ≠ []) →
      s.cy + rows.length ≤ (s.runOps (picOps cut img s.w rows)).layerH ∧
      (s.lines.length ≤ s.cy + 1 → LenSpec (s.runOps (picOps cut img s.w rows)).lines (s.cy + rows.length))) := by
  intro rows
  induction rows with
  | nil => intro s _ _ _; exact ⟨Stacked.nil _ _, fun h => absurd rfl h⟩
  | cons r rest ih =>
    intro s hcx hw hfit
    have R := row_spec cut img s r (!rest.isEmpty) hcx hw (hfit r List.mem_cons_self)
    show Stacked _ _ _ _ _ (shownAt (s.runOps (rowOps cut img s.w r (!rest.isEmpty) ++ picOps cut img s.w rest)).lines) ∧
      (_ → _ → _ ≤ (s.runOps (rowOps cut img s.w r (!rest.isEmpty) ++ picOps cut img s.w rest)).layerH ∧
        (_ → LenSpec (s.runOps (rowOps cut img s.w r (!rest.isEmpty) ++ picOps cut img s.w rest)).lines _))
    rw [runOps_append]
    cases rest with
    | nil =>
      refine ⟨Stacked.cons _ _ _ _ _ _ R.view (Stacked.nil _ _), fun _ hlast => ⟨?_, fun hl => ?_⟩⟩
      · -- the first cell of the last row raises the layer
        show s.cy + 1 ≤ (s.runOps (rowOps cut img s.w r (![].isEmpty))).layerH
        unfold rowOps
        rw [runOps_append]
        refine Nat.le_trans ?_ (runOps_layerH_mono _ _)
        cases hc : cut r with
        | nil => exact absurd hc (hlast r rfl)
        | cons c0 cs => exact Nat.le_trans (put_layerH s (img c0)) (runOps_layerH_mono _ _)
      · have := R.len_last rfl (hlast r rfl) hl
        show LenSpec (s.runOps (rowOps cut img s.w r (!([] : List (List Cell)).isEmpty))).lines (s.cy + 1)
        unfold LenSpec
        simpa using this
    | cons r2 rest2 =>
      obtain ⟨px, py⟩ := R.pos rfl
      have I := ih _ px (by rw [R.w_eq]; exact hw) (by rw [R.w_eq]; exact fun q hq => hfit q (List.mem_cons_of_mem _ hq))
      rw [R.w_eq, py] at I
      refine ⟨Stacked.cons _ _ _ _ _ _ R.view I.1, fun _ hlast => ?_⟩
      obtain ⟨L1, L2⟩ := I.2 (List.cons_ne_nil _ _) (fun q hq => hlast q (by simpa using hq))
      rw [show s.cy + 1 + (r2 :: rest2).length = s.cy + (r :: r2 :: rest2).length by simp only [List.length_cons]; omega] at L1 L2
      exact ⟨L1, fun hl => L2 (by have := R.len_more rfl hl; omega)⟩

theorem pic_view (img : Cell → Cell) (rows : List (List Cell)) (s : Screen) (hcx : s.cx = 0) (hw : 0 < s.w)
    (hfit : ∀ r ∈ rows, (cut r).length ≤ s.w) (x' y' : Nat) :
    shownAt (s.runOps (picOps cut img s.w rows)).lines x' y' =
      if s.cy ≤ y' ∧ y' < s.cy + rows.length ∧ x' < (cut (rows.getD (y' - s.cy) [])).length then
        shown (img ((cut (rows.getD (y' - s.cy) [])).getD x' defaultCell))
      else shownAt s.lines x' y' :=
  (pic_spec cut img rows s hcx hw hfit).1.view [] x' y'

end

end IcyVerif.ArtIO
