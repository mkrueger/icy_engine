import IcyVerif.Lemmas.ArtAnsiFLine
import IcyVerif.Lemmas.ArtAnsiRows
/-! # The row loops of the ANSI writer against the reader, with font pages and skipped rows (C04: `ansi_rt` and the partial theorems)

`rows_compG` (rows separated by line breaks) and `rows_longerG` (every row positioned with `CSI y H`) follow all rows of the
event-level writer for any description `RowRead` of what one written row does; `row_read` gives one for any `CellSync`.
With longer-terminal positioning rows may be left out by `skip_lines`: a skipped row emits nothing and nobody moves.
Because every row that IS written starts with `CSI y H`, the caret position a skipped row would have had does not matter:
the longer-terminal lemma speaks about the screen up to the caret (`ScrC`).  The closing section states the all-colour
instance with row relations of its own (`RowsOkS`, `RowsOkX`, `rows_compF`, `rows_longerF`). -/
namespace IcyVerif.ArtIO
open IcyVerif.Gen.Art

theorem itemsOk_rowSkips {pal Pf : List Rgb} {w : Nat} {cells : List Cell} {items : List (Option Cell)} (hl : items.length = cells.length)
    (h : ItemsOkX pal Pf 0 w cells items) : RowSkipsInside w items := by
  rw [itemsOkX_eq] at h
  exact ItemsP.skips (fun _ ⟨_, e, _⟩ => by cases e) hl h

theorem forall_mem_headD {P : Nat → Prop} {frows : List (List Nat)} (h : ∀ fr ∈ frows, ∀ f ∈ fr, P f) : ∀ f ∈ frows.headD [], P f := by
  cases frows with
  | nil => intro f hf; cases hf
  | cons a b => exact h a List.mem_cons_self

/-- what reading one written row did: `line` = the cells `generate_cells` kept of `cells`, `items` = what the reader performed
    for them; the palette grew by at most two colours per cell (foreground and background may each append one) -/
structure RowDone (ic : Bool) (w : Nat) (Rel : AnsiState → RdSt → Prop) (Q : List Rgb → List Cell → List (Option Cell) → Prop) (n : Nat)
    (cells : List Cell) (line : List CharCell) (st1 : AnsiState) (R : RdSt) (core : Core) (items : List (Option Cell)) (Re : RdSt)
    (p1 : AnsiP) (core1 : Core) : Prop where
  llen : line.length = n
  ilen : items.length = n
  ok : Q Re.2 cells items
  skips : RowSkipsInside w items
  rel : Rel st1 Re
  pre : R.2 <+: Re.2
  len : Re.2.length ≤ R.2.length + 2 * w
  scr : core1.scr = core.scr.runItems items
  inv : CInvX ic Re w p1 core1

/-- what the row loops need to know about one written row, from column 0 -/
def RowRead (o : AnsiOpts) (pal : List Rgb) (im : IceMode) (ic : Bool) (w : Nat) (Rel : AnsiState → RdSt → Prop) (Dom : Cell → Prop)
    (Q : List Rgb → List Cell → List (Option Cell) → Prop) : Prop :=
  ∀ (row : List Cell) (fonts : List Nat) (st st1 : AnsiState) (line : List CharCell) (R : RdSt) (cur : Nat) (p : AnsiP) (core : Core),
    genCellsRow o pal im row (ansiRowLen o pal w row) 0 st = (line, st1) → row.length = w → (∀ c ∈ row, Dom c) → Rel st R →
    CInvX ic R w p core → core.scr.cx = 0 → (∀ f ∈ fonts, f < ansiFonts) →
    ∃ (items : List (Option Cell)) (Re : RdSt) (p1 : AnsiP) (core1 : Core),
      ansiRun p core (bytesOf (genLineEv o w line.length 0 cur line fonts).1) = (p1, core1) ∧
      RowDone ic w Rel Q (ansiRowLen o pal w row) (row.take (ansiRowLen o pal w row)) line st1 R core items Re p1 core1

/-- `hQ` reads the items in the terms of the instance -/
theorem row_read {o : AnsiOpts} {pal : List Rgb} {im : IceMode} {Rel : AnsiState → RdSt → Prop} {Dom : Cell → Prop}
    {G : RdSt → Cell → Prop} {S : Cell → Prop} {Q : List Rgb → List Cell → List (Option Cell) → Prop} (ic : Bool) (w : Nat)
    (hsync : CellSync o pal im Rel Dom G S) (hS : ∀ R c c', G R c → G R c' → S c → S c')
    (hQ : ∀ Pf cells items, ItemsG o ic (fun R' c => G R' c ∧ R'.2 <+: Pf) S 0 w cells items → Q Pf cells items)
    (hw0 : 0 < w) (hw : w ≤ 999) : RowRead o pal im ic w Rel Dom Q := by
  intro row fonts st st1 line R cur p core hg hrow hd hrel hinv hx0 hf
  obtain ⟨_, l2, _⟩ := ansiRowLen_specX o pal w hw0 row
  have htl : (row.take (ansiRowLen o pal w row)).length = ansiRowLen o pal w row := by rw [List.length_take, hrow]; omega
  obtain ⟨Re, ⟨G1, gr1, gr2⟩, G2⟩ := lineG_gen hsync row hd (ansiRowLen o pal w row) 0 st R (by omega) hrel
  simp only [hg, List.drop_zero] at G1 G2 gr2
  obtain ⟨items, p1, core1, e, I1, I2, I3, I4⟩ := genLineEv_items ic (fun R c c' g g' s => hS R c c' g.1 g'.1 s)
    w hw line.length _ line fonts R Re 0 cur p core (Nat.le_refl _) G1 (by omega) hinv (fun _ => hx0) hf
  exact ⟨items, Re, p1, core1, e, G1.length_eq.trans htl, I1.trans htl, hQ _ _ _ I2,
    ItemsP.skips (fun _ ⟨_, e, _⟩ => by cases e) I1 I2, G2, gr1, by rw [htl] at gr2; omega, I3, I4⟩

theorem row_readF (o : AnsiOpts) (pal : List Rgb) (hpal : PalBytes pal) (im : IceMode) (ic : Bool) (hic : ic = decide (im = .ice))
    (w : Nat) (hw0 : 0 < w) (hw : w ≤ 999) :
    RowRead o pal im ic w (fun st R => RelX ic st.isBlink st R.1 R.2) (CellDomX o ic) (fun Pf => ItemsOkX pal Pf 0 w) := by
  subst hic
  exact row_read _ w (cellSyncX o pal hpal im) (fun _ _ _ g g' s => disp_same g g' s) (fun _ _ _ h => h.okX) hw0 hw

theorem row_read16 (o : AnsiOpts) (im : IceMode) (ic : Bool) (hic : ic = decide (im = .ice)) (w : Nat) (hw0 : 0 < w) (hw : w ≤ 999) :
    RowRead o dosPalette im ic w (fun st R => RelS ic st.isBlink st R.1) (CellDom o ic) (fun _ => ItemsOkC o 0 w) := by
  subst hic
  exact row_read _ w (cellSync16 o im) (fun _ _ _ g g' s => caret_same g g' s) (fun _ _ _ h => h.okC) hw0 hw

/-- CR LF when the row was trimmed and another row follows.  A trimmed row is at least two cells short, so the single blank
    the compressing writer would use instead never occurs. -/
theorem row_endF (o : AnsiOpts) (ic : Bool) (R : RdSt) (w n : Nat) (m : Prop) [Decidable m] (more : Bool) (hm : m ↔ more = true)
    (items : List (Option Cell)) (s : Screen) (p : AnsiP) (core : Core) (hn : items.length = n) (hshort : n = w ∨ n + 2 ≤ w)
    (hs : core.scr = s.runItems items) (hinv : CInvX ic R w p core) :
    ∃ p' core', ansiRun p core (bytesOf (if n < w ∧ m then [Ev.ext (if o.compress = true ∧ w ≤ n + 1 then [32] else [13, 10]), Ev.eol] else [])) =
        (p', core') ∧ core'.scr = rowItems w items more s ∧ CInvX ic R w p' core' := by
  unfold rowItems
  rw [hn]
  by_cases hc : n < w ∧ m
  · have hlt := hc.1
    have hnot : ¬ (o.compress = true ∧ w ≤ n + 1) := fun h => by omega
    rw [if_pos hc, if_pos (show n < w ∧ more = true from ⟨hlt, hm.1 hc.2⟩), if_neg hnot, bytesOf_ext, bytesOf_eol, bytesOf_nil, List.append_nil,
      ansiRun_crlf p core hinv.base.ns hinv.base.ag, ← hs]
    exact ⟨_, _, rfl, rfl, hinv.scr p hinv.base.ag _ (exec_w _ _)⟩
  · rw [if_neg hc, if_neg (fun h : n < w ∧ more = true => hc ⟨h.1, hm.2 h.2⟩)]
    exact ⟨p, core, rfl, hs, hinv⟩

section loops
variable {Rel : AnsiState → RdSt → Prop} {Dom : Cell → Prop} {Q : List Rgb → List Cell → List (Option Cell) → Prop}

/-- `w ≤ 999`: the counts in `CSI n C` / `CSI n b` are read back exactly only below 1000 (`csi_read`) -/
theorem rows_compG (o : AnsiOpts) (skip : Nat → Bool) (pal : List Rgb) (im : IceMode) (ic : Bool)
    (w ht : Nat) (hw0 : 0 < w) (hw : w ≤ 999) (hl : o.longerTerminalOutput = false) (hread : RowRead o pal im ic w Rel Dom Q)
    (hmono : ∀ P P' cells items, P <+: P' → Q P cells items → Q P' cells items) :
    ∀ (rows : List (List Cell)) (frows : List (List Nat)) (st : AnsiState) (R : RdSt) (y : Nat) (first : Bool) (cur : Nat) (p : AnsiP) (core : Core),
    (∀ r ∈ rows, r.length = w) → (∀ r ∈ rows, ∀ c ∈ r, Dom c) → Rel st R → CInvX ic R w p core →
    (rows ≠ [] → core.scr.cx = 0) → y + rows.length = ht → (∀ fr ∈ frows, ∀ f ∈ fr, f < ansiFonts) →
    ∃ (irows : List (List (Option Cell))) (Rf : RdSt) (p' : AnsiP) (core' : Core),
      ansiRun p core (bytesOf (genLinesEv o skip w ht (genCellsS o skip pal im w rows y st) frows y first cur)) = (p', core') ∧
      RowsGS (ansiRowLen o pal w) (Q Rf.2) (fun _ => false) y rows irows ∧ R.2 <+: Rf.2 ∧
      Rf.2.length ≤ R.2.length + 2 * w * rows.length ∧ core'.scr = picItems w irows core.scr ∧ CInvX ic Rf w p' core' := by
  intro rows
  induction rows with
  | nil =>
    intro frows st R y first cur p core _ _ _ hinv _ _ _
    exact ⟨[], R, p, core, rfl, .nil y, List.prefix_refl _, Nat.le_add_right _ _, rfl, hinv⟩
  | cons row rest ih =>
    intro frows st R y first cur p core hfull hd hrel hinv hcx hy hfonts
    have hx0 : core.scr.cx = 0 := hcx (List.cons_ne_nil _ _)
    have hsw : core.scr.w = w := hinv.base.sw
    obtain ⟨_, l2, l3⟩ := ansiRowLen_specX o pal w hw0 row
    cases hg : genCellsRow o pal im row (ansiRowLen o pal w row) 0 st with | mk line st1
    obtain ⟨items, Re, p1, core1, e1, D⟩ := hread row (frows.headD [])
      st st1 line R cur p core hg (hfull row List.mem_cons_self) (hd row List.mem_cons_self) hrel hinv hx0 (forall_mem_headD hfonts)
    have hil := D.ilen
    have gr2 := D.len
    have hmore : y + 1 < ht ↔ (!rest.isEmpty) = true := by
      rw [← hy]; cases rest <;> simp
    obtain ⟨p2, core2, e2, s2, inv2⟩ := row_endF o ic Re w line.length (y + 1 < ht) (!rest.isEmpty) hmore items core.scr p1 core1
      (D.ilen.trans D.llen.symm) (by rw [D.llen]; exact l3.imp id And.left) D.scr D.inv
    have hcx2 : rest ≠ [] → core2.scr.cx = 0 := by
      intro hne
      have hrest : (!rest.isEmpty) = true := by
        cases rest with
        | nil => exact absurd rfl hne
        | cons _ _ => rfl
      have Rs := rowItems_spec core.scr items (!rest.isEmpty) hx0 (by omega) (by omega) (by omega) (by rw [hsw]; exact D.skips)
      rw [s2, ← hsw]
      exact (Rs.pos hrest).1
    rw [genCellsS_write (fun h => by rw [hl] at h; cases h.1) hg, genLinesEv_comp hl, bytesOf_append, bytesOf_append, List.append_assoc,
      ansiRun_append_of_eq e1, ansiRun_append_of_eq e2]
    obtain ⟨irows, Rf, p', core', e3, J1, J2, J3, J4, J5⟩ := ih frows.tail st1 Re (y + 1) false (genLineEv o w line.length 0 cur line (frows.headD [])).2 p2 core2
      (fun r hr => hfull r (List.mem_cons_of_mem _ hr)) (fun r hr => hd r (List.mem_cons_of_mem _ hr)) D.rel inv2 hcx2
      (by rw [List.length_cons] at hy; omega) (fun fr h => hfonts fr (List.mem_of_mem_tail h))
    refine ⟨items :: irows, Rf, p', core', e3, .cons rfl hil (hmono _ _ _ _ J2 D.ok) J1, D.pre.trans J2, ?_, ?_, J5⟩
    · rw [List.length_cons, Nat.mul_add]; omega
    · rw [J4, s2, ← isEmpty_eq_of_length_eq J1.length_eq]; rfl

end loops

theorem bytesOf_rowHead (first : Bool) (y : Nat) :
    bytesOf ((if first = true then [Ev.ext (csi [0] 109)] else []) ++ [Ev.ext (csi [y + 1] 72), Ev.push]) =
      (if first = true then csi [0] 109 else []) ++ csi [y + 1] 72 := by
  cases first <;> simp [bytesOf]

/-- the same screen up to the caret -/
structure ScrC (s t : Screen) : Prop where
  w : s.w = t.w
  layerH : s.layerH = t.layerH
  lines : s.lines = t.lines

theorem ScrC.refl (s : Screen) : ScrC s s := ⟨rfl, rfl, rfl⟩
theorem ScrC.trans {a b c : Screen} (h1 : ScrC a b) (h2 : ScrC b c) : ScrC a c :=
  ⟨h1.w.trans h2.w, h1.layerH.trans h2.layerH, h1.lines.trans h2.lines⟩
theorem ScrC.symm {a b : Screen} (h : ScrC a b) : ScrC b a := ⟨h.w.symm, h.layerH.symm, h.lines.symm⟩

theorem scrC_gotoRow (s : Screen) (y : Nat) : ScrC (s.gotoRow y) s := ⟨rfl, rfl, rfl⟩

theorem gotoRow_congr {s t : Screen} (h : ScrC s t) (y : Nat) : s.gotoRow y = t.gotoRow y := by
  obtain ⟨h1, h2, h3⟩ := h
  cases s; cases t
  simp only [Screen.gotoRow] at *
  subst h1; subst h2; subst h3; rfl

/-- the rows positioned with `CSI y H` do not depend on where the caret was -/
theorem picItemsL_congr {s t : Screen} (h : ScrC s t) : ∀ (rows : List (List (Option Cell))) (y : Nat),
    ScrC (picItemsL rows y s) (picItemsL rows y t) := by
  intro rows y
  cases rows with
  | nil => exact h
  | cons r rest =>
    show ScrC (picItemsL rest (y + 1) ((s.gotoRow y).runItems r)) (picItemsL rest (y + 1) ((t.gotoRow y).runItems r))
    rw [gotoRow_congr h y]; exact ScrC.refl _

theorem rows_longerG {Rel : AnsiState → RdSt → Prop} {Dom : Cell → Prop} {Q : List Rgb → List Cell → List (Option Cell) → Prop}
    (o : AnsiOpts) (skip : Nat → Bool) (pal : List Rgb) (im : IceMode) (ic : Bool)
    (w ht : Nat) (hht : ht ≤ 999) (hl : o.longerTerminalOutput = true) (hread : RowRead o pal im ic w Rel Dom Q)
    (hmono : ∀ P P' cells items, P <+: P' → Q P cells items → Q P' cells items) :
    ∀ (rows : List (List Cell)) (frows : List (List Nat)) (st : AnsiState) (R : RdSt) (y : Nat) (first : Bool) (cur : Nat) (p : AnsiP) (core : Core),
    (∀ r ∈ rows, r.length = w) → (∀ r ∈ rows, ∀ c ∈ r, Dom c) → Rel st R → CInvX ic R w p core →
    (first = true → R.1 = defaultAttr) → y + rows.length = ht → (∀ fr ∈ frows, ∀ f ∈ fr, f < ansiFonts) →
    ∃ (irows : List (List (Option Cell))) (Rf : RdSt) (p' : AnsiP) (core' : Core),
      ansiRun p core (bytesOf (genLinesEv o skip w ht (genCellsS o skip pal im w rows y st) frows y first cur)) = (p', core') ∧
      RowsGS (ansiRowLen o pal w) (Q Rf.2) skip y rows irows ∧ R.2 <+: Rf.2 ∧
      Rf.2.length ≤ R.2.length + 2 * w * rows.length ∧ ScrC core'.scr (picItemsL irows y core.scr) ∧ CInvX ic Rf w p' core' := by
  intro rows
  induction rows with
  | nil =>
    intro frows st R y first cur p core _ _ _ hinv _ _ _
    exact ⟨[], R, p, core, rfl, .nil y, List.prefix_refl _, Nat.le_add_right _ _, ScrC.refl _, hinv⟩
  | cons row rest ih =>
    intro frows st R y first cur p core hfull hd hrel hinv hA hy hfonts
    have hfull' : ∀ r ∈ rest, r.length = w := fun r hr => hfull r (List.mem_cons_of_mem _ hr)
    have hd' : ∀ r ∈ rest, ∀ c ∈ r, Dom c := fun r hr => hd r (List.mem_cons_of_mem _ hr)
    have hy' : y + 1 + rest.length = ht := by rw [List.length_cons] at hy; omega
    have hftail : ∀ fr ∈ frows.tail, ∀ f ∈ fr, f < ansiFonts := fun fr h => hfonts fr (List.mem_of_mem_tail h)
    cases hsk : skip y with
    | true =>
      -- the row is left out: no events, no state change
      rw [genCellsS_skip hl hsk, genLinesEv_skip hl hsk]
      obtain ⟨irows, Rf, p', core', e3, J1, J2, J3, J4, J5⟩ := ih frows.tail st R (y + 1) first cur p core hfull' hd' hrel hinv hA hy' hftail
      refine ⟨[] :: irows, Rf, p', core', e3, .skip hsk J1, J2, ?_, ?_, J5⟩
      · rw [List.length_cons, Nat.mul_add]; omega
      · exact J4.trans (picItemsL_congr (scrC_gotoRow core.scr y).symm irows (y + 1))
    | false =>
      cases hg : genCellsRow o pal im row (ansiRowLen o pal w row) 0 st with | mk line st1
      obtain ⟨p0, core0, e0, s0, inv0⟩ := head_readX ic R w p core y first hinv hA (by omega)
      obtain ⟨items, Re, p1, core1, e1, D⟩ := hread row (frows.headD [])
        st st1 line R cur p0 core0 hg (hfull row List.mem_cons_self) (hd row List.mem_cons_self) hrel inv0 (by rw [s0]; rfl) (forall_mem_headD hfonts)
      rw [genCellsS_write (fun h => by rw [hsk] at h; cases h.2) hg, genLinesEv_longer hl hsk, bytesOf_append, bytesOf_append, bytesOf_rowHead, List.append_assoc,
        ansiRun_append_of_eq e0, ansiRun_append_of_eq e1]
      obtain ⟨irows, Rf, p', core', e3, J1, J2, J3, J4, J5⟩ := ih frows.tail st1 Re (y + 1) false (genLineEv o w line.length 0 cur line (frows.headD [])).2 p1 core1
        hfull' hd' D.rel D.inv (fun h => by cases h) hy' hftail
      refine ⟨items :: irows, Rf, p', core', e3, .cons hsk D.ilen (hmono _ _ _ _ J2 D.ok) J1, D.pre.trans J2, ?_, ?_, J5⟩
      · have := D.len; rw [List.length_cons, Nat.mul_add]; omega
      · rw [D.scr, s0] at J4; exact J4

theorem genCellsS_noskip (o : AnsiOpts) (pal : List Rgb) (im : IceMode) (w : Nat) : ∀ (rows : List (List Cell)) (y : Nat) (st : AnsiState),
    genCellsS o (fun _ => false) pal im w rows y st = genCells o pal im w rows st := by
  intro rows
  induction rows with
  | nil => intro y st; rfl
  | cons row rest ih =>
    intro y st
    rw [genCellsS_write (fun h => by cases h.2) (show genCellsRow o pal im row (ansiRowLen o pal w row) 0 st = (_, _) from rfl) rest,
      genCells_cons, ih]

theorem genLineEv_cur_nil (o : AnsiOpts) (w : Nat) : ∀ (fuel x : Nat) (line : List CharCell), (genLineEv o w fuel x 0 line []).2 = 0 := by
  intro fuel
  induction fuel with
  | zero => intro x line; rfl
  | succ f ih =>
    intro x line
    cases line with
    | nil => rfl
    | cons cell rest =>
      obtain ⟨k, mid, _, e⟩ := genLineEv_cons o w f x 0 cell rest []
      rw [e]; simp only [List.headD_nil, List.tail_nil, List.drop_nil]; exact ih _ _

theorem genLines_eq_ev (o : AnsiOpts) (w h : Nat) : ∀ (lines : List (List CharCell)) (y : Nat) (first : Bool),
    genLines o w h lines y first = bytesOf (genLinesEv o (fun _ => false) w h lines [] y first 0) := by
  intro lines
  induction lines with
  | nil => intro y first; rfl
  | cons line rest ih =>
    intro y first
    cases hl : o.longerTerminalOutput with
    | false =>
      rw [genLines_cons_break o w h hl, genLinesEv_comp hl, bytesOf_append, bytesOf_append]
      simp only [List.headD_nil, List.tail_nil]
      rw [genLineEv_cur_nil, ← ih, ← genLine_eq_ev]
      congr 2
      split <;> simp [bytesOf]
    | true =>
      rw [genLines_cons_longer o w h hl, genLinesEv_longer hl rfl, bytesOf_append, bytesOf_append, bytesOf_rowHead]
      simp only [List.headD_nil, List.tail_nil]
      rw [genLineEv_cur_nil, ← ih, ← genLine_eq_ev]
      simp only [List.append_assoc]

/-! ### the all-colour instance with row relations of its own

`RowsOkS` is `RowsGS (ansiRowLen o pal w) (ItemsOkX pal Pf 0 w)` written out (`RowsOkS.ofG`), `RowsOkX` the same without skipped
rows; `rows_compF`, `rows_longerF` are `rows_compG`, `rows_longerG` at `row_readF`.  The theorems of Props/ use the `G` forms. -/

/-- the rows of a picture from row `y` on next to the item rows the reader performs for them; `es` = the row is skipped -/
inductive RowsOkS (o : AnsiOpts) (pal Pf : List Rgb) (w : Nat) (es : Nat → Bool) : Nat → List (List Cell) → List (List (Option Cell)) → Prop
  | nil (y : Nat) : RowsOkS o pal Pf w es y [] []
  | cons (y : Nat) (row : List Cell) (items : List (Option Cell)) (rows : List (List Cell)) (irows : List (List (Option Cell))) :
      es y = false → items.length = ansiRowLen o pal w row → ItemsOkX pal Pf 0 w (row.take (ansiRowLen o pal w row)) items →
      RowsOkS o pal Pf w es (y + 1) rows irows → RowsOkS o pal Pf w es y (row :: rows) (items :: irows)
  | skip (y : Nat) (row : List Cell) (rows : List (List Cell)) (irows : List (List (Option Cell))) :
      es y = true → RowsOkS o pal Pf w es (y + 1) rows irows → RowsOkS o pal Pf w es y (row :: rows) ([] :: irows)

theorem RowsOkS.mono {o : AnsiOpts} {pal P Q : List Rgb} {w : Nat} {es : Nat → Bool} {y : Nat} {rows : List (List Cell)}
    {irows : List (List (Option Cell))} (h : RowsOkS o pal P w es y rows irows) (hq : P <+: Q) : RowsOkS o pal Q w es y rows irows := by
  induction h with
  | nil y => exact RowsOkS.nil y
  | cons y row items rows irows h0 h1 h2 _ ih => exact RowsOkS.cons y row items rows irows h0 h1 (h2.mono hq) ih
  | skip y row rows irows h0 _ ih => exact RowsOkS.skip y row rows irows h0 ih

theorem RowsOkS.ofG {o : AnsiOpts} {pal Pf : List Rgb} {w : Nat} {es : Nat → Bool} {y : Nat} {rows : List (List Cell)}
    {irows : List (List (Option Cell))} (h : RowsGS (ansiRowLen o pal w) (ItemsOkX pal Pf 0 w) es y rows irows) :
    RowsOkS o pal Pf w es y rows irows := by
  induction h with
  | nil y => exact .nil y
  | cons h0 h1 h2 _ ih => exact .cons _ _ _ _ _ h0 h1 h2 ih
  | skip h0 _ ih => exact .skip _ _ _ _ h0 ih

/-- the rows of a picture next to the item rows the reader performs for them; `Pf` = the reader's final palette -/
inductive RowsOkX (o : AnsiOpts) (pal Pf : List Rgb) (w : Nat) : List (List Cell) → List (List (Option Cell)) → Prop
  | nil : RowsOkX o pal Pf w [] []
  | cons (row : List Cell) (items : List (Option Cell)) (rows : List (List Cell)) (irows : List (List (Option Cell))) :
      items.length = ansiRowLen o pal w row → ItemsOkX pal Pf 0 w (row.take (ansiRowLen o pal w row)) items →
      RowsOkX o pal Pf w rows irows → RowsOkX o pal Pf w (row :: rows) (items :: irows)

theorem RowsOkX.mono {o : AnsiOpts} {pal P Q : List Rgb} {w : Nat} {rows : List (List Cell)} {irows : List (List (Option Cell))}
    (h : RowsOkX o pal P w rows irows) (hq : P <+: Q) : RowsOkX o pal Q w rows irows := by
  induction h with
  | nil => exact RowsOkX.nil
  | cons row items rows irows h1 h2 _ ih => exact RowsOkX.cons row items rows irows h1 (h2.mono hq) ih

/-- nothing else shows `RowsOkX` inhabited: the rows of the line-breaking writer, which skips none, are `RowsOkX` rows -/
theorem RowsOkX.ofS {o : AnsiOpts} {pal Pf : List Rgb} {w y : Nat} {rows : List (List Cell)} {irows : List (List (Option Cell))}
    (h : RowsOkS o pal Pf w (fun _ => false) y rows irows) : RowsOkX o pal Pf w rows irows := by
  induction h with
  | nil => exact .nil
  | cons _ _ _ _ _ _ h1 h2 _ ih => exact .cons _ _ _ _ h1 h2 ih
  | skip _ _ _ _ h0 => cases h0

theorem rows_compF (o : AnsiOpts) (skip : Nat → Bool) (pal : List Rgb) (hpal : PalBytes pal) (im : IceMode) (ic : Bool) (hic : ic = decide (im = .ice))
    (w ht : Nat) (hw0 : 0 < w) (hw : w ≤ 999) (hl : o.longerTerminalOutput = false) :
    ∀ (rows : List (List Cell)) (frows : List (List Nat)) (st : AnsiState) (R : RdSt) (y : Nat) (first : Bool) (cur : Nat) (p : AnsiP) (core : Core),
    (∀ r ∈ rows, r.length = w) → (∀ r ∈ rows, ∀ c ∈ r, CellDomX o ic c) → RelX ic st.isBlink st R.1 R.2 → CInvX ic R w p core →
    (rows ≠ [] → core.scr.cx = 0) → y + rows.length = ht → (∀ fr ∈ frows, ∀ f ∈ fr, f < ansiFonts) →
    ∃ (irows : List (List (Option Cell))) (Rf : RdSt), RowsOkS o pal Rf.2 w (fun _ => false) y rows irows ∧ R.2 <+: Rf.2 ∧
      Rf.2.length ≤ R.2.length + 2 * w * rows.length ∧
      (ansiRun p core (bytesOf (genLinesEv o skip w ht (genCellsS o skip pal im w rows y st) frows y first cur))).2.scr = picItems w irows core.scr ∧
      (ansiRun p core (bytesOf (genLinesEv o skip w ht (genCellsS o skip pal im w rows y st) frows y first cur))).2.stuck = false ∧
      (ansiRun p core (bytesOf (genLinesEv o skip w ht (genCellsS o skip pal im w rows y st) frows y first cur))).2.pal = Rf.2 ∧
      (ansiRun p core (bytesOf (genLinesEv o skip w ht (genCellsS o skip pal im w rows y st) frows y first cur))).1.st = .ground := by
  intro rows frows st R y first cur p core h1 h2 h3 h4 h5 h6 h7
  obtain ⟨irows, Rf, p', core', e, J1, J2, J3, J4, J5⟩ := rows_compG o skip pal im ic w ht hw0 hw hl (row_readF o pal hpal im ic hic w hw0 hw)
    (fun _ _ _ _ hq h => h.mono hq) rows frows st R y first cur p core h1 h2 h3 h4 h5 h6 h7
  rw [e]
  exact ⟨irows, Rf, .ofG J1, J2, J3, J4, J5.base.ns, J5.pal, J5.base.ag⟩

theorem rows_longerF (o : AnsiOpts) (skip : Nat → Bool) (pal : List Rgb) (hpal : PalBytes pal) (im : IceMode) (ic : Bool) (hic : ic = decide (im = .ice))
    (w ht : Nat) (hw0 : 0 < w) (hw : w ≤ 999) (hht : ht ≤ 999) (hl : o.longerTerminalOutput = true) :
    ∀ (rows : List (List Cell)) (frows : List (List Nat)) (st : AnsiState) (R : RdSt) (y : Nat) (first : Bool) (cur : Nat) (p : AnsiP) (core : Core),
    (∀ r ∈ rows, r.length = w) → (∀ r ∈ rows, ∀ c ∈ r, CellDomX o ic c) → RelX ic st.isBlink st R.1 R.2 → CInvX ic R w p core →
    (first = true → R.1 = defaultAttr) → y + rows.length = ht → (∀ fr ∈ frows, ∀ f ∈ fr, f < ansiFonts) →
    ∃ (irows : List (List (Option Cell))) (Rf : RdSt), RowsOkS o pal Rf.2 w skip y rows irows ∧ R.2 <+: Rf.2 ∧
      Rf.2.length ≤ R.2.length + 2 * w * rows.length ∧
      ScrC (ansiRun p core (bytesOf (genLinesEv o skip w ht (genCellsS o skip pal im w rows y st) frows y first cur))).2.scr (picItemsL irows y core.scr) ∧
      (ansiRun p core (bytesOf (genLinesEv o skip w ht (genCellsS o skip pal im w rows y st) frows y first cur))).2.stuck = false ∧
      (ansiRun p core (bytesOf (genLinesEv o skip w ht (genCellsS o skip pal im w rows y st) frows y first cur))).2.pal = Rf.2 ∧
      (ansiRun p core (bytesOf (genLinesEv o skip w ht (genCellsS o skip pal im w rows y st) frows y first cur))).1.st = .ground := by
  intro rows frows st R y first cur p core h1 h2 h3 h4 h5 h6 h7
  obtain ⟨irows, Rf, p', core', e, J1, J2, J3, J4, J5⟩ := rows_longerG o skip pal im ic w ht hht hl (row_readF o pal hpal im ic hic w hw0 hw)
    (fun _ _ _ _ hq h => h.mono hq) rows frows st R y first cur p core h1 h2 h3 h4 h5 h6 h7
  rw [e]
  exact ⟨irows, Rf, .ofG J1, J2, J3, J4, J5.base.ns, J5.pal, J5.base.ag⟩

end IcyVerif.ArtIO
