import IcyVerif.Lemmas.BinFormatsRt
/-! The palette of whole art files (C16; XBin, ArtWorx ADF, iCE Draw IDF): what the round trips of the C05 whole-file model say
    about it, and what decides the palette block of an XBin file on the writer's and on the loader's side. -/
namespace IcyVerif.BinFormats
open IcyVerif.XbCompress IcyVerif.Gen

theorem pal_eq_of_palSame (p : Pic) (g : LBuf) (h16 : pal16 p.pal = true) (h : palSame p g = true) : g.pal = p.pal := by
  unfold palSame at h
  unfold pal16 at h16
  simp only [Bool.and_eq_true, beq_iff_eq, List.all_eq_true, List.mem_range] at h h16
  obtain ⟨hl, hc⟩ := h
  have h16l := h16.1
  apply List.ext_getElem (by omega)
  intro i h1 h2
  have hi : i < 16 := by omega
  have := hc i hi
  unfold getRgb at this
  have hn : ¬ (i ≥ 2147483648) := by omega
  simp only [hn, if_false] at this
  simp only [List.getD_eq_getElem?_getD, List.getElem?_eq_getElem h1, List.getElem?_eq_getElem h2, Option.getD_some] at this
  exact this.symm

/-- C05's guard `tailReadsAsSauce` follows from the signature test (`tail_of_looks`) -/
theorem embedded_palette_roundtrip (f : Fmt) (hf : f = .xb ∨ f = .adf ∨ f = .idf) (o : Opts) (date : List Nat) (p : Pic)
    (hrep : Representable f o p = true) (hdate : dateOk date = true) :
    ∃ bytes, save f o date p = .ok bytes ∧
      ((o.sauce = true ∨ looksLikeSauce bytes = false) → ∃ g, fromBytes f bytes = .ok g ∧ g.pal = p.pal) := by
  have h16 := Representable.pal16 hf hrep
  have emb : f.embeds = true := by rcases hf with rfl | rfl | rfl <;> rfl
  obtain ⟨bytes, h1, h2⟩ := roundtrip f o date p hrep hdate
  refine ⟨bytes, h1, fun hor => ?_⟩
  obtain ⟨g, h3, h4⟩ := h2 (hor.imp id (tail_of_looks bytes))
  exact ⟨g, h3, pal_eq_of_palSame p g h16 (h4.palette emb)⟩

/-- the `panic` twin of `ok_of_ite_err` (BinFormatsBasic); no writer or loader of `Model/BinFormats` guards with `panic`, so it has no user -/
theorem ite_panic_ok {α : Type} {c : Prop} [Decidable c] {b : Out α} {g : α} (h : (if c then Out.panic else b) = .ok g) :
    ¬c ∧ b = .ok g := by
  by_cases hc : c
  · rw [if_pos hc] at h; exact absurd h (by simp)
  · rw [if_neg hc] at h; exact ⟨hc, h⟩

theorem xb_writer_palette (c s : Bool) (date : List Nat) (p : Pic) (bytes : List Nat) (h : xbSave c s date p = .ok bytes) :
    ((bytes.getD 10 0 &&& Xb.flagPalette == Xb.flagPalette) = !palIsDefault p.pal) ∧
    (palIsDefault p.pal = false → (bytes.drop 11).take Xb.paletteLength = asVec63 (fillTo16 p.pal)) := by
  obtain ⟨body, _, ⟨font, fl, fb, img, d⟩, hw⟩ := xbSave_layout c s date p bytes h
  obtain rfl := d.body
  obtain ⟨tail, rfl⟩ := sauced_prefix s _ p date _ bytes hw
  refine ⟨d.palBit, fun hd => ?_⟩
  simp only [hd, Bool.not_false, if_true, List.append_assoc]
  show ((asVec63 (fillTo16 p.pal)) ++ _).take Xb.paletteLength = _
  rw [← d.palLen hd, List.take_left]

theorem xbBlocks_spec (b1 : LBuf) (hasPal hasFont ext : Bool) (fs : Nat) (rest : List Nat) (r : LBuf × List Nat)
    (h : xbBlocks b1 hasPal hasFont ext fs rest = .ok r) :
    (r.1.pal = if hasPal = true then from63 (rest.take Xb.paletteLength) else b1.pal) ∧ (ext = true → r.1.fonts.length = 2) := by
  obtain ⟨he, _, _, _, rfl⟩ := (xbBlocks_ok_iff ..).mp h
  exact ⟨rfl, fun hx => by simp only [he hx, hx, if_true]; rfl⟩

theorem xbImage_frame (b3 : LBuf) (w : Nat) (comp ice ext : Bool) (rest3 : List Nat) (g : LBuf)
    (h : xbImage b3 w comp ice ext rest3 = .ok g) : SameFrame b3 g := by
  unfold xbImage at h
  simp only [] at h
  split at h
  · cases h
  · injection h with h
    subst h
    refine .trans (placeAll_inv (SameFrame b3) _ _ _ _ _
      (fun b' x y c _ hb => hb.trans (.trans ?_ (setChar_frame _ x y c).1)) b3 _ _ (.refl b3)) ⟨⟨rfl, rfl, rfl, rfl, rfl⟩, rfl⟩
    exact ⟨⟨rfl, rfl, rfl, rfl, rfl⟩, rfl⟩

theorem xb_loader_blocks (data : List Nat) (s : Option Sauce.Sauce) (g : LBuf) (h : xbLoad data s = .ok g) :
    (g.pal = if (data.getD 10 0 &&& Xb.flagPalette == Xb.flagPalette) = true
      then from63 ((data.drop 11).take Xb.paletteLength) else dosPalette) ∧
    ((data.getD 10 0 &&& Xb.flag512 == Xb.flag512) = true → g.fonts.length = 2) := by
  obtain ⟨eof, wl, wh, hl, hh, fs0, flags, rest, b3, rest3, rfl, _, _, hb, hi⟩ := (xbLoad_ok_iff data s g).mp h
  have hf := xbImage_frame _ _ _ _ _ _ _ hi
  rw [hf.pal, hf.fonts]
  exact xbBlocks_spec _ _ _ _ _ _ _ hb

end IcyVerif.BinFormats
