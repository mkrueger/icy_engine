import IcyVerif.Model.SixelShadow
/-! # The indexed shadow-removal loop is total and computes `removeShadowed` (for every list of images) -/
namespace IcyVerif.SixelShadow
open IcyVerif.SixelQueue IcyVerif.SixelLoad

theorem removeShadowed_cons (cfg : Cfg) (new old : Img) (rest : List Img) :
    removeShadowed cfg new (old :: rest) =
      if covers cfg new old then removeShadowed cfg new rest else old :: removeShadowed cfg new rest := rfl

/-- the loop invariant: with `vec = pre ++ suf`, `i = pre.len()`, `sixel_count = vec.len()` and more fuel than `suf` is
    long, the loop ends with `pre ++ (suf without the covered images)` — no index leaves the vector -/
theorem shadowLoop_spec (cfg : Cfg) (new : Img) : ∀ (suf pre : List Img) (fuel : Nat), suf.length < fuel →
    shadowLoop cfg new fuel (pre ++ suf) pre.length (pre.length + suf.length) = .ok (pre ++ removeShadowed cfg new suf) := by
  intro suf
  induction suf with
  | nil =>
    intro pre fuel hf
    cases fuel with
    | zero => simp at hf
    | succ f => simp [shadowLoop, removeShadowed]
  | cons old rest ih =>
    intro pre fuel hf
    cases fuel with
    | zero => simp at hf
    | succ f =>
      have hf' : rest.length < f := by simp only [List.length_cons] at hf; omega
      have hlt : pre.length < pre.length + (old :: rest).length := by simp only [List.length_cons]; omega
      have hget : (pre ++ old :: rest)[pre.length]? = some old := by simp
      rw [shadowLoop, if_pos hlt, hget]
      simp only []
      rw [removeShadowed_cons]
      cases hc : covers cfg new old with
      | true =>
        have hrm : vecRemove (pre ++ old :: rest) pre.length = .ok (pre ++ rest) := by
          unfold vecRemove
          rw [if_pos (by simp only [List.length_append, List.length_cons]; omega)]
          rw [List.eraseIdx_append_of_length_le (Nat.le_refl _)]
          simp
        simp only [if_true, hrm]
        have hne : ¬ (pre.length + (old :: rest).length = 0) := by simp only [List.length_cons]; omega
        rw [if_neg hne]
        have hcnt : pre.length + (old :: rest).length - 1 = pre.length + rest.length := by
          simp only [List.length_cons]; omega
        rw [hcnt]
        exact ih pre f hf'
      | false =>
        simp only [Bool.false_eq_true, if_false]
        have h1 : pre ++ old :: rest = (pre ++ [old]) ++ rest := by simp
        have h2 : pre.length + 1 = (pre ++ [old]).length := by simp
        have h3 : pre.length + (old :: rest).length = (pre ++ [old]).length + rest.length := by
          simp only [List.length_cons, List.length_append, List.length_nil]; omega
        rw [h1, h2, h3, ih (pre ++ [old]) f hf']
        simp

/-- `len + 1` iterations are enough; no `vec[i]` / `vec.remove(i)` is out of range, `sixel_count` never underflows -/
theorem shadowLoop_total (cfg : Cfg) (new : Img) (vec : List Img) :
    shadowLoop cfg new (vec.length + 1) vec 0 vec.length = .ok (removeShadowed cfg new vec) := by
  have h := shadowLoop_spec cfg new vec [] (vec.length + 1) (Nat.lt_succ_self _)
  simpa using h

theorem placeX_eq (cfg : Cfg) (layer : List Img) (img : Img) : placeX cfg layer img = .ok (place cfg layer img) := by
  unfold placeX place
  rw [shadowLoop_total]

theorem pollLoopX_eq (cfg : Cfg) : ∀ (q : List (Nat × Option Res)) (layer : List Img) (log : List Nat) (upd : Bool),
    pollLoopX cfg q layer log upd = .ok (pollLoop cfg q layer log upd) := by
  intro q
  induction q with
  | nil => intro layer log upd; rfl
  | cons e q ih =>
    intro layer log upd
    obtain ⟨id, h⟩ := e
    cases h with
    | none => rfl
    | some r =>
      cases r with
      | ok img =>
        simp only [pollLoopX, pollLoop, isFinished, join, Option.isSome, Bool.not_true, Bool.false_eq_true, if_false, placeX_eq]
        exact ih _ _ _
      | err => rfl
      | panicked =>
        simp only [pollLoopX, pollLoop, isFinished, join, Option.isSome, Bool.not_true, Bool.false_eq_true, if_false]
        exact ih _ _ _

theorem pollX_eq (cfg : Cfg) (s : St) : pollX cfg s = .ok (poll cfg s) := pollLoopX_eq cfg _ _ _ _

theorem joinLoopX_eq (cfg : Cfg) : ∀ (sched : List (List Nat)) (s : St), joinLoopX cfg sched s = .ok (joinLoop cfg sched s) := by
  intro sched
  induction sched with
  | nil =>
    intro s
    simp only [joinLoopX, joinLoop]
    split <;> rfl
  | cons fin rest ih =>
    intro s
    simp only [joinLoopX, joinLoop, pollX_eq]
    split
    · rfl
    · cases (poll cfg (finishAll cfg s fin)).2 with
      | ok u => exact ih _
      | err => rfl
      | blocked => rfl

theorem loadFromX_eq (cfg : Cfg) (s0 : St) (sched : List (List Nat)) : loadFromX cfg s0 sched = .ok (loadFrom cfg s0 sched) := by
  simp only [loadFromX, loadFrom, joinLoopX_eq]
  cases (joinLoop cfg sched s0).2 with
  | done => simp only []; split <;> rfl
  | err => rfl
  | blocked => rfl
  | waiting => rfl

theorem loadSixelsX_eq (cfg : Cfg) (ids : List Nat) (sched : List (List Nat)) :
    loadSixelsX cfg ids sched = .ok (loadSixels cfg ids sched) := loadFromX_eq cfg _ sched

end IcyVerif.SixelShadow
