import IcyVerif.Lemmas.Crc
/-! C19, CRC-32: one table-driven byte step (`update_crc32`, the step of `update_slow`) is eight bit steps (`Z_eq`). -/
namespace IcyVerif.Crc
open IcyVerif.Gen.Crc

theorem split32 (x : BitVec 32) : x = (x.setWidth 8).setWidth 32 ^^^ ((x >>> 8) <<< 8) := by
  apply BitVec.eq_of_getLsbD_eq
  intro j hj
  simp only [BitVec.getLsbD_xor, BitVec.getLsbD_shiftLeft, BitVec.getLsbD_setWidth, BitVec.getLsbD_ushiftRight]
  by_cases h : j < 8
  · simp [h, hj]
  · have e : 8 + (j - 8) = j := by omega
    simp [h, e, hj]

theorem hi_clean (x : BitVec 32) : Z ((x >>> 8) <<< 8) = x >>> 8 := by
  unfold Z
  rw [step32_clean _ 8]
  · apply BitVec.eq_of_getLsbD_eq
    intro j hj
    simp only [BitVec.getLsbD_shiftLeft, BitVec.getLsbD_ushiftRight]
    have e2 : ¬ (8 + j < 8) := by omega
    by_cases h : 8 + j < 32
    · simp [h, e2]
    · have : x.getLsbD (8 + j) = false := BitVec.getLsbD_of_ge _ _ (by omega)
      simp [h, this]
  · intro j hj
    simp [BitVec.getLsbD_shiftLeft, hj]

/-- eight bit steps: the low byte goes through them, the rest shifts down untouched -/
theorem Z_split (x : BitVec 32) : Z x = Z (x &&& 0xFF#32) ^^^ (x >>> 8) := by
  have e : (x.setWidth 8).setWidth 32 = x &&& 0xFF#32 := by
    apply BitVec.eq_of_getLsbD_eq
    intro j hj
    simp only [BitVec.getLsbD_setWidth, BitVec.getLsbD_and, mask8 (w := 32) (by decide)]
    by_cases h : j < 8 <;> simp [h, hj]
  conv => lhs; rw [split32 x]
  rw [Z_linear, hi_clean, e]

theorem Z_eq (x : BitVec 32) : Z x = tab32 0 (x.setWidth 8).toNat ^^^ (x >>> 8) := by
  rw [Z_split, tab32_eq 0 _ (by decide) (BitVec.isLt _)]
  show Z _ ^^^ _ = _
  congr 2
  apply BitVec.eq_of_toNat_eq
  have : x.toNat &&& 255 = x.toNat % 256 := Nat.and_two_pow_sub_one_eq_mod x.toNat 8
  simp [this]
  omega

theorem update_crc32_eq (c : BitVec 32) (b : BitVec 8) : updateCrc32 c b = bitUpd32 c b := by
  unfold updateCrc32 bitUpd32
  rw [← Z, Z_eq]
  have h1 : (c ^^^ b.setWidth 32).setWidth 8 = b ^^^ c.setWidth 8 := by
    apply BitVec.eq_of_getLsbD_eq
    intro j hj
    simp [hj, Bool.xor_comm]
  have h2 : (c ^^^ b.setWidth 32) >>> 8 = c >>> 8 := by
    apply BitVec.eq_of_getLsbD_eq
    intro j hj
    simp
  rw [h1, h2, BitVec.xor_comm]

theorem slow_step_eq (c : BitVec 32) (b : BitVec 8) : slowStep c b = bitUpd32 c b := by
  rw [← update_crc32_eq]; unfold slowStep updateCrc32
  rw [BitVec.xor_comm (c.setWidth 8) b, BitVec.xor_comm]

theorem updateCrc32_fun : updateCrc32 = bitUpd32 := funext fun c => funext (update_crc32_eq c)
theorem slowStep_fun : slowStep = bitUpd32 := funext fun c => funext (slow_step_eq c)

end IcyVerif.Crc
