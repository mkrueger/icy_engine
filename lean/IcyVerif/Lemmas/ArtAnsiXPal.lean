import IcyVerif.Lemmas.ArtAnsiRead
/-! # Palette facts for the extended-colour round trip (C04: `ansi_rt`, `ansi_rt_partial₄`)

In the names of this and the following files the suffix `X` marks what is about ALL colours ("extended": custom palettes,
xterm-256, 24-bit), `16` what is about the 16 DOS colours, `G` what holds over any notion `G` of a reader state that is good for
a cell (`LineG`, `ItemsG`, `rows_compG`; `X` and `16` are its instances), `S` a row relation with skipped rows (`RowsGS`),
`F` the full writer (font pages, skipped rows, events) in its all-colour instance.

The reader's palette starts as the DOS palette and only grows (`Palette::insert_color` appends).  `pget P i` is the
palette lookup without the "bit 31 = direct RGB" escape of `Palette::get_rgb`; the two agree below 2^31. -/
namespace IcyVerif.ArtIO
open IcyVerif.Gen.Art

/-- the colour the writer's skip and trim tests compare with; a `(0, 0, 0)` inside a `getD` is the out-of-range default -/
def black : Rgb := (0, 0, 0)

def pget (P : List Rgb) (i : Nat) : Rgb := (P[i]?).getD (0, 0, 0)

theorem getRgb_eq_pget (P : List Rgb) (i : Nat) (h : i < 2147483648) : getRgb P i = pget P i := by
  unfold getRgb pget
  have : i / 2147483648 = 0 := Nat.div_eq_of_lt h
  simp [this]

def DosPre (P : List Rgb) : Prop := dosPalette <+: P

theorem dosPre_refl : DosPre dosPalette := List.prefix_refl _

theorem DosPre.len {P : List Rgb} (h : DosPre P) : 16 ≤ P.length := by
  have := h.length_le
  simpa [dosPalette] using this

theorem pget_prefix {P Q : List Rgb} (h : P <+: Q) {i : Nat} (hi : i < P.length) : pget Q i = pget P i := by
  obtain ⟨t, rfl⟩ := h
  unfold pget
  rw [List.getElem?_append_left hi]

theorem DosPre.mono {P Q : List Rgb} (h : DosPre P) (hq : P <+: Q) : DosPre Q := List.IsPrefix.trans h hq

theorem DosPre.get {P : List Rgb} (h : DosPre P) {i : Nat} (hi : i < 16) : pget P i = getRgb dosPalette i := by
  have h1 : pget P i = pget dosPalette i := pget_prefix h (by simpa [dosPalette] using hi)
  rw [h1, getRgb_eq_pget _ _ (by omega)]

theorem insertColor_prefix (P : List Rgb) (c : Rgb) : P <+: (insertColor P c).1 := by
  unfold insertColor
  cases h : P.findIdx? (· == c) with
  | some i => exact List.prefix_refl _
  | none => exact List.prefix_append _ _

theorem insertColor_length_le (P : List Rgb) (c : Rgb) : (insertColor P c).1.length ≤ P.length + 1 := by
  unfold insertColor
  cases h : P.findIdx? (· == c) with
  | some i => simp
  | none => simp

theorem insertColor_lt (P : List Rgb) (c : Rgb) : (insertColor P c).2 < (insertColor P c).1.length := by
  unfold insertColor
  cases h : P.findIdx? (· == c) with
  | some i =>
    have := List.findIdx?_eq_some_iff_getElem.1 h
    obtain ⟨hi, _⟩ := this
    exact hi
  | none => simp

theorem insertColor_get (P : List Rgb) (c : Rgb) : pget (insertColor P c).1 (insertColor P c).2 = c := by
  unfold insertColor pget
  cases h : P.findIdx? (· == c) with
  | some i =>
    obtain ⟨hi, hp, _⟩ := List.findIdx?_eq_some_iff_getElem.1 h
    simp only []
    rw [List.getElem?_eq_getElem hi]
    simpa using hp
  | none => simp

theorem dos_index : ∀ i < 16, dosIndex (getRgb dosPalette i) = some i := by decide
theorem dos_inj : ∀ i < 16, ∀ j < 16, getRgb dosPalette i = getRgb dosPalette j → i = j := by decide

theorem dosIndex_some {c : Rgb} {j : Nat} (h : dosIndex c = some j) : j < 16 ∧ getRgb dosPalette j = c := by
  unfold dosIndex at h
  obtain ⟨hi, hp, _⟩ := List.findIdx?_eq_some_iff_getElem.1 h
  have hj : j < 16 := by simpa [dosPalette] using hi
  refine ⟨hj, ?_⟩
  rw [getRgb_eq_pget _ _ (by omega)]
  unfold pget
  rw [List.getElem?_eq_getElem hi]
  simpa using hp

theorem dosIndex_of_pget {P : List Rgb} (hp : DosPre P) {j : Nat} (hj : j < 16) : dosIndex (pget P j) = some j := by
  rw [hp.get hj]; exact dos_index j hj

theorem dosIndex_none {c : Rgb} (h : dosIndex c = none) : ∀ j < 16, getRgb dosPalette j ≠ c := by
  intro j hj e
  have := dos_index j hj
  rw [e, h] at this
  cases this

theorem revIdx_spec (X : List Rgb) (c : Rgb) (i : Nat) (h : X.reverse.findIdx? (· == c) = some i) :
    i < X.length ∧ X.getD (X.length - 1 - i) (0, 0, 0) = c := by
  obtain ⟨hi, hp, _⟩ := List.findIdx?_eq_some_iff_getElem.1 h
  have hi' : i < X.length := by simpa using hi
  have hc : X.reverse[i] = c := by simpa using hp
  refine ⟨hi', ?_⟩
  have hidx : X.length - 1 - i < X.length := by omega
  rw [List.getD_eq_getElem?_getD, List.getElem?_eq_getElem hidx]
  simp only [Option.getD_some]
  rw [← hc, List.getElem_reverse]

theorem xtermPalette_length : xtermPalette.length = 256 := by decide +kernel

theorem xtermIndex_spec (b : Bool) (c : Rgb) (e : Nat) (h : xtermIndex b c = some e) :
    e ≤ 255 ∧ xtermPalette.getD e (0, 0, 0) = c := by
  unfold xtermIndex at h
  have hlen := xtermPalette_length
  generalize xtermPalette = X at h hlen ⊢
  cases b with
  | false => simp at h
  | true =>
    simp only [if_true] at h
    cases hq : X.reverse.findIdx? (· == c) with
    | none => rw [hq] at h; cases h
    | some i =>
      rw [hq] at h
      simp only [Option.some.injEq] at h
      obtain ⟨h1, h2⟩ := revIdx_spec X c i hq
      subst h
      exact ⟨by omega, h2⟩

/-- every palette colour is a triple of bytes (`Color { r, g, b : u8 }`) -/
def PalBytes (pal : List Rgb) : Prop := ∀ c ∈ pal, c.1 < 256 ∧ c.2.1 < 256 ∧ c.2.2 < 256

/-- on byte colours the reader's `% 256` on 24-bit colour parameters is the identity -/
theorem rgb_mod (c : Rgb) (h : c.1 < 256 ∧ c.2.1 < 256 ∧ c.2.2 < 256) : (c.1 % 256, c.2.1 % 256, c.2.2 % 256) = c := by
  rw [Nat.mod_eq_of_lt h.1, Nat.mod_eq_of_lt h.2.1, Nat.mod_eq_of_lt h.2.2]

theorem getRgb_bytes {pal : List Rgb} (h : PalBytes pal) (i : Nat) :
    (getRgb pal i).1 < 256 ∧ (getRgb pal i).2.1 < 256 ∧ (getRgb pal i).2.2 < 256 := by
  unfold getRgb
  split
  · exact ⟨Nat.mod_lt _ (by omega), Nat.mod_lt _ (by omega), Nat.mod_lt _ (by omega)⟩
  · cases hq : pal[i]? with
    | none => simp
    | some c =>
      have hm : c ∈ pal := List.mem_of_getElem? hq
      simpa using h c hm

theorem palBytes_dos : PalBytes dosPalette := by unfold PalBytes; decide

end IcyVerif.ArtIO
