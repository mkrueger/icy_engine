import IcyVerif.Lemmas.IcyDrawApply
/-! C07, IcyDraw: one `LAYER_n` payload — the writer never splits a layer that satisfies `Layer.fits`, the fixed-size part of
the header is a codec of the record `LayerFields` the reader reads it into, and the whole payload decodes to the layer that was
encoded. -/
namespace IcyVerif.IcyDraw
open IcyVerif.Gen.Icy

/-- `Layer.wf` clause by clause (the title clause is not needed by the proofs) -/
structure WfLayerFacts (l : Layer) : Prop where
  role : l.role = 0
  mode : l.mode < 3
  color : ∀ r g b, l.color = some (r, g, b) → r < 256 ∧ g < 256 ∧ b < 256
  tr : l.transparency < 256
  ox : -2147483648 ≤ l.offX ∧ l.offX < 2147483648
  oy : -2147483648 ≤ l.offY ∧ l.offY < 2147483648
  width : l.width < 2147483648
  height : l.height < 2147483648
  page : l.defaultPage < 65536
  fits : l.fits = true
  cells : ∀ r ∈ allRows l, ∀ c ∈ r, c.wf = true

theorem Layer.facts (l : Layer) (hw : l.wf = true) : WfLayerFacts l := by
  simp only [Layer.wf, Bool.and_eq_true, decide_eq_true_eq, beq_iff_eq] at hw
  obtain ⟨⟨⟨⟨⟨⟨⟨⟨⟨⟨⟨⟨⟨_, hrole⟩, hmode⟩, hcolor⟩, htr⟩, hox1⟩, hox2⟩, hoy1⟩, hoy2⟩, hwd⟩, hht⟩, hdp⟩, hfits⟩, hcells⟩ := hw
  exact ⟨hrole, hmode, fun r g b hc => by simpa [hc, and_assoc] using hcolor, htr, ⟨hox1, hox2⟩, ⟨hoy1, hoy2⟩, hwd, hht, hdp, hfits,
    fun r hr c hc => List.all_eq_true.mp (List.all_eq_true.mp hcells r hr) c hc⟩

theorem rowView_length (l : Layer) (y : Nat) : (rowView l y).length = l.width := by simp [rowView]

theorem rowView_get (l : Layer) (y x : Nat) (hx : x < l.width) : (rowView l y)[x]? = some (getChar l x y) := by
  simp [rowView, hx]

theorem allRows_length (l : Layer) : (allRows l).length = l.height := by simp [allRows]

theorem allRows_get (l : Layer) (y : Nat) (hy : y < l.height) : (allRows l)[y]? = some (rowView l y) := by
  simp [allRows, hy]

theorem allRows_row_length (l : Layer) : ∀ r ∈ allRows l, r.length = l.width := by
  intro r hr
  simp only [allRows, List.mem_map] at hr
  obtain ⟨y, _, rfl⟩ := hr
  exact rowView_length l y

theorem encodeCell_length_le (c : Cell) : (encodeCell c).length ≤ 16 := by
  unfold encodeCell
  split
  · split <;> simp [leBytes_length]
  · simp [leBytes_length]

theorem flatMap_encodeCell_length_le (cs : List Cell) : (cs.flatMap encodeCell).length ≤ 16 * cs.length := by
  induction cs with
  | nil => simp
  | cons c cs ih =>
    have := encodeCell_length_le c
    simp only [List.flatMap_cons, List.length_append, List.length_cons]; omega

theorem encodeRow_length_le (w : Nat) (cells : List Cell) (h : cells.length = w) : (encodeRow w cells).length ≤ 16 * w := by
  unfold encodeRow
  simp only []
  have h1 := flatMap_encodeCell_length_le (stripInv cells)
  have h2 := stripInv_length_le cells
  by_cases hfull : w > (stripInv cells).length
  · simp only [hfull, if_true, List.length_append, leBytes_length]; omega
  · simp only [hfull, if_false, List.append_nil]; omega

theorem flatMap_encodeRow_length_le (w : Nat) (rows : List (List Cell)) (hlen : ∀ r ∈ rows, r.length = w) :
    (rows.flatMap (encodeRow w)).length ≤ 16 * w * rows.length := by
  induction rows with
  | nil => simp
  | cons r rs ih =>
    have h1 := encodeRow_length_le w r (hlen r (List.mem_cons_self ..))
    have h2 := ih (fun r hr => hlen r (List.mem_cons_of_mem _ hr))
    simp only [List.flatMap_cons, List.length_append, List.length_cons, Nat.mul_succ]; omega

theorem budget_all (w : Nat) (rows : List (List Cell)) (len : Nat) (hlen : ∀ r ∈ rows, r.length = w)
    (h : len + 16 * w * rows.length ≤ maxChunk) :
    encodeRowsBudget w len rows = (rows.flatMap (encodeRow w), []) := by
  induction rows generalizing len with
  | nil => rfl
  | cons r rs ih =>
    have h1 := encodeRow_length_le w r (hlen r (List.mem_cons_self ..))
    simp only [List.length_cons, Nat.mul_succ] at h
    have hb : rowBudgetFactor = 16 := rfl
    simp only [encodeRowsBudget, hb]
    rw [if_neg (by omega)]
    rw [ih (len + (encodeRow w r).length) (fun r hr => hlen r (List.mem_cons_of_mem _ hr)) (by omega)]
    simp

theorem rdString_enc (t rest : Bytes) (h : t.length < 4294967296) :
    rdString (leBytes 4 t.length ++ (t ++ rest)) = .ok (t, rest) := by
  unfold rdString
  rw [lenLt_false _ _ (by simp [leBytes_length])]
  simp only [Bool.false_eq_true, if_false]
  rw [rdLE_leBytes]
  have : t.length % 256 ^ 4 = t.length := Nat.mod_eq_of_lt (by simpa using h)
  simp only [this]
  rw [lenLt_false _ _ (by simp)]
  simp only [Bool.false_eq_true, if_false]
  exact rdSlice_append t rest

/-- the 41 bytes behind the title, written from the record the reader reads them into -/
def encodeFields (F : LayerFields) : Bytes :=
  [F.roleByte, 0, 0, 0, 0, F.modeByte, F.r, F.g, F.b, F.a] ++ (leBytes 4 F.flags ++ (F.transparency :: (leBytes 4 F.offX ++
    (leBytes 4 F.offY ++ (leBytes 4 F.width ++ (leBytes 4 F.height ++ (leBytes 2 F.defaultPage ++ leBytes 8 F.length)))))))

/-- every multi-byte field fits its bytes; the mode is one the reader accepts -/
structure LayerFields.Fits (F : LayerFields) : Prop where
  mode : F.modeByte ≤ 2
  flags : F.flags < 4294967296
  offX : F.offX < 4294967296
  offY : F.offY < 4294967296
  width : F.width < 4294967296
  height : F.height < 4294967296
  page : F.defaultPage < 65536
  length : F.length < 18446744073709551616

theorem rdFields_encodeFields (F : LayerFields) (ok : F.Fits) (rest : Bytes) :
    rdFields (encodeFields F ++ rest) = .ok (F, rest) := by
  obtain ⟨role, mode, r, g, b, a, flags, tr, ox, oy, w, h, dp, len⟩ := F
  obtain ⟨h1, h2, h3, h4, h5, h6, h7, h8⟩ := ok
  simp only at h1 h2 h3 h4 h5 h6 h7 h8
  simp only [encodeFields, List.cons_append, List.nil_append, List.append_assoc]
  unfold rdFields
  rw [lenLt_false _ _ (by simp only [List.length_cons, List.length_append, leBytes_length]; omega)]
  simp only [Bool.false_eq_true, if_false, rdU8, List.drop, Res.bind_ok', rdLE_leBytes, Res.pure_eq]
  rw [if_neg (by omega)]
  have hp4 : (256 : Nat) ^ 4 = 4294967296 := by decide
  have hp2 : (256 : Nat) ^ 2 = 65536 := by decide
  have hp8 : (256 : Nat) ^ 8 = 18446744073709551616 := by decide
  rw [hp4, hp2, hp8, Nat.mod_eq_of_lt h2, Nat.mod_eq_of_lt h3, Nat.mod_eq_of_lt h4, Nat.mod_eq_of_lt h5, Nat.mod_eq_of_lt h6,
    Nat.mod_eq_of_lt h7, Nat.mod_eq_of_lt h8]

/-- the record in the header the writer emits for `l` with `n` bytes of cell data -/
def Layer.fields (l : Layer) (n : Nat) : LayerFields :=
  { roleByte := if l.role = 3 then roleImageByte else roleNormalByte
    modeByte := modeBytes.getD l.mode 0
    r := match l.color with | some (r, _, _) => r % 256 | none => 0
    g := match l.color with | some (_, g, _) => g % 256 | none => 0
    b := match l.color with | some (_, _, b) => b % 256 | none => 0
    a := match l.color with | some _ => colorAlphaByte | none => 0
    flags := encodeFlags l
    transparency := l.transparency % 256
    offX := (l.offX % 4294967296).toNat
    offY := (l.offY % 4294967296).toNat
    width := l.width, height := l.height, defaultPage := l.defaultPage, length := n }

theorem encodeLayerHeader_fields (l : Layer) (n : Nat) (rest : Bytes) :
    encodeLayerHeader l ++ (leBytes 8 n ++ rest) = leBytes 4 l.title.length ++ (l.title ++ (encodeFields (l.fields n) ++ rest)) := by
  unfold encodeLayerHeader encodeFields Layer.fields leI32
  rcases l.color with _ | ⟨r, g, b⟩ <;> simp only [List.cons_append, List.nil_append, List.append_assoc]

theorem encodeLayerHeader_length (l : Layer) : (encodeLayerHeader l).length = l.title.length + 37 := by
  have := congrArg List.length (encodeLayerHeader_fields l 0 [])
  simp only [List.length_append, leBytes_length, encodeFields, List.length_cons, List.length_nil] at this
  omega

theorem encodeFlags_lt (l : Layer) : encodeFlags l < 32 := by
  unfold encodeFlags
  cases l.isVisible <;> cases l.isLocked <;> cases l.isPosLocked <;> cases l.hasAlpha <;> cases l.isAlphaLocked <;> decide

theorem decodeFlags_encodeFlags (a l : Layer) :
    decodeFlags a (encodeFlags l) =
      { a with isVisible := l.isVisible, isLocked := l.isLocked, isPosLocked := l.isPosLocked,
               hasAlpha := l.hasAlpha, isAlphaLocked := l.isAlphaLocked } := by
  unfold decodeFlags encodeFlags
  cases l.isVisible <;> cases l.isLocked <;> cases l.isPosLocked <;> cases l.hasAlpha <;> cases l.isAlphaLocked <;> rfl

theorem modeBytes_getD (m : Nat) (h : m < 3) : modeBytes.getD m 0 = m := by
  have : m = 0 ∨ m = 1 ∨ m = 2 := by omega
  rcases this with rfl | rfl | rfl <;> rfl

theorem fields_fits (l : Layer) (w : WfLayerFacts l) (n : Nat) (hn : n < 18446744073709551616) : (l.fields n).Fits :=
  { mode := by show modeBytes.getD l.mode 0 ≤ 2; rw [modeBytes_getD _ w.mode]; have := w.mode; omega
    flags := by show encodeFlags l < _; have := encodeFlags_lt l; omega
    offX := by show (l.offX % 4294967296).toNat < _; omega
    offY := by show (l.offY % 4294967296).toNat < _; omega
    width := by show l.width < _; have := w.width; omega
    height := by show l.height < _; have := w.height; omega
    page := w.page, length := hn }

theorem freshLayer_fields (l : Layer) (w : WfLayerFacts l) (n : Nat) :
    decodeFlags (freshLayer l.title (l.fields n)) (encodeFlags l) = { l with lines := [] } := by
  rw [decodeFlags_encodeFlags]
  have hx : toI32 (l.offX % 4294967296).toNat = l.offX := by have := w.ox; unfold toI32; omega
  have hy : toI32 (l.offY % 4294967296).toNat = l.offY := by have := w.oy; unfold toI32; omega
  have hcol : (if (l.fields n).a ≠ 0 then some ((l.fields n).r, (l.fields n).g, (l.fields n).b) else none) = l.color := by
    unfold Layer.fields
    cases hc : l.color with
    | none => rfl
    | some c =>
      obtain ⟨r, g, b⟩ := c
      obtain ⟨h1, h2, h3⟩ := w.color r g b hc
      simp [colorAlphaByte, Nat.mod_eq_of_lt h1, Nat.mod_eq_of_lt h2, Nat.mod_eq_of_lt h3]
  unfold freshLayer
  rw [hcol]
  simp only [Layer.fields, w.role, hx, hy, modeBytes_getD _ w.mode, Nat.mod_eq_of_lt w.tr, roleNormalByte]
  cases l
  simp_all

theorem docEq_of_lines (l : Layer) (ls : List (List Cell))
    (h : ∀ x y, x < l.width → y < l.height → visAt { l with lines := ls } x y = visAt l x y) : { l with lines := ls } ≈doc l :=
  ⟨rfl, rfl, rfl, rfl, rfl, rfl, rfl, rfl, rfl, rfl, rfl, rfl, rfl, rfl, rfl, h⟩

/-- the one chunk of a layer that fits it: header, length of the cell data, cell data -/
def layerChunk (l : Layer) : Bytes :=
  encodeLayerHeader l ++ (leBytes 8 ((allRows l).flatMap (encodeRow l.width)).length ++ (allRows l).flatMap (encodeRow l.width))

theorem encodeLayer_wf (l : Layer) (hrole : l.role = 0) (hfits : l.fits = true) :
    encodeLayer l = some [layerChunk l] := by
  unfold encodeLayer layerChunk
  simp only [hrole, Nat.reduceEqDiff, if_false]
  have hb := budget_all l.width (allRows l) ((encodeLayerHeader l).length + 8) (allRows_row_length l) (by
    rw [encodeLayerHeader_length, allRows_length]
    simp only [Layer.fits, decide_eq_true_eq] at hfits
    omega)
  simp only [hb, List.length_nil, encodeCont, Option.map_some, List.append_assoc]

theorem lookup_stripInv (row : List Cell) (x : Nat) (g : Cell) (hg : row[x]? = some g) :
    (match lookupRow (optRow (stripInv row)) 0 x with | some c => optCell c | none => none) = optCell g := by
  obtain ⟨t, ht, hinv⟩ := stripInv_prefix row
  simp only [lookupRow, Nat.zero_le, if_true, Nat.sub_zero, optRow, List.getElem?_map]
  by_cases hx : x < (stripInv row).length
  · have : (stripInv row)[x]? = some g := by
      rw [ht, List.getElem?_append_left hx] at hg; exact hg
    rw [this]
    simp only [Option.map_some, Option.join_some]
    cases hv : optCell g with
    | none => rfl
    | some c =>
      simp only [optCell] at hv
      split at hv
      · cases hv; simp [optCell, *]
      · cases hv
  · have : (stripInv row)[x]? = none := by simp; omega
    rw [this]
    simp only [Option.map_none, Option.join_none]
    rw [ht, List.getElem?_append_right (by omega)] at hg
    have hm : g ∈ t := List.mem_of_getElem? hg
    simp [optCell, hinv g hm]

theorem readRows_width0 (h : Nat) : readRows 0 h [] = .ok [] := by
  cases h <;> simp [readRows]

theorem flatMap_encodeRow_width0 (rows : List (List Cell)) (h : ∀ r ∈ rows, r.length = 0) :
    rows.flatMap (encodeRow 0) = [] := by
  induction rows with
  | nil => rfl
  | cons r rs ih =>
    have hr : r = [] := List.eq_nil_of_length_eq_zero (h r (List.mem_cons_self ..))
    subst hr
    simp only [List.flatMap_cons, ih (fun r hr => h r (List.mem_cons_of_mem _ hr))]
    simp [encodeRow, stripInv]

theorem visAt_freshLayer (t : Bytes) (F : LayerFields) (x y : Nat) : visAt (freshLayer t F) x y = none := by
  rw [visAt_eq]; simp [freshLayer, visIn]

theorem readRows_allRows (l : Layer) (w : WfLayerFacts l) :
    ∃ rows', readRows l.width l.height ((allRows l).flatMap (encodeRow l.width)) = .ok rows' ∧ rows'.length ≤ l.height ∧
      (∀ r ∈ rows', r.length ≤ l.width) ∧
      ∀ x y, x < l.width → y < l.height →
        (match gridAt rows' 0 x y with | some c => optCell c | none => none) = visAt l x y := by
  by_cases hw0 : l.width = 0
  · refine ⟨[], ?_, by simp, by simp, ?_⟩
    · rw [hw0, flatMap_encodeRow_width0 _ (by intro r hr; rw [allRows_row_length l r hr, hw0])]
      exact readRows_width0 l.height
    · intro x y hx; omega
  · refine ⟨(allRows l).map fun r => optRow (stripInv r), ?_, by simp [allRows_length], ?_, ?_⟩
    · have := readRows_rows l.width (by omega) (allRows l) (allRows_row_length l) w.cells
      rwa [allRows_length] at this
    · intro r hr
      simp only [List.mem_map] at hr
      obtain ⟨r0, hr0, rfl⟩ := hr
      have := stripInv_length_le r0
      rw [allRows_row_length l r0 hr0] at this
      simpa [optRow] using this
    · intro x y hx hy
      simp only [gridAt, Nat.zero_le, if_true, Nat.sub_zero, List.getElem?_map, allRows_get l y hy, Option.map_some]
      exact lookup_stripInv (rowView l y) x (getChar l x y) (rowView_get l y x hx)

theorem decodeLayerMain_encode (l : Layer) (hw : l.wf = true) :
    ∃ l', decodeLayerMain (layerChunk l) = .ok l' ∧ l' ≈doc l := by
  unfold layerChunk
  have w := Layer.facts l hw
  have hfits := w.fits
  simp only [Layer.fits, decide_eq_true_eq] at hfits
  have hmax : maxChunk = 3000000 := rfl
  have hdata := flatMap_encodeRow_length_le l.width (allRows l) (allRows_row_length l)
  rw [allRows_length] at hdata
  obtain ⟨rows', hread, hlen', hwid', hgrid⟩ := readRows_allRows l w
  generalize (allRows l).flatMap (encodeRow l.width) = data at hdata hread
  -- the reader sets up `fresh`, which takes every `set_char`, and applies the rows to it
  obtain ⟨⟨ls, hls⟩, vis⟩ := applyRows_spec rows' (freshLayer l.title (l.fields data.length)) 0 ⟨rfl, rfl, rfl⟩ (by show 0 + _ ≤ l.height; omega) hwid'
  have hrole : ¬ (l.fields data.length).roleByte = 1 := by simp [Layer.fields, w.role, roleNormalByte]
  have hw31 : ¬ ((l.fields data.length).width ≥ 2147483648 ∨ (l.fields data.length).height ≥ 2147483648) := by
    show ¬ (l.width ≥ _ ∨ l.height ≥ _); have := w.width; have := w.height; omega
  rw [encodeLayerHeader_fields]
  have hlen0 : lenLt data (l.fields data.length).length = false := lenLt_false _ _ (Nat.le_refl _)
  have hread' : readRows (l.fields data.length).width (l.fields data.length).height data = .ok rows' := hread
  have hF := rdFields_encodeFields _ (fields_fits l w data.length (by omega)) data
  simp only [decodeLayerMain, rdString_enc _ _ (show l.title.length < 4294967296 by omega), hF, if_neg hrole, hlen0, if_neg hw31, hread',
    Bool.false_eq_true, if_false]
  refine ⟨_, rfl, ?_⟩
  rw [hls, show (l.fields data.length).flags = encodeFlags l from rfl]
  have := freshLayer_fields l w data.length
  rw [show decodeFlags { freshLayer l.title (l.fields data.length) with lines := ls } (encodeFlags l) =
    { decodeFlags (freshLayer l.title (l.fields data.length)) (encodeFlags l) with lines := ls } from rfl, this]
  refine docEq_of_lines l ls fun x y hx hy => ?_
  have hv := vis x y
  rw [hls, visAt_freshLayer] at hv
  have e : visAt { l with lines := ls } x y = visAt { freshLayer l.title (l.fields data.length) with lines := ls } x y := by
    rw [visAt_eq, visAt_eq]; rfl
  rw [e, hv, ← hgrid x y hx hy]
  cases gridAt rows' 0 x y <;> rfl

end IcyVerif.IcyDraw
