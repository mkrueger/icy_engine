import IcyVerif.Model.BgiOps
import IcyVerif.Lemmas.Bgi
/-! `fill_x` / `fill_y` / `line` as contracts (`Draws`): the pixel work of every span is bounded by the viewport, and every failure of
the model of `line` comes from `put_pixel`; no call of the modelled API (`applyOp`) changes the geometry of the canvas. -/
namespace IcyVerif.Bgi

theorem pixelRun_draws : ∀ (n : Nat) (s : Bgi) (hz : Bool) (fixed lo : Int), Draws s id (fun _ => True) (PutOk s) (pixelRun s hz fixed lo n)
  | 0, s, _, _, _ => .ret rfl trivial
  | n + 1, s, hz, fixed, lo => by
    have h1 : Draws s id (fun _ => True) (PutOk s) (if hz then putPixel s lo fixed s.color else putPixel s fixed lo s.color) :=
      .ite (fun _ => putPixel_draws ..) fun _ => putPixel_draws ..
    unfold pixelRun
    split
    · exact h1.fails ‹_›
    · exact h1.andThen ‹_› fun _ _ => pixelRun_draws n _ hz fixed (lo + 1)

theorem spanLoop_draws : ∀ (n : Nat) (s : Bgi) (isX : Bool) (pos runLo : Int) (runLen : Nat) (inc offset : Int) (cost : Nat),
    Draws s (·.1) (fun r => r.2.2 ≤ cost + n * runLen) (PutOk s) (spanLoop s isX pos runLo runLen inc n offset cost)
  | 0, s, _, _, _, _, _, _, cost => .ret rfl (by simp)
  | n + 1, s, isX, pos, runLo, runLen, inc, offset, cost => by
    have hmul : (n + 1) * runLen = n * runLen + runLen := by rw [Nat.add_mul]; simp
    unfold spanLoop
    refine .ite (fun _ => ?_) fun _ => (spanLoop_draws n s isX _ _ _ _ _ cost).mono fun _ _ h => by omega
    split
    · exact (pixelRun_draws ..).fails ‹_›
    · exact (pixelRun_draws ..).andThen ‹_› fun _ _ => (spanLoop_draws n _ isX _ _ _ _ _ _).mono fun _ _ h => by omega

/-- viewport area in pixels (columns 0..right-1, rows 0..bottom-1): the bound of one span -/
def vpArea (s : Bgi) : Nat := (s.vp.x + s.vp.w).toNat * (s.vp.y + s.vp.h).toNat

theorem Frame.area {s s' : Bgi} (h : Frame s s') : vpArea s' = vpArea s := by unfold vpArea; rw [h.vp]

theorem spanLen_clip (a b e : Int) : spanLen (max a 0) (min b (e - 1)) ≤ e.toNat := by unfold spanLen; omega

theorem fillX_draws (s : Bgi) (y startx count offset : Int) : Draws s (·.1) (fun r => r.2.2 ≤ vpArea s) (PutOk s) (fillX s y startx count offset) := by
  unfold fillX
  refine .ite (fun _ => .ret rfl (Nat.zero_le _)) fun _ => (spanLoop_draws ..).map (fun _ => rfl) fun r e => Nat.le_trans e ?_
  rw [Nat.zero_add]
  exact Nat.mul_le_mul (spanLen_clip _ _ _) (spanLen_clip _ _ _)

theorem fillY_draws (s : Bgi) (x startY count offset : Int) : Draws s (·.1) (fun r => r.2.2 ≤ vpArea s) (PutOk s) (fillY s x startY count offset) := by
  unfold fillY
  refine .ite (fun _ => .ret rfl (Nat.zero_le _)) fun _ => (spanLoop_draws ..).map (fun _ => rfl) fun r e => Nat.le_trans e ?_
  rw [Nat.zero_add, vpArea, Nat.mul_comm]
  exact Nat.mul_le_mul (spanLen_clip _ _ _) (spanLen_clip _ _ _)

theorem xRuns_draws : ∀ (n : Nat) (s : Bgi) (whole step adjUp adjDown px py err offset : Int) (cost : Nat),
    Draws s (·.1) (fun r => r.2.2.2.2.2 ≤ cost + n * vpArea s) (PutOk s) (xRuns s whole step adjUp adjDown n px py err offset cost)
  | 0, s, _, _, _, _, _, _, _, _, cost => .ret rfl (by simp)
  | n + 1, s, whole, step, adjUp, adjDown, px, py, err, offset, cost => by
    have hmul : (n + 1) * vpArea s = n * vpArea s + vpArea s := by rw [Nat.add_mul]; simp
    unfold xRuns
    simp only []
    split
    · exact (fillX_draws ..).fails ‹_›
    · refine (fillX_draws ..).andThen ‹_› fun f e => ?_
      refine (xRuns_draws n _ whole step adjUp adjDown _ _ _ _ _).mono fun _ _ h => ?_
      rw [f.area] at h; simp only [] at e h ⊢; omega

theorem yRuns_draws : ∀ (n : Nat) (s : Bgi) (whole adv adjUp adjDown px py err offset : Int) (cost : Nat),
    Draws s (·.1) (fun r => r.2.2.2.2.2 ≤ cost + n * vpArea s) (PutOk s) (yRuns s whole adv adjUp adjDown n px py err offset cost)
  | 0, s, _, _, _, _, _, _, _, _, cost => .ret rfl (by simp)
  | n + 1, s, whole, adv, adjUp, adjDown, px, py, err, offset, cost => by
    have hmul : (n + 1) * vpArea s = n * vpArea s + vpArea s := by rw [Nat.add_mul]; simp
    unfold yRuns
    simp only []
    split
    · exact (fillY_draws ..).fails ‹_›
    · refine (fillY_draws ..).andThen ‹_› fun f e => ?_
      refine (yRuns_draws n _ whole adv adjUp adjDown _ _ _ _ _).mono fun _ _ h => ?_
      rw [f.area] at h; simp only [] at e h ⊢; omega

/-- first run, `m - 1` middle runs, last run: `m + 1` spans at most -/
theorem three_spans {A c1 c2 c3 m : Nat} (hm : m ≠ 0) (e1 : c1 ≤ A) (e2 : c2 ≤ c1 + (m - 1) * A) (e3 : c3 ≤ A) :
    c2 + c3 ≤ (m + 1) * A := by
  have h1 : (m + 1) * A = m * A + A := by rw [Nat.add_mul]; simp
  have h2 : m * A = (m - 1) * A + A := by
    conv => lhs; rw [show m = (m - 1) + 1 by omega, Nat.add_mul]
    simp
  omega

theorem lineX_draws (s : Bgi) (px py step : Int) (dx dy : Nat) :
    Draws s (·.1) (fun r => dy ≠ 0 → r.2 ≤ (dy + 1) * vpArea s) (PutOk s) (lineX s px py step dx dy) := by
  unfold lineX
  simp only []
  split
  · exact (fillX_draws ..).fails ‹_›
  refine (fillX_draws ..).andThen ‹_› fun f1 e1 => ?_
  split
  · exact (xRuns_draws ..).fails ‹_›
  refine (xRuns_draws ..).andThen ‹_› fun f2 e2 => ?_
  split
  · exact (fillX_draws ..).fails ‹_›
  refine (fillX_draws ..).andThen ‹_› fun f3 e3 => .ret rfl fun hd => ?_
  rw [f2.area, f1.area] at e3
  rw [f1.area] at e2
  exact three_spans hd e1 e2 e3

theorem lineY_draws (s : Bgi) (px py adv : Int) (dx dy : Nat) :
    Draws s (·.1) (fun r => dx ≠ 0 → r.2 ≤ (dx + 1) * vpArea s) (PutOk s) (lineY s px py adv dx dy) := by
  unfold lineY
  simp only []
  split
  · exact (fillY_draws ..).fails ‹_›
  refine (fillY_draws ..).andThen ‹_› fun f1 e1 => ?_
  split
  · exact (yRuns_draws ..).fails ‹_›
  refine (yRuns_draws ..).andThen ‹_› fun f2 e2 => ?_
  split
  · exact (fillY_draws ..).fails ‹_›
  refine (fillY_draws ..).andThen ‹_› fun f3 e3 => .ret rfl fun hd => ?_
  rw [f2.area, f1.area] at e3
  rw [f1.area] at e2
  exact three_spans hd e1 e2 e3

theorem lineCost_draws (s : Bgi) (x1 y1 x2 y2 : Int) :
    Draws s (·.1) (fun r => r.2 ≤ (min (x2 - x1).natAbs (y2 - y1).natAbs + 1) * vpArea s) (PutOk s) (lineCost s x1 y1 x2 y2) := by
  unfold lineCost
  simp only []
  refine .ite (fun hdx => (fillY_draws ..).map (fun _ => rfl) fun r e => ?_) fun hdx => .ite (fun hdy => ?_) fun hdy => .ite (fun hge => ?_) fun hge => ?_
  · rw [hdx]; simpa using e
  · exact (fillX_draws ..).map (fun _ => rfl) fun r e => by rw [hdy]; simpa using e
  · rw [show min (x2 - x1).natAbs (y2 - y1).natAbs = (y2 - y1).natAbs by omega]; exact (lineX_draws s _ _ _ _ _).mono fun _ _ h => h hdy
  · rw [show min (x2 - x1).natAbs (y2 - y1).natAbs = (x2 - x1).natAbs by omega]; exact (lineY_draws s _ _ _ _ _).mono fun _ _ h => h hdx

theorem line_draws (s : Bgi) (x1 y1 x2 y2 : Int) : Draws s id (fun _ => True) (PutOk s) (line s x1 y1 x2 y2) :=
  (lineCost_draws s x1 y1 x2 y2).map (fun _ => rfl) fun _ _ => trivial

theorem applyOp_geom {s s' : Bgi} {op : Op} (h : applyOp s op = some s') : Geom s s' := by
  cases op <;> simp only [applyOp] at h
  case putPixel => exact (putPixel_framed h).geom
  case bar => exact (bar_framed h).geom
  case barRect => exact (barRect_framed h).geom
  case clearViewport => exact (barRect_framed h).geom
  case line => exact ((line_draws ..).frame h).geom
  case graphDefaults => exact graphDefaults_geom h
  case setViewport => exact setViewport_geom h
  case setPalette => exact setPalette_geom h
  case setPaletteColor => exact setPaletteColor_geom h
  -- the plain setters
  all_goals cases h; exact .refl s

theorem applyOps_geom : ∀ (ops : List Op) {s s' : Bgi}, applyOps s ops = some s' → Geom s s'
  | [], s, _, h => by cases h; exact .refl s
  | op :: rest, s, s', h => by
    unfold applyOps at h
    split at h
    · rename_i ho; exact (applyOp_geom ho).trans (applyOps_geom rest h)
    · cases h

end IcyVerif.Bgi
