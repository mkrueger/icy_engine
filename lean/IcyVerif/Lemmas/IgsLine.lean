import IcyVerif.Lemmas.IgsKeeps
/-! `draw_line` of the IGS `DrawExecutor` model (Bresenham with an error term) ends.  With `u` steps in x and `v` steps in
y still to go, `err = dx - dy + u*dy - v*dx`; so no x step is taken once `u = 0`, no y step once `v = 0`, every iteration
takes at least one step, and `-3*dy <= 2*err <= 3*dx` keeps the i32 arithmetic in range.  The loop ends after at most
`dx + dy + 1` iterations: the fuel `draw_line` of the model starts with is never used up.  The segment loops of
`draw_polyline` / `draw_poly` follow. -/
namespace IcyVerif.IgsPaint

def Bd (v : Int) : Prop := -1048576 ≤ v ∧ v ≤ 1048576

theorem Bd.chk {v : Int} (h : Bd v) : chk v = .ok v := chk_in (by unfold Bd at h; omega)

/-- one coordinate of the loop: `x` is `u` unit steps in direction `s` before the end point `x1` of a segment that
starts at `x0`, both within ±2^20 -/
structure Coord (s x0 x1 d u x : Int) : Prop where
  dir : s = 1 ∨ s = -1
  b0 : Bd x0
  b1 : Bd x1
  span : x1 = x0 + s * d
  u0 : 0 ≤ u
  ud : u ≤ d
  pos : x = x1 - s * u

variable {s x0 x1 d u x dx dy v err : Int}

theorem Coord.bd (h : Coord s x0 x1 d u x) : Bd x := by
  obtain ⟨hs, b0, b1, sp, u0, ud, pos⟩ := h
  unfold Bd at *
  rcases hs with rfl | rfl <;> omega

theorem Coord.d_le (h : Coord s x0 x1 d u x) : d ≤ 2097152 := by
  obtain ⟨hs, b0, b1, sp, u0, ud, pos⟩ := h
  unfold Bd at *
  rcases hs with rfl | rfl <;> omega

theorem Coord.at_end (h : Coord s x0 x1 d u x) : x = x1 ↔ u = 0 := by
  obtain ⟨hs, b0, b1, sp, u0, ud, pos⟩ := h
  rcases hs with rfl | rfl <;> omega

theorem Coord.step (h : Coord s x0 x1 d u x) (hu : 0 < u) : Coord s x0 x1 d (u - 1) (x + s) := by
  obtain ⟨hs, b0, b1, sp, u0, ud, pos⟩ := h
  exact ⟨hs, b0, b1, sp, by omega, by omega, by rw [pos, Int.mul_sub, Int.mul_one]; omega⟩

theorem Coord.start (b0 : Bd x0) (b1 : Bd x1) :
    Coord (if x0 < x1 then 1 else -1) x0 x1 (x0 - x1).natAbs (x0 - x1).natAbs x0 := by
  refine ⟨by split <;> simp, b0, b1, ?_, by omega, by omega, ?_⟩ <;> split <;> omega

/-- the error term with `u` steps in x and `v` steps in y to go -/
structure ErrInv (dx dy u v err : Int) : Prop where
  dx0 : 0 ≤ dx
  dy0 : 0 ≤ dy
  u0 : 0 ≤ u
  v0 : 0 ≤ v
  eq : err = dx - dy + u * dy - v * dx
  lo : -3 * dy ≤ 2 * err
  hi : 2 * err ≤ 3 * dx

/-- before the end point: an x step is only taken with x steps to go, a y step likewise, and one of the two is taken -/
theorem ErrInv.steps (h : ErrInv dx dy u v err) (ud : u ≤ dx) (vd : v ≤ dy) (hne : ¬ (u = 0 ∧ v = 0)) :
    (2 * err > -dy → 0 < u) ∧ (2 * err < dx → 0 < v) ∧ (2 * err > -dy ∨ 2 * err < dx) := by
  obtain ⟨hdx, hdy, u0, v0, e, lo, hi⟩ := h
  -- `u = 0` leaves `err = -(v - 1) * dx - dy`, `v = 0` leaves `err = dx + (u - 1) * dy`
  have hv : 0 < v → dx ≤ v * dx := fun h => by
    have := Int.mul_le_mul_of_nonneg_right (show 1 ≤ v from h) hdx
    omega
  have hu : 0 < u → dy ≤ u * dy := fun h => by
    have := Int.mul_le_mul_of_nonneg_right (show 1 ≤ u from h) hdy
    omega
  refine ⟨fun hx => ?_, fun hy => ?_, ?_⟩
  · by_cases h0 : u = 0
    · subst h0; have := hv (by omega); omega
    · omega
  · by_cases h0 : v = 0
    · subst h0; have := hu (by omega); omega
    · omega
  · by_cases h0 : u = 0
    · subst h0; have := hv (by omega); omega
    · by_cases h1 : v = 0
      · subst h1; have := hu (by omega); omega
      · omega

theorem ErrInv.stepX (h : ErrInv dx dy u v err) (hu : 0 < u) (hx : 2 * err > -dy) : ErrInv dx dy (u - 1) v (err - dy) := by
  obtain ⟨hdx, hdy, u0, v0, e, lo, hi⟩ := h
  exact ⟨hdx, hdy, by omega, v0, by rw [e, Int.sub_mul, Int.one_mul]; omega, by omega, by omega⟩

theorem ErrInv.stepY (h : ErrInv dx dy u v err) (hv : 0 < v) (hy : 2 * err < dx) : ErrInv dx dy u (v - 1) (err + dx) := by
  obtain ⟨hdx, hdy, u0, v0, e, lo, hi⟩ := h
  exact ⟨hdx, hdy, u0, by omega, by rw [e, Int.sub_mul, Int.one_mul]; omega, by omega, by omega⟩

/-- both steps in one iteration: the y test still looks at the old `2 * err` -/
theorem ErrInv.stepXY (h : ErrInv dx dy u v err) (hu : 0 < u) (hv : 0 < v) (hx : 2 * err > -dy) (hy : 2 * err < dx) :
    ErrInv dx dy (u - 1) (v - 1) (err - dy + dx) := by
  obtain ⟨hdx, hdy, u0, v0, e, lo, hi⟩ := h
  exact ⟨hdx, hdy, by omega, by omega, by rw [e, Int.sub_mul, Int.sub_mul, Int.one_mul, Int.one_mul]; omega, by omega, by omega⟩

theorem lineLoop_total {x0 y0 x1 y1 dx dy sx sy : Int} (color : Nat) :
    ∀ (fuel : Nat) (p : Paint) (x y err : Int) (mask : Nat) (u v : Int), p.res < 3 → Coord sx x0 x1 dx u x → Coord sy y0 y1 dy v y →
      ErrInv dx dy u v err → u + v + 1 ≤ fuel → (lineLoop x1 y1 dx dy sx sy color fuel p x y err mask).Tot fun _ => True
  | 0, _, _, _, _, _, _, _, _, cx, cy, _, hf => by have := cx.u0; have := cy.u0; omega
  | k + 1, p, x, y, err, mask, u, v, hr, cx, cy, he, hf => by
    have range {s a b d w c : Int} (h : Coord s a b d w c) : -2147483648 ≤ c ∧ c ≤ 2147483647 := by have := h.bd; unfold Bd at this; omega
    have bx := range cx; have by' := range cy
    unfold lineLoop
    refine Res.Tot.bind (P := fun p1 => p1.res < 3) (.ite (fun _ => (setPixel_tot p hr x y color (by have := cx.bd; have := cy.bd; unfold Bd at *; omega)).mono
      fun _ s => s.1.res ▸ hr) fun _ => .ok hr) fun p1 hr1 => ?_
    refine .ite (fun _ => .ok trivial) fun hend => ?_
    obtain ⟨hxu, hyv, hone⟩ := he.steps cx.ud cy.ud fun h => hend ⟨cx.at_end.mpr h.1, cy.at_end.mpr h.2⟩
    have hdx := cx.d_le
    have hdy := cy.d_le
    have hlo := he.lo
    have hhi := he.hi
    have hdx0 := he.dx0
    have hdy0 := he.dy0
    refine .chk (by omega) ?_
    by_cases hxs : 2 * err > -dy
    · have cx' := cx.step (hxu hxs)
      rw [if_pos hxs]
      refine Res.Tot.bind (P := (· = (err - dy, x + sx))) (.chk (by omega) <| .chk (range cx') <| .ok rfl) fun _ e => ?_
      subst e
      simp only []
      by_cases hys : 2 * err < dx
      · have cy' := cy.step (hyv hys)
        rw [if_pos hys]
        refine Res.Tot.bind (P := (· = (err - dy + dx, y + sy))) (.chk (by omega) <| .chk (range cy') <| .ok rfl) fun _ e => ?_
        subst e
        exact lineLoop_total color k p1 _ _ _ _ _ _ hr1 cx' cy' (he.stepXY (hxu hxs) (hyv hys) hxs hys) (by omega)
      · rw [if_neg hys]
        exact Res.Tot.bind (P := (· = (err - dy, y))) (.ok rfl) fun _ e => e ▸
          lineLoop_total color k p1 _ _ _ _ _ _ hr1 cx' cy (he.stepX (hxu hxs) hxs) (by omega)
    · have hys := hone.resolve_left hxs
      have cy' := cy.step (hyv hys)
      rw [if_neg hxs]
      refine Res.Tot.bind (P := (· = (err, x))) (.ok rfl) fun _ e => ?_
      subst e
      simp only []
      rw [if_pos hys]
      refine Res.Tot.bind (P := (· = (err + dx, y + sy))) (.chk (by omega) <| .chk (range cy') <| .ok rfl) fun _ e => ?_
      subst e
      exact lineLoop_total color k p1 _ _ _ _ _ _ hr1 cx cy' (he.stepY (hyv hys) hys) (by omega)

theorem drawLine_total (p : Paint) (hr : p.res < 3) (x0 y0 x1 y1 : Int) (color mask : Nat)
    (hx0 : Bd x0) (hy0 : Bd y0) (hx1 : Bd x1) (hy1 : Bd y1) : (drawLine p x0 y0 x1 y1 color mask).Tot (StepIf (color < 16) p) := by
  refine Res.Tot.of_sat (P := fun _ => True) ?_ drawLine_step
  have cx := Coord.start hx0 hx1
  have cy := Coord.start hy0 hy1
  have hdx := cx.d_le
  have hdy := cy.d_le
  have hdx0 := cx.u0
  have hdy0 := cy.u0
  unfold Bd at hx0 hy0 hx1 hy1
  unfold drawLine
  refine .chk (by omega) ?_
  generalize ((x0 - x1).natAbs : Int) = dx at cx hdx hdx0 ⊢
  refine .chk (by omega) <| .chk (by omega) ?_
  generalize ((y0 - y1).natAbs : Int) = dy at cy hdy hdy0 ⊢
  refine .chk (by omega) <| .chk (by omega) ?_
  exact lineLoop_total color _ p x0 y0 _ _ _ _ hr cx cy
    ⟨hdx0, hdy0, hdx0, hdy0, by rw [Int.mul_comm]; omega, by omega, by omega⟩ (by omega)

theorem drawLine_paints (p : Paint) (x0 y0 x1 y1 : Int) {color : Nat} (mask : Nat) (hc : Pens p → color < 16) :
    Paints p (Bd x0 ∧ Bd y0 ∧ Bd x1 ∧ Bd y1) (drawLine p x0 y0 x1 y1 color mask) :=
  ⟨drawLine_step.mono fun _ s => s.imp fun h _ => hc h, fun hr c => (drawLine_total p hr x0 y0 x1 y1 color mask c.1 c.2.1 c.2.2.1 c.2.2.2).returns⟩

/-- an even list: the `parameters[i + 1]` of every segment exists -/
theorem polySegs_total (color mask : Nat) : ∀ (n : Nat) (l : List Int), l.length = 2 * n → (∀ v, v ∈ l → Bd v) →
    ∀ (p : Paint) (x y : Int), p.res < 3 → Bd x → Bd y →
    (polySegs color mask l p x y).Tot fun r => r.1.res < 3 ∧ Bd r.2.1 ∧ Bd r.2.2
  | 0, [], _, _, p, x, y, hr, hx, hy => .ok ⟨hr, hx, hy⟩
  | n + 1, a :: b :: rest, hl, hb, p, x, y, hr, hx, hy => by
    have ha : Bd a := hb a (by simp)
    have hbb : Bd b := hb b (by simp)
    unfold polySegs
    exact (drawLine_total p hr x y a b color mask hx hy ha hbb).bind fun p1 s1 =>
      polySegs_total color mask n rest (by simp at hl; omega) (fun v hv => hb v (by simp [hv])) p1 a b (s1.1.res ▸ hr) ha hbb

/-- a coordinate list of `n + 1 ≥ 1` points, every coordinate within ±2^20 -/
def PolyOk (ps : List Int) : Prop := (∃ n, ps.length = 2 * n + 2) ∧ ∀ v, v ∈ ps → Bd v

theorem drawPolyline_paints (p : Paint) (ps : List Int) : Paints p (PolyOk ps) (drawPolyline p ps) where
  sat := drawPolyline_step
  total hr := fun ⟨⟨n, hl⟩, hb⟩ => by
    match ps, hl with
    | x :: y :: rest, hl =>
      have segs := polySegs_total p.fillColor p.lineType n rest (by simp at hl; omega) (fun v hv => hb v (by simp [hv])) p x y hr
        (hb x (by simp)) (hb y (by simp))
      exact (segs.bind (Q := fun _ => True) fun r _ => .ok trivial).returns

theorem drawPoly_paints (p : Paint) (ps : List Int) : Paints p (PolyOk ps) (drawPoly p ps) where
  sat := drawPoly_step
  total hr := fun ⟨⟨n, hl⟩, hb⟩ => by
    match ps, hl with
    | x :: y :: rest, hl =>
      have segs := polySegs_total p.fillColor p.lineType n rest (by simp at hl; omega) (fun v hv => hb v (by simp [hv])) p x y hr
        (hb x (by simp)) (hb y (by simp))
      exact (segs.bind (Q := fun _ => True) fun r h =>
        (drawLine_total r.1 h.1 _ _ _ _ _ _ h.2.1 h.2.2 (hb x (by simp)) (hb y (by simp))).mono fun _ _ => trivial).returns

end IcyVerif.IgsPaint
