import IcyVerif.Lemmas.FontBox
import IcyVerif.Gen.FontSlot
/-!
# C17: ADF and IDF pictures whose cells are on a font page k ≠ 0 ("which font goes where")

`Artworx::to_bytes` / `IceDraw::to_bytes` embed the font of the ONE page the cells are on (`analyze_font_usage`), the loaders
install it as slot 0.  Nothing the writers look at depends on the page number (Rust's `PartialEq` of `TextAttribute` ignores the
page; slot 0 only lends its NAME to the SAUCE record), so the file is byte for byte that of `toPage0 p f0 fk`, and the round trip
is `box_font_roundtrip` of that picture. -/
namespace IcyVerif.FontBox
open IcyVerif.Font IcyVerif.BinFormats IcyVerif.XbCompress IcyVerif.Gen

/-- tie: the 16 source sites of the slot / page indirection (which font the writers embed, that the ADF / IDF size test reads
    THAT font, which slot the loaders fill, one IcyDraw chunk per slot) are pinned by `tools/gens/fontslot.py` on every run -/
example : IcyVerif.Gen.FontSlot.pinnedSites.length = 16 ∧ IcyVerif.Gen.FontSlot.testsEmbeddedFont = 1 ∧
    IcyVerif.Gen.FontSlot.loadedSlot = 0 := by decide

def zeroPage (c : Cell) : Cell := { c with attr := { c.attr with page := 0 } }

def zeroRows (rows : List (List Cell)) : List (List Cell) := rows.map fun r => r.map zeroPage

/-- the picture an ADF / IDF file of `p` (cells on page k, font `fk` in slot k, font `f0` in slot 0) is also the file of -/
def toPage0 (p : Pic) (f0 fk : BinFormats.Font) : Pic :=
  { p with rows := zeroRows p.rows, fonts := [(0, ⟨f0.name, fk.height, fk.data⟩)] }

theorem toPage0_rows (p : Pic) (f0 fk : BinFormats.Font) : (toPage0 p f0 fk).rows = zeroRows p.rows := rfl
theorem toPage0_font (p : Pic) (f0 fk : BinFormats.Font) :
    lookupFont (toPage0 p f0 fk).fonts 0 = some ⟨f0.name, fk.height, fk.data⟩ := rfl
theorem toPage0_rest (p : Pic) (f0 fk : BinFormats.Font) :
    (toPage0 p f0 fk).ice = p.ice ∧ (toPage0 p f0 fk).w = p.w ∧ (toPage0 p f0 fk).h = p.h ∧ (toPage0 p f0 fk).pal = p.pal ∧
      (toPage0 p f0 fk).sauce = p.sauce := ⟨rfl, rfl, rfl, rfl, rfl⟩

theorem usage_zeroRows (rows : List (List Cell)) (k : Nat) (hu : analyzeFontUsage rows.flatten = [k]) :
    analyzeFontUsage (zeroRows rows).flatten = [0] := by
  have key : ∀ cs : List Cell, (cs.map zeroPage).foldl (fun acc c => insertSorted c.attr.page acc) [0] = [0] := by
    intro cs
    induction cs with
    | nil => rfl
    | cons c cs ih => exact ih
  rw [show (zeroRows rows).flatten = rows.flatten.map zeroPage by unfold zeroRows; rw [List.map_flatten]]
  cases h : rows.flatten with
  | nil => rw [h] at hu; cases hu
  | cons c cs => exact key cs

theorem zeroPage_asU8 (im : IceMode) (c : Cell) : asU8 im (zeroPage c).attr = asU8 im c.attr := rfl
theorem zeroPage_ch (c : Cell) : (zeroPage c).ch = c.ch := rfl
theorem zeroPage_eqv (c d : Cell) : (zeroPage c).eqv (zeroPage d) = c.eqv d := rfl

theorem adf_cells_zero (rows : List (List Cell)) :
    (zeroRows rows).flatMap (fun row => row.flatMap fun c => [c.ch, asU8 .ice c.attr]) =
      rows.flatMap (fun row => row.flatMap fun c => [c.ch, asU8 .ice c.attr]) := by
  unfold zeroRows
  rw [List.flatMap_map]
  congr 1
  funext row
  rw [List.flatMap_map]
  rfl

theorem fits8_zero (rows : List (List Cell)) : rowsFit8 (zeroRows rows) = rowsFit8 rows := by
  unfold rowsFit8 fits8 zeroRows
  rw [List.all_map]
  congr 1
  funext row
  simp only [Function.comp, List.all_map]
  rfl

theorem runLen_zero (c : Cell) : ∀ rest : List Cell, runLen (zeroPage c) (rest.map zeroPage) = runLen c rest := by
  intro rest
  induction rest with
  | nil => rfl
  | cons d ds ih => simp only [List.map_cons, runLen, zeroPage_eqv, ih]

theorem idfRow_zero (compress : Bool) : ∀ (fuel : Nat) (row : List Cell),
    idfRow compress fuel (row.map zeroPage) = idfRow compress fuel row := by
  intro fuel
  induction fuel with
  | zero => intro row; simp [idfRow]
  | succ fuel ih =>
    intro row
    cases row with
    | nil => simp [idfRow]
    | cons c rest =>
      simp only [List.map_cons, idfRow, runLen_zero, zeroPage_ch, zeroPage_asU8, ← List.map_drop, ih]

theorem idfRows_zero (compress : Bool) : ∀ rows : List (List Cell), idfRows compress (zeroRows rows) = idfRows compress rows := by
  intro rows
  induction rows with
  | nil => rfl
  | cons r rs ih =>
    have ih' : idfRows compress (List.map (fun r => List.map zeroPage r) rs) = idfRows compress rs := ih
    simp only [zeroRows, List.map_cons, idfRows, List.length_map, idfRow_zero, ih']

theorem writeSauce_toPage0 (k : SauceKind) (p : Pic) (f0 fk : BinFormats.Font) (h0 : lookupFont p.fonts 0 = some f0)
    (date body : List Nat) : writeSauce k (toPage0 p f0 fk) date body = writeSauce k p date body := by
  unfold writeSauce
  have h2 : bufInfo (toPage0 p f0 fk) f0.name = bufInfo p f0.name := rfl
  rw [h0, toPage0_font, (toPage0_rest p f0 fk).2.2.2.2]
  simp only [h2]

theorem adfSave_toPage0 (sauce : Bool) (date : List Nat) (p : Pic) (k : Nat) (f0 fk : BinFormats.Font)
    (hu : analyzeFontUsage p.rows.flatten = [k]) (h0 : lookupFont p.fonts 0 = some f0) (hk : lookupFont p.fonts k = some fk) :
    adfSave sauce date p = adfSave sauce date (toPage0 p f0 fk) := by
  have hu' := usage_zeroRows p.rows k hu
  obtain ⟨e2, e3, _, e4, _⟩ := toPage0_rest p f0 fk
  unfold adfSave
  simp only [toPage0_rows, e2, e3, e4, hu, hu', List.length_singleton, List.headD_cons, hk, toPage0_font, fits8_zero,
    adf_cells_zero, writeSauce_toPage0 _ p f0 fk h0]

theorem idfSave_toPage0 (compress sauce : Bool) (date : List Nat) (p : Pic) (k : Nat) (f0 fk : BinFormats.Font)
    (hu : analyzeFontUsage p.rows.flatten = [k]) (h0 : lookupFont p.fonts 0 = some f0) (hk : lookupFont p.fonts k = some fk) :
    idfSave compress sauce date p = idfSave compress sauce date (toPage0 p f0 fk) := by
  have hu' := usage_zeroRows p.rows k hu
  obtain ⟨e2, e3, e6, e4, _⟩ := toPage0_rest p f0 fk
  unfold idfSave
  simp only [toPage0_rows, e2, e3, e4, e6, hu, hu', List.length_singleton, List.headD_cons, hk, toPage0_font, idfRows_zero,
    writeSauce_toPage0 _ p f0 fk h0]

theorem boxOkPage_of_boxOk (f : Fmt) (p : Pic) (h : boxOk f p = true) : boxOkPage f 0 p = true := boxOk_eq f p ▸ h

theorem pageCellsOk_zero (f : Fmt) (k : Nat) (p : Pic) (f0 fk : BinFormats.Font) (h : pageCellsOk f k p = true) :
    pageCellsOk f 0 (toPage0 p f0 fk) = true := by
  unfold pageCellsOk at h ⊢
  simp only [Bool.and_eq_true, beq_iff_eq] at h
  obtain ⟨⟨⟨⟨⟨⟨hm, h1⟩, h2⟩, h3⟩, h4⟩, h5⟩, h8⟩ := h
  have a1 : wellFormed (toPage0 p f0 fk) = wellFormed p := by
    show ((zeroRows p.rows).length == p.h && (zeroRows p.rows).all (fun r => r.length == p.w) && decide (p.h ≥ 1)) = _
    simp [zeroRows, List.all_map, Function.comp_def, wellFormed]
  have a3 : allCells (toPage0 p f0 fk) (attrCell true) = allCells p (attrCell true) := by
    show (zeroRows p.rows).all _ = p.rows.all _
    simp only [zeroRows, List.all_map, Function.comp_def]
    rfl
  obtain ⟨a2, a7, a8, a4, a9⟩ := toPage0_rest p f0 fk
  have a5 : analyzeFontUsage (toPage0 p f0 fk).rows.flatten = [0] := usage_zeroRows p.rows k h5
  rw [a1, a3, a5, a2, a4, a7, a8, a9, hm, h1, h2, h3, h4]
  exact h8

theorem boxOkPage_reduce (f : Fmt) (hf : f = .adf ∨ f = .idf) (k : Nat) (p : Pic) (h : boxOkPage f k p = true) :
    ∃ f0 fk, lookupFont p.fonts 0 = some f0 ∧ lookupFont p.fonts k = some fk ∧ fk.height = 16 ∧
      boxOk f (toPage0 p f0 fk) = true ∧ ∀ o date, save f o date p = save f o date (toPage0 p f0 fk) := by
  obtain ⟨hc, h0, fk, hk, h16, hl⟩ := (boxOkPage_iff f k p).mp h
  obtain ⟨f0, h0⟩ := Option.isSome_iff_exists.mp h0
  have h5 := pageCellsOk_pages hc
  refine ⟨f0, fk, h0, hk, h16, ?_, fun o date => ?_⟩
  · rw [boxOk_eq]
    exact (boxOkPage_iff f 0 _).mpr ⟨pageCellsOk_zero f k p f0 fk hc, rfl, _, toPage0_font p f0 fk, h16, hl⟩
  rcases hf with rfl | rfl
  · exact adfSave_toPage0 o.sauce date p k f0 fk h5 h0 hk
  · exact idfSave_toPage0 o.compress o.sauce date p k f0 fk h5 h0 hk

/-- ADF / IDF, cells on page `k`: the loader installs the font of SLOT `k` as slot 0 -/
theorem page_font_roundtrip (f : Fmt) (hf : f = .adf ∨ f = .idf) (o : Opts) (date : List Nat) (k : Nat) (p : Pic)
    (hok : boxOkPage f k p = true) (hdate : o.sauce = true → dateOk date = true) (name : List Nat) (ft : BitFont)
    (wf : WfFont ft 16) (h256 : ft.glyphs.length = 256) (hp : lookupFont p.fonts k = boxFont name ft) :
    ∃ bytes, save f o date p = .ok bytes ∧
      ((o.sauce = true ∨ looksLikeSauce bytes = false) → ∃ g, fromBytes f bytes = .ok g ∧ FontBack g 0 ft) := by
  obtain ⟨f0, fk, h0, hk, hk16, hbox, hsave⟩ := boxOkPage_reduce f hf k p hok
  rw [hk, boxFont_wf name ft 16 wf] at hp
  injection hp with hp
  obtain ⟨bytes, f0', hf0', h1, h2⟩ := box_font_roundtrip f hf o date _ hbox hdate
  injection hf0' with hf0'
  refine ⟨bytes, by rw [hsave]; exact h1, fun hor => ?_⟩
  obtain ⟨g, h3, G, hG, hh, hd⟩ := h2 hor
  exact ⟨g, h3, G, hG, unbox_flat G ft 16 wf h256 (by rw [hh, ← hf0']; exact hk16) (by rw [hd, ← hf0', hp])⟩

/-- `B`, the end of the font block, and the palette are the last bytes of an IDF file without SAUCE record: only they are
    looked at for "the tail does not read as a record" -/
theorem idf_plain_tail (compress : Bool) (date : List Nat) (p : Pic) (img : List Nat) (font : BinFormats.Font) (A B : List Nat)
    (h1 : p.ice = .ice) (h2 : p.h ≤ BinFmt.idfMaxHeight) (hu : (analyzeFontUsage p.rows.flatten).length ≤ 1)
    (h3 : p.pal.length = 16) (himg : idfRows compress p.rows = some img)
    (hf : lookupFont p.fonts ((analyzeFontUsage p.rows.flatten).headD 0) = some font) (h16 : font.height = 16)
    (hd : font.data = A ++ B) (hB : 128 ≤ (B ++ asVec63 p.pal).length) (hL : looksLikeSauce (B ++ asVec63 p.pal) = false) :
    ∃ b, save .idf ⟨false, compress⟩ date p = .ok b ∧
      b.length = 12 + img.length + font.data.length + (asVec63 p.pal).length ∧ looksLikeSauce b = false := by
  refine ⟨_, (idfSave_ok_iff compress date p _).mpr ⟨h1, h2, hu, h3, img, font, himg, hf, h16, rfl⟩, ?_, ?_⟩
  · simp only [List.length_append, u16le, BinFmt.idfHeader14, List.length_cons, List.length_nil]
  · have e : ∀ X : List Nat, X ++ (A ++ B) ++ asVec63 p.pal = (X ++ A) ++ (B ++ asVec63 p.pal) := fun X => by
      simp only [List.append_assoc]
    rw [hd, e, looksLikeSauce_append _ _ hB, hL]

/-- the Bool form of "the font comes back" in which the concrete files of the property files are checked -/
theorem fontBack_check {fm : Fmt} {bytes : List Nat} {f : BitFont} (h : ∃ g, fromBytes fm bytes = .ok g ∧ FontBack g 0 f) :
    (match fromBytes fm bytes with
      | .ok g => (lookupFont g.fonts 0).map unboxFont == some f
      | _ => false) = true := by
  obtain ⟨g, h3, F, hF, hu⟩ := h
  simp only [h3, hF, Option.map_some, hu, beq_self_eq_true]

end IcyVerif.FontBox
