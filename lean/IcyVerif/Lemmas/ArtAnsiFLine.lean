import IcyVerif.Lemmas.ArtAnsiXComp
import IcyVerif.Lemmas.ArtAnsiEvs
/-! # The cell loop of the ANSI writer against the reader (C04: `ansi_rt`, `subst_sound`, `subst_sound_all`)

`bytesOf evs` = the bytes of the writer's events (Model/ArtAnsiX.lean) without any split = what `push_result` writes when no
line-length limit is set.  The cell loop is followed once, in `genLineEv_items`, on the event-level writer with font pages
and over any notion of a reader state that is good for a cell (`LineG`); its conclusion `ItemsG` is read as `ItemsOkX` (all
colours) and as `ItemsOkC` (16 colours).  Without font pages `genLineEv` writes what `genLine` writes (`genLine_eq_ev`). -/
namespace IcyVerif.ArtIO
open IcyVerif.Gen.Art

def bytesOf : List Ev → List Nat
  | [] => []
  | .ext bs :: es => bs ++ bytesOf es
  | _ :: es => bytesOf es

theorem bytesOf_nil : bytesOf [] = [] := rfl
theorem bytesOf_ext (bs : List Nat) (es : List Ev) : bytesOf (.ext bs :: es) = bs ++ bytesOf es := rfl
theorem bytesOf_push (es : List Ev) : bytesOf (.push :: es) = bytesOf es := rfl
theorem bytesOf_eol (es : List Ev) : bytesOf (.eol :: es) = bytesOf es := rfl
theorem bytesOf_drop (es : List Ev) : bytesOf (.drop :: es) = bytesOf es := rfl

theorem bytesOf_append (a b : List Ev) : bytesOf (a ++ b) = bytesOf a ++ bytesOf b := by
  induction a with
  | nil => rfl
  | cons e es ih =>
    cases e with
    | ext bs => simp [bytesOf_ext, ih]
    | push => simpa [bytesOf_push] using ih
    | eol => simpa [bytesOf_eol] using ih
    | drop => simpa [bytesOf_drop] using ih

theorem bytesOf_tcEvs : ∀ (fuel : Nat) (tc : List Nat), bytesOf (tcEvs fuel tc) = tcSeqs fuel tc := by
  intro fuel
  induction fuel with
  | zero => intro tc; simp [tcEvs, tcSeqs, bytesOf]
  | succ f ih =>
    intro tc
    match tc with
    | [] => simp [tcEvs, tcSeqs, bytesOf]
    | [_] => simp [tcEvs, tcSeqs, bytesOf]
    | [_, _] => simp [tcEvs, tcSeqs, bytesOf]
    | [_, _, _] => simp [tcEvs, tcSeqs, bytesOf]
    | a :: b :: c :: d :: rest =>
      unfold tcEvs tcSeqs
      rw [bytesOf_append, ih rest]
      simp [bytesOf]

theorem bytesOf_sgrEvs (cell : CharCell) :
    bytesOf (sgrEvs cell) = (if cell.sgr.isEmpty then [] else csi cell.sgr 109) ++ tcSeqs cell.sgrTc.length cell.sgrTc := by
  unfold sgrEvs
  rw [bytesOf_append, bytesOf_tcEvs]
  by_cases h : cell.sgr.isEmpty = true <;> simp [h, bytesOf]

theorem rleCountF_spec (first : CharCell) (f : Nat) : ∀ (rest : List CharCell) (fs : List Nat),
    rleCountF first f rest fs ≤ rest.length ∧
    ∀ j, j < rleCountF first f rest fs → ∃ cc, rest[j]? = some cc ∧ cc.ch = first.ch ∧ cc.sgr = [] ∧ cc.sgrTc = [] := by
  intro rest
  induction rest with
  | nil => intro fs; exact ⟨Nat.le_refl _, fun j h => by simp [rleCountF] at h⟩
  | cons c rest ih =>
    intro fs
    unfold rleCountF
    by_cases hc : c.ch ≠ first.ch ∨ (!c.sgr.isEmpty) = true ∨ (!c.sgrTc.isEmpty) = true ∨ fs.headD 0 ≠ f
    · rw [if_pos hc]
      exact ⟨Nat.zero_le _, fun j h => by omega⟩
    · rw [if_neg hc]
      obtain ⟨i1, i2⟩ := ih fs.tail
      refine ⟨by simp; omega, ?_⟩
      intro j hj
      cases j with
      | zero =>
        refine ⟨c, rfl, ?_, ?_, ?_⟩
        · cases hq : decide (c.ch = first.ch) with
          | true => simpa using hq
          | false => exact absurd (Or.inl (by simpa using hq)) hc
        · cases hq : c.sgr with
          | nil => rfl
          | cons a b => exact absurd (Or.inr (Or.inl (by simp [hq]))) hc
        · cases hq : c.sgrTc with
          | nil => rfl
          | cons a b => exact absurd (Or.inr (Or.inr (Or.inl (by simp [hq])))) hc
      | succ j' =>
        obtain ⟨cc, e, h1, h2, h3⟩ := i2 j' (by omega)
        exact ⟨cc, by simpa using e, h1, h2, h3⟩

theorem font_read (p : AnsiP) (c : Core) (n : Nat) (hs : c.stuck = false) (hg : p.st = .ground) (hn : n < ansiFonts) :
    ansiRun p c (fontSeq n) = ({ p with st := .ground }, c) := by
  have hn' : n < 1000 := Nat.lt_trans hn (by decide)
  rw [fontSeq_csi, ansiRun_append, csi_read p c [0, n] 32 hs hg (List.cons_ne_nil _ _)
    (by intro k hk; simp at hk; rcases hk with h | h <;> omega), ansiStep_csi_sp _ c [0, n] false hs rfl, ansiRun_cons,
    ansiStep_font _ c [0, n] hs rfl ⟨rfl, hn⟩]
  rfl

theorem font_readX (ic : Bool) (R : RdSt) (w : Nat) (p : AnsiP) (core : Core) (n : Nat) (h : CInvX ic R w p core) (hn : n < ansiFonts) :
    ∃ p1, ansiRun p core (fontSeq n) = (p1, core) ∧ CInvX ic R w p1 core :=
  ⟨_, font_read p core n h.base.ns h.base.ag hn, h.scr _ rfl _ rfl⟩

theorem fontEv_readX (ic : Bool) (R : RdSt) (w : Nat) (p : AnsiP) (core : Core) (cur f : Nat) (h : CInvX ic R w p core) (hf : f < ansiFonts) :
    ∃ p1, ansiRun p core (bytesOf (if cur ≠ f then [Ev.ext (fontSeq f), Ev.push] else [])) = (p1, core) ∧ CInvX ic R w p1 core := by
  by_cases hc : cur ≠ f
  · rw [if_pos hc]
    show ∃ p1, ansiRun p core (fontSeq f ++ []) = _ ∧ _
    rw [List.append_nil]
    exact font_readX ic R w p core f h hf
  · rw [if_neg hc]
    exact ⟨p, rfl, h⟩

theorem rleCountF_nil (first : CharCell) : ∀ rest : List CharCell, rleCountF first 0 rest [] = rleCount first rest := by
  intro rest
  induction rest with
  | nil => rfl
  | cons c rest ih =>
    unfold rleCountF rleCount
    rw [show ([] : List Nat).tail = [] from rfl, ih]
    simp

theorem rleCount_spec (first : CharCell) (rest : List CharCell) :
    rleCount first rest ≤ rest.length ∧
    ∀ j, j < rleCount first rest → ∃ cc, rest[j]? = some cc ∧ cc.ch = first.ch ∧ cc.sgr = [] ∧ cc.sgrTc = [] := by
  rw [← rleCountF_nil]; exact rleCountF_spec first 0 rest []

theorem genLine_eq_ev (o : AnsiOpts) (w : Nat) : ∀ (fuel x : Nat) (line : List CharCell),
    genLine o w fuel x line = bytesOf (genLineEv o w fuel x 0 line []).1 := by
  intro fuel
  induction fuel with
  | zero => intro x line; rfl
  | succ f ih =>
    intro x line
    cases line with
    | nil => rfl
    | cons cell rest =>
      unfold genLine genLineEv
      simp only [List.headD_nil, List.tail_nil, List.drop_nil, ne_eq, not_true_eq_false, if_false, List.nil_append, rleCountF_nil]
      rw [← bytesOf_sgrEvs cell]
      -- both loops test the same conditions
      split
      · split
        · -- a run skipped with cursor forward
          rw [bytesOf_append, bytesOf_append, ← ih]; simp [bytesOf]
        · split
          · -- the cell, then `CSI n b` for the rest of its run
            rw [bytesOf_append, bytesOf_append, ← ih]; simp [bytesOf]
          · -- the cell alone
            rw [bytesOf_append, bytesOf_append, ← ih]; simp [bytesOf]
      · -- no compression: the cell alone
        rw [bytesOf_append, bytesOf_append, ← ih]; simp [bytesOf]

/-- the items for the cells of a line, over any `G`, `S`.  The instances take `G R' c ∧ R'.2 <+: Pf` for `G` (`Pf` = the
    reader's palette in the end), so that what a printed cell shows can be read through `Pf` -/
def ItemsG (o : AnsiOpts) (ic : Bool) (G : RdSt → Cell → Prop) (S : Cell → Prop) (x w : Nat) : List Cell → List (Option Cell) → Prop :=
  ItemsP (fun c it => ∃ R', it = some ⟨c.ch, prAttr ic R'.1⟩ ∧ G R' c) (fun c => o.compress = true ∧ c.ch = 32 ∧ S c) x w

theorem itemsOkX_eq (pal Pf : List Rgb) (x w : Nat) :
    ItemsOkX pal Pf x w = ItemsP (fun c it => ∃ l, it = some l ∧ Disp pal Pf c l) (SkipCellX pal) x w := rfl

/-- `hS`: cells the same reader state is good for are of kind `S` together.  Every arm of the loop is a GROUP: the font switch
    and the rendition prefix of the first cell, then `k + 1` cells performed as `k + 1` equal items (the cell itself, `k = 0`;
    a run skipped with cursor forward; a run printed with `CSI k b`), then the rest of the line -/
theorem genLineEv_items {o : AnsiOpts} {G : RdSt → Cell → Prop} {S : Cell → Prop} (ic : Bool)
    (hS : ∀ R c c', G R c → G R c' → S c → S c') (w : Nat) (hw : w ≤ 999) :
    ∀ (fuel : Nat) (cells : List Cell) (line : List CharCell) (fonts : List Nat) (R Re : RdSt) (x cur : Nat) (p : AnsiP) (core : Core),
    line.length ≤ fuel → LineG o G S R cells line Re → x + cells.length ≤ w → CInvX ic R w p core → (cells ≠ [] → core.scr.cx = x) →
    (∀ f ∈ fonts, f < ansiFonts) →
    ∃ (items : List (Option Cell)) (p' : AnsiP) (core' : Core),
      ansiRun p core (bytesOf (genLineEv o w fuel x cur line fonts).1) = (p', core') ∧ items.length = cells.length ∧
      ItemsG o ic G S x w cells items ∧
      core'.scr = core.scr.runItems items ∧ CInvX ic Re w p' core' := by
  intro fuel
  induction fuel with
  | zero =>
    intro cells line fonts R Re x cur p core hl hok _ hinv _ _
    have : line = [] := List.eq_nil_of_length_eq_zero (Nat.le_zero.1 hl)
    subst this
    cases hok
    exact ⟨[], p, core, rfl, rfl, fun j hj => absurd hj (Nat.not_lt_zero _), rfl, hinv⟩
  | succ f ih =>
    intro cells line fonts R Re x cur p core hl hok hfit hinv hcx hfonts
    cases hok with
    | nil => exact ⟨[], p, core, rfl, rfl, fun j hj => absurd hj (Nat.not_lt_zero _), rfl, hinv⟩
    | cons _ R' _ c cc cs rest h1 h2 h3 h4 h7 h8 h9 h10 =>
      rw [List.length_cons] at hfit hl
      have hx : core.scr.cx = x := hcx (List.cons_ne_nil _ _)
      have hsw : core.scr.w = w := hinv.base.sw
      have hlr : rest.length = cs.length := h10.length_eq
      have hf0 : fonts.headD 0 < ansiFonts := by
        cases fonts with
        | nil => show 0 < ansiFonts; decide
        | cons a b => exact hfonts a List.mem_cons_self
      have hftail : ∀ g ∈ fonts.tail, g < ansiFonts := fun g hg => hfonts g (List.mem_of_mem_tail hg)
      obtain ⟨p0, e0, inv0⟩ := fontEv_readX ic R w p core cur (fonts.headD 0) hinv hf0
      obtain ⟨p1, core1, e1, s1, inv1⟩ := pre_readX ic R w p0 core cc.sgr cc.sgrTc inv0 h2 h3
      rw [h4] at inv1
      have epre : ansiRun p core (bytesOf ((if cur ≠ fonts.headD 0 then [Ev.ext (fontSeq (fonts.headD 0)), Ev.push] else []) ++ sgrEvs cc)) = (p1, core1) := by
        rw [bytesOf_append, ansiRun_append_of_eq e0, bytesOf_sgrEvs]
        exact e1
      have group : ∀ (k : Nat) (it : Option Cell) (mid : List Ev) (p2 : AnsiP) (core2 : Core), k ≤ cs.length →
          ansiRun p1 core1 (bytesOf mid) = (p2, core2) → core2.scr = core.scr.runItems (List.replicate (k + 1) it) → CInvX ic R' w p2 core2 →
          (∀ j, j < k + 1 → (∃ R'', it = some ⟨((c :: cs).getD j defaultCell).ch, prAttr ic R''.1⟩ ∧ G R'' ((c :: cs).getD j defaultCell)) ∨
            (it = none ∧ (o.compress = true ∧ ((c :: cs).getD j defaultCell).ch = 32 ∧ S ((c :: cs).getD j defaultCell)) ∧ x + j + 1 < w)) →
          LineG o G S R' (cs.drop k) (rest.drop k) Re →
          ∃ (items : List (Option Cell)) (p' : AnsiP) (core' : Core),
            ansiRun p core (bytesOf (((if cur ≠ fonts.headD 0 then [Ev.ext (fontSeq (fonts.headD 0)), Ev.push] else []) ++ sgrEvs cc) ++ mid ++
              (genLineEv o w f (x + k + 1) (fonts.headD 0) (rest.drop k) (fonts.tail.drop k)).1)) = (p', core') ∧
            items.length = (c :: cs).length ∧
            ItemsG o ic G S x w (c :: cs) items ∧
            core'.scr = core.scr.runItems items ∧ CInvX ic Re w p' core' := by
        intro k it mid p2 core2 hk e2 s2 inv2 hrun hrest
        have hsk : SkipsInside core.scr (List.replicate (k + 1) it) := by
          intro i hi hn
          rw [List.length_replicate] at hi
          rw [List.getD_eq_getElem?_getD, List.getElem?_replicate, if_pos hi] at hn
          rcases hrun i hi with ⟨_, e, _⟩ | ⟨_, _, h⟩
          · rw [e] at hn; cases hn
          · rw [hx, hsw]; exact h
        have P := items_spec (List.replicate (k + 1) it) core.scr (by rw [List.length_replicate, hx, hsw]; omega)
          (by rw [hsw]; exact Nat.le_trans hw (by decide)) hsk
        have hpos : cs.drop k ≠ [] → core2.scr.cx = x + k + 1 := by
          intro hne
          have hlt : 0 < (cs.drop k).length := List.length_pos_iff.2 hne
          rw [List.length_drop] at hlt
          rw [s2, (P.pos_in (by rw [List.length_replicate, hx, hsw]; omega)).1, List.length_replicate, hx, Nat.add_assoc]
        obtain ⟨items', p', core', e3, q1, q2, q3, q4⟩ := ih (cs.drop k) (rest.drop k) (fonts.tail.drop k) R' Re (x + k + 1) (fonts.headD 0) p2 core2
          (by rw [List.length_drop]; omega) hrest (by rw [List.length_drop]; omega) inv2 hpos (fun g hg => hftail g (List.mem_of_mem_drop hg))
        refine ⟨List.replicate (k + 1) it ++ items', p', core', ?_, ?_, itemsP_run x w (k + 1) c cs it items' (Nat.succ_le_succ hk) hrun q2, ?_, q4⟩
        · rw [bytesOf_append, bytesOf_append, List.append_assoc, ansiRun_append_of_eq epre, ansiRun_append_of_eq e2, e3]
        · rw [List.length_append, List.length_replicate, q1, List.length_drop, List.length_cons]; omega
        · rw [q3, s2, runItems_append]
      have plain : ∃ (items : List (Option Cell)) (p' : AnsiP) (core' : Core),
          ansiRun p core (bytesOf (((if cur ≠ fonts.headD 0 then [Ev.ext (fontSeq (fonts.headD 0)), Ev.push] else []) ++ sgrEvs cc) ++
            [Ev.ext (cellChar o cc.ch), Ev.push] ++ (genLineEv o w f (x + 1) (fonts.headD 0) rest fonts.tail).1)) = (p', core') ∧
          items.length = (c :: cs).length ∧
          ItemsG o ic G S x w (c :: cs) items ∧
          core'.scr = core.scr.runItems items ∧ CInvX ic Re w p' core' := by
        obtain ⟨p2, core2, e2, s2, _, inv2⟩ := char_readX o ic R' w p1 core1 cc.ch inv1 (by rw [h1]; exact h9)
        refine group 0 (some ⟨c.ch, prAttr ic R'.1⟩) _ p2 core2 (Nat.zero_le _) (by rw [bytesOf_ext, bytesOf_push, bytesOf_nil, List.append_nil]; exact e2)
          (by rw [s2, s1, h1]; rfl) inv2 ?_ h10
        intro j hj
        have : j = 0 := by omega
        subst this
        exact Or.inl ⟨R', rfl, h7⟩
      obtain ⟨r1, r2⟩ := rleCountF_spec cc (fonts.headD 0) rest fonts.tail
      obtain ⟨k, mid, hm, e⟩ := genLineEv_cons o w f x cur cc rest fonts
      rw [e]
      generalize rleCountF cc (fonts.headD 0) rest fonts.tail = rl at r1 r2 hm
      obtain ⟨run1, run2⟩ := lineG_run cc.ch rl R' Re cs rest h10 r1 r2
      have hrunfacts : ∀ j, j < rl + 1 → ((c :: cs).getD j defaultCell).ch = c.ch ∧ G R' ((c :: cs).getD j defaultCell) := by
        intro j hj
        cases j with
        | zero => exact ⟨rfl, h7⟩
        | succ j' =>
          have := run1 j' (by omega)
          rw [h1] at this
          exact ⟨this.1, this.2.1⟩
      cases hm with
      | cuf hcomp _ k1 k0 k2 hnb k4 _ =>
        -- cursor forward over the whole run: its cells are spaces the same reader state is good for
        have sk := h8 k0 k2 hnb
        obtain ⟨p2, core2, e2, s2, inv2⟩ := cuf_readX ic R' w p1 core1 (k + 1) inv1 (by omega) (by rw [s1, hx]; omega) (by omega)
        refine group k none _ p2 core2 (by omega) (by rw [bytesOf_push, bytesOf_ext, bytesOf_push, bytesOf_nil, List.append_nil]; exact e2)
          (by rw [s2, s1]) inv2 ?_ run2
        intro j hj
        obtain ⟨f1, f2⟩ := hrunfacts j hj
        exact Or.inr ⟨rfl, ⟨hcomp, by rw [f1, ← h1]; exact k1, hS R' c _ h7 f2 sk⟩, by omega⟩
      | rep hcomp _ hlen =>
        -- the cell, then CSI n b for the rest of the run
        obtain ⟨p2, core2, e2, s2, l2, inv2⟩ := char_readX o ic R' w p1 core1 cc.ch inv1 (by rw [h1]; exact h9)
        obtain ⟨p3, core3, e3, s3, inv3⟩ := rep_readX ic R' w p2 core2 k inv2 (by omega) (by omega)
        refine group k (some ⟨c.ch, prAttr ic R'.1⟩) _ p3 core3 (by omega) ?_ ?_ inv3 ?_ run2
        · rw [bytesOf_push, bytesOf_ext, bytesOf_ext, bytesOf_push, bytesOf_nil, List.append_nil, ansiRun_append_of_eq e2]
          exact e3
        · rw [s3, s2, s1, l2, h1, List.replicate_succ, runItems_cons]; rfl
        · intro j hj
          exact Or.inl ⟨R', by rw [(hrunfacts j hj).1], (hrunfacts j hj).2⟩
      | plain => exact plain

/-- cells printed from the same reader state show the same, so they are black and steady together -/
theorem disp_same {pal P : List Rgb} {a : Attr} {c c' : Cell} (g : Disp pal P c ⟨c.ch, a⟩) (g' : Disp pal P c' ⟨c'.ch, a⟩)
    (s : getRgb pal c.attr.bg = black ∧ c.attr.fl.blink = false) : getRgb pal c'.attr.bg = black ∧ c'.attr.fl.blink = false :=
  ⟨(g'.bg.symm.trans g.bg).trans s.1, (g'.blink.symm.trans g.blink).trans s.2⟩

theorem caret_same {ic : Bool} {A : Attr} {c c' : Cell} (g : A = caretAttr ic c.attr ∧ Attr16 ic c.attr)
    (g' : A = caretAttr ic c'.attr ∧ Attr16 ic c'.attr) (s : (printedAttr c.attr).bg = 0 ∧ (printedAttr c.attr).fl.blink = false) :
    (printedAttr c'.attr).bg = 0 ∧ (printedAttr c'.attr).fl.blink = false := by
  rw [← printed_eq_of_caret_eq ic c.attr c'.attr g.2 g'.2 (g.1.symm.trans g'.1)]; exact s

theorem ItemsG.okX {o : AnsiOpts} {ic : Bool} {pal Pf : List Rgb} {x w : Nat} {cells : List Cell} {items : List (Option Cell)}
    (h : ItemsG o ic (fun R' c => Disp pal R'.2 c ⟨c.ch, prAttr ic R'.1⟩ ∧ R'.2 <+: Pf)
      (fun c => getRgb pal c.attr.bg = black ∧ c.attr.fl.blink = false) x w cells items) : ItemsOkX pal Pf x w cells items := by
  intro j hj
  rcases h j hj with ⟨R', e, d, pre⟩ | ⟨e, ⟨_, c32, s⟩, m⟩
  · exact Or.inl ⟨_, e, d.mono pre⟩
  · exact Or.inr ⟨e, ⟨c32, s.1, s.2⟩, m⟩

theorem ItemsG.okC {o : AnsiOpts} {ic : Bool} {Pf : List Rgb} {x w : Nat} {cells : List Cell} {items : List (Option Cell)}
    (h : ItemsG o ic (fun R' c => (R'.1 = caretAttr ic c.attr ∧ Attr16 ic c.attr) ∧ R'.2 <+: Pf)
      (fun c => (printedAttr c.attr).bg = 0 ∧ (printedAttr c.attr).fl.blink = false) x w cells items) : ItemsOkC o x w cells items := by
  intro j hj
  rcases h j hj with ⟨R', e, g, _⟩ | ⟨e, ⟨hcomp, c32, s⟩, m⟩
  · left; show items.getD j none = _; rw [e, g.1, prAttr_caret ic _ g.2]; rfl
  · exact Or.inr ⟨e, ⟨hcomp, c32, s.1, s.2⟩, m⟩

/-- `subst_sound_all` (Props/C04.lean) with font pages -/
theorem genLine_itemsF (o : AnsiOpts) (ic : Bool) (pal : List Rgb) (w : Nat) (hw : w ≤ 999) : ∀ (fuel : Nat) (cells : List Cell)
    (line : List CharCell) (fonts : List Nat) (R Re : RdSt) (x cur : Nat) (p : AnsiP) (core : Core),
    line.length ≤ fuel → LineOkX o ic pal R cells line Re → x + cells.length ≤ w → CInvX ic R w p core → (cells ≠ [] → core.scr.cx = x) →
    (∀ f ∈ fonts, f < ansiFonts) →
    ∃ items : List (Option Cell), items.length = cells.length ∧ ItemsOkX pal Re.2 x w cells items ∧
      (ansiRun p core (bytesOf (genLineEv o w fuel x cur line fonts).1)).2.scr = core.scr.runItems items ∧
      CInvX ic Re w (ansiRun p core (bytesOf (genLineEv o w fuel x cur line fonts).1)).1
        (ansiRun p core (bytesOf (genLineEv o w fuel x cur line fonts).1)).2 := by
  intro fuel cells line fonts R Re x cur p core h1 h2 h3 h4 h5 h6
  obtain ⟨items, p', core', e, i1, i2, i3, i4⟩ := genLineEv_items ic (fun R c c' g g' s => disp_same g.1 g'.1 s)
    w hw fuel cells line fonts R Re x cur p core h1 h2.toG h3 h4 h5 h6
  rw [e]
  exact ⟨items, i1, ItemsG.okX i2, i3, i4⟩

end IcyVerif.ArtIO
