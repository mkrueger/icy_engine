import IcyVerif.Model.BinFormats
/-!
# C05: facts about the regenerated table of SAUCE fonts (`Gen/BinFonts.lean`), checked by evaluation — the quantifier IS the
16-entry table.  The glyph data are `++`-chains of 256-byte literals, and evaluating `List.length` of such a chain passes every
byte up through the chain: the lengths are first split with `List.length_append`, only the literals are walked.
-/
namespace IcyVerif.BinFormats
open IcyVerif.Gen

/-- `List.length` by the plain recursor, which the kernel evaluates step by step (the compiled structural recursion of
    `List.length` goes through `brecOn`) -/
noncomputable def lengthRec (l : List Nat) : Nat := List.rec 0 (fun _ _ n => n + 1) l

theorem length_eq_lengthRec (l : List Nat) : l.length = lengthRec l := by
  induction l with
  | nil => rfl
  | cons _ _ ih => rw [List.length_cons, ih]; rfl

theorem sauceFonts_shape : BinFonts.sauceFonts.all (fun e => decide (1 ≤ e.2.1) && decide (e.2.1 ≤ 32) && e.2.2.length == 256 * e.2.1 &&
    e.1 != BinFmt.defaultFontName) = true := by
  simp only [BinFonts.sauceFonts, List.all_cons, List.all_nil, List.length_append, BinFonts.sauceFontData0, BinFonts.sauceFontData1,
    BinFonts.sauceFontData2, BinFonts.sauceFontData3, BinFonts.sauceFontData4, BinFonts.sauceFontData5, BinFonts.sauceFontData6,
    BinFonts.sauceFontData7, BinFonts.sauceFontData8, BinFonts.sauceFontData9, BinFonts.sauceFontData10, BinFonts.sauceFontData11,
    BinFonts.sauceFontData12, BinFonts.sauceFontData13, BinFonts.sauceFontData14, BinFonts.sauceFontData15]
  simp only [length_eq_lengthRec]
  decide +kernel

/-- what makes a name written into TInfoS read back as itself.  (The last clause only says that `find?` by a member's name finds
    an entry of that name — true in any list; that the names are pairwise different is NOT stated, and nothing uses it.) -/
theorem sauceFonts_names : BinFonts.sauceFonts.all (fun e => decide (e.1.length ≤ 22) && !e.1.contains 0 && e.1.getLast? != some 32 && e.1 != [] &&
    (BinFonts.sauceFonts.find? (fun e' => e'.1 == e.1)).map (·.1) == some e.1) = true := by decide +kernel

theorem defaultFont_length : BinFmt.defaultFontData.length = 256 * BinFmt.defaultFontHeight := by
  simp only [BinFmt.defaultFontData, List.length_append, length_eq_lengthRec]
  decide +kernel

theorem sauceFontByName_name (n : List Nat) (f : Font) (h : sauceFontByName n = some f) : f.name = n := by
  unfold sauceFontByName at h
  obtain ⟨e, he, rfl⟩ := Option.map_eq_some_iff.mp h
  simpa using List.find?_some he

theorem isDefault_default : defaultFont.isDefault = true := by simp [Font.isDefault, defaultFont]

theorem font16_default : font16 defaultFont = true := by
  simp only [font16, defaultFont, defaultFont_length]; decide

theorem fontOk_default : fontOk defaultFont = true := by
  simp only [fontOk, defaultFont, defaultFont_length]; decide

end IcyVerif.BinFormats
