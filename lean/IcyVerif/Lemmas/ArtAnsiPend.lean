import IcyVerif.Lemmas.ArtAnsiFLine
import IcyVerif.Lemmas.ArtAnsiRows
/-! # `generate` pushes everything it collects (C04, `output_line_length`)

`generate` keeps bytes in its local `result` between two calls of `push_result`; what is still there when the function
returns is lost.  `pend evs r` is that remainder.  For the writer's events it is empty (`pend_ansiA`,
Lemmas/ArtAnsiFTop.lean): every cell ends with a push, and the end-of-row bytes (which are NOT pushed on their own) are
only written when another row follows.  Hence
the chunks handed to `push_result` are, put together, exactly the bytes of the events (`chunks_pend`). -/
namespace IcyVerif.ArtIO
open IcyVerif.Gen.Art

def pend : List Ev → List Nat → List Nat
  | [], r => r
  | .ext bs :: es, r => pend es (r ++ bs)
  | .push :: es, _ => pend es []
  | .eol :: es, r => pend es r
  | .drop :: es, _ => pend es []

theorem pend_append (a b : List Ev) : ∀ r, pend (a ++ b) r = pend b (pend a r) := by
  induction a with
  | nil => intro r; rfl
  | cons e es ih => intro r; cases e <;> simp [pend, ih]

theorem chunksOf_append (a b : List Ev) : ∀ r, chunksOf (a ++ b) r = chunksOf a r ++ chunksOf b (pend a r) := by
  induction a with
  | nil => intro r; rfl
  | cons e es ih => intro r; cases e <;> simp [pend, chunksOf, ih]

theorem chunks_pend (evs : List Ev) (hd : Ev.drop ∉ evs) : ∀ r, (chunksOf evs r).flatten ++ pend evs r = r ++ bytesOf evs := by
  induction evs with
  | nil => intro r; simp [chunksOf, pend, bytesOf]
  | cons e es ih =>
    intro r
    have hd' : Ev.drop ∉ es := fun h => hd (List.mem_cons_of_mem _ h)
    cases e with
    | ext bs => simp [chunksOf, pend, bytesOf, ih hd']
    | push => simp [chunksOf, pend, bytesOf]; have := ih hd' []; simpa using this
    | eol => simp [chunksOf, pend, bytesOf, ih hd']
    | drop => exact absurd List.mem_cons_self hd

theorem pend_push_last (evs : List Ev) (h : evs.getLast? = some .push) : ∀ r, pend evs r = [] := by
  induction evs with
  | nil => simp at h
  | cons e es ih =>
    intro r
    cases es with
    | nil =>
      simp at h; subst h; rfl
    | cons e2 es2 =>
      have h' : (e2 :: es2).getLast? = some .push := by
        rw [List.getLast?_cons_cons] at h; exact h
      cases e <;> simp only [pend] <;> exact ih h' _

/-- a list of events that is empty or ends with a push -/
def PushEnd (evs : List Ev) : Prop := evs = [] ∨ evs.getLast? = some .push

theorem PushEnd.append {a b : List Ev} (ha : PushEnd a) (hb : PushEnd b) : PushEnd (a ++ b) := by
  rcases hb with e | e
  · rw [e, List.append_nil]; exact ha
  · right
    rw [List.getLast?_append, e]; rfl

theorem pushEnd_pend {evs : List Ev} (h : PushEnd evs) : pend evs [] = [] := by
  rcases h with e | e
  · rw [e]; rfl
  · exact pend_push_last evs e []

theorem pushEnd_tc : ∀ (fuel : Nat) (tc : List Nat), PushEnd (tcEvs fuel tc) := by
  intro fuel
  induction fuel with
  | zero => intro tc; left; simp [tcEvs]
  | succ f ih =>
    intro tc
    match tc with
    | [] => left; simp [tcEvs]
    | [_] => left; simp [tcEvs]
    | [_, _] => left; simp [tcEvs]
    | [_, _, _] => left; simp [tcEvs]
    | a :: b :: c :: d :: rest =>
      unfold tcEvs
      exact PushEnd.append (Or.inr rfl) (ih rest)

theorem pushEnd_sgr (cell : CharCell) : PushEnd (sgrEvs cell) := by
  unfold sgrEvs
  refine PushEnd.append ?_ (pushEnd_tc _ _)
  split
  · left; rfl
  · right; rfl

theorem genLineEv_last (o : AnsiOpts) (w : Nat) : ∀ (fuel x cur : Nat) (line : List CharCell) (fonts : List Nat),
    PushEnd (genLineEv o w fuel x cur line fonts).1 ∧ (line ≠ [] → fuel ≠ 0 → (genLineEv o w fuel x cur line fonts).1.getLast? = some .push) := by
  intro fuel
  induction fuel with
  | zero => intro x cur line fonts; unfold genLineEv; exact ⟨Or.inl rfl, fun _ h => absurd rfl h⟩
  | succ f ih =>
    intro x cur line fonts
    match line with
    | [] => unfold genLineEv; exact ⟨Or.inl rfl, fun h _ => absurd rfl h⟩
    | cell :: rest =>
      obtain ⟨k, mid, hm, e⟩ := genLineEv_cons o w f x cur cell rest fonts
      have goal : (genLineEv o w (f + 1) x cur (cell :: rest) fonts).1.getLast? = some .push := by
        have hm2 : mid.getLast? = some .push := by cases hm <;> rfl
        rw [e]
        rcases (ih (x + k + 1) (fonts.headD 0) (rest.drop k) (fonts.tail.drop k)).1 with h | h
        · rw [h, List.append_nil, List.getLast?_append, hm2]; rfl
        · rw [List.getLast?_append, h]; rfl
      exact ⟨Or.inr goal, fun _ _ => goal⟩

theorem genCellsRow_length (o : AnsiOpts) (pal : List Rgb) (im : IceMode) (row : List Cell) :
    ∀ (n x : Nat) (st : AnsiState), (genCellsRow o pal im row n x st).1.length = n := by
  intro n
  induction n with
  | zero => intro x st; rfl
  | succ k ih =>
    intro x st
    unfold genCellsRow
    simp only []
    split
    · simp [ih]
    · simp [ih]

theorem genCellsS_nonempty (o : AnsiOpts) (skip : Nat → Bool) (pal : List Rgb) (im : IceMode) (w : Nat) (hw : 0 < w)
    (hl : o.longerTerminalOutput = false) : ∀ (rows : List (List Cell)) (y : Nat) (st : AnsiState),
    ∀ line ∈ genCellsS o skip pal im w rows y st, line ≠ [] := by
  intro rows
  induction rows with
  | nil => intro y st line h; cases h
  | cons row rest ih =>
    intro y st line h
    rw [genCellsS_write (fun h => by rw [hl] at h; cases h.1) rfl] at h
    rcases List.mem_cons.1 h with e | e
    · have hlen : line.length = ansiRowLen o pal w row := by rw [e]; exact genCellsRow_length o pal im row _ _ _
      have h1 : 1 ≤ ansiRowLen o pal w row := (ansiRowLen_specX o pal w hw row).1
      intro hn; rw [hn] at hlen; simp at hlen; omega
    · exact ih _ _ line e

theorem genCellsS_length (o : AnsiOpts) (skip : Nat → Bool) (pal : List Rgb) (im : IceMode) (w : Nat) :
    ∀ (rows : List (List Cell)) (y : Nat) (st : AnsiState), (genCellsS o skip pal im w rows y st).length = rows.length := by
  intro rows
  induction rows with
  | nil => intro y st; rfl
  | cons row rest ih =>
    intro y st
    unfold genCellsS
    split <;> simp [ih]

/-- the row loop leaves nothing pending — without longer-terminal positioning because the last row gets no line break -/
theorem pend_genLines_comp (o : AnsiOpts) (skip : Nat → Bool) (w h : Nat) (hl : o.longerTerminalOutput = false) :
    ∀ (lines : List (List CharCell)) (frows : List (List Nat)) (y : Nat) (first : Bool) (cur : Nat) (r : List Nat),
    (∀ line ∈ lines, line ≠ []) → y + lines.length = h → lines ≠ [] →
    pend (genLinesEv o skip w h lines frows y first cur) r = [] := by
  intro lines
  induction lines with
  | nil => intro frows y first cur r _ _ hne; exact absurd rfl hne
  | cons line rest ih =>
    intro frows y first cur r hne hy _
    have hline : line ≠ [] := hne line List.mem_cons_self
    have hflen : line.length ≠ 0 := fun e => hline (List.length_eq_zero_iff.1 e)
    rw [genLinesEv_comp hl, pend_append, pend_append,
      pend_push_last _ ((genLineEv_last o w line.length 0 cur line (frows.headD [])).2 hline hflen) r]
    cases rest with
    | nil =>
      have : ¬ (line.length < w ∧ y + 1 < h) := by simp at hy; omega
      rw [if_neg this]
      rfl
    | cons l2 rest2 =>
      exact ih frows.tail (y + 1) false _ _ (fun l hl' => hne l (List.mem_cons_of_mem _ hl')) (by simp at hy ⊢; omega) (by simp)

theorem pend_genLines_longer (o : AnsiOpts) (skip : Nat → Bool) (w h : Nat) (hl : o.longerTerminalOutput = true) :
    ∀ (lines : List (List CharCell)) (frows : List (List Nat)) (y : Nat) (first : Bool) (cur : Nat),
    pend (genLinesEv o skip w h lines frows y first cur) [] = [] := by
  intro lines
  induction lines with
  | nil => intro frows y first cur; rfl
  | cons line rest ih =>
    intro frows y first cur
    cases hs : skip y with
    | true => rw [genLinesEv_skip hl hs]; exact ih _ _ _ _
    | false =>
      have hhead : pend ((if first = true then [Ev.ext (csi [0] 109)] else []) ++ [Ev.ext (csi [y + 1] 72), Ev.push]) [] = [] :=
        pend_push_last _ (by cases first <;> rfl) []
      rw [genLinesEv_longer hl hs, pend_append, pend_append, hhead, pushEnd_pend (genLineEv_last o w line.length 0 cur line (frows.headD [])).1]
      exact ih _ _ _ _

theorem pend_prep (o : AnsiOpts) (im : IceMode) : pend (prepEvs o im) [] = [] := by
  apply pushEnd_pend
  unfold prepEvs
  refine PushEnd.append ?_ ?_
  · split
    · right; rfl
    · left; rfl
  · cases o.prep with
    | none => left; rfl
    | clear => right; rfl
    | home => right; rfl

end IcyVerif.ArtIO
