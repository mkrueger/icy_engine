import IcyVerif.Model.SauceUni
import IcyVerif.Lemmas.Sauce
import IcyVerif.Lemmas.Codec
/-! # C11: lemmas for the CP437 ↔ Unicode layer of `SauceString` -/
namespace IcyVerif.Sauce
open IcyVerif.Gen.Sauce IcyVerif.Gen.Codec
open IcyVerif.Codec (cp437_nodup cp437_length)

theorem firstIdx_some : ∀ (tbl : List Nat) (i ch j : Nat), firstIdx tbl i ch = some j →
    i ≤ j ∧ j - i < tbl.length ∧ tbl.getD (j - i) 0 = ch := by
  intro tbl
  induction tbl with
  | nil => intro i ch j h; simp [firstIdx] at h
  | cons x xs ih =>
    intro i ch j h
    unfold firstIdx at h
    by_cases hx : x = ch
    · rw [if_pos hx] at h
      simp only [Option.some.injEq] at h
      subst h
      simp [hx]
    · rw [if_neg hx] at h
      obtain ⟨h1, h2, h3⟩ := ih (i + 1) ch j h
      refine ⟨by omega, by simp; omega, ?_⟩
      have e : j - i = (j - (i + 1)) + 1 := by omega
      rw [e]
      simpa using h3

theorem firstIdx_eq_none (tbl : List Nat) (i ch : Nat) : firstIdx tbl i ch = none ↔ ch ∉ tbl := by
  induction tbl generalizing i with
  | nil => simp [firstIdx]
  | cons x xs ih =>
    unfold firstIdx
    by_cases hx : x = ch
    · simp [hx]
    · rw [if_neg hx, ih, List.mem_cons, not_or]
      exact ⟨fun h => ⟨Ne.symm hx, h⟩, fun h => h.2⟩

theorem firstIdx_nodup : ∀ (tbl : List Nat) (i k : Nat), tbl.Nodup → k < tbl.length →
    firstIdx tbl i (tbl.getD k 0) = some (i + k) := by
  intro tbl
  induction tbl with
  | nil => intro i k _ hk; simp at hk
  | cons x xs ih =>
    intro i k hn hk
    cases k with
    | zero => simp [firstIdx]
    | succ k =>
      have hnd := List.nodup_cons.mp hn
      have hk' : k < xs.length := by simp at hk; omega
      have hmem : xs.getD k 0 ∈ xs := Basics.getD_mem hk'
      have hne : x ≠ xs.getD k 0 := fun e => hnd.1 (e ▸ hmem)
      have e : (x :: xs).getD (k + 1) 0 = xs.getD k 0 := by simp
      rw [e]
      unfold firstIdx
      rw [if_neg hne, ih (i + 1) k hnd.2 hk']
      congr 1; omega

theorem cpByte_cpChar (b : Nat) (hb : b < 256) : cpByte (cpChar b) = b := by
  unfold cpByte cpChar
  rw [firstIdx_nodup cp437 0 b cp437_nodup (by rw [cp437_length]; exact hb)]
  simp

theorem cpChar_mem (b : Nat) (hb : b < 256) : cpChar b ∈ cp437 := by
  exact Basics.getD_mem (by rw [cp437_length]; exact hb)

theorem cpByte_lt (ch : Nat) : cpByte ch < 256 := by
  unfold cpByte
  cases h : firstIdx cp437 0 ch with
  | none => simp [IcyVerif.Gen.SauceUni.substitute]
  | some j =>
    have := (firstIdx_some cp437 0 ch j h).2.1
    rw [cp437_length] at this
    simp; omega

theorem cpChar_cpByte (ch : Nat) (h : ch ∈ cp437) : cpChar (cpByte ch) = ch := by
  unfold cpByte
  cases hf : firstIdx cp437 0 ch with
  | none => exact absurd h ((firstIdx_eq_none cp437 0 ch).mp hf)
  | some j =>
    have := (firstIdx_some cp437 0 ch j hf).2.2
    simpa [cpChar] using this

theorem cpByte_other (ch : Nat) (h : ch ∉ cp437) : cpByte ch = 63 := by
  unfold cpByte; rw [(firstIdx_eq_none cp437 0 ch).mpr h]; rfl

theorem cpChar_fixed : cpChar 0 = 0 ∧ cpChar 32 = 32 ∧ cpChar 63 = 63 := by decide +kernel

/-- a table character is a blank / NUL exactly when its byte is -/
theorem strip_cpByte (ch : Nat) (h : ch ∈ cp437) : stripSet.contains (cpByte ch) = stripSet.contains ch := by
  obtain ⟨h0, h32, _⟩ := cpChar_fixed
  have hs : ∀ x, stripSet.contains x = (x == 0 || x == 32) := by
    intro x
    have : stripSet = [0, 32] := by decide
    rw [this]
    simp only [List.contains_cons, List.contains_nil, Bool.or_false]
  rw [hs, hs]
  have hrt := cpChar_cpByte ch h
  by_cases c0 : ch = 0
  · subst c0
    have : cpByte 0 = 0 := by have := cpByte_cpChar 0 (by omega); rwa [h0] at this
    rw [this]
  · by_cases c32 : ch = 32
    · subst c32
      have : cpByte 32 = 32 := by have := cpByte_cpChar 32 (by omega); rwa [h32] at this
      rw [this]
    · have b0 : cpByte ch ≠ 0 := fun e => by rw [e, h0] at hrt; exact c0 hrt.symm
      have b32 : cpByte ch ≠ 32 := fun e => by rw [e, h32] at hrt; exact c32 hrt.symm
      rw [beq_eq_false_iff_ne.mpr b0, beq_eq_false_iff_ne.mpr b32, beq_eq_false_iff_ne.mpr c0, beq_eq_false_iff_ne.mpr c32]

theorem stripT_map (f : Nat → Nat) (t : List Nat) (h : ∀ x ∈ t, stripSet.contains (f x) = stripSet.contains x) :
    stripT (t.map f) = (stripT t).map f := by
  unfold stripT
  have : ∀ (l : List Nat), (∀ x ∈ l, stripSet.contains (f x) = stripSet.contains x) →
      (l.map f).dropWhile (fun c => stripSet.contains c) = (l.dropWhile (fun c => stripSet.contains c)).map f := by
    intro l
    induction l with
    | nil => intro _; rfl
    | cons x xs ih =>
      intro hl
      have hx := hl x (List.mem_cons_self ..)
      simp only [List.map_cons, List.dropWhile_cons, hx]
      split
      · exact ih (fun y hy => hl y (List.mem_cons_of_mem _ hy))
      · rfl
  rw [← List.map_reverse, this t.reverse (fun x hx => h x (List.mem_reverse.mp hx)), List.map_reverse]

theorem stripT_length_le (s : List Nat) : (stripT s).length ≤ s.length := by
  unfold stripT
  rw [List.length_reverse]
  have := (List.dropWhile_suffix (fun c => stripSet.contains c) (l := s.reverse)).length_le
  simpa using this

theorem stripT_prefix (s : List Nat) : stripT s = s.take (stripT s).length := by
  unfold stripT
  rw [List.length_reverse]
  exact reverse_dropWhile_eq_take _ s

theorem stripT_eq_self {s : List Nat} (h : (stripT s).length = s.length) : stripT s = s := by
  rw [stripT_prefix, h, List.take_length]

theorem stripT_mem (s : List Nat) : ∀ x ∈ stripT s, x ∈ s := by
  intro x hx
  rw [stripT_prefix] at hx
  exact List.mem_of_mem_take hx

/-- the heart of the string round trip: encode every character, strip, decode -/
theorem uni_core (len : Nat) (t : List Nat) (hl : t.length ≤ len) (hc : ∀ ch ∈ t, ch ∈ cp437) :
    (stripT (strFromUni len t)).map cpChar = stripT t := by
  have ht : t.take len = t := List.take_of_length_le hl
  unfold strFromUni
  rw [ht, stripT_map cpByte t (fun x hx => strip_cpByte x (hc x hx)), List.map_map]
  have : ∀ x ∈ stripT t, (cpChar ∘ cpByte) x = x := fun x hx => cpChar_cpByte x (hc x (stripT_mem t x hx))
  rw [List.map_congr_left this, List.map_id']

theorem strFromUni_length (len : Nat) (t : List Nat) : (strFromUni len t).length ≤ len := by
  simp [strFromUni]; omega

end IcyVerif.Sauce
