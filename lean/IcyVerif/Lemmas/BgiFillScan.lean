import IcyVerif.Model.BgiFill
import IcyVerif.Lemmas.Bgi
/-! The BGI flood-fill model: the pixel scans of `find_line` stay inside the screen and inside the
scanned row, and a span found at a non-border pixel contains that pixel. -/
namespace IcyVerif.Bgi

theorem scrAt_some {scr : Array Nat} {i : Int} (h0 : 0 ≤ i) (h1 : i < scr.size) : ∃ v, scrAt scr i = some v := by
  unfold scrAt inLen
  have : (0 ≤ i ∧ i < (scr.size : Int)) := ⟨h0, h1⟩
  simp [this]

theorem scrAt_inv {scr : Array Nat} {i : Int} {v : Nat} (h : scrAt scr i = some v) : 0 ≤ i ∧ i < scr.size := by
  unfold scrAt inLen at h
  split at h
  · rename_i hc; simpa using hc
  · cases h

/-- forward scan: `n` reads at most, all inside the screen; the answer is `width` or a column of the scanned range;
when the first pixel is not the border colour the answer lies beyond it -/
theorem scanRight_spec (scr : Array Nat) (b : Nat) (w : Int) (n : Nat) : ∀ (pos ex : Int), 0 ≤ pos → pos + n ≤ scr.size →
    ∃ e c, scanRight scr b w n pos ex = some (e, c) ∧ c ≤ n ∧ (e = w ∨ (ex ≤ e ∧ e < ex + n)) ∧
      (∀ v, scrAt scr pos = some v → v ≠ b → 0 < n → (e = w ∨ ex + 1 ≤ e)) := by
  induction n with
  | zero => intro pos ex _ _; exact ⟨w, 0, rfl, Nat.le_refl _, Or.inl rfl, fun _ _ _ h => absurd h (Nat.lt_irrefl 0)⟩
  | succ k ih =>
    intro pos ex h0 h1
    have hk : ((k + 1 : Nat) : Int) = (k : Int) + 1 := by omega
    obtain ⟨v, hv⟩ := scrAt_some (scr := scr) (i := pos) h0 (by omega)
    unfold scanRight
    simp only [hv]
    by_cases hb : v = b
    · simp only [hb, if_true]
      refine ⟨ex, 1, rfl, by omega, Or.inr ⟨by omega, by omega⟩, ?_⟩
      intro v' hv' hne _
      cases hv'; exact absurd rfl hne
    · simp only [hb, if_false]
      obtain ⟨e, c, he, hc, hr, _⟩ := ih (pos + 1) (ex + 1) (by omega) (by omega)
      rw [he]
      refine ⟨e, c + 1, rfl, by omega, ?_, ?_⟩
      · rcases hr with h | ⟨h2, h3⟩
        · exact Or.inl h
        · exact Or.inr ⟨by omega, by omega⟩
      · intro _ _ _ _
        rcases hr with h | ⟨h2, h3⟩
        · exact Or.inl h
        · exact Or.inr h2

theorem scanLeft_spec (scr : Array Nat) (b : Nat) (n : Nat) : ∀ (pos sx : Int), (0 < n → pos < scr.size) → (n : Int) ≤ pos + 1 →
    ∃ st c, scanLeft scr b n pos sx = some (st, c) ∧ c ≤ n ∧ (st = -1 ∨ (sx - n < st ∧ st ≤ sx)) := by
  induction n with
  | zero => intro pos sx _ _; exact ⟨-1, 0, rfl, Nat.le_refl _, Or.inl rfl⟩
  | succ k ih =>
    intro pos sx h0 h1
    have hk : ((k + 1 : Nat) : Int) = (k : Int) + 1 := by omega
    obtain ⟨v, hv⟩ := scrAt_some (scr := scr) (i := pos) (by omega) (h0 (Nat.succ_pos k))
    unfold scanLeft
    simp only [hv]
    by_cases hb : v = b
    · simp only [hb, if_true]
      exact ⟨sx, 1, rfl, by omega, Or.inr ⟨by omega, by omega⟩⟩
    · simp only [hb, if_false]
      obtain ⟨st, c, he, hc, hr⟩ := ih (pos - 1) (sx - 1) (by intro _; omega) (by omega)
      rw [he]
      refine ⟨st, c + 1, rfl, by omega, ?_⟩
      rcases hr with h | ⟨h2, h3⟩
      · exact Or.inl h
      · exact Or.inr ⟨by omega, by omega⟩

/-- the hypotheses under which `flood_fill` runs its loops: the 640 x 350 window with a complete screen, and a
viewport of positive width (the seed passed the clip test) -/
structure FillCtx (s : Bgi) : Prop where
  hW : s.winW = 640
  hH : s.winH = 350
  hsz : s.screen.size = 224000
  hvw1 : 1 ≤ s.vp.w
  hvw2 : s.vp.w ≤ 1048576

/-- `find_line` at a pixel of the screen: no panic, at most 1280 pixels read; the span lies in row `y`, starts in
0..=x, ends before `min(viewport width, 640)`, and contains `x` when the pixel at `x` is not the border colour and
`x` is left of that limit -/
theorem findLine_spec {s : Bgi} (hc : FillCtx s) (x y : Int) (b : Nat) (hx0 : 0 ≤ x) (hx1 : x ≤ 639) (hy0 : 0 ≤ y) (hy1 : y < 350) :
    ∃ r c, findLine s x y b = some (r, c) ∧ c ≤ 1280 ∧
      ∀ li, r = some li → li.y = y ∧ 0 ≤ li.x1 ∧ li.x1 ≤ x ∧ -1 ≤ li.x2 ∧ li.x2 ≤ min s.vp.w 640 - 1 ∧
        (x < min s.vp.w 640 → ∀ v, scrAt s.screen (y * 640 + x) = some v → v ≠ b → x ≤ li.x2) := by
  obtain ⟨hW, hH, hsz, hv1, hv2⟩ := hc
  have hwid : 1 ≤ min s.vp.w 640 ∧ min s.vp.w 640 ≤ 640 := by omega
  unfold findLine
  simp only [hW]
  generalize min s.vp.w 640 = W at hwid ⊢
  clear hv1 hv2 hW hH
  rw [chk_in (v := y * 640) (by omega)]
  simp only []
  rw [chk_in (v := y * 640 + x) (by omega)]
  simp only []
  obtain ⟨e, c1, he, hc1, hr, hfirst⟩ := scanRight_spec s.screen b W (W - x).toNat (y * 640 + x) x
    (by omega) (by rw [hsz]; omega)
  rw [he]
  simp only []
  rw [chk_in (v := y * 640 + x - 1) (by omega)]
  simp only []
  obtain ⟨st, c2, hs, hc2, hl⟩ := scanLeft_spec s.screen b x.toNat (y * 640 + x - 1) (x - 1)
    (by intro _; rw [hsz]; omega) (by omega)
  rw [hs]
  simp only []
  rw [chk_in (v := (640 : Int) - 1) (by decide)]
  simp only []
  have hc12 : c1 + c2 ≤ 1280 := by clear hr hl; omega
  have hst : -1 ≤ st ∧ st ≤ x - 1 := by clear hr hc1 hc2; omega
  have hen : e ≤ W ∧ (x ≤ e ∨ e = W) := by clear hl hc1 hc2; omega
  clear hl hr hc1 hc2 hs he hsz
  split
  · exact ⟨none, c1 + c2, rfl, hc12, fun li h => by cases h⟩
  · refine ⟨some ⟨st + 1, e - 1, y⟩, c1 + c2, rfl, hc12, ?_⟩
    intro li hli
    cases hli
    refine ⟨rfl, by dsimp only; omega, by dsimp only; omega, by dsimp only; omega, by dsimp only; omega, ?_⟩
    intro hxw v hv hne
    have := hfirst v hv hne (by omega)
    show x ≤ e - 1
    omega

end IcyVerif.Bgi
