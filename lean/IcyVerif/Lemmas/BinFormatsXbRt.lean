import IcyVerif.Lemmas.BinFormatsXb
import IcyVerif.Lemmas.BinFormatsXbLoad
/-!
# C05, XBin: the round trip theorem

`xb_core`: the loader reads the writer's body back as a `shownBuf` (`two` selects the one- or two-font case throughout);
`xb_roundtrip` puts writer and loader together through `roundtrip_of_body`.
-/
namespace IcyVerif.BinFormats
open IcyVerif.XbCompress IcyVerif.Gen

/-- for concrete pictures: only the hypotheses are evaluated -/
theorem xbSave_single (o : Opts) (date : List Nat) (p : Pic) (f0 : Font) (img : List Nat)
    (hpages : analyzeFontUsage p.rows.flatten = [0]) (hf0 : lookupFont p.fonts 0 = some f0) (hfok : fontOk f0 = true)
    (hpl : p.pal.length = 16) (himg : imageData p.ice o.compress p.rows = some img) :
    xbSave o.compress o.sauce date p =
      if o.sauce then writeSauce .xbin p date (xbBody p o.compress false f0 f0 img) else .ok (xbBody p o.compress false f0 f0 img) := by
  obtain ⟨h1, h2, h3⟩ := fontOk_parts f0 hfok
  rw [xbSave_eq, (xbSave_ok_iff o.compress date p (xbBody p o.compress false f0 f0 img)).mpr ⟨f0, f0, img, by rw [hpages]; exact hf0,
    by rw [hpages]; decide, ⟨h1, h2⟩, fun _ => by rw [fillTo16_16 _ hpl, asVec63_length, hpl]; rfl, fun _ => h3,
    by rw [hpages]; exact nofun, himg, by rw [hpages]; rfl⟩]
  rfl

theorem xbSave_body (o : Opts) (date : List Nat) (p : Pic) (two : Bool) (f0 f1 : Font) (d : XbDom p two f0 f1) (img : List Nat)
    (himg : imageData p.ice o.compress p.rows = some img) :
    xbSave o.compress o.sauce date p =
      if o.sauce then writeSauce .xbin p date (xbBody p o.compress two f0 f1 img) else .ok (xbBody p o.compress two f0 f1 img) := by
  obtain ⟨h1, h2, h3⟩ := fontOk_parts f0 d.ok0
  have hpl := (pal16_parts _ d.pal).1
  have htwo : ((analyzeFontUsage p.rows.flatten).length == 2) = two := by rw [d.pages]; cases two <;> rfl
  rw [xbSave_eq, (xbSave_ok_iff o.compress date p (xbBody p o.compress two f0 f1 img)).mpr ⟨f0, f1, img, ?_, ?_, ⟨h1, h2⟩,
    fun _ => by rw [fillTo16_16 _ hpl, asVec63_length, hpl]; rfl, fun _ => h3, ?_, himg, by rw [htwo]⟩]
  · rfl
  · rw [d.pages]; cases two <;> exact d.font0
  · rw [d.pages]; cases two <;> decide
  · rw [htwo, d.pages]
    intro h
    obtain ⟨a, b, c, _⟩ := d.font1 h
    subst h
    exact ⟨a, by rw [(fontOk_parts f1 b).2.2, c, h3]⟩

theorem palIsDefault_false (pal : List Rgb) (h : (!palIsDefault pal) = false) : pal = dosPalette := by
  unfold palIsDefault at h
  simpa using h

/-- the font table of the XBin loader after the font blocks the writer embedded (no block: the start buffer's default font) -/
def xbFonts (two : Bool) (f0 f1 : Font) : List (Nat × Font) :=
  if (!f0.isDefault || two) then (if two then [(0, mkFont f0.height f0.data), (1, mkFont f0.height f1.data)] else [(0, mkFont f0.height f0.data)])
  else [(0, defaultFont)]

/-- no block: the default font, which is then what the picture had -/
theorem xbFonts_same (p : Pic) (g : LBuf) (two : Bool) (f0 f1 : Font) (hg : g.fonts = xbFonts two f0 f1)
    (hpages : analyzeFontUsage p.rows.flatten = if two then [0, 1] else [0]) (hf0 : lookupFont p.fonts 0 = some f0)
    (hdef : f0.isDefault = true → f0 = defaultFont) (hf1 : lookupFont p.fonts 1 = some f1 ∨ two = false)
    (hf1h : two = true → f1.height = f0.height) : fontsSame p g = true := by
  unfold fontsSame
  rw [hpages, hg]
  have hg0 : ∃ fa, lookupFont (xbFonts two f0 f1) 0 = some fa ∧ fa.height = f0.height ∧ fa.data = f0.data := by
    unfold xbFonts
    by_cases hff : (!f0.isDefault || two) = true
    · simp only [hff, if_true]
      cases two
      · exact ⟨_, lookupFont_single _, rfl, rfl⟩
      · exact ⟨_, lookupFont_two0 _ _, rfl, rfl⟩
    · have hff' : (!f0.isDefault || two) = false := by simpa using hff
      simp only [hff', Bool.false_eq_true, if_false]
      have hd : f0.isDefault = true := by
        cases hx : f0.isDefault
        · rw [hx] at hff'; simp at hff'
        · rfl
      exact ⟨_, lookupFont_single _, by rw [hdef hd], by rw [hdef hd]⟩
  obtain ⟨fa, hfa, hfah, hfad⟩ := hg0
  cases two with
  | false =>
    simp only [Bool.false_eq_true, if_false, List.all_cons, List.all_nil, Bool.and_true, hf0, hfa]
    simp [hfah, hfad]
  | true =>
    have hf1' : lookupFont p.fonts 1 = some f1 := by
      rcases hf1 with h | h
      · exact h
      · exact absurd h (by decide)
    have hg1 : lookupFont (xbFonts true f0 f1) 1 = some (mkFont f0.height f1.data) := by
      unfold xbFonts
      simp only [Bool.or_true, if_true]
      exact lookupFont_two1 _ _
    simp only [if_true, List.all_cons, List.all_nil, Bool.and_true, hf0, hfa, hf1', hg1]
    have hh1 : f1.height = f0.height := hf1h rfl
    simp [hfah, hfad, mkFont, hh1]

theorem xb_core (o : Opts) (p : Pic) (f0 f1 : Font) (two : Bool) (img : List Nat) (d : XbDom p two f0 f1)
    (himg : imageData p.ice o.compress p.rows = some img) (s : Option Sauce.Sauce) (hsf : sauceFonts0 s = [(0, defaultFont)]) :
    ∃ g, xbLoad (xbBody p o.compress two f0 f1 img) s = .ok g ∧ SamePicture .xb p g := by
  have hf1l := d.len1
  obtain ⟨hwf, hw1, hw2, hh, him, hcells, hpal, hpages, hf0, hfok, _, hf1⟩ := d
  obtain ⟨hne, hrows, hwid⟩ := rows_nonempty p hwf
  obtain ⟨h1, h2, h3⟩ := fontOk_parts f0 hfok
  have hdef := Font.eq_default f0
  have hpl : p.pal.length = 16 := (pal16_parts _ hpal).1
  have hp6 : p.pal.all (fun c => sixBit c.1 && sixBit c.2.1 && sixBit c.2.2) = true := (pal16_parts _ hpal).2
  let rows' := p.rows.map fun r => r.map shownCell
  have hdec : (p.rows.flatten.map (encCell (encodeAttr p.ice (analyzeFontUsage p.rows.flatten)))).map (decodeChar (p.ice == .ice) two) =
      rows'.flatten := by
    refine map_dec_enc p.rows _ _ fun r hr c hcr => ?_
    have hac : attrCell (p.ice == IceMode.ice) c = true := allCells_mem hcells hr hcr
    have hpg := page_of_usage p.rows.flatten c (List.mem_flatten.mpr ⟨r, hr, hcr⟩)
    rw [hpages] at hpg ⊢
    cases two with
    | false =>
      simp only [Bool.false_eq_true, if_false] at hpg ⊢
      exact dec_xb_single p.ice him c hac (by simpa using hpg)
    | true =>
      simp only [if_true] at hpg ⊢
      have := allCells_mem (hf1 rfl).2.2.2 hr hcr
      simp only [Bool.and_eq_true, decide_eq_true_eq, Bool.not_eq_true'] at this
      exact dec_xb_two p.ice him c hac (by simpa using hpg) this.1 this.2
  have hgp : (if (!palIsDefault p.pal) = true then from63 (asVec63 p.pal) else dosPalette) = p.pal := by
    by_cases hpd : (!palIsDefault p.pal) = true
    · simp only [hpd, if_true]; exact from63_asVec63 p.pal hp6
    · have : (!palIsDefault p.pal) = false := by simpa using hpd
      simp only [this, Bool.false_eq_true, if_false]
      exact (palIsDefault_false p.pal this).symm
  refine ⟨shownBuf p p.w (if (p.ice == .ice) then .ice else .blink) p.pal (xbFonts two f0 f1) (s.map metaOf), ?_,
    samePicture_shown .xb p p.w _ _ _ hwf (Nat.le_refl _) (by rcases him with h | h <;> rw [h] <;> rfl)
      fun _ => xbFonts_same p _ two f0 f1 rfl hpages hf0 hdef
        (by cases two; exact Or.inr rfl; exact Or.inl (hf1 rfl).1) (fun h => (hf1 h).2.2.1)⟩
  unfold xbBody
  rw [fillTo16_16 _ hpl, xb_load s p.w p.h f0.height (!f0.isDefault || two) (!palIsDefault p.pal) o.compress (p.ice == .ice) two (asVec63 p.pal)
    f0.data f1.data img _ hw1 hw2 hh h1 h2 (by rw [asVec63_length, hpl]) (by rw [h3]; omega) hf1l (by intro h; simp [h]) (loader_pairs himg)]
  rw [hsf, hdec]
  rw [placeAll_shown false false p hwf hw1 _ rfl (Nat.le_refl _) (Or.inr (Int.le_refl _)), crop_shown p hwf hw1 p.w _ rfl]
  simp only [xbBase, shownBuf, xbFonts, hgp]

theorem sauceFonts0_nofont (s : Sauce.Sauce) (h : s.font = none) : sauceFonts0 (some s) = [(0, defaultFont)] := by
  unfold sauceFonts0 startFonts
  simp [h]

theorem xb_roundtrip (o : Opts) (date : List Nat) (p : Pic) (hrep : Representable .xb o p = true) (hdate : dateOk date = true) :
    ∃ bytes, save .xb o date p = .ok bytes ∧
      ((o.sauce = true ∨ tailReadsAsSauce bytes = false) → ∃ g, fromBytes .xb bytes = .ok g ∧ SamePicture .xb p g) := by
  obtain ⟨hmeta, two, f0, f1, d⟩ := (representable_xb o p).mp hrep
  have hlen2 : (analyzeFontUsage p.rows.flatten).length ≤ 2 := by rw [d.pages]; cases two <;> decide
  obtain ⟨img, himg⟩ : ∃ img, imageData p.ice o.compress p.rows = some img :=
    ⟨_, imageData_some p.ice o.compress p.rows hlen2 (fits8_of_cells p _ d.cells)⟩
  refine roundtrip_of_body .xb .xbin o date p _ (xbSave_body o date p two f0 f1 d img himg) hmeta hdate
    (fun _ => ⟨f0, d.font0, nofun, fun hl => xb_core o p f0 f1 two img d himg _ ?_⟩) (fun _ => xb_core o p f0 f1 two img d himg none rfl)
  exact sauceFonts0_nofont _ (IcyVerif.C11.carry_plain 8 (by decide) (bufInfo p f0.name) hl).2.2.2.2.2.1

end IcyVerif.BinFormats
