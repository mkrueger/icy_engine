import IcyVerif.Lemmas.BinFormatsRange
/-!
# C05, ArtWorx ADF: every file the loader accepts loads to a picture the writer reproduces
-/
namespace IcyVerif.BinFormats
open IcyVerif.XbCompress IcyVerif.Gen

/-- what `Artworx::load_buffer` can return -/
structure AdfRange (s : Option Sauce.Sauce) (g : LBuf) : Prop where
  bw : g.bw = 80
  ice : g.ice = .ice
  pal : pal16 g.pal = true
  font : ∃ fd, g.fonts = [(0, mkFont 16 fd)] ∧ fd.length = 4096
  lh : g.lh = g.bh
  sauce : g.sauce = s.map metaOf
  cells : CellsOK (fun c => attrCell true c = true ∧ c.attr.page = 0) g.lines

theorem adf_range (data : List Nat) (hb : ∀ b ∈ data, b < 256) (s : Option Sauce.Sauce) (g : LBuf) (h : adfLoad data s = .ok g) :
    AdfRange s g := by
  unfold adfLoad at h
  rw [show (BinFmt.adfClearsRows == 1) = true from rfl] at h
  generalize hb0 : (LBuf.start BinFmt.adfStartW BinFmt.adfStartH true).setSauce true s = b0 at h
  obtain ⟨hl0, _, _, _, _, hs0⟩ := start_ok _ _ (by decide) s b0 hb0
  obtain ⟨hlen, h⟩ := ok_of_ite_err h
  obtain _ | ⟨ver, rest⟩ := data
  · cases h
  obtain ⟨_, h⟩ := ok_of_ite_err h
  have hg := Out.ok.inj h
  have hrl : 4288 ≤ rest.length := by
    have : BinFmt.adfHeaderLength = 4289 := rfl
    simp only [List.length_cons, this] at hlen; omega
  have hbr : ∀ b ∈ rest, b < 256 := fun b hbm => hb b (List.mem_cons_of_mem _ hbm)
  have hcells := attr_cells true rest hbr (pairsOf ((rest.drop BinFmt.adfPaletteSize).drop BinFmt.adfFontSize)) fun p hp =>
    ⟨List.mem_of_mem_drop (List.mem_of_mem_drop (pairsOf_mem _ p hp).1), List.mem_of_mem_drop (List.mem_of_mem_drop (pairsOf_mem _ p hp).2)⟩
  generalize ((pairsOf ((rest.drop BinFmt.adfPaletteSize).drop BinFmt.adfFontSize)).map fun p => (⟨p.1, fromU8 true p.2⟩ : Cell)) = cells
    at hg hcells
  generalize hb2 : ({ ({ b0 with bw := BinFmt.adfWidth, ice := IceMode.ice } : LBuf) with
      pal := fromEgaData (rest.take BinFmt.adfPaletteSize),
      fonts := [(0, mkFont 16 ((rest.drop BinFmt.adfPaletteSize).take BinFmt.adfFontSize))] } : LBuf) = b2 at hg
  have hp := placeAll_placed (fun c => attrCell true c = true ∧ c.attr.page = 0) true false 0 (BinFmt.adfWidth - 1) cells b2 0 0 hcells
  subst hg hb2
  refine ⟨hp.bw, hp.ice, hp.pal ▸ pal16_fromEga _ fun b hbm => hbr b (List.mem_of_mem_take hbm), ⟨_, hp.fonts, ?_⟩, rfl, hp.sauce.trans hs0,
    cellsOK_crop _ _ (hp.cells (hl0 ▸ cellsOK_nil _))⟩
  rw [List.length_take, List.length_drop, show BinFmt.adfPaletteSize = 192 from rfl, show BinFmt.adfFontSize = 4096 from rfl]; omega

theorem adf_loaded_representable (o : Opts) (s : Option Sauce.Sauce) (g : LBuf) (hr : AdfRange s g) (hm : metaOk g.sauce = true)
    (hh : 1 ≤ g.bh) (hh2 : g.bh ≤ 65535) : Representable .adf o g.toPic = true := by
  obtain ⟨hwf, hcells, hpg⟩ := attr_toPic g true hr.cells hh (by rw [hr.bw]; decide)
  obtain ⟨fd, hfd, hfl⟩ := hr.font
  exact (representable_adf o _).mpr ⟨hm, hr.bw, by show g.bh.toNat ≤ 65535; omega, mkFont 16 fd, hwf, hr.ice, hcells, hr.pal, hpg,
    by show lookupFont g.fonts 0 = _; rw [hfd]; exact lookupFont_single _, rfl, hfl⟩

end IcyVerif.BinFormats
