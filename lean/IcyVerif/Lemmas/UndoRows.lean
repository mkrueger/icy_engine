import IcyVerif.Lemmas.UndoOps
/-! # C08: what the row and column records (they carry raw rows / cells as payload) and the whole-layer scroll do to the
observation of a layer, with the cancellation laws -/
namespace IcyVerif.Undo

/-! Deleting and inserting a row or a column acts on the cells, seen as a function of the row (column) index, by
`cutAt` / `putAt` (`Lemmas/UndoList`); the two undo each other. -/

theorem rowsGet_eraseIdx (ls : List Row) (k x y : Nat) : rowsGet (ls.eraseIdx k) x y = cutAt k (rowsGet ls x) y := by
  unfold rowsGet
  rw [getD_eraseIdx]
  simp only [cutAt]
  split <;> rfl

theorem rowsGet_insertIdx (ls : List Row) (k x y : Nat) (r : Row) (hk : k ≤ ls.length) :
    rowsGet (ls.insertIdx k r) x y = putAt k (r.getD x Cell.invisible) (rowsGet ls x) y := by
  unfold rowsGet
  rw [getD_insertIdx _ _ _ _ hk]
  simp only [putAt]
  split
  · rfl
  · split <;> rfl

/-- the observation with row `k` taken out (hidden rows move up too) -/
def LObs.removeRow (a : LObs) (k : Nat) : LObs :=
  match a with
  | (w, h, p, c) => (w, h - 1, p, fun x => cutAt k (c x))

def LObs.insertRow (a : LObs) (k : Nat) (r : Nat → Cell) : LObs :=
  match a with
  | (w, h, p, c) => (w, h + 1, p, fun x => putAt k (r x) (c x))

theorem LObs.removeRow_insertRow (a : LObs) (k : Nat) (r : Nat → Cell) : (a.insertRow k r).removeRow k = a := by
  obtain ⟨w, h, p, c⟩ := a
  simp only [LObs.insertRow, LObs.removeRow, Int.add_sub_cancel, cutAt_putAt]

theorem LObs.insertRow_removeRow (a : LObs) (k : Nat) : (a.removeRow k).insertRow k (fun x => a.cells x k) = a := by
  obtain ⟨w, h, p, c⟩ := a
  simp only [LObs.insertRow, LObs.removeRow, LObs.cells, Int.sub_add_cancel, putAt_cutAt]

theorem rowsGet_of_insertRow {m : LayerM} {a : LObs} {k : Nat} {r : Nat → Cell} (h : m.obs = a.insertRow k r) (x : Nat) :
    rowsGet m.lines x k = r x := by
  rw [show rowsGet m.lines = _ from congrArg LObs.cells h]
  show (if k < k then _ else if k = k then _ else _) = _
  rw [if_neg (Nat.lt_irrefl _), if_pos rfl]

theorem deleteRowRedo_obs (l : LayerM) (k : Nat) :
    (deleteRowRedo l k).2.obs = l.obs.removeRow k ∧ ∀ x, (deleteRowRedo l k).1.getD x Cell.invisible = rowsGet l.lines x k := by
  constructor
  · simp only [deleteRowRedo, LayerM.obs, LObs.removeRow]
    congr 3
    funext x y
    rw [rowsGet_eraseIdx, rowsGet_growTo]
  · intro x
    exact congrFun (congrFun (rowsGet_growTo l.lines (k + 1)) x) k

theorem deleteRowUndo_obs (l : LayerM) (k : Nat) (r : Row) :
    ({ l with lines := (growTo l.lines k []).insertIdx k r, h := l.h + 1 } : LayerM).obs =
      l.obs.insertRow k (fun x => r.getD x Cell.invisible) := by
  simp only [LayerM.obs, LObs.insertRow]
  congr 3
  funext x y
  rw [rowsGet_insertIdx _ _ _ _ _ (length_growTo _ _ _), rowsGet_growTo]

theorem insertRowRedo_obs (l : LayerM) (k : Nat) (row : Row) :
    (insertRowRedo l k row).obs = l.obs.insertRow k (fun x => row.getD x Cell.invisible) := by
  simp only [insertRowRedo, LayerM.obs, LObs.insertRow]
  congr 3
  funext x y
  rw [rowsGet_insertIdx _ _ _ _ _ (by have := length_growTo l.lines (k + 1) ([] : Row); omega), rowsGet_growTo]

theorem insertRowUndo_obs (l : LayerM) (k : Nat) :
    ({ l with lines := l.lines.eraseIdx k, h := l.h - 1 } : LayerM).obs = l.obs.removeRow k ∧
      (l.lines.length ≤ k → ({ l with h := l.h - 1 } : LayerM).obs = l.obs.removeRow k) := by
  constructor
  · simp only [LayerM.obs, LObs.removeRow]
    congr 3
    funext x y
    exact rowsGet_eraseIdx _ _ _ _
  · intro hk
    simp only [LayerM.obs, LObs.removeRow]
    congr 3
    funext x y
    show _ = if y < k then _ else _
    split
    · rfl
    · rw [rowsGet_beyond _ _ _ (by omega), rowsGet_beyond _ _ _ (by omega)]

theorem putAt_col (o : Nat) (c : Nat → Nat → Cell) (x y : Nat) :
    putAt o (fun _ => Cell.invisible) c x y = putAt o Cell.invisible (fun x => c x y) x := by
  simp only [putAt]
  split
  · rfl
  · split <;> rfl

theorem cutAt_col (o : Nat) (c : Nat → Nat → Cell) (x y : Nat) : cutAt o c x y = cutAt o (fun x => c x y) x := by
  simp only [cutAt]
  split <;> rfl

theorem row_insertCol (r : Row) (o x : Nat) :
    (if r.length ≥ o then r.insertIdx o Cell.invisible else r).getD x Cell.invisible =
      putAt o Cell.invisible (fun x => r.getD x Cell.invisible) x := by
  by_cases h : r.length ≥ o
  · rw [if_pos h, getD_insertIdx _ _ _ _ h]
  · rw [if_neg h]
    simp only [putAt]
    split
    · rfl
    · rw [getD_beyond r x (by omega)]
      split
      · rfl
      · rw [getD_beyond r (x - 1) (by omega)]

theorem row_eraseCol (r : Row) (o x : Nat) :
    (if r.length > o then r.eraseIdx o else r).getD x Cell.invisible = cutAt o (fun x => r.getD x Cell.invisible) x := by
  by_cases h : r.length > o
  · rw [if_pos h, getD_eraseIdx]
  · rw [if_neg h]
    simp only [cutAt]
    split
    · rfl
    · rw [getD_beyond r x (by omega), getD_beyond r (x + 1) (by omega)]

theorem rowsGet_map (ls : List Row) (g : Row → Row) (x y : Nat) (hg : (g []).getD x Cell.invisible = Cell.invisible) :
    rowsGet (ls.map g) x y = (g (ls.getD y [])).getD x Cell.invisible := by
  simp only [rowsGet, List.getD_eq_getElem?_getD, List.getElem?_map]
  cases ls[y]? with
  | none =>
    have hg' := hg
    rw [List.getD_eq_getElem?_getD] at hg'
    simp [hg']
  | some r => simp

/-- a column put in / taken out at the caret column; a negative column changes the width only -/
def LObs.insertColumn (a : LObs) (col : Int) : LObs :=
  match a with
  | (w, h, p, c) => (w + 1, h, p, match colIdx col with | none => c | some o => putAt o (fun _ => Cell.invisible) c)

def LObs.removeColumn (a : LObs) (col : Int) : LObs :=
  match a with
  | (w, h, p, c) => (w - 1, h, p, match colIdx col with | none => c | some o => cutAt o c)

theorem LObs.removeColumn_insertColumn (a : LObs) (col : Int) : (a.insertColumn col).removeColumn col = a := by
  obtain ⟨w, h, p, c⟩ := a
  simp only [LObs.insertColumn, LObs.removeColumn, Int.add_sub_cancel]
  cases colIdx col <;> simp only [cutAt_putAt]

theorem insertColumnRedo_obs (l : LayerM) (col : Int) : (insertColumnRedo l col).obs = l.obs.insertColumn col := by
  unfold insertColumnRedo LObs.insertColumn
  cases hc : colIdx col with
  | none => rfl
  | some o =>
    simp only [LayerM.obs]
    congr 3
    funext x y
    rw [rowsGet_map _ _ _ _ (by rw [row_insertCol]; simp [putAt]), row_insertCol, putAt_col]
    rfl

theorem insertColumnUndo_obs (l : LayerM) (col : Int) : (insertColumnUndo l col).obs = l.obs.removeColumn col := by
  unfold insertColumnUndo LObs.removeColumn
  cases hc : colIdx col with
  | none => rfl
  | some o =>
    simp only [LayerM.obs]
    congr 3
    funext x y
    rw [rowsGet_map _ _ _ _ (by rw [row_eraseCol]; simp [cutAt]), row_eraseCol, cutAt_col]
    rfl

theorem getD_insertCell (r : Row) (o x : Nat) (c : Cell) :
    (r.insertCell o c).getD x Cell.invisible = putAt o c (fun x => r.getD x Cell.invisible) x := by
  unfold Row.insertCell
  rw [getD_insertIdx _ _ _ _ (length_growTo _ _ _)]
  simp only [getD_growTo_inv]

/-- one row after `DeleteColumn::undo`: the recorded cell, if there is one, is back at column `o` -/
def colBack (o : Nat) (dc : Option Cell) (f : Nat → Cell) : Nat → Cell :=
  match dc with
  | some c => putAt o c f
  | none => f

theorem go_view (o : Nat) (del : List (Option Cell)) : ∀ (i : Nat) (lines : List Row) (x y : Nat),
    rowsGet (deleteColumnUndo.go o i del lines) x y =
      if y < i then rowsGet lines x y else colBack o (del.getD (y - i) none) (fun x => rowsGet lines x y) x := by
  induction del with
  | nil => intro i lines x y; simp [deleteColumnUndo.go, colBack]
  | cons dc rest ih =>
    intro i lines x y
    -- one step of the loop: row `i` has its cell back
    obtain ⟨lines', hgo, hv⟩ : ∃ lines', deleteColumnUndo.go o i (dc :: rest) lines = deleteColumnUndo.go o (i + 1) rest lines' ∧
        ∀ x' y', rowsGet lines' x' y' = if y' = i then colBack o dc (fun x => rowsGet lines x i) x' else rowsGet lines x' y' := by
      cases dc with
      | none =>
        refine ⟨lines, rfl, fun x' y' => ?_⟩
        split
        · rename_i h; rw [h]; rfl
        · rfl
      | some c =>
        refine ⟨_, rfl, fun x' y' => ?_⟩
        rw [rowsGet_set _ _ _ _ _ (by have := length_growTo lines (i + 1) ([] : Row); omega)]
        split
        · rw [getD_insertCell]
          show putAt o c (fun z => rowsGet (growTo lines (i + 1) []) z i) x' = _
          rw [rowsGet_growTo]
          rfl
        · rw [rowsGet_growTo]
    rw [hgo, ih]
    by_cases h1 : y < i
    · rw [if_pos h1, if_pos (by omega), hv, if_neg (by omega)]
    · rw [if_neg h1]
      by_cases h2 : y = i
      · subst h2
        rw [if_pos (by omega), hv, if_pos rfl, Nat.sub_self]
        rfl
      · rw [if_neg (by omega), show y - i = (y - (i + 1)) + 1 by omega, List.getD_cons_succ]
        simp only [hv, if_neg h2]

theorem colIdx_neg {col : Int} (h : col < 0) : colIdx col = none := by simp [colIdx, h]
theorem colIdx_nonneg {col : Int} (h : ¬ col < 0) : colIdx col = some col.toNat := by simp [colIdx, h]

/-- what a recorded column says about the layer it was taken from: the cell of each row that reaches the column, nothing
    for the rows that end before it (and nothing at all for a negative column) -/
def ColOf (l : LayerM) (col : Int) (del : List (Option Cell)) : Prop :=
  (col < 0 → ∀ y, del.getD y none = none) ∧
  (¬ col < 0 → ∀ y, match del.getD y none with
    | some c => c = rowsGet l.lines col.toNat y
    | none => ∀ x, col.toNat ≤ x → rowsGet l.lines x y = Cell.invisible)

theorem deleteColumnRedo_obs (l : LayerM) (col : Int) :
    (deleteColumnRedo l col).2.obs = l.obs.removeColumn col ∧ ColOf l col (deleteColumnRedo l col).1 := by
  unfold ColOf
  by_cases hneg : col < 0
  · have hc := colIdx_neg hneg
    refine ⟨?_, ?_, fun h => absurd hneg h⟩
    · simp [deleteColumnRedo, LObs.removeColumn, hc, LayerM.obs]
    · intro _ y
      simp only [deleteColumnRedo, hc, List.getD_eq_getElem?_getD, List.getElem?_map]
      cases l.lines[y]? <;> simp
  · have hc := colIdx_nonneg hneg
    refine ⟨?_, fun h => absurd h hneg, ?_⟩
    · simp only [deleteColumnRedo, LObs.removeColumn, hc, LayerM.obs]
      congr 3
      funext x y
      rw [rowsGet_map _ _ _ _ (by simp), cutAt_col]
      exact row_eraseCol (l.lines.getD y []) col.toNat x
    · intro _ y
      simp only [deleteColumnRedo, hc, List.getD_eq_getElem?_getD, List.getElem?_map, rowsGet]
      cases hy : l.lines[y]? with
      | none => simp
      | some r =>
        simp only [Option.map_some, Option.getD_some]
        by_cases ho : col.toNat < r.length
        · simp [ho]
        · simp only [ho, if_false]
          intro x hx
          rw [← List.getD_eq_getElem?_getD]
          exact getD_beyond r x (by omega)

/-- the observation after `DeleteColumn::undo` (`del`: one entry per row; `none`: nothing recorded) -/
def LObs.restoreColumn (a : LObs) (col : Int) (del : Nat → Option Cell) : LObs :=
  match a with
  | (w, h, p, c) => (w + 1, h, p, fun x y => colBack col.toNat (del y) (fun x => c x y) x)

theorem deleteColumnUndo_obs (l : LayerM) (col : Int) (del : List (Option Cell)) :
    (deleteColumnUndo l col del).obs = l.obs.restoreColumn col (fun y => del.getD y none) := by
  simp only [deleteColumnUndo, LayerM.obs, LObs.restoreColumn]
  congr 3
  funext x y
  rw [go_view]
  simp only [Nat.not_lt_zero, if_false, Nat.sub_zero]

theorem LObs.restoreColumn_removeColumn (l : LayerM) (col : Int) (del : List (Option Cell)) (h : ColOf l col del) :
    (l.obs.removeColumn col).restoreColumn col (fun y => del.getD y none) = l.obs := by
  obtain ⟨hP1, hP2⟩ := h
  simp only [LObs.restoreColumn, LObs.removeColumn, LayerM.obs, Int.sub_add_cancel]
  congr 3
  funext x y
  by_cases hneg : col < 0
  · rw [colIdx_neg hneg, hP1 hneg y]
    rfl
  · rw [colIdx_nonneg hneg]
    have hy := hP2 hneg y
    have hc : (fun x => cutAt col.toNat (rowsGet l.lines) x y) = cutAt col.toNat (fun x => rowsGet l.lines x y) :=
      funext fun x => cutAt_col _ _ _ _
    show colBack col.toNat (del.getD y none) (fun x => cutAt col.toNat (rowsGet l.lines) x y) x = _
    rw [hc]
    cases hd : del.getD y none with
    | some c =>
      rw [hd] at hy
      rw [hy]
      exact congrFun (putAt_cutAt col.toNat fun x => rowsGet l.lines x y) x
    | none =>
      rw [hd] at hy
      show cutAt col.toNat (fun x => rowsGet l.lines x y) x = _
      simp only [cutAt]
      split
      · rfl
      · rw [hy x (by omega), hy (x + 1) (by omega)]

theorem rot_view (L : List Row) (h n : Nat) (hlen : h ≤ L.length) (hn : n ≤ h) (x y : Nat) :
    rowsGet (((L.take h).drop n ++ (L.take h).take n) ++ L.drop h) x y = rotAt h n (rowsGet L x) y := by
  have hmin : min h L.length = h := by omega
  have hmin' : min n h = n := by omega
  simp only [rotAt, rowsGet, List.getD_eq_getElem?_getD, List.getElem?_append, List.getElem?_drop, List.getElem?_take,
    List.length_append, List.length_drop, List.length_take, hmin, hmin']
  by_cases hy : y < h
  · by_cases h1 : y + n < h
    · have c1 : y < h - n := by omega
      have c2 : y < h - n + n := by omega
      have c3 : n + y < h := by omega
      simp only [hy, h1, c1, c2, if_true, Nat.add_comm n y]
    · have c1 : ¬ y < h - n := by omega
      have c2 : y < h - n + n := by omega
      have c3 : y - (h - n) < n := by omega
      have c4 : y - (h - n) < h := by omega
      have c5 : y - (h - n) = y + n - h := by omega
      rw [c5] at c3 c4
      simp only [hy, h1, c1, c2, c3, c4, c5, if_true, if_false]
  · have c1 : ¬ y < h - n + n := by omega
    have c2 : h + (y - (h - n + n)) = y := by omega
    simp only [hy, c1, c2, if_false]

/-- the visible rows rotated by `n`; hidden rows stay -/
def LObs.rot (a : LObs) (n : Nat) : LObs :=
  match a with
  | (w, h, p, c) => (w, h, p, fun x => rotAt h.toNat n (c x))

theorem LObs.rot_rot (a : LObs) (n : Nat) (hn : n ≤ a.h.toNat) : (a.rot n).rot (a.h.toNat - n) = a := by
  obtain ⟨w, h, p, c⟩ := a
  simp only [LObs.rot, rotAt_rotAt _ _ _ hn]

/-- scrolling up rotates by one row (by none on an empty layer), scrolling down by all but one -/
def LObs.scroll (a : LObs) (up : Bool) : LObs :=
  a.rot (if up then (if a.h.toNat > 0 then 1 else 0) else a.h.toNat - (if a.h.toNat > 0 then 1 else 0))

theorem scrollRows_obs (l : LayerM) (up : Bool) : (scrollRows l up).obs = l.obs.scroll up := by
  have hlen : l.h.toNat ≤ (growTo l.lines l.h.toNat ([] : Row)).length := length_growTo _ _ _
  have hk : (if l.h.toNat > 0 then 1 else 0) ≤ l.h.toNat := by split <;> omega
  have hvis : ((growTo l.lines l.h.toNat ([] : Row)).take l.h.toNat).length = l.h.toNat := by simp; omega
  cases up <;>
  · simp only [scrollRows, LObs.scroll, LObs.rot, LayerM.obs, hvis, if_true, Bool.false_eq_true, if_false]
    congr 3
    funext x y
    rw [rot_view _ _ _ hlen (by omega), rowsGet_growTo]
    rfl

theorem LObs.scroll_scroll (a : LObs) (up : Bool) : (a.scroll up).scroll (!up) = a := by
  have hk : (if a.h.toNat > 0 then 1 else 0) ≤ a.h.toNat := by split <;> omega
  cases up
  · have := LObs.rot_rot a (a.h.toNat - (if a.h.toNat > 0 then 1 else 0)) (by omega)
    rw [show a.h.toNat - (a.h.toNat - (if a.h.toNat > 0 then 1 else 0)) = (if a.h.toNat > 0 then 1 else 0) by omega] at this
    exact this
  · exact LObs.rot_rot a _ hk

theorem inverseAt_scroll (o : UndoOp) (i : Nat) (up : Bool) (hredo : ∀ e, o.redo e = onLayerN (some .err) e i o (scrollRows · up))
    (hundo : ∀ e, o.undo e = onLayerN (some .err) e i o (scrollRows · (!up))) (d : Doc) : InverseAt o d :=
  inverseAt_onLayer o i (some .err) _ _ (·.scroll up) (·.scroll (!up)) (scrollRows_obs · up) (scrollRows_obs · (!up)) hredo hundo
    (fun l _ => LObs.scroll_scroll l.obs up)

end IcyVerif.Undo
