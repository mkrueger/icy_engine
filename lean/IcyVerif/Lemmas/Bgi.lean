import IcyVerif.Model.Bgi
import IcyVerif.Lemmas.Basics
/-! The BGI core model: `Frame` / `Geom` (what a primitive / any call keeps), `put_pixel`, the contract `Draws` of an operation built
from it, clip rectangles (`Rect.Small`) and the work of `bar_rect`.  (`Frame` / `Draws` are here what `Kept` / `Runs` of `Lemmas/IgsPaint.lean`
are for the IGS model; the rules differ because this model sequences `Option` with `match`, that one with `do`.) -/
namespace IcyVerif.Bgi

theorem chk_some {v r : Int} (h : chk v = some r) : r = v ∧ i32Min ≤ v ∧ v ≤ i32Max := by
  unfold chk at h
  split at h
  · cases h; rename_i hc; exact ⟨rfl, hc⟩
  · cases h

/-- a value inside i32 passes the check (the bounds written out, for `omega`) -/
theorem chk_in {v : Int} (h : -2147483648 ≤ v ∧ v ≤ 2147483647) : chk v = some v := by
  unfold chk; exact if_pos h

/-- nothing but screen cells changed, and the screen kept its length -/
def Frame (s s' : Bgi) : Prop := s' = { s with screen := s'.screen } ∧ s'.screen.size = s.screen.size

theorem Frame.refl (s : Bgi) : Frame s s := ⟨rfl, rfl⟩
theorem Frame.trans {a b c : Bgi} (h1 : Frame a b) (h2 : Frame b c) : Frame a c :=
  ⟨by rw [h2.1, h1.1], by rw [h2.2, h1.2]⟩
theorem Frame.size {s s' : Bgi} (h : Frame s s') : s'.screen.size = s.screen.size := h.2
theorem Frame.vp {s s' : Bgi} (h : Frame s s') : s'.vp = s.vp := by rw [h.1]
theorem Frame.winW {s s' : Bgi} (h : Frame s s') : s'.winW = s.winW := by rw [h.1]
theorem Frame.winH {s s' : Bgi} (h : Frame s s') : s'.winH = s.winH := by rw [h.1]
/-- screen length and window unchanged: what every modelled call keeps, setters included -/
def Geom (s s' : Bgi) : Prop := s'.screen.size = s.screen.size ∧ s'.winW = s.winW ∧ s'.winH = s.winH

theorem Geom.refl (s : Bgi) : Geom s s := ⟨rfl, rfl, rfl⟩
theorem Geom.trans {a b c : Bgi} (h1 : Geom a b) (h2 : Geom b c) : Geom a c :=
  ⟨h2.1.trans h1.1, h2.2.1.trans h1.2.1, h2.2.2.trans h1.2.2⟩
theorem Frame.geom {s s' : Bgi} (h : Frame s s') : Geom s s' := ⟨h.2, h.winW, h.winH⟩

theorem putPixel_framed {s s' : Bgi} {x y : Int} {c : Nat} (h : putPixel s x y c = some s') : Frame s s' := by
  unfold putPixel at h
  split at h
  · cases h
  · cases h; exact Frame.refl s
  · split at h
    · cases h
    · split at h
      · cases h
      · split at h
        · cases h; exact ⟨rfl, by simp⟩
        · cases h; exact Frame.refl s

/-- a viewport whose coordinates are far from the ends of the i32 range (every viewport a RIP stream can set
has coordinates in 0..=1295 and sizes in -1295..=1295) -/
def VpSane (r : Rect) : Prop :=
  -524288 ≤ r.x ∧ r.x ≤ 524288 ∧ -524288 ≤ r.y ∧ r.y ≤ 524288 ∧
  -524288 ≤ r.w ∧ r.w ≤ 524288 ∧ -524288 ≤ r.h ∧ r.h ≤ 524288

theorem contains_sane {r : Rect} (hs : VpSane r) (x y : Int) :
    ∃ b, r.contains x y = some b ∧ (b = true → r.x ≤ x ∧ x ≤ r.x + r.w ∧ r.y ≤ y ∧ y ≤ r.y + r.h) := by
  obtain ⟨h1, h2, h3, h4, h5, h6, h7, h8⟩ := hs
  unfold Rect.contains
  have c1 : chk (r.x + r.w) = some (r.x + r.w) := chk_in (by omega)
  have c2 : chk (r.y + r.h) = some (r.y + r.h) := chk_in (by omega)
  by_cases hx : r.x ≤ x
  · simp only [hx, if_true, c1]
    by_cases hx2 : x ≤ r.x + r.w
    · simp only [hx2, if_true]
      by_cases hy : r.y ≤ y
      · simp only [hy, if_true, c2]
        refine ⟨_, rfl, ?_⟩
        intro hb
        simp at hb
        simp [hb]
      · simp only [hy, if_false]
        exact ⟨false, rfl, by simp⟩
    · simp only [hx2, if_false]
      exact ⟨false, rfl, by simp⟩
  · simp only [hx, if_false]
    exact ⟨false, rfl, by simp⟩

theorem putPixel_total (s : Bgi) (hs : VpSane s.vp) (hw : 0 ≤ s.winW ∧ s.winW ≤ 1024) (x y : Int) (c : Nat) :
    ∃ s', putPixel s x y c = some s' := by
  obtain ⟨b, hb, hbt⟩ := contains_sane hs x y
  unfold putPixel
  rw [hb]
  cases b with
  | false => exact ⟨s, rfl⟩
  | true =>
    simp only []
    obtain ⟨hx1, hx2, hy1, hy2⟩ := hbt rfl
    obtain ⟨h1, h2, h3, h4, h5, h6, h7, h8⟩ := hs
    have hyb : -524288 ≤ y ∧ y ≤ 1048576 := by omega
    have hxb : -524288 ≤ x ∧ x ≤ 1048576 := by omega
    have hmul := Basics.mul_bounds (a := 1048576) (b := 1024) (y := y) (w := s.winW) (by omega) (by omega)
    rw [chk_in (by omega)]
    simp only []
    rw [chk_in (by omega)]
    simp only []
    split
    · exact ⟨_, rfl⟩
    · exact ⟨_, rfl⟩

/-- what `put_pixel` needs of the state to return (1024: a chosen bound, any width ≥ 640 that keeps `y * winW` inside i32 for `y`
within ±2^20 would do) -/
def PutOk (s : Bgi) : Prop := VpSane s.vp ∧ 0 ≤ s.winW ∧ s.winW ≤ 1024

theorem PutOk.of_frame {s s' : Bgi} (h : PutOk s) (f : Frame s s') : PutOk s' := by
  unfold PutOk at *; rw [f.vp, f.winW]; exact h

/-- The contract of a drawing operation started in `s` (result `a`, new state `st a`): a `Frame` and `P a` whenever it returns (all
arguments); a return under `C`.  After `split` on the model's `match` the arms close by `fails` / `andThen`; their trailing arguments say how
`C` gives the condition of the first part / of the rest along the frame (defaults: the same / `PutOk`). -/
structure Draws {α : Type} (s : Bgi) (st : α → Bgi) (P : α → Prop) (C : Prop) (o : Option α) : Prop where
  post : ∀ a, o = some a → Frame s (st a) ∧ P a
  total : C → ∃ a, o = some a

namespace Draws
variable {α β : Type} {s : Bgi} {st : α → Bgi} {st' : β → Bgi} {P : α → Prop} {R : β → Prop} {C C1 C2 : Prop} {o : Option α}

theorem ret {a : α} (hs : st a = s) (h : P a) : Draws s st P C (some a) :=
  ⟨fun _ e => by cases e; exact ⟨hs ▸ Frame.refl s, h⟩, fun _ => ⟨a, rfl⟩⟩

theorem andThen {m : Option β} {a : α} (h1 : Draws s st P C1 o) (e : o = some a) (h2 : Frame s (st a) → P a → Draws (st a) st' R C2 m)
    (c2 : C → Frame s (st a) → C2 := by exact PutOk.of_frame) : Draws s st' R C m := by
  obtain ⟨f, pa⟩ := h1.post a e
  exact ⟨fun b eb => ⟨f.trans ((h2 f pa).post b eb).1, ((h2 f pa).post b eb).2⟩, fun hc => (h2 f pa).total (c2 hc f)⟩

theorem fails (h1 : Draws s st P C1 o) (e : o = none) (c1 : C → C1 := by exact id) : Draws s st' R C none :=
  ⟨fun _ e => (nomatch e), fun hc => by obtain ⟨_, e'⟩ := h1.total (c1 hc); rw [e] at e'; cases e'⟩

theorem map {g : α → β} (h : Draws s st P C o) (hst : ∀ a, st' (g a) = st a) (hp : ∀ a, P a → R (g a)) : Draws s st' R C (o.map g) := by
  cases o with
  | none => exact ⟨fun _ e => (nomatch e), fun hc => by obtain ⟨_, e⟩ := h.total hc; cases e⟩
  | some a => exact ⟨fun b e => by cases e; rw [hst]; exact ⟨(h.post a rfl).1, hp a (h.post a rfl).2⟩, fun _ => ⟨_, rfl⟩⟩

theorem mono {P' : α → Prop} (h : Draws s st P C o) (hp : ∀ a, Frame s (st a) → P a → P' a) : Draws s st P' C o :=
  ⟨fun a e => ⟨(h.post a e).1, hp a (h.post a e).1 (h.post a e).2⟩, h.total⟩

theorem ite {c : Prop} [Decidable c] {a b : Option α} (ha : c → Draws s st P C a) (hb : ¬ c → Draws s st P C b) :
    Draws s st P C (if c then a else b) := by
  split
  · exact ha ‹_›
  · exact hb ‹_›

theorem frame {a : α} (h : Draws s st P C o) (e : o = some a) : Frame s (st a) := (h.post a e).1
end Draws

theorem putPixel_draws (s : Bgi) (x y : Int) (c : Nat) : Draws s id (fun _ => True) (PutOk s) (putPixel s x y c) :=
  ⟨fun _ e => ⟨putPixel_framed e, trivial⟩, fun hl => putPixel_total s hl.1 hl.2 x y c⟩

theorem solidRow_spec (count : Nat) : ∀ (scr : Array Nat) (start : Int) (c : Nat),
    (solidRow scr start count c).1.size = scr.size ∧ (solidRow scr start count c).2 ≤ count := by
  induction count with
  | zero => intro scr start c; simp [solidRow]
  | succ k ih =>
    intro scr start c
    unfold solidRow
    split
    · obtain ⟨h1, h2⟩ := ih (scr.setIfInBounds start.toNat c) (start + 1) c
      simp only []
      constructor
      · rw [h1]; simp
      · omega
    · simp

theorem patRow_spec (count : Nat) : ∀ (scr : Array Nat) (start : Int) (pat mask fc bk : Nat),
    (patRow scr start count pat mask fc bk).1.size = scr.size ∧ (patRow scr start count pat mask fc bk).2 ≤ count := by
  induction count with
  | zero => intro scr start pat mask fc bk; simp [patRow]
  | succ k ih =>
    intro scr start pat mask fc bk
    unfold patRow
    split
    · simp only []
      obtain ⟨h1, h2⟩ := ih (scr.setIfInBounds start.toNat (if Nat.land pat mask ≠ 0 then fc else bk)) (start + 1) pat
        (if mask / 2 = 0 then 128 else mask / 2) fc bk
      constructor
      · rw [h1]; simp
      · omega
    · simp

theorem solidRows_spec (rows : Nat) : ∀ (scr : Array Nat) (ystart : Int) (cols : Nat) (winW : Int) (c cost : Nat)
    (scr' : Array Nat) (n : Nat),
    solidRows scr ystart rows cols winW c cost = some (scr', n) →
    scr'.size = scr.size ∧ n ≤ cost + rows * (cols + 1) := by
  induction rows with
  | zero =>
    intro scr ystart cols winW c cost scr' n h
    simp [solidRows] at h
    obtain ⟨h1, h2⟩ := h
    subst h1; subst h2
    simp
  | succ k ih =>
    intro scr ystart cols winW c cost scr' n h
    unfold solidRows at h
    simp only [] at h
    obtain ⟨hs1, hs2⟩ := solidRow_spec cols scr ystart c
    cases hc : chk (ystart + winW) with
    | none => simp [hc] at h
    | some ys =>
      simp only [hc] at h
      obtain ⟨h1, h2⟩ := ih _ _ _ _ _ _ _ _ h
      constructor
      · rw [h1, hs1]
      · have : (k + 1) * (cols + 1) = k * (cols + 1) + (cols + 1) := by
          rw [Nat.add_mul]; simp
        omega

theorem patRows_spec (rows : Nat) : ∀ (scr : Array Nat) (ystart : Int) (cols : Nat) (winW left ypat : Int) (pattern : List Nat)
    (fc bk cost : Nat) (scr' : Array Nat) (n : Nat),
    patRows scr ystart rows cols winW left ypat pattern fc bk cost = some (scr', n) →
    scr'.size = scr.size ∧ n ≤ cost + rows * (cols + 1) := by
  induction rows with
  | zero =>
    intro scr ystart cols winW left ypat pattern fc bk cost scr' n h
    simp [patRows] at h
    obtain ⟨h1, h2⟩ := h
    subst h1; subst h2
    simp
  | succ k ih =>
    intro scr ystart cols winW left ypat pattern fc bk cost scr' n h
    unfold patRows at h
    simp only [] at h
    split at h
    · cases h
    · split at h
      · cases h
      · split at h
        · cases h
        · rename_i pat hpat
          obtain ⟨hs1, hs2⟩ := patRow_spec cols scr ystart pat (128 / 2 ^ (remI left 8).toNat) fc bk
          cases hc : chk (ystart + winW) with
          | none => simp [hc] at h
          | some ys =>
            simp only [hc] at h
            obtain ⟨h1, h2⟩ := ih _ _ _ _ _ _ _ _ _ _ _ _ h
            constructor
            · rw [h1, hs1]
            · have : (k + 1) * (cols + 1) = k * (cols + 1) + (cols + 1) := by
                rw [Nat.add_mul]; simp
              omega

theorem bottomRight_some {r : Rect} {x y : Int} (h : r.bottomRight = some (x, y)) : x = r.x + r.w ∧ y = r.y + r.h := by
  unfold Rect.bottomRight at h
  split at h
  · rename_i c1 c2
    cases h
    exact ⟨(chk_some c1).1, (chk_some c2).1⟩
  · cases h

theorem intersect_le {a b rc : Rect} (h : a.intersect b = some rc) : rc.w ≤ b.w ∧ rc.h ≤ b.h := by
  revert h
  fun_cases Rect.intersect a b <;> intro h
  · rename_i hb _ _ _ _ _ ch cw
    cases h
    obtain ⟨e1, e2⟩ := bottomRight_some hb
    have := (chk_some cw).1
    have := (chk_some ch).1
    -- `fun_cases` leaves the `let`s of the definition as local definitions, which `omega` does not see through: substitute them
    simp +zetaDelta only [] at *
    omega
  · cases h
  · cases h

/-- a rectangle whose corners are far inside i32 (±2^23 for position and extent) -/
def Rect.Small (r : Rect) : Prop :=
  -8388608 ≤ r.x ∧ r.x ≤ 8388608 ∧ -8388608 ≤ r.y ∧ r.y ≤ 8388608 ∧
  -8388608 ≤ r.w ∧ r.w ≤ 8388608 ∧ -8388608 ≤ r.h ∧ r.h ≤ 8388608

theorem bottomRight_small {r : Rect} (h : r.Small) : r.bottomRight = some (r.x + r.w, r.y + r.h) := by
  obtain ⟨h1, h2, h3, h4, h5, h6, h7, h8⟩ := h
  unfold Rect.bottomRight
  rw [chk_in (v := r.x + r.w) (by omega),
    chk_in (v := r.y + r.h) (by omega)]

theorem intersect_small {a b : Rect} (ha : a.Small) (hb : b.Small) :
    ∃ rc, a.intersect b = some rc ∧ rc.x = max a.x b.x ∧ rc.y = max a.y b.y ∧
      rc.x + rc.w = min (a.x + a.w) (b.x + b.w) ∧ rc.y + rc.h = min (a.y + a.h) (b.y + b.h) := by
  unfold Rect.intersect
  rw [bottomRight_small ha, bottomRight_small hb]
  obtain ⟨h1, h2, h3, h4, h5, h6, h7, h8⟩ := ha
  obtain ⟨g1, g2, g3, g4, g5, g6, g7, g8⟩ := hb
  simp only []
  rw [chk_in (v := min (a.x + a.w) (b.x + b.w) - max a.x b.x) (by omega),
    chk_in (v := min (a.y + a.h) (b.y + b.h) - max a.y b.y) (by omega)]
  exact ⟨_, rfl, rfl, rfl, by simp only []; omega, by simp only []; omega⟩

theorem clip_extent {a b rc : Rect} {right bottom : Int} (hi : a.intersect b = some rc) (hb : rc.bottomRight = some (right, bottom)) :
    (bottom - rc.y).toNat ≤ b.h.toNat ∧ (right - rc.x).toNat ≤ b.w.toNat := by
  obtain ⟨hw, hh⟩ := intersect_le hi
  obtain ⟨e1, e2⟩ := bottomRight_some hb
  omega

theorem barRectCost_spec {s s' : Bgi} {r : Rect} {n : Nat} (h : barRectCost s r = some (s', n)) :
    Frame s s' ∧ n ≤ s.vp.h.toNat * (s.vp.w.toNat + 1) := by
  revert h
  fun_cases barRectCost s r <;> intro h
  -- no intersection with the viewport: `None`
  · cases h
  -- an empty intersection: nothing is drawn
  · cases h; exact ⟨Frame.refl s, Nat.zero_le _⟩
  -- overflow of the corner or of the start offset: `None`
  · cases h
  · cases h
  · cases h
  -- solid fill
  · cases h
  · rename_i hi _ _ _ hb _ _ _ _ _ _ _ _ _ hr
    cases h
    obtain ⟨h1, h2⟩ := solidRows_spec _ _ _ _ _ _ _ _ _ hr
    obtain ⟨a, b⟩ := clip_extent hi hb
    exact ⟨⟨rfl, h1⟩, Nat.le_trans h2 (by rw [Nat.zero_add]; exact Nat.mul_le_mul a (Nat.add_le_add_right b 1))⟩
  -- pattern fill
  · cases h
  · rename_i hi _ _ _ hb _ _ _ _ _ _ _ _ _ hr
    cases h
    obtain ⟨h1, h2⟩ := patRows_spec _ _ _ _ _ _ _ _ _ _ _ _ _ hr
    obtain ⟨a, b⟩ := clip_extent hi hb
    exact ⟨⟨rfl, h1⟩, Nat.le_trans h2 (by rw [Nat.zero_add]; exact Nat.mul_le_mul a (Nat.add_le_add_right b 1))⟩

theorem barRect_framed {s s' : Bgi} {r : Rect} (h : barRect s r = some s') : Frame s s' := by
  unfold barRect at h
  rw [Option.map_eq_some_iff] at h
  obtain ⟨res, hc, e⟩ := h
  subst e
  exact (barRectCost_spec hc).1

theorem bar_framed {s s' : Bgi} {l t r b : Int} (h : bar s l t r b = some s') : Frame s s' := by
  unfold bar at h
  split at h
  · split at h
    · exact barRect_framed h
    · cases h
  · cases h

theorem setViewport_geom {s s' : Bgi} {x0 y0 x1 y1 : Int} (h : setViewport s x0 y0 x1 y1 = some s') : Geom s s' := by
  unfold setViewport at h
  split at h
  · cases h; exact ⟨rfl, rfl, rfl⟩
  · cases h

theorem setPalette_geom {s s' : Bgi} {cs : List Int} (h : setPalette s cs = some s') : Geom s s' := by
  unfold setPalette at h
  split at h
  · cases h; exact ⟨rfl, rfl, rfl⟩
  · cases h

theorem setPaletteColor_geom {s s' : Bgi} {i c : Nat} (h : setPaletteColor s i c = some s') : Geom s s' := by
  unfold setPaletteColor at h
  split at h
  · cases h; exact ⟨rfl, rfl, rfl⟩
  · cases h

theorem graphDefaults_geom {s s' : Bgi} (h : graphDefaults s = some s') : Geom s s' := by
  unfold graphDefaults at h
  cases hb : bar (graphDefaultsPre s) 0 0 s.winW s.winH with
  | none => simp [hb] at h
  | some s1 =>
    simp only [hb] at h
    cases h
    exact (bar_framed hb).geom

end IcyVerif.Bgi
