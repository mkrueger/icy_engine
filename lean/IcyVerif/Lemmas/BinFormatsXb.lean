import IcyVerif.Lemmas.BinFormatsCells
import IcyVerif.Lemmas.XbCompressImage
/-!
# C05, XBin: the image data and the decoding of one cell (one or two fonts, blink or ice)
(the round trip itself is in `Lemmas/BinFormatsXbRt`)

The image data goes through C06's lemma `XbCompress.loader_pairs`: the crate's loader hands `decode_char` the cells' (character,
attribute byte) pairs for the compressed as for the raw encoding.
-/
namespace IcyVerif.BinFormats
open IcyVerif.XbCompress IcyVerif.Gen

theorem imageData_some (im : IceMode) (compress : Bool) (rows : List (List Cell))
    (hlen : (analyzeFontUsage rows.flatten).length ≤ 2) (hfit : fits8 rows = true) :
    imageData im compress rows =
      some (if compress then rows.flatMap (compressRow (encodeAttr im (analyzeFontUsage rows.flatten)))
            else rows.flatMap (rawRow (encodeAttr im (analyzeFontUsage rows.flatten)))) := by
  unfold imageData
  have : ¬ ((analyzeFontUsage rows.flatten).length > 2) := by omega
  simp [this, hfit]

theorem dec_xb_single (im : IceMode) (him : im = .blink ∨ im = .ice) (c : Cell)
    (h : attrCell (im == .ice) c = true) (hp : c.attr.page = 0) :
    decodeChar (im == .ice) false (encCell (encodeAttr im [0]) c) = shownCell c := by
  have henc : encodeAttr im [0] c.attr = asU8 im c.attr := by unfold encodeAttr; simp
  unfold encCell decodeChar
  simp only [henc, Bool.and_false, Bool.false_eq_true, if_false]
  rcases him with him | him <;> subst him
  · exact dec_blink c h hp
  · exact dec_ice c h hp

theorem decodeChar_split (ice ext : Bool) (ch b : Nat) :
    decodeChar ice ext (ch, b) = ⟨ch, (decodeChar ice ext (0, b)).attr⟩ := by
  unfold decodeChar
  by_cases h : ((fromU8 ice b).fg > 7 && ext) = true <;> simp [h]

theorem tab_dec_ext_ice : ∀ fg, fg < 8 → ∀ bg, bg < 16 → ∀ pg : Bool,
    (decodeChar true true (0, (attrByte false fg bg false false &&& Xb.encKeepMask) ||| (if pg then Xb.encPageBit else 0))).attr =
      ⟨fg, bg, 0, if pg then 1 else 0⟩ := by decide +kernel

theorem tab_dec_ext_blink : ∀ fg, fg < 8 → ∀ bg, bg < 8 → ∀ blink pg : Bool,
    (decodeChar false true (0, (attrByte true fg bg false blink &&& Xb.encKeepMask) ||| (if pg then Xb.encPageBit else 0))).attr =
      ⟨fg, bg, if blink then Xb.attrBlink else 0, if pg then 1 else 0⟩ := by decide +kernel

/-- two fonts: bit 3 of the stored attribute is the font, the foreground has three bits -/
theorem dec_xb_two (im : IceMode) (him : im = .blink ∨ im = .ice) (c : Cell)
    (h : attrCell (im == .ice) c = true) (hp : c.attr.page = 0 ∨ c.attr.page = 1) (hfg : c.attr.fg < 8) (hnb : isBold c.attr = false) :
    decodeChar (im == .ice) true (encCell (encodeAttr im [0, 1]) c) = shownCell c := by
  have henc : encodeAttr im [0, 1] c.attr =
      (asU8 im c.attr &&& Xb.encKeepMask) ||| (if decide (c.attr.page = 1) then Xb.encPageBit else 0) := by
    unfold encodeAttr
    simp only [List.length_cons, List.length_nil, if_true, List.getD_cons_succ, List.getD_cons_zero]
    by_cases h1 : c.attr.page = 1 <;> simp [h1]
  have hpage : (if decide (c.attr.page = 1) then 1 else 0) = c.attr.page := by
    rcases hp with hp | hp <;> rw [hp] <;> rfl
  have hshown : shownFg c.attr.fg (isBold c.attr) = c.attr.fg := by rw [hnb]; simp [shownFg]
  unfold encCell
  rw [henc, decodeChar_split]
  rcases him with him | him <;> subst him
  · obtain ⟨_, _, hbg⟩ := attrCell_blink c h
    rw [asU8_blink, hnb]
    show (⟨c.ch, (decodeChar false true (0, _)).attr⟩ : Cell) = _
    rw [tab_dec_ext_blink c.attr.fg hfg c.attr.bg hbg (isBlink c.attr) (decide (c.attr.page = 1)), hpage]
    unfold shownCell
    rw [hshown]
  · obtain ⟨_, _, hbg, hbl⟩ := attrCell_ice c h
    rw [asU8_ice, hnb, hbl]
    show (⟨c.ch, (decodeChar true true (0, _)).attr⟩ : Cell) = _
    rw [tab_dec_ext_ice c.attr.fg hfg c.attr.bg hbg (decide (c.attr.page = 1)), hpage]
    unfold shownCell
    rw [hshown, hbl]
    rfl

end IcyVerif.BinFormats
