import IcyVerif.Model.RipText
/-! Lemmas about the RIP text path model: the clamp puts the size inside both scale tables, no divisor is zero, every
FontType variant has its font. -/
namespace IcyVerif.RipText

theorem clamp_range (v lo hi : Int) (h : lo ≤ hi) : lo ≤ clamp v lo hi ∧ clamp v lo hi ≤ hi := by
  unfold clamp
  split
  · omega
  · split <;> omega

/-- the regenerated tables: every size the clamp lets through has a scale pair with a non-zero divisor -/
theorem scale_table_ok : ∀ s : Fin 11, (scaleAt ((s : Nat) : Int)).isSome = true := by decide

theorem clamp_bounds_ok : Gen.RipText.sizeLo = 1 ∧ Gen.RipText.sizeHi = 10 ∧ (0 : Int) ≤ Gen.RipText.sizeLo ∧
    Gen.RipText.sizeLo ≤ Gen.RipText.sizeHi ∧ Gen.RipText.sizeHi < Gen.RipText.scaleUp.length ∧
    Gen.RipText.sizeHi < Gen.RipText.scaleDown.length := by decide

theorem scaleAt_clamped (size : Int) : ∃ r, scaleAt (clamp size Gen.RipText.sizeLo Gen.RipText.sizeHi) = some r := by
  obtain ⟨h1, h2, _, _, _, _⟩ := clamp_bounds_ok
  have hc := clamp_range size Gen.RipText.sizeLo Gen.RipText.sizeHi (by rw [h1, h2]; decide)
  rw [h1, h2] at hc ⊢
  generalize clamp size 1 10 = c at hc
  have h := scale_table_ok ⟨c.toNat, by omega⟩
  have e : ((c.toNat : Nat) : Int) = c := by omega
  simp only [e] at h
  exact Option.isSome_iff_exists.mp h

/-- every entry of the regenerated `FontType::from` table, and its default, is a font variant -/
theorem fontFrom_lt (v : Nat) : fontFrom v < Gen.RipText.fontVariants.length := by
  have ht : Gen.RipText.fontFrom.all (fun p => decide (p.2 < Gen.RipText.fontVariants.length)) = true := by decide
  unfold fontFrom
  split
  · rename_i i hf
    simpa using List.all_eq_true.mp ht _ (List.mem_of_find?_eq_some hf)
  · decide

theorem fontChars_some : ∀ f : Fin 12, (fontChars (f : Nat)).isSome = true := by decide

theorem charLookups_some (chars : Nat) (size : Int) (code : Nat) (h : ∃ r, scaleAt size = some r) :
    charLookups chars size code = some () := by
  obtain ⟨r, hr⟩ := h
  unfold charLookups
  split
  · rfl
  · rw [hr]

theorem fold_some (chars : Nat) (size : Int) (h : ∃ r, scaleAt size = some r) : ∀ text : List Nat,
    text.foldl (fun acc c => acc.bind fun _ => charLookups chars size c) (some ()) = some () := by
  intro text
  induction text with
  | nil => rfl
  | cons c t ih =>
    simp only [List.foldl_cons, Option.bind_some, charLookups_some chars size c h]
    exact ih

end IcyVerif.RipText
