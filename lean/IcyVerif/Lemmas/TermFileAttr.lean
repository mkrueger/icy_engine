import Lean.Meta.Tactic.Simp.RegisterCommand
import Lean.Meta.Tactic.Simp.BuiltinSimprocs

/-- what the arms of the file-buffer step functions are closed with: the invariants unfolded to their atomic facts,
    projections of the updated state records, "the layer width stays", the specifications of the primitives -/
register_simp_attr fgood
