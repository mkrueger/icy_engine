import IcyVerif.Lemmas.ArtPic
/-! # Generic simulation: a row writer against a reader (C15)

All six writers are one row loop (`rowsLoop`) over a row writer: cell by cell (`cellsRow`, the `writeRows` formats) or run by run
(Avatar).  If the bytes of every row make the reader print the row's cells and keep a writer / reader relation (`RowSim`), the bytes of
the whole loop drive the reader's screen through the screen program `picOps`. -/
namespace IcyVerif.ArtIO

theorem mem_trimRow {r : List Cell} {c : Cell} (h : c ∈ trimRow r) : c ∈ r := by
  obtain ⟨t, e, _⟩ := trimRow_prefix r
  rw [e]; exact List.mem_append_left _ h

/-- the row loop of the writers over a row writer `rowW`, which returns the row's bytes, the new state and `pos.x` after the row -/
def rowsLoop {σ : Type} (rowW : σ → List Cell → Option (List Nat × σ × Nat)) (eol : List Nat) (w : Nat) :
    σ → List (List Cell) → Option (List Nat)
  | _, [] => some []
  | s, r :: rest =>
    match rowW s r with
    | none => none
    | some (b, s1, n) =>
      match rowsLoop rowW eol w s1 rest with
      | none => none
      | some bs => some (b ++ (if n < w ∧ !rest.isEmpty then eol else []) ++ bs)

/-- the row writer of the `writeRows` formats: the cells up to `get_line_length`, one by one -/
def cellsRow {σ : Type} (emit : σ → Cell → Option (List Nat × σ)) (s : σ) (r : List Cell) : Option (List Nat × σ × Nat) :=
  (writeCells emit s (trimRow r)).map fun x => (x.1, x.2, (trimRow r).length)

theorem writeRows_eq {σ : Type} (emit : σ → Cell → Option (List Nat × σ)) (eol : List Nat) (w : Nat) :
    ∀ (rows : List (List Cell)) (s : σ), writeRows emit eol w s rows = rowsLoop (cellsRow emit) eol w s rows := by
  intro rows
  induction rows with
  | nil => intro s; rfl
  | cons r rest ih =>
    intro s
    unfold writeRows rowsLoop cellsRow
    cases writeCells emit s (trimRow r) with
    | none => rfl
    | some x => obtain ⟨b, s1⟩ := x; simp only [Option.map_some]; rw [ih]; rfl

section
variable {σ ρ : Type} (rowW : σ → List Cell → Option (List Nat × σ × Nat)) (eol : List Nat) (stp : ρ → Nat → ρ)
  (scr : ρ → Screen) (img : Cell → Cell) (R : σ → ρ → Prop) (Dom : Cell → Prop)

/-- a row writer against a reader: the bytes of a row of the domain that fits the width make the reader print the images of the row's
    cells up to its length, and `pos.x` ends there -/
def RowSim (w : Nat) : Prop :=
  ∀ s r row, R s r → (∀ c ∈ row, Dom c) → row.length ≤ w →
    ∃ b s', rowW s row = some (b, s', rowLen row) ∧ R s' (b.foldl stp r) ∧
      scr (b.foldl stp r) = (scr r).runOps (putOps ((trimRow row).map img))

theorem rowsLoop_sim (w : Nat) (hrow : RowSim rowW stp scr img R Dom w)
    (heol : ∀ s r, R s r → R s (eol.foldl stp r) ∧ scr (eol.foldl stp r) = (scr r).exec Op.nl) :
    ∀ (rows : List (List Cell)) (s : σ) (r : ρ), R s r → (∀ row ∈ rows, row.length ≤ w) → (∀ row ∈ rows, ∀ c ∈ row, Dom c) →
      ∃ b, rowsLoop rowW eol w s rows = some b ∧ (∃ s', R s' (b.foldl stp r)) ∧
        scr (b.foldl stp r) = (scr r).runOps (picOps trimRow img w rows) := by
  intro rows
  induction rows with
  | nil => intro s r hR _ _; exact ⟨[], rfl, ⟨s, hR⟩, rfl⟩
  | cons row rest ih =>
    intro s r hR hfit hd
    obtain ⟨b, s1, e1, R1, sc1⟩ := hrow s r row hR (hd row List.mem_cons_self) (hfit row List.mem_cons_self)
    have E : R s1 ((if rowLen row < w ∧ (!rest.isEmpty) = true then eol else []).foldl stp (b.foldl stp r)) ∧
        scr ((if rowLen row < w ∧ (!rest.isEmpty) = true then eol else []).foldl stp (b.foldl stp r)) =
          (scr (b.foldl stp r)).runOps (if rowLen row < w ∧ (!rest.isEmpty) = true then [Op.nl] else []) := by
      split
      · exact heol s1 _ R1
      · exact ⟨R1, rfl⟩
    obtain ⟨bs, e3, R3, sc3⟩ := ih s1 _ E.1 (fun q h => hfit q (List.mem_cons_of_mem _ h)) (fun q h => hd q (List.mem_cons_of_mem _ h))
    refine ⟨b ++ (if rowLen row < w ∧ (!rest.isEmpty) = true then eol else []) ++ bs, ?_, ?_, ?_⟩
    · simp only [rowsLoop, e1, e3]
    · rw [List.foldl_append, List.foldl_append]; exact R3
    · rw [List.foldl_append, List.foldl_append, sc3, E.2, sc1]
      show _ = (scr r).runOps (rowOps trimRow img w row (!rest.isEmpty) ++ picOps trimRow img w rest)
      unfold rowOps
      rw [runOps_append, runOps_append]; rfl

variable (emit : σ → Cell → Option (List Nat × σ))

theorem writeCells_sim
    (hcell : ∀ s r c, R s r → Dom c →
      ∃ b s', emit s c = some (b, s') ∧ R s' (b.foldl stp r) ∧ scr (b.foldl stp r) = (scr r).put (img c)) :
    ∀ (cells : List Cell) (s : σ) (r : ρ), R s r → (∀ c ∈ cells, Dom c) →
      ∃ b s', writeCells emit s cells = some (b, s') ∧ R s' (b.foldl stp r) ∧
        scr (b.foldl stp r) = (scr r).runOps (putOps (cells.map img)) := by
  intro cells
  induction cells with
  | nil => intro s r hR _; exact ⟨[], s, rfl, hR, rfl⟩
  | cons c cs ih =>
    intro s r hR hd
    obtain ⟨b, s1, e1, R1, sc1⟩ := hcell s r c hR (hd c List.mem_cons_self)
    obtain ⟨bs, s2, e2, R2, sc2⟩ := ih s1 (b.foldl stp r) R1 (fun c' h => hd c' (List.mem_cons_of_mem _ h))
    refine ⟨b ++ bs, s2, ?_, ?_, ?_⟩
    · simp [writeCells, e1, e2]
    · rw [List.foldl_append]; exact R2
    · rw [List.foldl_append, sc2, sc1]; rfl

theorem cellsRow_sim (w : Nat)
    (hcell : ∀ s r c, R s r → Dom c →
      ∃ b s', emit s c = some (b, s') ∧ R s' (b.foldl stp r) ∧ scr (b.foldl stp r) = (scr r).put (img c)) :
    RowSim (cellsRow emit) stp scr img R Dom w := by
  intro s r row hR hd _
  obtain ⟨b, s', e, R', sc⟩ := writeCells_sim stp scr img R Dom emit hcell (trimRow row) s r hR (fun c h => hd c (mem_trimRow h))
  exact ⟨b, s', by unfold cellsRow; rw [e]; rfl, R', sc⟩

/-- the first byte of the file.  `P`: nothing was written yet; whatever a row writes then starts with `h0` -/
theorem rowsLoop_head (w h0 : Nat) (P : σ → Prop) (heol : eol ≠ [])
    (hrow : ∀ s row b s' n, P s → rowW s row = some (b, s', n) → (b = [] ∧ s' = s) ∨ b.head? = some h0) :
    ∀ (rows : List (List Cell)) (s : σ) (b : List Nat), P s → rowsLoop rowW eol w s rows = some b →
      b = [] ∨ b.head? = some h0 ∨ b.head? = eol.head? := by
  intro rows
  induction rows with
  | nil => intro s b _ h; cases h; exact Or.inl rfl
  | cons r rest ih =>
    intro s b hs h
    simp only [rowsLoop] at h
    split at h
    · cases h
    · rename_i b1 s1 n hc
      split at h
      · cases h
      · rename_i bs hr
        cases h
        rcases hrow s r b1 s1 n hs hc with ⟨e1, e2⟩ | h1
        · subst e1; subst e2
          by_cases hnl : n < w ∧ (!rest.isEmpty) = true
          · rw [if_pos hnl]
            cases eol with
            | nil => exact absurd rfl heol
            | cons x t => exact Or.inr (Or.inr rfl)
          · rw [if_neg hnl]; exact ih s1 bs hs hr
        · cases b1 with
          | nil => cases h1
          | cons x t => exact Or.inr (Or.inl h1)
end

end IcyVerif.ArtIO
