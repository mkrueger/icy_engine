import IcyVerif.Props.C08Laws
/-! # C08: what the edits and record builders of the public operations return (rules of `Edits` / `Builds`); the edit steps that are good -/
namespace IcyVerif.Undo
open IcyVerif.Gen.Undo

theorem curLayer_some {d : Doc} {i : Nat} {l : LayerM} (h : d.curLayer = some (i, l)) : d.layers[i]? = some l := by
  unfold Doc.curLayer at h
  split at h
  · split at h
    · rename_i hl
      simp only [Option.some.injEq, Prod.mk.injEq] at h
      obtain ⟨rfl, rfl⟩ := h
      exact hl
    · simp at h
  · simp at h

theorem curLayer_of_valid {d : Doc} {l : LayerM} (h : d.layers[d.cur]? = some l) : d.curLayer = some (d.cur, l) := by
  have hlt : d.cur < d.layers.length := (List.getElem?_eq_some_iff.mp h).1
  have hmin : min d.cur (d.layers.length - 1) = d.cur := by omega
  have hpos : d.layers.length > 0 := by omega
  simp only [Doc.curLayer, Doc.currentLayer, hpos, if_true, hmin, h]

theorem at_layer {d : Doc} {i : Nat} {l : LayerM} (hl : d.layers[i]? = some l) {P : LayerM → Prop} (h : P l) :
    ∀ l0, d.layers[i]? = some l0 → P l0 := fun l0 hl0 => by rw [hl] at hl0; cases hl0; exact h

theorem Edits.layerEdit {d : Doc} {i : Nat} {l : LayerM} {a : Rect} {r : Except Err LayerM}
    (hl : d.layers[i]? = some l) (hf : Framed a l r) : Edits d (layerEdit d i l a r) := by
  unfold IcyVerif.Undo.layerEdit
  cases hold : fromLayer l a with
  | error e => trivial
  | ok old =>
    cases r with
    | error e => trivial
    | ok l' =>
      dsimp only
      cases hnew : fromLayer l' a with
      | error e => trivial
      | ok new => exact C08.inverse_layerChange d i a l l' old new hl hold hnew hf

theorem Edits.onCurLayer {d : Doc} {f : Nat → LayerM → Except Err (Option (UndoOp × Doc))}
    (h : ∀ i l, d.layers[i]? = some l → Edits d (f i l)) :
    Edits d (match d.curLayer with
      | none => .error .err
      | some (i, l) => f i l) := by
  split
  · trivial
  · exact h _ _ (curLayer_some ‹_›)

theorem areaOp_good (f : Doc → LayerM → Rect → Except Err LayerM)
    (hf : ∀ d l, Framed (getArea d.sel l.rect) l (f d l (getArea d.sel l.rect))) : (Step.edit (areaOp f)).Good :=
  edit_good fun d => .onCurLayer fun _ l hl => .layerEdit hl (hf d l)

theorem makeTransparent_good : (Step.edit makeTransparentEdit).Good :=
  edit_good fun d => .onCurLayer fun i l hl => .layerEdit hl <| by
    refine frame_range _ _ _ (fun l1 x hx1 hx2 h1 => frame_range _ _ _ (fun l2 y hy1 hy2 h2 => ?_) h1) (Frame.refl _ _)
    split
    · rw [frame_h h1] at hy2
      exact frame_setChar_in h2 _ _ _ hx1 (by simpa using hx2) hy1 (by simpa using hy2)
    · exact h2

theorem stampDown_good : (Step.edit stampDownEdit).Good :=
  edit_good fun d => .onCurLayer fun i l hl => of_ite (fun _ => trivial) fun _ => by
    split
    · trivial
    · refine .layerEdit ‹_› ?_
      refine frame_range _ _ _ (fun b1 x hx1 hx2 h1 => frame_range _ _ _ (fun b2 y hy1 hy2 h2 => ?_) h1) (Frame.refl _ _)
      dsimp only
      split
      · exact frame_setChar_in h2 _ _ _ (by simp only []; omega) (by simp only []; omega) (by simp only []; omega) (by simp only []; omega)
      · exact h2

theorem erase_good : (Step.edit eraseEdit).Good := edit_good fun d => by
  unfold eraseEdit
  refine of_ite (fun _ => trivial) fun _ => ?_
  split
  · trivial
  · rename_i i l hc
    dsimp only
    split
    · trivial
    · trivial
    · rename_i lc d1 heq
      have hle : Edits d (.ok (some (lc, d1))) := heq ▸ Edits.layerEdit (curLayer_some hc) (by
        refine frame_range _ _ _ (fun l1 y hy1 hy2 h1 => frame_range _ _ _ (fun l2 x hx1 hx2 h2 => ?_) h1) (Frame.refl _ _)
        split
        · rw [frame_w h1] at hx2
          exact frame_setChar_in h2 _ _ _ hx1 (by simpa using hx2) hy1 (by simpa using hy2)
        · exact h2)
      exact undoable_atomic (.cons hle (.cons (undoable_fun _ id id (fun _ => rfl) (fun _ => rfl) rfl) (.nil _)))

theorem setChar_redo_eq (d : Doc) (i : Nat) (l : LayerM) (hl : d.layers[i]? = some l) (x y : Int) (old c : Cell) :
    (UndoOp.setChar x y i old c).redo d = .ok (.setChar x y i old c, d.setLayer i (l.setChar x y c)) := by
  simp [UndoOp.redo, onLayerIdx, hl]

theorem undoable_setChar (d : Doc) (i : Nat) (l : LayerM) (hl : d.layers[i]? = some l) (x y : Int) (old c : Cell)
    (hold : old = l.getChar x y) : Undoable (.setChar x y i old c) d.obs (d.setLayer i (l.setChar x y c)).obs :=
  C08.inverse_setChar d i x y old c (at_layer hl hold) _ _ (setChar_redo_eq d i l hl x y old c)

theorem setChar_good (x y : Int) (c : Cell) : (Step.edit (setCharEdit x y c)).Good :=
  edit_good fun d => .onCurLayer fun i l hl => of_ite
    (fun _ => by
      by_cases hcen : l.w - x - 1 = x
      · rw [hcen]
        exact C08.inverse_setChar_mirror_centre d i x y c l hl
      · -- two records at different columns: a chain; the first write does not touch the cell the second one records
        have h1 := undoable_setChar d i l hl (l.w - x - 1) y _ c rfl
        have h2 := undoable_setChar _ i _ (getElem?_setLayer_self d i (l.setChar (l.w - x - 1) y c) l hl) x y (l.getChar x y) c (by
          rw [getChar_obs, getChar_obs, setChar_obs]
          exact (LObs.getChar_setChar_ne l.obs _ y x y c (fun hh => hcen hh.symm)).symm)
        have e2 : (d.setLayer i (l.setChar (l.w - x - 1) y c)).setLayer i ((l.setChar (l.w - x - 1) y c).setChar x y c) =
            d.setLayer i ((l.setChar (l.w - x - 1) y c).setChar x y c) := by
          simp [Doc.setLayer, List.set_set]
        rw [e2] at h2
        exact undoable_atomic (.cons h1 (.cons h2 (.nil _))))
    fun _ => undoable_atomic (.cons (undoable_setChar d i l hl x y _ c rfl) (.nil _))

theorem scrollLR_good (left : Bool) :
    (Step.edit (fun d => match d.curLayer with
      | none => .error .err
      | some (i, l) => let a := getArea d.sel l.rect; if a.isEmpty then .ok none else layerEdit d i l a (if left then scrollLeftF d l a else scrollRightF d l a))).Good :=
  edit_good fun d => .onCurLayer fun i l hl => of_ite (fun _ => trivial) fun he =>
    .layerEdit hl (scrollLR_frame d l left (by simpa using he))

theorem scroll_good (up : Bool) : (Step.edit (scrollEdit up)).Good := edit_good fun d => .onCurLayer fun i l hl => by
  refine of_ite (fun _ => trivial) fun he => of_ite (fun _ => ?_) fun _ => of_ite (fun _ => trivial) fun _ =>
    .layerEdit hl (scrollPartial_frame up d l (by simpa using he))
  cases up with
  | true => exact C08.inverse_scrollUp d i _ _ (by simp [UndoOp.redo, onLayer, hl])
  | false => exact C08.inverse_scrollDown d i _ _ (by simp [UndoOp.redo, onLayer, hl])

theorem good_cons {s : Step} {l : List Step} (hs : s.Good) (hl : ∀ t ∈ l, t.Good) : ∀ t ∈ s :: l, t.Good :=
  List.forall_mem_cons.mpr ⟨hs, hl⟩

theorem good_nil : ∀ t ∈ ([] : List Step), t.Good := fun _ h => nomatch h

theorem Builds.of_some {d : Doc} {r : Except Err (Option UndoOp)} (h : ∀ o, r = .ok (some o) → InverseAt o d) : Builds d r := by
  cases r with
  | error e => trivial
  | ok q =>
    cases q with
    | none => trivial
    | some o => exact h o rfl

theorem onValid_some {d : Doc} {layer : Nat} {op o : UndoOp} (h : onValid d layer op = .ok (some o)) : o = op := by
  unfold onValid at h
  split at h <;> simp at h
  exact h.symm

theorem onCurrent_some {d : Doc} {mk : Nat → UndoOp} {o : UndoOp} (h : onCurrent d mk = .ok (some o)) : ∃ i, o = mk i := by
  unfold onCurrent at h
  cases hc : d.currentLayer with
  | none => rw [hc] at h; simp at h
  | some i => rw [hc] at h; simp at h; exact ⟨i, h.symm⟩

theorem Builds.onCurrent {d : Doc} {mk : Nat → UndoOp} (h : ∀ i, InverseAt (mk i) d) : Builds d (onCurrent d mk) :=
  .of_some fun _ ho => let ⟨i, e⟩ := onCurrent_some ho; e ▸ h i

theorem Builds.onValid {d : Doc} {layer : Nat} {op : UndoOp} (h : InverseAt op d) : Builds d (onValid d layer op) :=
  .of_some fun _ ho => onValid_some ho ▸ h

/-- `InverseAt` unfolded; the laws enter through `inverseAt_of_redone` -/
theorem inverseAt_of_undoable {op : UndoOp} {d : Doc} (h : ∀ op' d', op.redo d = .ok (op', d') → Undoable op' d.obs d'.obs) :
    InverseAt op d := h

theorem Builds.setSelection (d : Doc) (s : Except Err Sel) : Builds d (setSelectionBuild s d) := by
  unfold setSelectionBuild
  split
  · trivial
  · exact of_ite (fun _ => trivial) fun _ => C08.inverse_setSelection d _ _

theorem Builds.clearSelection (d : Doc) : Builds d (clearSelectionBuild d) :=
  of_ite (fun _ => C08.inverse_selectNothing d _ _) fun _ => trivial

theorem Builds.paste (d : Doc) (layer : Option LayerM) : Builds d (pasteBuild layer d) := by
  unfold pasteBuild
  split
  · trivial
  · exact .onCurrent fun i => C08.inverse_paste d i _

theorem Builds.setFontInSlot (d : Doc) (page f : Nat) (b : Bool) : Builds d (setFontInSlot d page f b) := by
  unfold IcyVerif.Undo.setFontInSlot
  split
  · exact C08.inverse_setFont d page _ f ‹_›
  · exact of_ite (fun _ => C08.inverse_addFont d _ _ _ _) fun _ => trivial

theorem Builds.merge (d : Doc) (layer : Nat) : Builds d (mergeBuild layer d) := by
  unfold mergeBuild
  refine of_ite (fun _ => trivial) fun _ => ?_
  split
  · trivial
  · refine of_ite (fun _ => trivial) fun _ => ?_
    split
    · split
      · exact C08.inverse_mergeLayerDown d layer _ none
      · trivial
      · trivial
    · trivial

/-- `merge_layer_down`, `anchor_layer`: the edit applies the record a builder returned -/
theorem Edits.ofBuilds {d : Doc} {r : Except Err (Option UndoOp)} (hb : Builds d r) (f : UndoOp → UndoOp)
    (hf : ∀ op a c, Undoable op a c → Undoable (f op) a c) :
    Edits d (match (motive := Except Err (Option UndoOp) → Except Err (Option (UndoOp × Doc))) r with
      | .error e => .error e
      | .ok none => .ok none
      | .ok (some op) =>
        match op.redo d with
        | .error e => .error e
        | .ok (op', d') => .ok (some (f op', d'.clampCur))) := by
  cases r with
  | error e => trivial
  | ok r =>
    cases r with
    | none => trivial
    | some op =>
      have hp := InverseAt.redone hb
      simp only []
      cases hr : op.redo d with
      | error e => trivial
      | ok p => rw [hr] at hp; exact hf _ _ _ hp

theorem areaSteps_good (f : Doc → LayerM → Rect → Except Err LayerM)
    (hf : ∀ d l, Framed (getArea d.sel l.rect) l (f d l (getArea d.sel l.rect))) : ∀ s ∈ areaSteps f, s.Good :=
  good_cons trivial (good_cons (areaOp_good f hf) (good_cons trivial good_nil))

theorem justifyLeftSteps_good : ∀ s ∈ areaSteps justifyLeftF, s.Good :=
  areaSteps_good justifyLeftF (fun d l => justifyLeft_frame d l _)

theorem centerSteps_good : ∀ s ∈ centerSteps, s.Good :=
  good_cons trivial (List.forall_mem_append.mpr ⟨justifyLeftSteps_good,
    good_cons (areaOp_good centerF (fun d l => center_frame d l _)) (good_cons trivial good_nil)⟩)

theorem replaceFontUsage_good (src dst : Nat) : (Step.edit (replaceFontUsageEdit src dst)).Good :=
  edit_good fun d => C08.inverse_replaceFontUsage d _ _ _

end IcyVerif.Undo
