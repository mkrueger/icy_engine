import IcyVerif.Model.Comp
/-! C13: one iteration of the layer loop (`layerStep`) and how facts about it lift through the walk.

The walk sees a layer only through its iteration: `go_prefix` (a relation between two walks survives a common stack on top)
is the one induction behind the stacking laws, `go_sat` the invariant rule. -/
namespace IcyVerif.Comp
open IcyVerif.Gen.Comp

theorem Cell.eqv_refl (a : Cell) : a.eqv a := ⟨rfl, rfl, rfl, rfl⟩
theorem Cell.eqv_of_eq {a b : Cell} (h : a = b) : a.eqv b := h ▸ Cell.eqv_refl a
theorem Cell.eqv_symm {a b : Cell} (h : a.eqv b) : b.eqv a :=
  ⟨h.1.symm, h.2.1.symm, h.2.2.1.symm, h.2.2.2.symm⟩
theorem Cell.eqv_trans {a b c : Cell} (h₁ : a.eqv b) (h₂ : b.eqv c) : a.eqv c :=
  ⟨h₁.1.trans h₂.1, h₁.2.1.trans h₂.2.1, h₁.2.2.1.trans h₂.2.2.1, h₁.2.2.2.trans h₂.2.2.2⟩
theorem Cell.withPage_eqv (c : Cell) (p q : Nat) : (c.withPage p).eqv (c.withPage q) := ⟨rfl, rfl, rfl, rfl⟩
theorem Cell.eqv_isVisible {a b : Cell} (h : a.eqv b) : a.isVisible = b.isVisible := by
  unfold Cell.isVisible; rw [h.2.2.2]

/-- used on the font table of C13's half-block facts -/
theorem drop_chunk {α} {n k : Nat} {chunk rest : List α} (hl : chunk.length = k) (h : k ≤ n) :
    (chunk ++ rest).drop n = rest.drop (n - k) := by
  subst hl
  rw [List.drop_append, List.drop_eq_nil_of_le h, List.nil_append]

theorem merge_none (c : Cell) : merge c none none = c := by
  unfold merge; split <;> rfl

theorem makeSolid_keeps (hb : Cell → Nat × Nat) (t u : Cell) :
    (makeSolid hb t u).ch = t.ch ∧ (makeSolid hb t u).attr.flags = t.attr.flags ∧
    (makeSolid hb t u).attr.page = t.attr.page ∧
    (t.attr.fg ≠ transparentColor → (makeSolid hb t u).attr.fg = t.attr.fg) ∧
    (t.attr.bg ≠ transparentColor → (makeSolid hb t u).attr.bg = t.attr.bg) := by
  unfold makeSolid
  by_cases h1 : t.ch = halfBlockTop
  · rw [if_pos h1]
    exact ⟨rfl, rfl, rfl, fun h => if_neg h, fun h => if_neg h⟩
  by_cases h2 : t.ch = halfBlockBottom
  · rw [if_neg h1, if_pos h2]
    exact ⟨rfl, rfl, rfl, fun h => if_neg h, fun h => if_neg h⟩
  · rw [if_neg h1, if_neg h2]
    exact ⟨rfl, rfl, rfl, fun h => if_neg h, fun h => if_neg h⟩

theorem covers_iff (l : Layer) (px py : Int) :
    l.covers px py = !(px - l.offX < 0 || py - l.offY < 0 || px - l.offX ≥ l.w || py - l.offY ≥ l.h) := rfl

theorem layerStep_hidden (hb) (px py : Int) (l : Layer) (st : St) (h : l.visible = false) :
    layerStep hb px py l st = .next st := by
  simp [layerStep, h]

theorem layerStep_uncovered (hb) (px py : Int) (l : Layer) (st : St) (h : l.covers px py = false) :
    layerStep hb px py l st = .next st := by
  rw [covers_iff, Bool.not_eq_false'] at h
  simp only [layerStep, h, if_true, ite_self]

/-- a layer that does not take part at this position -/
def Layer.skipped (l : Layer) (px py : Int) : Bool := !(l.visible && l.covers px py)

theorem layerStep_skipped (hb) (px py : Int) (l : Layer) (st : St) (h : l.skipped px py = true) :
    layerStep hb px py l st = .next st := by
  unfold Layer.skipped at h
  cases hv : l.visible with
  | false => exact layerStep_hidden hb px py l st hv
  | true => exact layerStep_uncovered hb px py l st (by simpa [hv] using h)

theorem layerStep_covered (hb) (px py : Int) (l : Layer) (st : St) (hv : l.visible = true)
    (hc : l.covers px py = true) :
    layerStep hb px py l st = coveredStep hb l (px - l.offX) (py - l.offY) { st with dflt := l.dfltPage } := by
  rw [covers_iff, Bool.not_eq_true'] at hc
  simp only [layerStep, hv, hc, Bool.not_true, Bool.false_eq_true, if_false]

/-- a layer that takes part overwrites the default font page before use -/
theorem layerStep_covered_dflt (hb) (px py : Int) (l : Layer) (st : St) (d : Nat) (hv : l.visible = true)
    (hc : l.covers px py = true) : layerStep hb px py l { st with dflt := d } = layerStep hb px py l st := by
  rw [layerStep_covered hb px py l _ hv hc, layerStep_covered hb px py l st hv hc]

theorem layerStep_cases (hb) (px py : Int) (l : Layer) (st : St) :
    (l.skipped px py = true ∧ layerStep hb px py l st = .next st) ∨
    (l.visible = true ∧ l.covers px py = true ∧
      layerStep hb px py l st = coveredStep hb l (px - l.offX) (py - l.offY) { st with dflt := l.dfltPage }) := by
  cases hv : l.visible with
  | false => exact Or.inl ⟨by simp [Layer.skipped, hv], layerStep_hidden hb px py l st hv⟩
  | true =>
    cases hc : l.covers px py with
    | false => exact Or.inl ⟨by simp [Layer.skipped, hc], layerStep_uncovered hb px py l st hc⟩
    | true => exact Or.inr ⟨rfl, rfl, layerStep_covered hb px py l st hv hc⟩

/-- outcome of one iteration: a returned cell satisfies `Q`, a state handed on satisfies `I` -/
def Step.Sat (I : St → Prop) (Q : Cell → Prop) : Step → Prop
  | .ret c => Q c
  | .next st => I st

theorem Step.Sat.mono {I : St → Prop} {Q Q' : Cell → Prop} (hQ : ∀ c, Q c → Q' c) : ∀ {s : Step}, s.Sat I Q → s.Sat I Q'
  | .ret c, h => hQ c h
  | .next _, h => h

theorem layerStep_sat {I : St → Prop} {Q : Cell → Prop} (hb) (px py : Int) (l : Layer) {st : St} (h : I st)
    (hcov : ∀ x y, (coveredStep hb l x y { st with dflt := l.dfltPage }).Sat I Q) : (layerStep hb px py l st).Sat I Q := by
  rcases layerStep_cases hb px py l st with ⟨_, e⟩ | ⟨_, _, e⟩ <;> rw [e]
  · exact h
  · exact hcov _ _

/-- the cell a layer holds at a buffer position -/
def Layer.cellAt (l : Layer) (px py : Int) : Cell := l.getChar (px - l.offX) (py - l.offY)

/-- the loop body ignores a cell of layer `l`: what each `Mode` arm of the code tests -/
def Layer.silentAt (l : Layer) (px py : Int) : Bool :=
  match l.mode with
  | .normal => l.alpha && !(l.cellAt px py).isVisible
  | .chars => !(l.cellAt px py).isVisible || (l.cellAt px py).isTransparent
  | .attributes => !(l.cellAt px py).isVisible

theorem layerStep_opaque (hb) (px py : Int) (l : Layer) (st : St) (hv : l.visible = true)
    (hc : l.covers px py = true) (hm : l.mode = .normal) (ha : l.alpha = false) :
    ∃ c, layerStep hb px py l st = .ret c := by
  rw [layerStep_covered hb px py l st hv hc]
  unfold coveredStep
  rw [hm]
  simp only [ha, Bool.not_false, if_true]
  split
  · split
    · exact ⟨_, rfl⟩
    · split <;> exact ⟨_, rfl⟩
  · exact ⟨_, rfl⟩

/-- the `has_alpha_channel` flag is only consulted in the Normal arm -/
theorem layerStep_modifier_alpha (hb) (px py : Int) (l : Layer) (st : St) (a : Bool) (hm : l.mode ≠ .normal) :
    layerStep hb px py { l with alpha := a } st = layerStep hb px py l st := by
  unfold layerStep coveredStep
  cases hmm : l.mode with
  | normal => exact absurd hmm hm
  | chars => rfl
  | attributes => rfl

theorem layerStep_shift (hb) (px py dx dy : Int) (l : Layer) (st : St) :
    layerStep hb (px + dx) (py + dy) (l.shift dx dy) st = layerStep hb px py l st := by
  unfold layerStep
  have hx : px + dx - (l.shift dx dy).offX = px - l.offX := by simp only [Layer.shift]; omega
  have hy : py + dy - (l.shift dx dy).offY = py - l.offY := by simp only [Layer.shift]; omega
  rw [hx, hy]
  rfl

/-- the rectangle test alone under a shift; the walk uses `layerStep_shift`, which contains it -/
theorem covers_shift (px py dx dy : Int) (l : Layer) :
    (l.shift dx dy).covers (px + dx) (py + dy) = l.covers px py := by
  rw [covers_iff, covers_iff]
  have hx : px + dx - (l.shift dx dy).offX = px - l.offX := by simp only [Layer.shift]; omega
  have hy : py + dy - (l.shift dx dy).offY = py - l.offY := by simp only [Layer.shift]; omega
  rw [hx, hy]
  rfl

theorem go_cons (hb t) (px py : Int) (l : Layer) (rest : List Layer) (st : St) :
    go hb t px py (l :: rest) st =
      match layerStep hb px py l st with
      | .ret c => c
      | .next st' => go hb t px py rest st' := rfl

theorem go_sat {I : St → Prop} {Q : Cell → Prop} (hb t) (px py : Int) (hfin : ∀ st, I st → Q (finish t st))
    (hstep : ∀ l st, I st → (layerStep hb px py l st).Sat I Q) (L : List Layer) {st : St} (h : I st) :
    Q (go hb t px py L st) := by
  induction L generalizing st with
  | nil => exact hfin st h
  | cons l L ih =>
    rw [go_cons]
    have hs := hstep l st h
    cases hl : layerStep hb px py l st with
    | ret c => rw [hl] at hs; exact hs
    | next st' => rw [hl] at hs; exact ih hs

theorem getChar_insert (hb t) (A B : List Layer) (l : Layer) (x y : Int) :
    getChar hb t (A ++ l :: B) x y = go hb t x y (B.reverse ++ l :: A.reverse) St.init := by
  unfold getChar
  simp only [List.reverse_append, List.reverse_cons, List.append_assoc, List.singleton_append]

theorem getChar_append (hb t) (A B : List Layer) (x y : Int) :
    getChar hb t (A ++ B) x y = go hb t x y (B.reverse ++ A.reverse) St.init := by
  unfold getChar
  rw [List.reverse_append]

/-- what the layers above a position do to the walk does not depend on what follows: a relation between the results of
    two stacks from every loop state survives putting the same layers `X` on top of both -/
theorem go_prefix (hb t) (px py : Int) {R : Cell → Cell → Prop} (hrefl : ∀ c, R c c) (X : List Layer) {L L' : List Layer}
    (h : ∀ st, R (go hb t px py L st) (go hb t px py L' st)) (st : St) :
    R (go hb t px py (X ++ L) st) (go hb t px py (X ++ L') st) := by
  induction X generalizing st with
  | nil => exact h st
  | cons a X ih =>
    simp only [List.cons_append, go_cons]
    cases layerStep hb px py a st with
    | ret c => exact hrefl c
    | next st' => exact ih st'

theorem go_drop (hb t) (px py : Int) (l : Layer) (hskip : ∀ st, layerStep hb px py l st = .next st)
    (X Y : List Layer) (st : St) : go hb t px py (X ++ l :: Y) st = go hb t px py (X ++ Y) st :=
  go_prefix hb t px py (fun _ => rfl) X (fun st => by rw [go_cons, hskip]) st

theorem go_replace (hb t) (px py : Int) (l l' : Layer) (hsame : ∀ st, layerStep hb px py l st = layerStep hb px py l' st)
    (X Y : List Layer) (st : St) : go hb t px py (X ++ l :: Y) st = go hb t px py (X ++ l' :: Y) st :=
  go_prefix hb t px py (fun _ => rfl) X (fun st => by rw [go_cons, go_cons, hsame]) st

theorem go_cut (hb t) (px py : Int) (l : Layer) (hret : ∀ st, ∃ c, layerStep hb px py l st = .ret c)
    (X Y Y' : List Layer) (st : St) : go hb t px py (X ++ l :: Y) st = go hb t px py (X ++ l :: Y') st :=
  go_prefix hb t px py (fun _ => rfl) X (fun st => by obtain ⟨c, hc⟩ := hret st; rw [go_cons, go_cons, hc]) st

theorem getChar_drop (hb t) (x y : Int) (l : Layer) (hskip : ∀ st, layerStep hb x y l st = .next st) (A B : List Layer) :
    getChar hb t (A ++ l :: B) x y = getChar hb t (A ++ B) x y := by
  rw [getChar_insert, getChar_append]; exact go_drop hb t x y l hskip _ _ _

theorem getChar_replace (hb t) (x y : Int) (l l' : Layer)
    (hsame : ∀ st, layerStep hb x y l st = layerStep hb x y l' st) (A B : List Layer) :
    getChar hb t (A ++ l :: B) x y = getChar hb t (A ++ l' :: B) x y := by
  rw [getChar_insert, getChar_insert]; exact go_replace hb t x y l l' hsame _ _ _

theorem getChar_cut (hb t) (x y : Int) (l : Layer) (hret : ∀ st, ∃ c, layerStep hb x y l st = .ret c)
    (A A' B : List Layer) : getChar hb t (A ++ l :: B) x y = getChar hb t (A' ++ l :: B) x y := by
  rw [getChar_insert, getChar_insert]; exact go_cut hb t x y l hret _ _ _ _

/-- the default font page carried by the loop only shows in the font page of the result -/
theorem go_dflt_eqv (hb t) (px py : Int) (L : List Layer) (st : St) (d : Nat) :
    (go hb t px py L { st with dflt := d }).eqv (go hb t px py L st) := by
  induction L generalizing st d with
  | nil =>
    unfold go finish
    cases st.transp with
    | some c => exact Cell.eqv_refl _
    | none => exact Cell.withPage_eqv _ _ _
  | cons l L ih =>
    simp only [go_cons]
    rcases layerStep_cases hb px py l st with ⟨hs, e⟩ | ⟨hv, hc, _⟩
    · rw [e, layerStep_skipped hb px py l _ hs]
      exact ih st d
    · rw [layerStep_covered_dflt hb px py l st d hv hc]
      exact Cell.eqv_refl _

/-- only the layers that are visible and cover the position take part: the others are dropped one by one -/
theorem getChar_filter (hb t) (x y : Int) (A S : List Layer) :
    getChar hb t (A ++ S) x y = getChar hb t (A ++ S.filter fun l => l.visible && l.covers x y) x y := by
  induction S generalizing A with
  | nil => rfl
  | cons l S ih =>
    cases hk : (l.visible && l.covers x y) with
    | true =>
      rw [List.filter_cons_of_pos (by simpa using hk)]
      simpa using ih (A ++ [l])
    | false =>
      rw [List.filter_cons_of_neg (by simp [hk]),
        getChar_drop hb t x y l (fun st => layerStep_skipped hb x y l st (by unfold Layer.skipped; rw [hk]; rfl)) A S]
      exact ih A

theorem go_shift (hb t) (px py dx dy : Int) (L : List Layer) (st : St) :
    go hb t (px + dx) (py + dy) (L.map (Layer.shift dx dy)) st = go hb t px py L st := by
  induction L generalizing st with
  | nil => rfl
  | cons l L ih =>
    simp only [List.map_cons, go_cons, layerStep_shift]
    cases layerStep hb px py l st with
    | ret c => rfl
    | next st' => exact ih st'

theorem goC_eq (hb t) (px py : Int) (L : List Layer) (st : St)
    (h : ∀ l ∈ L, l.visible = true → inI32 (px - l.offX) = true ∧ inI32 (py - l.offY) = true) :
    goC hb t px py L st = some (go hb t px py L st) := by
  induction L generalizing st with
  | nil => rfl
  | cons l L ih =>
    have hL : ∀ l' ∈ L, l'.visible = true → inI32 (px - l'.offX) = true ∧ inI32 (py - l'.offY) = true :=
      fun l' hl' => h l' (List.mem_cons_of_mem _ hl')
    unfold goC
    rw [go_cons]
    cases hv : l.visible with
    | false =>
      simp only [layerStepC, hv, Bool.not_false, if_true, layerStep_hidden hb px py l st hv]
      exact ih st hL
    | true =>
      have hr := h l (List.mem_cons_self) hv
      simp only [layerStepC, hv, Bool.not_true, Bool.false_eq_true, if_false, hr.1, hr.2, Bool.and_self, if_true]
      cases layerStep hb px py l st with
      | ret c => rfl
      | next st' => exact ih st' hL

end IcyVerif.Comp
