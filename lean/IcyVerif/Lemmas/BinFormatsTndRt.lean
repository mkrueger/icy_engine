import IcyVerif.Lemmas.BinFormatsTndRun
import IcyVerif.Lemmas.BinFormatsSauce
/-!
# C05, Tundra: the round trip theorem
-/
namespace IcyVerif.BinFormats
open IcyVerif.XbCompress IcyVerif.Gen

/-- the joint start state: the writer starts from attribute byte 0, the loader from black-only palette and its default
    colours; nothing is assumed about how they relate (`first = true`) -/
def js0 (p : Pic) : JS :=
  { wattr := fromU8' p.ice 0, first := true, lpal := [(0, 0, 0)], lfg := Xb.defaultFg, lbg := Xb.defaultBg }

theorem js0_inv (p : Pic) : JInv p.pal (js0 p) := by
  intro h; exact absurd (show true = false from h) (by decide)

/-- the buffer the Tundra loader produces for a representable picture -/
def tndLoaded (p : Pic) (m : Option Sauce.Meta) : LBuf :=
  { bw := p.w, bh := (p.h : Int), lw := p.w, lh := (p.h : Int),
    lines := (jrows p.pal (js0 p) p.rows).2.map (partRow p.w), ice := .ice, pal := (jrows p.pal (js0 p) p.rows).1.lpal,
    fonts := [(0, defaultFont)], sauce := m }

theorem tnd_start (s : Sauce.Sauce) (hw1 : 1 ≤ s.width) (hf : s.font = none) :
    tndStart (some s) = { bw := s.width, bh := s.height, lw := s.width, lh := s.height, lines := [],
                          ice := if s.ice then .ice else .unlimited, pal := dosPalette, fonts := [(0, defaultFont)], sauce := some (metaOf s) } := by
  unfold tndStart
  have hm : BinFmt.tndWideAbove = 1000 := rfl
  rw [show (BinFmt.tndClearsRows == 1) = true from rfl, start_setSauce', show startFonts s = [(0, defaultFont)] by unfold startFonts; simp [hf]]
  dsimp only
  by_cases hw : s.width ≤ 1000
  · rw [if_neg (by rw [hm]; omega), sauceW_eq s hw1 hw]
  · rw [if_pos (by rw [hm]; omega)]

theorem tnd_cells_cond (p : Pic)
    (hcells : allCells p (fun c => decide (c.ch ≤ 255) && isVisible c && !isBlink c.attr && decide (c.attr.fg < 2147483648) &&
      decide (c.attr.bg < 2147483648)) = true) :
    ∀ r ∈ p.rows, ∀ c ∈ r, c.ch ≤ 255 ∧ isVisible c = true ∧ isBlink c.attr = false ∧ c.attr.fg < 2147483648 ∧ c.attr.bg < 2147483648 := by
  intro r hr c hc
  have := allCells_mem hcells hr hc
  simp only [Bool.and_eq_true, decide_eq_true_eq, Bool.not_eq_true'] at this
  obtain ⟨⟨⟨⟨h1, h2⟩, h3⟩, h4⟩, h5⟩ := this
  exact ⟨h1, h2, h3, h4, h5⟩

theorem tnd_load (p : Pic) (s : Option Sauce.Sauce) (hwf : wellFormed p = true) (hw1 : 1 ≤ p.w)
    (hs : (s = none ∧ p.w = 80) ∨ (∃ s', s = some s' ∧ s'.width = p.w ∧ s'.font = none)) :
    tndLoad (([BinFmt.tndVersion] ++ BinFmt.tndHeader) ++ tndStream p.pal (js0 p) p.rows.flatten) s = .ok (tndLoaded p (s.map metaOf)) := by
  have hrun := fun (sl : TL) (F : Nat) => tnd_run p.pal p.rows.flatten (js0 p) sl 0 0 F []
  have hlen := tndStream_length p.pal p.rows.flatten (js0 p)
  generalize hbytes : tndStream p.pal (js0 p) p.rows.flatten = bytes at hrun hlen ⊢
  obtain ⟨hne, hrows, hwid⟩ := rows_nonempty p hwf
  -- either start buffer is `p.w` columns wide and has no rows; its heights and mode do not matter
  have hstart : ∃ bh0 lh0 : Int, ∃ im : IceMode, tndStart s =
      { bw := p.w, bh := bh0, lw := p.w, lh := lh0, lines := [], ice := im, pal := dosPalette, fonts := [(0, defaultFont)],
        sauce := s.map metaOf } := by
    rcases hs with ⟨h1, h2⟩ | ⟨s', h1, h2, h3⟩
    · subst h1
      rw [tnd_start_none, h2]
      exact ⟨_, _, _, rfl⟩
    · subst h1
      rw [tnd_start s' (by omega) h3, h2]
      exact ⟨_, _, _, rfl⟩
  obtain ⟨bh0, lh0, im, hst⟩ := hstart
  -- the header guards, then the command loop by `tnd_run`: one unit of fuel per cell, the rest is left over
  unfold tndLoad
  rw [hst]
  have hhl : BinFmt.tndHeader.length = 8 := rfl
  have c1 : ¬ ((([BinFmt.tndVersion] ++ BinFmt.tndHeader) ++ bytes).length < 1 + BinFmt.tndHeader.length) := by
    simp only [List.length_append, List.length_cons, List.length_nil, hhl]; omega
  have c2 : ((((([BinFmt.tndVersion] ++ BinFmt.tndHeader) ++ bytes).drop 1).take BinFmt.tndHeader.length) != BinFmt.tndHeader) = false := by
    have : (([BinFmt.tndVersion] ++ BinFmt.tndHeader) ++ bytes).drop 1 = BinFmt.tndHeader ++ bytes := by simp
    rw [this, List.take_left' rfl]; simp
  have c3 : (([BinFmt.tndVersion] ++ BinFmt.tndHeader) ++ bytes).drop (1 + BinFmt.tndHeader.length) = bytes :=
    List.drop_left' (by simp [hhl])
  simp only [c1, if_false, c2, Bool.false_eq_true, c3]
  let b1 : LBuf := { bw := p.w, bh := bh0, lw := p.w, lh := lh0, lines := [], ice := IceMode.ice, pal := [(0, 0, 0)], fonts := [(0, defaultFont)],
                     sauce := s.map metaOf }
  have hl := hrun ⟨b1, Xb.defaultFg, Xb.defaultBg, 0, 0⟩ (bytes.length + 1 - p.rows.flatten.length) rfl rfl rfl rfl rfl hw1
  rw [List.append_nil] at hl
  have hfuel : bytes.length + 1 = (bytes.length + 1 - p.rows.flatten.length) + p.rows.flatten.length := by omega
  show (match tndLoop (bytes.length + 1) bytes ⟨b1, Xb.defaultFg, Xb.defaultBg, 0, 0⟩ with
        | .ok s => Out.ok ({ s.buf with bw := s.buf.lw, bh := s.buf.lh } : LBuf)
        | .err => .err
        | .panic => .panic) = _
  rw [hfuel, hl, tndLoop_nil]
  simp only
  -- the state `tnd_run` ends in holds the placed rows of the joint run: `placeAll_rows`
  let rows'' := (jrows p.pal (js0 p) p.rows).2
  obtain ⟨hl1, hrw⟩ := jrows_shape p.pal p.w p.rows (js0 p) hwid
  have hflat := jrows_flatten p.pal p.rows (js0 p)
  have hplace := placeAll_rows true false p.w hw1 rows'' b1 hrw (Nat.le_refl _) (Or.inl rfl)
  have hrne : rows'' ≠ [] := by
    intro he
    have : rows''.length = 0 := by rw [he]; rfl
    rw [hl1, hrows] at this
    unfold wellFormed at hwf
    simp only [Bool.and_eq_true, decide_eq_true_eq] at hwf
    omega
  have hb1l : b1.lines = [] := rfl
  rw [hb1l] at hplace
  simp only [List.length_nil, List.nil_append, hrne, ne_eq, not_false_eq_true, and_true, if_true, Bool.false_eq_true,
    if_false] at hplace
  unfold runResult
  simp only [hflat]
  have hbw : b1.bw = p.w := rfl
  rw [hbw, hplace]
  unfold tndLoaded withPal
  simp [b1, rows'', hl1, hrows]

theorem tnd_same (p : Pic) (m : Option Sauce.Meta) (hwf : wellFormed p = true) (hice : p.ice = .ice) (hpages : analyzeFontUsage p.rows.flatten = [0])
    (hsize : p.w * p.h < 1073741824)
    (hcells : ∀ r ∈ p.rows, ∀ c ∈ r, c.ch ≤ 255 ∧ isVisible c = true ∧ isBlink c.attr = false ∧ c.attr.fg < 2147483648 ∧ c.attr.bg < 2147483648) :
    SamePicture .tnd p (tndLoaded p m) := by
  obtain ⟨hne, hrows, hwid⟩ := rows_nonempty p hwf
  obtain ⟨hl1, hl2⟩ := jrows_shape p.pal p.w p.rows (js0 p) hwid
  obtain ⟨_, _, hgood, hlen⟩ := jrows_good p.pal p.rows (js0 p) (js0_inv p)
  have hpl : (jrows p.pal (js0 p) p.rows).1.lpal.length < 2147483648 := by
    have h1 : (js0 p).lpal.length = 1 := rfl
    rw [h1, flatten_length_rows p.rows p.w hwid, hrows] at hlen
    have : p.h * p.w = p.w * p.h := Nat.mul_comm _ _
    omega
  refine ⟨rfl, rfl, ?_, ?_, ?_, ?_, ?_⟩
  · show ((((jrows p.pal (js0 p) p.rows).2.map (partRow p.w)).length : Nat) : Int) ≤ (p.h : Int)
    simp [hl1, hrows]
  · show isIce IceMode.ice = isIce p.ice
    rw [hice]
  · intro y x hy hx
    obtain ⟨hrl, hyr⟩ := row_length_of_wf p hwf y hy
    have hy'' : y < (jrows p.pal (js0 p) p.rows).2.length := by rw [hl1]; exact hyr
    have hx'' : x < ((jrows p.pal (js0 p) p.rows).2.getD y []).length := by rw [hl2 _ (Basics.getD_mem hy'')]; exact hx
    have hsrc : p.cell x y ∈ p.rows.getD y [] := Basics.getD_mem (by rw [hrl]; exact hx)
    have hrmem : p.rows.getD y [] ∈ p.rows := Basics.getD_mem hyr
    obtain ⟨hv, hsame, hpage⟩ := (allGood2_get p.pal _ p.rows _ y x hgood hyr (by rw [hrl]; exact hx)).same hpl
      (hcells _ hrmem _ hsrc).2.2.1 (page_zero p.rows hpages _ hrmem _ hsrc)
    have hcell := getCell_rows (tndLoaded p m) _ rfl x y hy'' hx'' hx (by show (y : Int) < (p.h : Int); omega) hv
    rw [hcell]
    exact ⟨hsame, hpage⟩
  · intro h; exact absurd h (by decide)
  · intro h; exact absurd h (by decide)

theorem tndSave_eq (s : Bool) (date : List Nat) (p : Pic) : tndSave s date p = withSauce s .tundra p date (tndSave false date p) := by
  show Sauces s .tundra p date _ _
  unfold tndSave
  refine .ite .err ?_
  dsimp only
  cases tndCells p.pal ⟨[BinFmt.tndVersion] ++ BinFmt.tndHeader, fromU8' p.ice 0, true, none⟩ 0 p.rows.flatten with
  | none => exact .err
  | some s => exact .leaf _

theorem tndSave_ok_iff (date : List Nat) (p : Pic) (body : List Nat) :
    tndSave false date p = .ok body ↔
      (analyzeFontUsage p.rows.flatten).length ≤ 1 ∧
      ∃ s, tndCells p.pal ⟨[BinFmt.tndVersion] ++ BinFmt.tndHeader, fromU8' p.ice 0, true, none⟩ 0 p.rows.flatten = some s ∧
        body = s.out ++ (match s.skip with | none => [] | some i => List.replicate (p.w * p.h - i) 0) := by
  unfold tndSave
  rw [ok_ite_err_iff]
  dsimp only
  cases tndCells p.pal ⟨[BinFmt.tndVersion] ++ BinFmt.tndHeader, fromU8' p.ice 0, true, none⟩ 0 p.rows.flatten with
  | none => exact ⟨fun ⟨_, e⟩ => (nomatch e), fun ⟨_, _, e, _⟩ => (nomatch e)⟩
  | some s =>
    exact ⟨fun ⟨h, e⟩ => ⟨by omega, s, rfl, (Out.ok.inj e).symm⟩, fun ⟨h, _, e, hb⟩ => ⟨by omega, by cases e; rw [hb]; rfl⟩⟩

theorem tnd_roundtrip (o : Opts) (date : List Nat) (p : Pic) (hrep : Representable .tnd o p = true) (hdate : dateOk date = true) :
    ∃ bytes, save .tnd o date p = .ok bytes ∧
      ((o.sauce = true ∨ tailReadsAsSauce bytes = false) → ∃ g, fromBytes .tnd bytes = .ok g ∧ SamePicture .tnd p g) := by
  obtain ⟨hmeta, hwf, hwidth, hsize, hice, hpages, hfont, hcells⟩ := (representable_tnd o p).mp hrep
  obtain ⟨hne, hrows, hwid⟩ := rows_nonempty p hwf
  have hcc := tnd_cells_cond p hcells
  have hw1 : 1 ≤ p.w := by
    rcases hwidth with h | h
    · omega
    · exact h.1.2
  have hvis : ∀ c ∈ p.rows.flatten, isVisible c = true ∧ c.ch ≤ 255 := by
    intro c hc
    obtain ⟨r, hr, hcr⟩ := List.mem_flatten.mp hc
    obtain ⟨h1, h2, _⟩ := hcc r hr c hcr
    exact ⟨h2, h1⟩
  let bytes := tndStream p.pal (js0 p) p.rows.flatten
  have hwr := tndCells_stream p.pal p.rows.flatten (js0 p) ⟨[BinFmt.tndVersion] ++ BinFmt.tndHeader, fromU8' p.ice 0, true, none⟩ 0 rfl rfl hvis
  let body := ([BinFmt.tndVersion] ++ BinFmt.tndHeader) ++ bytes
  have hsave0 : tndSave o.sauce date p = if o.sauce then writeSauce .tundra p date body else .ok body := by
    rw [tndSave_eq, (tndSave_ok_iff date p body).mpr ⟨by rw [hpages]; decide, _, hwr, (List.append_nil _).symm⟩]
    rfl
  have hload : ∀ s, ((s = none ∧ p.w = 80) ∨ (∃ s', s = some s' ∧ s'.width = p.w ∧ s'.font = none)) →
      ∃ g, loadBody .tnd body s = .ok g ∧ SamePicture .tnd p g := fun s hs =>
    ⟨_, tnd_load p s hwf hw1 hs, tnd_same p _ hwf hice hpages hsize hcc⟩
  refine roundtrip_of_body .tnd .tundra o date p body hsave0 hmeta hdate (fun hsa => ?_) (fun hsa => hload none (Or.inl ⟨rfl, ?_⟩))
  · rw [hsa] at hfont hwidth
    obtain ⟨f0, hf0⟩ := Option.isSome_iff_exists.mp (hfont.resolve_left (by decide))
    have hw65 : p.w ≤ 65535 := by
      rcases hwidth with h | h
      · omega
      · exact h.2
    refine ⟨f0, hf0, nofun, fun hl => hload _ (Or.inr ⟨_, rfl, ?_⟩)⟩
    obtain ⟨c1, _, _, _, _, c4, _⟩ := IcyVerif.C11.carry_plain 6 (by decide) (bufInfo p f0.name) hl
    exact ⟨c1.trans (Nat.mod_eq_of_lt (by show p.w < 65536; omega)), c4⟩
  · rw [hsa] at hwidth
    exact hwidth.resolve_right (fun h => absurd h.1.1 (by decide))

end IcyVerif.BinFormats
