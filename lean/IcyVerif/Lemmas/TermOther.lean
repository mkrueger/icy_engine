import IcyVerif.Lemmas.TermStep
import IcyVerif.Model.TermOther
/-! # ASCII, ATASCII, PETSCII, Viewdata, Mode 7: what an arm does (`OEff`), the invariant and the frame read off it
The three scrolling emulations move the cursor, clamp it, print, feed lines and clear; the two page emulations never grow the
buffer but move the cursor around the page. -/
namespace IcyVerif.Term

/-- invariant for the byte-oriented emulations: `GoodSt` of a state that never resized (they have no resize function) -/
def GoodO (st : OSt) : Prop := ScrOk st.s ∧ CurOk st.s st.c ∧ InScr st.s st.c
abbrev GoodOR (r : OSt × Out) : Prop := GoodO r.1

/-- additionally, for the fixed-grid emulations: the buffer is exactly the page -/
def Fixed (st : OSt) : Prop := st.s.bh = st.s.th ∧ st.s.bw = st.s.tw

theorem GoodO.scr {st : OSt} (h : GoodO st) : ScrOk st.s := h.1
theorem GoodO.cur {st : OSt} (h : GoodO st) : CurOk st.s st.c := h.2.1
theorem GoodO.inScr {st : OSt} (h : GoodO st) : InScr st.s st.c := h.2.2

theorem goodO_toSt (st : OSt) (h : GoodO st) : GoodSt { s := st.s, c := st.c, p := {} } := ⟨h.1, h.2.1, fun _ => h.2.2⟩
theorem goodO_ofSt {s : Scr} {c : Car} {p : Par} (b : Bool) (h : GoodSt ⟨s, c, p⟩) (hr : p.resized = false) : GoodO ⟨s, c, b⟩ :=
  ⟨h.1, h.2.1, h.2.2 hr⟩

def InPage (s : Scr) (c : Car) : Prop := 0 ≤ c.x ∧ c.x < s.tw ∧ 0 ≤ c.y ∧ c.y < s.th
/-- a cursor move of the page emulations; the page is not empty -/
def PageMove (s : Scr) (c c' : Car) : Prop := 1 ≤ s.tw → 1 ≤ s.th → InPage s c → InPage s c'

def SameSize (st : OSt) (r : OSt × Out) : Prop := r.1.s.tw = st.s.tw ∧ r.1.s.th = st.s.th
/-- what a byte-oriented emulation leaves alone -/
def OFrame (st : OSt) (r : OSt × Out) : Prop :=
  r.1.s.tw = st.s.tw ∧ r.1.s.th = st.s.th ∧ (r.1.s.bw = st.s.bw ∨ r.1.s.bw = st.s.tw)

/-- What one arm of a byte-oriented emulation does to the state `st` it starts from; `pg`: a page emulation.  In `clamp`
    and `grow`, `x` is `st` after the arm has set its own escape flag, which it does before it calls the primitive. -/
inductive OEff (pg : Prop) (st : OSt) : OR → Prop
  /-- flags only, or a cursor move that needs no clamp: CR, backspace, home, end of line -/
  | upd (c' : Car) (b : Bool) (o : Out) (hc : Moved st.c st.s c') : OEff pg st (oret ⟨st.s, c', b⟩ o)
  /-- a cursor position clamped by `limit`: the cursor keys, Mode 7's line feed (`Caret::index`) -/
  | clamp (x : OSt) (c0 : Car) (hx : x.s = st.s) : OEff pg st (oliftC x (limit st.s c0))
  /-- line feed, a printed character: the scrolling emulations only -/
  | grow (x : OSt) (r : Res (Scr × Car)) (hn : ¬ pg) (hr : Grow st.s st.c r) : OEff pg st (oliftSC x r)
  /-- form feed, clear screen -/
  | clear (s' : Scr) (i b : Bool) (o : Out) (hs : Cleared st.s s') : OEff pg st (oret ⟨s', ⟨0, 0, i⟩, b⟩ o)
  /-- a cursor move around the page, possibly with the terminal state reset (form feed of the page emulations) -/
  | page (s' : Scr) (c' : Car) (b : Bool) (o : Out) (hp : pg) (hs : Retouch st.s s') (hc : PageMove st.s st.c c') :
      OEff pg st (oret ⟨s', c', b⟩ o)
  /-- ATASCII / PETSCII insert and delete line behind their index guard -/
  | lineOp (e : Panic) (h : LineOpPanics st.s st.c.y) : OEff pg st (.error e)
  /-- the `i32` guard in front of every step -/
  | overflow (site : String) : OEff pg st (.error (.overflow site))

theorem OEff.ite {pg : Prop} {st : OSt} {c : Prop} [Decidable c] {a b : OR}
    (ha : c → OEff pg st a) (hb : ¬ c → OEff pg st b) : OEff pg st (if c then a else b) := iteInduction ha hb

section
variable {pg : Prop} {st : OSt}

theorem OEff.keep (x : OSt) (o : Out) (hx : x.s = st.s ∧ x.c = st.c) : OEff pg st (oret x o) := by
  obtain ⟨s, c, b⟩ := x
  obtain ⟨rfl, rfl⟩ := hx
  exact .upd _ _ _ .same

theorem printValue_eff (hn : ¬ pg) (x : OSt) (v : Nat) (hx : x.s = st.s ∧ x.c = st.c) : OEff pg st (printValue x v) := by
  unfold printValue
  refine .ite (fun _ => .keep _ _ hx) fun _ => ?_
  rw [hx.1, hx.2]; exact .grow _ _ hn .print

theorem asciiStep_eff (hn : ¬ pg) (st : OSt) (ch : Char) : OEff pg st (asciiStep st ch) := by
  unfold asciiStep
  refine .ite (fun _ => .keep _ _ ⟨rfl, rfl⟩) fun _ => .ite (fun _ => .keep _ _ ⟨rfl, rfl⟩) fun _ => ?_
  refine .ite (fun _ => .grow _ _ hn .lf) fun _ => .ite (fun _ => .clear _ _ _ _ .ff) fun _ => ?_
  refine .ite (fun _ => .upd _ _ _ .col0) fun _ => .ite (fun _ => .upd _ _ _ .back) fun _ => ?_
  exact .ite (fun _ => .keep _ _ ⟨rfl, rfl⟩) fun _ => printValue_eff hn _ _ ⟨rfl, rfl⟩

theorem atasciiStep_eff (hn : ¬ pg) (st : OSt) (ch : Char) : OEff pg st (atasciiStep st ch) := by
  unfold atasciiStep
  -- after ESC the byte is printed as it is; ESC
  refine .ite (fun _ => printValue_eff hn _ _ ⟨rfl, rfl⟩) fun _ => .ite (fun _ => .keep _ _ ⟨rfl, rfl⟩) fun _ => ?_
  -- cursor up, down, left, right
  refine .ite (fun _ => .clamp _ _ rfl) fun _ => .ite (fun _ => .clamp _ _ rfl) fun _ => ?_
  refine .ite (fun _ => .clamp _ _ rfl) fun _ => .ite (fun _ => .clamp _ _ rfl) fun _ => ?_
  -- clear screen, backspace; tab and the tab stops; end of line
  refine .ite (fun _ => .clear _ _ _ _ .cs) fun _ => .ite (fun _ => .upd _ _ _ .back) fun _ => ?_
  refine .ite (fun _ => .keep _ _ ⟨rfl, rfl⟩) fun _ => .ite (fun _ => .grow _ _ hn .lf) fun _ => ?_
  -- delete / insert line; bell, delete / insert character; any other byte is printed
  refine .ite (fun _ => .ite (fun h => .lineOp _ h) fun _ => .keep _ _ ⟨rfl, rfl⟩) fun _ => ?_
  exact .ite (fun _ => .keep _ _ ⟨rfl, rfl⟩) fun _ => printValue_eff hn _ _ ⟨rfl, rfl⟩

theorem petsciiStep_eff (hn : ¬ pg) (st : OSt) (ch : Char) : OEff pg st (petsciiStep st ch) := by
  unfold petsciiStep
  refine .ite (fun _ => ?_) fun _ => ?_
  · -- after ESC: `J`, `K`, delete / insert line
    refine .ite (fun _ => .upd _ _ _ .col0) fun _ => .ite (fun _ => .upd _ _ _ .eol) fun _ => ?_
    exact .ite (fun _ => .ite (fun h => .lineOp _ h) fun _ => .keep _ _ ⟨rfl, rfl⟩) fun _ => .keep _ _ ⟨rfl, rfl⟩
  -- 0x0A column 0, 0x0D / 0x8D line feed; 0x11 down, 0x13 home; 0x14 backspace, 0x1B ESC
  refine .ite (fun _ => .upd _ _ _ .col0) fun _ => .ite (fun _ => .grow _ _ hn .lf) fun _ => ?_
  refine .ite (fun _ => .clamp _ _ rfl) fun _ => .ite (fun _ => .upd _ _ _ (.home _)) fun _ => ?_
  refine .ite (fun _ => .upd _ _ _ .back) fun _ => .ite (fun _ => .keep _ _ ⟨rfl, rfl⟩) fun _ => ?_
  -- 0x1D right, 0x91 up; 0x93 clear screen, 0x9D left; 0xFF prints, the colour and mode controls
  refine .ite (fun _ => .clamp _ _ rfl) fun _ => .ite (fun _ => .clamp _ _ rfl) fun _ => ?_
  refine .ite (fun _ => .clear _ _ _ _ .cs) fun _ => .ite (fun _ => .clamp _ _ rfl) fun _ => ?_
  refine .ite (fun _ => .grow _ _ hn .print) fun _ => .ite (fun _ => .keep _ _ ⟨rfl, rfl⟩) fun _ => ?_
  -- an assigned code prints, an unassigned one is an error of the parser, not a panic
  split
  · exact .grow _ _ hn .print
  · exact .keep _ _ ⟨rfl, rfl⟩
end

theorem vdDown_page (s : Scr) (c : Car) (hp : InPage s c) : InPage s (vdDown s c) := by
  unfold InPage at *; unfold vdDown; split <;> simp only <;> omega
theorem vdUp_page (s : Scr) (c : Car) (hp : InPage s c) : InPage s (vdUp s c) := by
  unfold InPage at *; unfold vdUp satSub sat; split <;> simp only <;> omega
theorem vdRight_page (s : Scr) (c : Car) (hw : 1 ≤ s.tw) (hp : InPage s c) : InPage s (vdRight s c) := by
  unfold vdRight
  split
  · exact vdDown_page s _ ⟨Int.le_refl 0, hw, hp.2.2⟩
  · unfold InPage at *; simp only; omega
theorem vdLeft_page (s : Scr) (c : Car) (hw : 1 ≤ s.tw) (hp : InPage s c) : InPage s (vdLeft s c) := by
  unfold vdLeft
  split
  · unfold InPage satSub sat at *; simp only; omega
  · exact vdUp_page s _ ⟨by simp only; omega, by simp only; omega, hp.2.2⟩

section
variable {pg : Prop} {st : OSt}

/-- what Viewdata and Mode 7 share: cursor up (11), form feed (12), CR (13), home (30), the other controls -/
theorem pageCommon_eff (hp : pg) {rest : OR} (ch : Char) (hrest : OEff pg st rest) :
    OEff pg st (if ch.toNat % 256 = 11 then oret { st with c := vdUp st.s st.c } .ok
      else if ch.toNat % 256 = 12 then oret { st with s := resetTerminal st.s, c := { st.c with x := 0, y := 0 } } .ok
      else if ch.toNat % 256 = 13 then oret { st with c := { st.c with x := 0 } } .ok
      else if ch.toNat % 256 = 30 then oret { st with c := { st.c with x := st.s.upperLeft.1, y := st.s.upperLeft.2 } } .ok
      else if ch.toNat % 256 < 32 then oret st .ok
      else rest) := by
  refine .ite (fun _ => .page _ _ _ _ hp .same fun _ _ h => vdUp_page _ _ h) fun _ => ?_
  refine .ite (fun _ => .page _ _ _ _ hp .reset fun hw h1 h => ⟨Int.le_refl 0, hw, Int.le_refl 0, h1⟩) fun _ => ?_
  refine .ite (fun _ => .upd _ _ _ .col0) fun _ => .ite (fun _ => .upd _ _ _ (.home _)) fun _ => ?_
  exact .ite (fun _ => .keep _ _ ⟨rfl, rfl⟩) fun _ => hrest

theorem viewdataStep_eff (hp : pg) (st : OSt) (ch : Char) : OEff pg st (viewdataStep st ch) := by
  have hright : OEff pg st (oret { st with c := vdRight st.s st.c } .ok) :=
    .page _ _ _ _ hp .same fun hw _ h => vdRight_page _ _ hw h
  unfold viewdataStep
  refine .ite (fun _ => .page _ _ _ _ hp .same fun hw _ h => vdLeft_page _ _ hw h) fun _ => .ite (fun _ => hright) fun _ => ?_
  refine .ite (fun _ => .page _ _ _ _ hp .same fun _ _ h => vdDown_page _ _ h) fun _ => ?_
  exact pageCommon_eff hp ch hright

/-- Mode 7 cursor right: at the end of the row `Caret::index` clamps, it cannot leave the page -/
theorem m7Right_eff (hp : pg) (st : OSt) : OEff pg st (oliftC st (m7Right st.s st.c)) := by
  unfold m7Right
  split
  · exact .clamp _ _ rfl
  · exact .page _ _ _ _ hp .same fun _ _ h => ⟨by have := h.1; simp only; omega, by simp only; omega, h.2.2⟩

theorem mode7Step_eff (hp : pg) (st : OSt) (ch : Char) : OEff pg st (mode7Step st ch) := by
  unfold mode7Step
  refine .ite (fun _ => .page _ _ _ _ hp .same fun hw _ h => vdLeft_page _ _ hw h) fun _ => ?_
  refine .ite (fun _ => m7Right_eff hp st) fun _ => .ite (fun _ => .clamp _ _ rfl) fun _ => ?_
  refine pageCommon_eff hp ch ?_
  refine .ite (fun _ => .upd _ _ _ .back) fun _ => .ite (fun _ => .keep _ _ ⟨rfl, rfl⟩) fun _ => m7Right_eff hp st

theorem ostep_eff (e : Emu2) (st : OSt) (ch : Char) : OEff (e = .viewdata ∨ e = .mode7) st (ostep e st ch) := by
  unfold ostep
  refine .ite (fun _ => .overflow _) fun _ => ?_
  cases e with
  | ascii => exact asciiStep_eff (by decide) st ch
  | atascii => exact atasciiStep_eff (by decide) st ch
  | petscii => exact petsciiStep_eff (by decide) st ch
  | viewdata => exact viewdataStep_eff (.inl rfl) st ch
  | mode7 => exact mode7Step_eff (.inr rfl) st ch
end

theorem fixed_fv (st : OSt) (h : GoodO st ∧ Fixed st) : st.s.fv = 0 := by
  obtain ⟨⟨g1, _, _⟩, ⟨f1, _⟩⟩ := h
  have := g1.th1; have := g1.th2
  simp only [Scr.fv, satSub, sat, f1]; omega

theorem OEff.good {pg : Prop} {st : OSt} {r : OR} (h : OEff pg st r) (hg : GoodO st) (hf : pg → Fixed st)
    (hb : st.s.bh ≤ 1073741854) : Holds IsOv r (fun r => GoodO r.1 ∧ (pg → Fixed r.1)) := by
  have hst := goodO_toSt st hg
  cases h with
  | upd c' b o hc => exact ⟨goodO_ofSt b (good_moved _ c' hst hb hc) rfl, hf⟩
  | clamp x c0 hx =>
    -- whatever the cursor was, `limit` puts it on the screen
    obtain ⟨c', he, hl⟩ := (limit_full st.s c0 hg.scr (by omega)).isOk
    rw [he]
    exact ⟨⟨hx ▸ hg.scr, hx ▸ hl.1, hx ▸ hl.2.2 hg.inScr.1⟩, fun hp => hx ▸ hf hp⟩
  | grow x r hn hr =>
    have hs := liftSC_good ⟨st.s, st.c, {}⟩ ⟨st.s, st.c, {}⟩ r .ok hst rfl (hr.step hg.scr hg.cur hb)
    rcases r with e | ⟨s', c'⟩
    · exact hs
    · exact ⟨goodO_ofSt x.esc hs rfl, fun hp => (hn hp).elim⟩
  | clear s' i b o hs =>
    exact ⟨goodO_ofSt b (good_clear s' {} i (hs.scrOk hg.1) hs.dims.1) rfl, fun _ => ⟨hs.dims.1, hs.bw.trans hs.dims.2.2.symm⟩⟩
  | page s' c' b o hp hs hc =>
    -- on a buffer that is exactly the page the first visible row is 0, and a cell of the page is on the screen
    have hfx := hf hp
    have hfv := fixed_fv st ⟨hg, hfx⟩
    have hd := hs.dims
    have hk := hs.scrOk hg.1
    obtain ⟨g1, g2, g3⟩ := hg
    obtain ⟨hx0, hx1, hy0, hy1⟩ := hc g1.tw1 g1.th1 ⟨g2.1, g3.2.1, g2.2.2.1, by have := g3.2.2.2; omega⟩
    have := g1.tw2; have := g1.th2; have := g1.bh0
    have hfv' : s'.fv = 0 := by unfold Scr.fv at hfv ⊢; rw [hd.1, hd.2.1]; exact hfv
    have k1 : c'.x ≤ 132 := by omega
    have k2 : c'.y ≤ s'.bh + 60 := by rw [hd.1]; omega
    have k3 : s'.th ≤ s'.bh := by rw [hd.1, hd.2.1]; exact g3.1
    have k4 : c'.x < s'.tw := by rw [hd.2.2]; exact hx1
    have k5 : c'.y < s'.fv + s'.th := by rw [hd.2.1]; omega
    have k6 : s'.bh = s'.th := by rw [hd.1, hd.2.1]; exact hfx.1
    have k7 : s'.bw = s'.tw := by rw [hs.bw, hd.2.2]; exact hfx.2
    have k8 : s'.fv ≤ c'.y := by omega
    exact ⟨⟨hk, ⟨hx0, k1, hy0, k2⟩, ⟨k3, k4, k8, k5⟩⟩, fun _ => ⟨k6, k7⟩⟩
  | lineOp e h => exact (not_lineOpPanics _ _ hg.scr.mtb hg.cur.2.2.1 h).elim
  | overflow site => exact ⟨site, rfl⟩

theorem ostep_good (e : Emu2) (st : OSt) (ch : Char) (h : GoodO st) (hf : e = .viewdata ∨ e = .mode7 → Fixed st) :
    Holds IsOv (ostep e st ch) (fun r => GoodO r.1 ∧ (e = .viewdata ∨ e = .mode7 → Fixed r.1)) := by
  by_cases hr : RangeOk st.s st.c
  · exact (ostep_eff e st ch).good h hf (rangeOk_bh st.s st.c h.1 hr)
  · unfold ostep
    rw [if_pos hr]
    exact ⟨_, rfl⟩

theorem printValue_good (st : OSt) (v : Nat) (h : GoodO st) (hb : st.s.bh ≤ 1073741854) :
    okOrOv (printValue st v) GoodOR :=
  okOrOv_iff.2 (((printValue_eff (pg := False) id st v ⟨rfl, rfl⟩).good h False.elim hb).mono fun _ h => h.1)

theorem OEff.frame {pg : Prop} {st : OSt} {r : OR} (h : OEff pg st r) : Holds AnyErr r (OFrame st) := by
  cases h with
  | upd c' b o hc => exact ⟨rfl, rfl, .inl rfl⟩
  | clamp x c0 hx =>
    rcases limit st.s c0 with e | c'
    · trivial
    · exact ⟨by rw [← hx], by rw [← hx], .inl (by rw [← hx])⟩
  | grow x r hn hr =>
    have hk := hr.onlyBh
    rcases r with e | ⟨s', c'⟩
    · trivial
    · have hk' : s' = { st.s with bh := s'.bh } := hk
      show OFrame st ({ x with s := s', c := c' }, .ok)
      rw [hk']; exact ⟨rfl, rfl, .inl rfl⟩
  | clear s' i b o hs => exact ⟨hs.dims.2.2, hs.dims.2.1, .inr hs.bw⟩
  | page s' c' b o hp hs hc => exact ⟨hs.dims.2.2, hs.dims.2.1, .inl hs.bw⟩
  | lineOp | overflow => trivial

theorem ostep_frame (e : Emu2) (st : OSt) (ch : Char) : Holds AnyErr (ostep e st ch) (OFrame st) := (ostep_eff e st ch).frame

theorem orun_holds {E : Panic → Prop} {P : OSt → Prop} (e : Emu2)
    (hstep : ∀ st ch, P st → Holds E (ostep e st ch) (fun r => P r.1)) :
    ∀ (cs : List Char) (st : OSt), P st → Holds E (orun e st cs) P := by
  intro cs
  induction cs with
  | nil => intro st h; exact h
  | cons ch rest ih =>
    intro st h
    unfold orun
    have h2 := hstep st ch h
    generalize ostep e st ch = x at h2 ⊢
    rcases x with e | ⟨st', out⟩
    · exact h2
    · exact ih st' h2

theorem orun_good (e : Emu2) (cs : List Char) (st : OSt) (h : GoodO st) (hf : e = .viewdata ∨ e = .mode7 → Fixed st) :
    Holds IsOv (orun e st cs) (fun st' => GoodO st' ∧ (e = .viewdata ∨ e = .mode7 → Fixed st')) :=
  orun_holds e (fun st ch hs => ostep_good e st ch hs.1 hs.2) cs st ⟨h, hf⟩

theorem initO_good (w h : Int) (hw1 : 1 ≤ w) (hw2 : w ≤ 132) (hh1 : 1 ≤ h) (hh2 : h ≤ 60) :
    GoodO (initO w h) ∧ Fixed (initO w h) := by
  have hg := initSt_good w h hw1 hw2 hh1 hh2
  exact ⟨⟨hg.1, hg.2.1, hg.2.2 rfl⟩, ⟨rfl, rfl⟩⟩

theorem orun_reach (e : Emu2) (w h : Int) (hw1 : 1 ≤ w) (hw2 : w ≤ 132) (hh1 : 1 ≤ h) (hh2 : h ≤ 60) (bytes : List Char)
    (st : OSt) (hrun : orun e (initO w h) bytes = .ok st) : GoodO st ∧ (e = .viewdata ∨ e = .mode7 → Fixed st) := by
  have hi := initO_good w h hw1 hw2 hh1 hh2
  have hg := orun_good e bytes (initO w h) hi.1 (fun _ => hi.2)
  rw [hrun] at hg
  exact hg

end IcyVerif.Term
