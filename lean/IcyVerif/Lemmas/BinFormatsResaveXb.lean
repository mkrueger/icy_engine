import IcyVerif.Lemmas.BinFormatsRange
import IcyVerif.Lemmas.BinFormatsXbRt
import IcyVerif.Lemmas.BinFormatsFonts
/-!
# C05, XBin: every file the loader accepts loads to a picture the writer reproduces
-/
namespace IcyVerif.BinFormats
open IcyVerif.XbCompress IcyVerif.Gen

/-- `fontOk f = true` as a proposition (`fontOk_of`; the converse is `fontOk_parts`) -/
def fontShape (f : Font) : Prop := 1 ≤ f.height ∧ f.height ≤ 32 ∧ f.data.length = 256 * f.height

theorem fontOk_of (f : Font) (h1 : fontShape f) : fontOk f = true := by
  unfold fontOk
  obtain ⟨a, b, c⟩ := h1
  simp only [Bool.and_eq_true, decide_eq_true_eq, beq_iff_eq]
  exact ⟨⟨a, b⟩, c⟩

theorem decodeChar_cell (ice ext : Bool) (c a : Nat) (hc : c < 256) (ha : a < 256) :
    attrCell ice (decodeChar ice ext (c, a)) = true ∧
    (if ext then ((decodeChar ice ext (c, a)).attr.page = 0 ∨ (decodeChar ice ext (c, a)).attr.page = 1) ∧
        (decodeChar ice ext (c, a)).attr.fg < 8 ∧ isBold (decodeChar ice ext (c, a)).attr = false
     else (decodeChar ice ext (c, a)).attr.page = 0) := by
  obtain ⟨h1, h2, h3, h4⟩ := fromU8_cell a ha ice
  obtain ⟨k1, k2⟩ := attrCell_fromU8 ice c a hc ha
  unfold decodeChar
  simp only
  by_cases hx : ((fromU8 ice a).fg > 7 && ext) = true
  · simp only [hx, if_true]
    have hext : ext = true := by simp only [Bool.and_eq_true] at hx; exact hx.2
    have hfg : (fromU8 ice a).fg > 7 := by simp only [Bool.and_eq_true, decide_eq_true_eq] at hx; exact hx.1
    subst hext
    simp only [if_true]
    refine ⟨?_, by simp, by show (fromU8 ice a).fg - 8 < 8; omega, ?_⟩
    · unfold attrCell at k1 ⊢
      simp only [Bool.and_eq_true, decide_eq_true_eq] at k1 ⊢
      refine ⟨⟨k1.1.1, by show (fromU8 ice a).fg - 8 < 16; omega⟩, ?_⟩
      exact k1.2
    · exact h4
  · have hx' : ((fromU8 ice a).fg > 7 && ext) = false := by simpa using hx
    simp only [hx', Bool.false_eq_true, if_false]
    refine ⟨k1, ?_⟩
    cases ext
    · simp only [Bool.false_eq_true, if_false]; exact h2
    · simp only [if_true]
      have : ¬ ((fromU8 ice a).fg > 7) := by simpa using hx'
      exact ⟨Or.inl h2, by omega, h4⟩

/-- every pair the run decoders append consists of bytes of the data -/
def PairsIn (bs : List Nat) (ps : List (Nat × Nat)) : Prop := ∀ p ∈ ps, p.1 ∈ bs ∧ p.2 ∈ bs

theorem PairsIn.snoc {bs : List Nat} {ps : List (Nat × Nat)} (h : PairsIn bs ps) {c a : Nat} (hc : c ∈ bs) (ha : a ∈ bs) :
    PairsIn bs (ps ++ [(c, a)]) := by
  intro p hp
  rcases List.mem_append.mp hp with h1 | h1
  · exact h p h1
  · simp only [List.mem_cons, List.not_mem_nil, or_false] at h1; subst h1
    exact ⟨hc, ha⟩

theorem rdOff_in (all : List Nat) (n : Nat) (bs : List Nat) (acc : List (Nat × Nat)) (hbs : ∀ b ∈ bs, b ∈ all) (hacc : PairsIn all acc) :
    PairsIn all (rdOff n bs acc).1 ∧ (∀ b ∈ (rdOff n bs acc).2, b ∈ all) := by
  fun_induction rdOff n bs acc with
  | case2 n c a bs acc ih => exact ih (fun b hb => hbs b (by simp [hb])) (hacc.snoc (hbs _ (by simp)) (hbs _ (by simp)))
  | _ => exact ⟨hacc, hbs⟩

theorem rdChr_in (all : List Nat) (c : Nat) (hc : c ∈ all) (n : Nat) (bs : List Nat) (acc : List (Nat × Nat)) (hbs : ∀ b ∈ bs, b ∈ all)
    (hacc : PairsIn all acc) : PairsIn all (rdChr c n bs acc).1 ∧ (∀ b ∈ (rdChr c n bs acc).2, b ∈ all) := by
  fun_induction rdChr c n bs acc with
  | case2 n a bs acc ih => exact ih (fun b hb => hbs b (by simp [hb])) (hacc.snoc hc (hbs _ (by simp)))
  | _ => exact ⟨hacc, hbs⟩

theorem rdAtt_in (all : List Nat) (a : Nat) (ha : a ∈ all) (n : Nat) (bs : List Nat) (acc : List (Nat × Nat)) (hbs : ∀ b ∈ bs, b ∈ all)
    (hacc : PairsIn all acc) : PairsIn all (rdAtt a n bs acc).1 ∧ (∀ b ∈ (rdAtt a n bs acc).2, b ∈ all) := by
  fun_induction rdAtt a n bs acc with
  | case2 n c bs acc ih => exact ih (fun b hb => hbs b (by simp [hb])) (hacc.snoc (hbs _ (by simp)) ha)
  | _ => exact ⟨hacc, hbs⟩

theorem readCompressedAux_in (all : List Nat) (fuel : Nat) (bs : List Nat) (acc r : List (Nat × Nat))
    (hbs : ∀ b ∈ bs, b ∈ all) (hacc : PairsIn all acc) (h : readCompressedAux fuel bs acc = some r) : PairsIn all r := by
  fun_induction readCompressedAux fuel bs acc
  -- arms 3, 5, 7, 10: an uncompressed run, a character run, an attribute run, a repeated pair; the others stop and answer `acc`
  case case3 ih =>
    obtain ⟨h1, h2⟩ := rdOff_in all _ _ _ (fun x hx => hbs x (List.mem_cons_of_mem _ hx)) hacc
    exact ih h2 h1 h
  case case5 ih =>
    obtain ⟨h1, h2⟩ := rdChr_in all _ (hbs _ (List.mem_cons_of_mem _ List.mem_cons_self)) _ _ _
      (fun x hx => hbs x (List.mem_cons_of_mem _ (List.mem_cons_of_mem _ hx))) hacc
    exact ih h2 h1 h
  case case7 ih =>
    obtain ⟨h1, h2⟩ := rdAtt_in all _ (hbs _ (List.mem_cons_of_mem _ List.mem_cons_self)) _ _ _
      (fun x hx => hbs x (List.mem_cons_of_mem _ (List.mem_cons_of_mem _ hx))) hacc
    exact ih h2 h1 h
  case case10 ih =>
    refine ih (fun x hx => hbs x (by simp [hx])) (fun p hp => ?_) h
    rcases List.mem_append.mp hp with h3 | h3
    · exact hacc p h3
    · rw [List.eq_of_mem_replicate h3]
      exact ⟨hbs _ (by simp), hbs _ (by simp)⟩
  all_goals exact Option.some.inj h ▸ hacc

theorem readCompressed_mem (bs : List Nat) (r : List (Nat × Nat)) (h : readCompressed bs = some r) : ∀ p ∈ r, p.1 ∈ bs ∧ p.2 ∈ bs :=
  readCompressedAux_in bs _ bs [] r (fun _ hb => hb) (by intro p hp; cases hp) h

theorem sauceFont_ok (name : List Nat) (f : Font) (h : sauceFontByName name = some f) : fontShape f := by
  unfold sauceFontByName at h
  cases hf : BinFonts.sauceFonts.find? (fun e => e.1 == name) with
  | none => rw [hf] at h; cases h
  | some e =>
    rw [hf] at h
    have hm := List.mem_of_find?_eq_some hf
    have := List.all_eq_true.mp sauceFonts_shape e hm
    simp only [Bool.and_eq_true, decide_eq_true_eq, beq_iff_eq, bne_iff_ne, ne_eq] at this
    obtain ⟨⟨⟨a, b⟩, c⟩, d⟩ := this
    have hfe : f = ⟨e.1, e.2.1, e.2.2⟩ := (Option.some.inj h).symm
    subst hfe
    exact ⟨a, b, c⟩

theorem sauceFonts0_ok (s : Option Sauce.Sauce) : ∃ f0, sauceFonts0 s = [(0, f0)] ∧ fontShape f0 := by
  cases s with
  | none => exact ⟨defaultFont, rfl, ⟨by decide, by decide, defaultFont_length⟩⟩
  | some s' =>
    unfold sauceFonts0 startFonts
    cases hf : s'.font.bind sauceFontByName with
    | none => exact ⟨defaultFont, by simp [hf], ⟨by decide, by decide, defaultFont_length⟩⟩
    | some f =>
      obtain ⟨name, _, hn⟩ := Option.bind_eq_some_iff.mp hf
      exact ⟨f, by simp [setFont, hf], sauceFont_ok name f hn⟩

/-- what the cells of a loaded XBin file look like (`ext` = 512-character mode) -/
def XbCell (ice ext : Bool) (c : Cell) : Prop :=
  attrCell ice c = true ∧
  (if ext then (c.attr.page = 0 ∨ c.attr.page = 1) ∧ c.attr.fg < 8 ∧ isBold c.attr = false else c.attr.page = 0)

/-- what `XBin::load_buffer` can return (spelled out at `C05.xb_loader_range`) -/
structure XbRange (s : Option Sauce.Sauce) (g : LBuf) : Prop where
  w1 : 1 ≤ g.bw
  w2 : g.bw ≤ 4096
  hmax : g.bh ≤ 65535
  hmin : 0 ≤ g.bh
  lh : g.lh = g.bh
  ice : g.ice = .blink ∨ g.ice = .ice
  pal : pal16 g.pal = true
  sauce : g.sauce = s.map metaOf
  fonts : ∃ ext : Bool, CellsOK (XbCell (g.ice == .ice) ext) g.lines ∧
    ((ext = false ∧ ∃ f0, lookupFont g.fonts 0 = some f0 ∧ fontShape f0 ∧ (∀ e ∈ g.fonts, e.2 = f0)) ∨
     (ext = true ∧ ∃ f0 f1, g.fonts = [(0, f0), (1, f1)] ∧ fontShape f0 ∧ fontShape f1 ∧ f1.height = f0.height))

theorem mkFont_shape (fs : Nat) (d : List Nat) (h1 : 1 ≤ fs) (h2 : fs ≤ 32) (h3 : d.length = 256 * fs) : fontShape (mkFont fs d) :=
  ⟨h1, h2, h3⟩

theorem xbBlocks_ok (b1 : LBuf) (hasPal hasFont ext : Bool) (fs : Nat) (rest : List Nat) (b3 : LBuf) (rest3 : List Nat)
    (hbr : ∀ b ∈ rest, b < 256) (hfs1 : 1 ≤ fs) (hfs2 : fs ≤ 32) (hp1 : pal16 b1.pal = true)
    (hf1 : ∃ f0, b1.fonts = [(0, f0)] ∧ fontShape f0)
    (h : xbBlocks b1 hasPal hasFont ext fs rest = .ok (b3, rest3)) :
    ∃ pal' fonts', b3 = { b1 with pal := pal', fonts := fonts' } ∧ pal16 pal' = true ∧ (∀ b ∈ rest3, b < 256) ∧
    ((ext = false ∧ ∃ f0, lookupFont fonts' 0 = some f0 ∧ fontShape f0 ∧ (∀ e ∈ fonts', e.2 = f0)) ∨
     (ext = true ∧ ∃ f0 f1, fonts' = [(0, f0), (1, f1)] ∧ fontShape f0 ∧ fontShape f1 ∧ f1.height = f0.height)) := by
  obtain ⟨hef, hpl, hfl1, hfl2, hr⟩ := (xbBlocks_ok_iff b1 hasPal hasFont ext fs rest (b3, rest3)).mp h
  obtain ⟨rfl, rfl⟩ := Prod.mk.inj hr
  obtain ⟨f0, hf0, hs0⟩ := hf1
  have hplen : Xb.paletteLength = 48 := rfl
  have hr2 : ∀ b ∈ (if hasPal then rest.drop Xb.paletteLength else rest), b < 256 := by
    cases hasPal
    · exact hbr
    · exact fun b hbm => hbr b (List.mem_of_mem_drop hbm)
  generalize (if hasPal then rest.drop Xb.paletteLength else rest) = rest2 at hfl1 hfl2 hr2 ⊢
  refine ⟨_, _, rfl, ?_, ?_, ?_⟩
  · cases hasPal
    · exact hp1
    · exact pal16_from63 _ (by rw [List.length_take, hplen]; have := hpl rfl; omega) fun b hbm => hbr b (List.mem_of_mem_take hbm)
  · cases hasFont
    · exact hr2
    · exact fun b hbm => hr2 b (List.mem_of_mem_drop hbm)
  · cases hasFont with
    | false =>
      have hext : ext = false := by cases ext; rfl; exact absurd (hef rfl) (by decide)
      refine Or.inl ⟨hext, f0, ?_, hs0, ?_⟩
      · show lookupFont b1.fonts 0 = some f0; rw [hf0]; exact lookupFont_single f0
      · intro e he; rw [show (if false = true then _ else b1.fonts) = b1.fonts from rfl, hf0] at he
        rw [List.mem_singleton.mp he]
    | true =>
      have hl1 := hfl1 rfl
      cases ext with
      | false =>
        refine Or.inl ⟨rfl, _, lookupFont_single _, mkFont_shape fs _ hfs1 hfs2 (by rw [List.length_take]; omega), ?_⟩
        intro e he; rw [List.mem_singleton.mp he]
      | true =>
        have hl2 := hfl2 rfl rfl
        exact Or.inr ⟨rfl, _, _, rfl, mkFont_shape fs _ hfs1 hfs2 (by rw [List.length_take]; omega),
          mkFont_shape fs _ hfs1 hfs2 (by rw [List.length_take, List.length_drop]; omega), rfl⟩

theorem xbImage_ok (b3 : LBuf) (w : Nat) (comp ice ext : Bool) (rest3 : List Nat) (g : LBuf) (hr3 : ∀ b ∈ rest3, b < 256)
    (hl : b3.lines = []) (hlh : 0 ≤ b3.lh) (h : xbImage b3 w comp ice ext rest3 = .ok g) :
    SameFrame b3 g ∧ g.lh = g.bh ∧ 0 ≤ g.bh ∧ g.bh ≤ b3.lh ∧ CellsOK (XbCell ice ext) g.lines := by
  unfold xbImage at h
  simp only at h
  split at h
  · cases h
  rename_i ps hps
  have hg := Out.ok.inj h
  have hmem : ∀ p ∈ ps, p.1 ∈ rest3 ∧ p.2 ∈ rest3 := by
    cases comp
    · simp only [Bool.false_eq_true, if_false] at hps
      rw [← Option.some.inj hps, ← pairsOf_eq]; exact pairsOf_mem rest3
    · simp only [if_true] at hps
      exact readCompressed_mem rest3 ps hps
  have hp := placeAll_placed (XbCell ice ext) false false 0 (w - 1) (ps.map (decodeChar ice ext)) b3 0 0
    (by
      intro c hc _
      obtain ⟨p, hp, rfl⟩ := List.mem_map.mp hc
      obtain ⟨h1, h2⟩ := hmem p hp
      exact decodeChar_cell ice ext p.1 p.2 (hr3 _ h1) (hr3 _ h2))
  have hok := hp.cells (by rw [hl]; exact cellsOK_nil _)
  have hal := hp.alloc rfl (by rw [hl]; exact hlh)
  rw [← hg]
  refine ⟨SameFrame.trans hp.toSameFrame (crop_frame _), rfl, ?_, ?_, cellsOK_crop _ _ hok⟩
  · show (0 : Int) ≤ ((popEmpty (placeAll false false 0 (w - 1) b3 0 0 (ps.map (decodeChar ice ext))).1.lines).length : Int)
    omega
  · show ((popEmpty (placeAll false false 0 (w - 1) b3 0 0 (ps.map (decodeChar ice ext))).1.lines).length : Int) ≤ b3.lh
    have := popEmpty_length (placeAll false false 0 (w - 1) b3 0 0 (ps.map (decodeChar ice ext))).1.lines
    rw [hp.lh rfl] at hal
    omega

theorem xb_range (data : List Nat) (hb : ∀ b ∈ data, b < 256) (s : Option Sauce.Sauce) (g : LBuf) (h : xbLoad data s = .ok g) :
    XbRange s g := by
  obtain ⟨eof, wl, wh, hl, hh, fs0, flags, rest, b3, rest3, rfl, hw, hfs, hx, hi⟩ := (xbLoad_ok_iff data s g).mp h
  have hhl : hl < 256 := hb hl (by simp)
  have hhh : hh < 256 := hb hh (by simp)
  have hbr : ∀ b ∈ rest, b < 256 := fun b hbm => hb b (by simp [hbm])
  generalize hfsv : (if fs0 = 0 then 16 else fs0) = fs at hx hfs
  have hfs1 : 1 ≤ fs := by rw [← hfsv]; split <;> omega
  generalize (flags &&& Xb.flagPalette == Xb.flagPalette) = hasPal at hx
  generalize (flags &&& Xb.flagFont == Xb.flagFont) = hasFont at hx
  generalize (flags &&& Xb.flagCompress == Xb.flagCompress) = comp at hi
  generalize (flags &&& Xb.flagNonBlink == Xb.flagNonBlink) = ice at hx hi
  generalize (flags &&& Xb.flag512 == Xb.flag512) = ext at hx hi
  obtain ⟨f00, hf00, hs00⟩ := sauceFonts0_ok s
  obtain ⟨pal', fonts', rfl, hpal', hr3, hfonts'⟩ := xbBlocks_ok _ hasPal hasFont ext fs rest b3 rest3 hbr hfs1 hfs pal16_dos
    ⟨f00, hf00, hs00⟩ hx
  obtain ⟨p1, p2, p3, p4, p5⟩ := xbImage_ok _ (wl + wh * 256) comp ice ext rest3 g hr3 rfl
    (by show (0 : Int) ≤ ((hl + hh * 256 : Nat) : Int); omega) hi
  have hice : g.ice = if ice = true then IceMode.ice else IceMode.blink := p1.ice
  have hicb : (g.ice == IceMode.ice) = ice := by rw [hice]; cases ice <;> rfl
  refine ⟨?_, ?_, ?_, p3, p2, ?_, p1.pal ▸ hpal', p1.sauce, ext, hicb ▸ p5, p1.fonts ▸ hfonts'⟩
  · rw [p1.bw]; exact hw.1
  · rw [p1.bw]; exact hw.2
  · have : g.bh ≤ ((hl + hh * 256 : Nat) : Int) := p4
    omega
  · rw [hice]; cases ice
    · left; rfl
    · right; rfl

theorem lookup_mem (fonts : List (Nat × Font)) (k : Nat) (f : Font) (h : lookupFont fonts k = some f) : (k, f) ∈ fonts := by
  unfold lookupFont at h
  induction fonts with
  | nil => simp [List.lookup] at h
  | cons e es ih =>
    obtain ⟨a, b⟩ := e
    simp only [List.lookup] at h
    split at h
    · rename_i heq
      have : k = a := by simpa using heq
      subst this
      rw [Option.some.inj h]; simp
    · exact List.mem_cons_of_mem _ (ih h)

/-- a loaded XBin picture with at least one row is in the writer's domain — unless a 512-character file uses its second
    font only.  (A font block that is not the default font but has its checksum, which `guess_font_name` names like the
    default font, is no exception: the writer leaves a font out only when name AND glyphs are the default font's, C17 `fixed:`
    `xbin_font_named_default`.) -/
theorem xb_loaded_representable (o : Opts) (s : Option Sauce.Sauce) (g : LBuf) (hr : XbRange s g) (hm : metaOk g.sauce = true)
    (hh : 1 ≤ g.bh) (hp1 : analyzeFontUsage g.toPic.rows.flatten ≠ [1]) :
    Representable .xb o g.toPic = true := by
  obtain ⟨ext, hcells, hfonts⟩ := hr.fonts
  have hac : allCells g.toPic (attrCell (g.toPic.ice == .ice)) = true :=
    allCells_toPic _ _ g hcells (fun c _ hc => hc.1) (attrCell_dflt _) (attrCell_invisible _)
  have hhmax : g.toPic.h ≤ 65535 := by show g.bh.toNat ≤ 65535; have := hr.hmax; omega
  have dom : ∀ (two : Bool) (f0 f1 : Font), analyzeFontUsage g.toPic.rows.flatten = (if two then [0, 1] else [0]) →
      lookupFont g.fonts 0 = some f0 → fontShape f0 → (two = false → f1 = f0) →
      (two = true → lookupFont g.toPic.fonts 1 = some f1 ∧ fontOk f1 = true ∧ f1.height = f0.height ∧
        allCells g.toPic (fun c => decide (c.attr.fg < 8) && !isBold c.attr) = true) →
      Representable .xb o g.toPic = true := fun two f0 f1 hpg hf0 hs0 h1 h2 =>
    (representable_xb o _).mpr ⟨hm, two, f0, f1, toPic_wellFormed g hh, hr.w1, hr.w2, hhmax, hr.ice, hac, hr.pal, hpg, hf0, fontOk_of f0 hs0, h1, h2⟩
  rcases hfonts with ⟨hext, f0, hf0, hs0, _⟩ | ⟨hext, f0, f1, hfs, hs0, hs1, hhe⟩
  · subst hext
    exact dom false f0 f0 (toPic_usage_zero g hh hr.w1 (fun l hl c hc hv => by have := (hcells l hl c hc hv).2; simpa using this))
      hf0 hs0 (fun _ => rfl) nofun
  · -- two fonts: pages [0], [0, 1], or — excluded — [1]
    subst hext
    have hp01 : ∀ c ∈ g.toPic.rows.flatten, c.attr.page = 0 ∨ c.attr.page = 1 := by
      intro c hc
      obtain ⟨y, hy⟩ := mem_toPic_flatten g c hc
      rcases mem_rowCells g y c hy with h1 | h1 | ⟨hv, line, hl, hcl⟩
      · rw [h1]; left; rfl
      · rw [h1]; left; rfl
      · have := (hcells line hl c hcl hv).2
        simp only [if_true] at this
        exact this.1
    have hf0 : lookupFont g.fonts 0 = some f0 := hfs ▸ lookupFont_two0 f0 f1
    have hf1 : lookupFont g.toPic.fonts 1 = some f1 := by show lookupFont g.fonts 1 = _; rw [hfs]; exact lookupFont_two1 f0 f1
    rcases usage_01 _ (toPic_flatten_ne g hh hr.w1) hp01 with hpg | hpg | hpg
    · exact dom false f0 f0 hpg hf0 hs0 (fun _ => rfl) nofun
    · exact absurd hpg hp1
    · refine dom true f0 f1 hpg hf0 hs0 nofun fun _ => ⟨hf1, fontOk_of f1 hs1, hhe, ?_⟩
      exact allCells_toPic _ _ g hcells
        (fun c _ hc => by
          have := hc.2
          simp only [if_true] at this
          simp only [Bool.and_eq_true, decide_eq_true_eq, Bool.not_eq_true']
          exact ⟨this.2.1, this.2.2⟩)
        (by decide) (by decide)

end IcyVerif.BinFormats
