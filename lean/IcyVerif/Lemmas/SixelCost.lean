import IcyVerif.Lemmas.Sixel
/-! Cost of the sixel decoder (C03): since the size-limit repairs (`MAX_SIXEL_SIZE`, `MAX_SIXEL_COLORS`) every reachable
    machine state is `Small`, whatever numbers the payload contains, and `Out.huge` is unreachable; the repeat introducer
    `!Pn` is entered with at most `maxSize` (`charWork`). -/
namespace IcyVerif.Sixel

structure Small (s : St) : Prop where
  height : s.rows.length ≤ maxSize
  rows : ∀ r ∈ s.rows, r ≤ 4 * maxSize
  pal : s.palLen ≤ maxColors

/-- `{}` is `small_init 1 1` -/
theorem small_init (hs vs : Nat) : Small { hscale := hs, vscale := vs } :=
  ⟨Nat.zero_le _, fun _ h => absurd h List.not_mem_nil, limits_fit.2.2.2⟩

theorem sum_le_length_mul {M : Nat} (l : List Nat) (h : ∀ r ∈ l, r ≤ M) : l.sum ≤ l.length * M := by
  induction l with
  | nil => exact Nat.zero_le _
  | cons a t ih =>
    have h1 := h a List.mem_cons_self
    have h2 := ih fun r hr => h r (List.mem_cons_of_mem _ hr)
    simp only [List.sum_cons, List.length_cons, Nat.succ_mul]
    omega

theorem Small.sum_le {s : St} (g : Small s) : s.rows.sum ≤ maxSize * (4 * maxSize) :=
  Nat.le_trans (sum_le_length_mul _ g.rows) (Nat.mul_le_mul_right _ g.height)

/-- the guards of `translate` keep column and band below `maxSize`, the raster arm its sizes, the colour arm the palette -/
theorem Small.eff {ch : Char} {s t : St} (g : Small s) (e : Eff ch s t) : Small t := by
  cases e with
  | moved hr _ hp _ => exact ⟨hr ▸ g.height, hr ▸ g.rows, hp ▸ g.pal⟩
  | color c => exact ⟨c.rows ▸ g.height, c.rows ▸ g.rows, by have := g.pal; have := c.pal; omega⟩
  | raster w h _ _ hw hh hr _ _ hp =>
    exact ⟨by rw [hr, length_resizeRows]; exact hh, hr ▸ forall_resizeRows g.rows (by omega), hp ▸ g.pal⟩
  | data rows1 hx hl hg hpt _ _ hp =>
    have h1 : (∀ r ∈ rows1, r ≤ 4 * maxSize) ∧ rows1.length ≤ maxSize := by
      rcases hg with ⟨_, rfl⟩ | ⟨_, rfl⟩
      · exact ⟨g.rows, g.height⟩
      · exact ⟨forall_resizeRows g.rows (width_mul_le g.rows), by rw [length_resizeRows]; exact hl⟩
    exact ⟨hpt.1 ▸ h1.2, hpt.forall h1.1 fun _ => by omega, hp ▸ g.pal⟩

theorem Small.fits {s : St} (g : Small s) : ¬ TooWide s := by
  have : maxSize * (width s.rows * 4) ≤ maxSize * (4 * maxSize) := Nat.mul_le_mul_left _ (width_mul_le g.rows)
  have := limits_fit.2.1
  show ¬ hugeLimit < maxSize * (width s.rows * 4); omega

theorem run_small {s : St} (g : Small s) (cs : List Char) : (run s cs).Sat Small True False :=
  run_inv cs (fun _ _ => Small.eff) (fun _ _ => trivial) (fun g h => g.fits h) g

/-- a count of `parse_sixel_data` calls per payload character, defined beside `parseChar` (not derived from it): one, and
    `1 + Pn` for the character behind a repeat introducer `!Pn` within the limit (`repeatN … Pn` in `parseChar`) -/
def charWork (s : St) (ch : Char) : Nat :=
  match s.state with
  | .repeat_ =>
    if ch.isDigit then 1
    else match s.nums.head? with
      | some n => if n > maxSize then 1 else 1 + n
      | none => 1
  | _ => 1

/-- … summed over a run (the machine stops at the first error) -/
def runWork : St → List Char → Nat
  | _, [] => 0
  | s, c :: cs =>
    charWork s c + (match parseChar s c with
      | .ok s' => runWork s' cs
      | _ => 0)

theorem charWork_le (s : St) (ch : Char) : charWork s ch ≤ maxSize + 1 := by
  unfold charWork
  split
  · split
    · omega
    · split
      · split <;> omega
      · omega
  · omega

theorem runWork_le : ∀ (cs : List Char) (s : St), runWork s cs ≤ (maxSize + 1) * cs.length := by
  intro cs
  induction cs with
  | nil => intro s; simp [runWork]
  | cons c cs ih =>
    intro s
    have h1 := charWork_le s c
    simp only [runWork, List.length_cons, Nat.mul_succ]
    cases parseChar s c with
    | ok s' => have := ih s'; simp only; omega
    | err e => simp only; omega
    | panic p => simp only; omega
    | huge => simp only; omega

theorem rowLen_le {rows : List Nat} (h : ∀ r ∈ rows, r ≤ 4 * maxSize) : rowLen rows ≤ 4 * maxSize :=
  rowLen_prop (P := (· ≤ 4 * maxSize)) (Nat.zero_le _) h

end IcyVerif.Sixel
