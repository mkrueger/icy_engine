import IcyVerif.Lemmas.BinFormatsSauce
/-!
# C05: what the loaders can produce (the range of `from_bytes`), shared part

`CellsOK P lines`: every VISIBLE cell of the layer's rows satisfies `P`.  `setChar`, placement and `crop` keep it, and
`allCells_toPic` carries it to the picture a loaded buffer shows (`LBuf.toPic`: `Buffer::get_char` over buffer width x height): every
cell of the picture satisfies any `Q` that holds for `P`-cells, for the default cell (what `get_char` answers for an invisible cell
inside the layer) and for the invisible cell (outside it).  `Placed` / `placeAll_placed`: what placing cells does to a buffer; `start_ok`:
the start buffer after `set_sauce`; `attr_toPic`: decoded attribute bytes make a picture of attribute-byte cells.
-/
namespace IcyVerif.BinFormats
open IcyVerif.XbCompress IcyVerif.Gen

theorem rowCells_length (b : LBuf) (y : Nat) : (b.rowCells y).length = b.bw := by
  unfold LBuf.rowCells
  split
  · simp only [List.length_append, List.length_map, List.length_take, List.length_replicate]
    omega
  · simp

theorem toPic_rows_length (b : LBuf) : b.toPic.rows.length = b.toPic.h := by
  simp [LBuf.toPic]

theorem toPic_wellFormed (b : LBuf) (h : 1 ≤ b.bh) : wellFormed b.toPic = true := by
  unfold wellFormed
  simp only [Bool.and_eq_true, beq_iff_eq, List.all_eq_true, decide_eq_true_eq]
  refine ⟨⟨toPic_rows_length b, ?_⟩, ?_⟩
  · intro r hr
    simp only [LBuf.toPic, List.mem_map, List.mem_range] at hr
    obtain ⟨y, _, rfl⟩ := hr
    exact rowCells_length b y
  · show 1 ≤ b.bh.toNat
    omega

/-- every visible cell of the layer satisfies `P` -/
def CellsOK (P : Cell → Prop) (lines : List (List Cell)) : Prop :=
  ∀ line ∈ lines, ∀ c ∈ line, isVisible c = true → P c

theorem cellsOK_nil (P : Cell → Prop) : CellsOK P [] := by
  intro l hl; cases hl

theorem invisible_not_visible : isVisible Cell.invisible = false := by decide

theorem cellsOK_append_invisible (P : Cell → Prop) (lines : List (List Cell)) (k w : Nat) (h : CellsOK P lines) :
    CellsOK P (lines ++ List.replicate k (List.replicate w Cell.invisible)) := by
  intro l hl c hc hv
  rcases List.mem_append.mp hl with h1 | h1
  · exact h l h1 c hc hv
  · rw [List.eq_of_mem_replicate h1] at hc
    rw [List.eq_of_mem_replicate hc, invisible_not_visible] at hv
    cases hv

theorem mem_lineSet (row : List Cell) (x : Nat) (c d : Cell) (h : d ∈ lineSet row x c) :
    d = c ∨ d ∈ row ∨ d = Cell.invisible := by
  unfold lineSet at h
  have := List.mem_or_eq_of_mem_set h
  rcases this with h1 | h1
  · split at h1
    · rcases List.mem_append.mp h1 with h2 | h2
      · exact Or.inr (Or.inl h2)
      · exact Or.inr (Or.inr (List.eq_of_mem_replicate h2))
    · exact Or.inr (Or.inl h1)
  · exact Or.inl h1

theorem cellsOK_setChar (P : Cell → Prop) (b : LBuf) (x y : Nat) (c : Cell) (h : CellsOK P b.lines) (hc : isVisible c = true → P c) :
    CellsOK P (b.setChar x y c).lines := by
  unfold LBuf.setChar
  split
  · exact h
  · simp only
    generalize hls : (if y ≥ b.lines.length then b.lines ++ List.replicate (y + 1 - b.lines.length) (List.replicate b.lw Cell.invisible) else b.lines) = ls
    have hlsok : CellsOK P ls := by
      rw [← hls]
      split
      · exact cellsOK_append_invisible P _ _ _ h
      · exact h
    intro l hl d hd hv
    rcases List.mem_or_eq_of_mem_set hl with h1 | h1
    · exact hlsok l h1 d hd hv
    · subst h1
      rcases mem_lineSet _ _ _ _ hd with h2 | h2 | h2
      · subst h2; exact hc hv
      · have hrow : ls.getD y [] ∈ ls ∨ ls.getD y [] = [] := by
          rw [List.getD_eq_getElem?_getD]
          cases hg : ls[y]? with
          | none => right; rfl
          | some r => left; exact List.mem_of_getElem? hg
        rcases hrow with h3 | h3
        · exact hlsok _ h3 d h2 hv
        · rw [h3] at h2; cases h2
      · subst h2; rw [invisible_not_visible] at hv; cases hv

theorem cellsOK_crop (P : Cell → Prop) (b : LBuf) (h : CellsOK P b.lines) : CellsOK P b.crop.lines := by
  intro l hl
  exact h l (mem_popEmpty _ _ hl)

theorem mem_rowCells (b : LBuf) (y : Nat) (c : Cell) (h : c ∈ b.rowCells y) :
    c = Cell.dflt ∨ c = Cell.invisible ∨ (isVisible c = true ∧ ∃ line ∈ b.lines, c ∈ line) := by
  unfold LBuf.rowCells at h
  split at h
  · rcases List.mem_append.mp h with h1 | h1
    · obtain ⟨d, hd, rfl⟩ := List.mem_map.mp h1
      by_cases hv : isVisible d = true
      · rw [if_pos hv]
        rcases List.mem_append.mp hd with h2 | h2
        · right; right
          refine ⟨hv, b.lines.getD y [], ?_, List.mem_of_mem_take h2⟩
          rw [List.getD_eq_getElem?_getD]
          cases hg : b.lines[y]? with
          | none => rw [List.getD_eq_getElem?_getD, hg] at h2; simp at h2
          | some r => exact List.mem_of_getElem? hg
        · rw [List.eq_of_mem_replicate h2, invisible_not_visible] at hv; cases hv
      · simp only [hv, Bool.false_eq_true, if_false]; left; trivial
    · right; left; exact List.eq_of_mem_replicate h1
  · right; left; exact List.eq_of_mem_replicate h

theorem allCells_toPic (P : Cell → Prop) (Q : Cell → Bool) (b : LBuf) (h : CellsOK P b.lines)
    (hPQ : ∀ c, isVisible c = true → P c → Q c = true) (hd : Q Cell.dflt = true) (hi : Q Cell.invisible = true) :
    allCells b.toPic Q = true := by
  unfold allCells
  apply List.all_eq_true.mpr
  intro r hr
  apply List.all_eq_true.mpr
  intro c hc
  simp only [LBuf.toPic, List.mem_map, List.mem_range] at hr
  obtain ⟨y, _, rfl⟩ := hr
  rcases mem_rowCells b y c hc with h1 | h1 | ⟨hv, line, hl, hcl⟩
  · rw [h1]; exact hd
  · rw [h1]; exact hi
  · exact hPQ c hv (h line hl c hcl hv)

/-- `mem_rowCells` for Tundra-like buffers, whose picture lies inside the layer: no invisible cell shows -/
theorem mem_rowCells_inside (b : LBuf) (y : Nat) (c : Cell) (h : c ∈ b.rowCells y) (hw : b.bw ≤ b.lw) (hy : (y : Int) < b.lh) :
    c = Cell.dflt ∨ (isVisible c = true ∧ ∃ line ∈ b.lines, c ∈ line) := by
  rcases mem_rowCells b y c h with h1 | h1 | h1
  · exact Or.inl h1
  · -- the padding to the right of the layer is empty
    exfalso
    subst h1
    unfold LBuf.rowCells at h
    rw [if_pos hy, Nat.min_eq_left hw] at h
    simp only [Nat.sub_self, List.replicate_zero, List.append_nil] at h
    obtain ⟨d, _, hd⟩ := List.mem_map.mp h
    have : isVisible Cell.invisible = true := by
      rw [← hd]; split
      · assumption
      · decide
    rw [invisible_not_visible] at this; cases this
  · exact Or.inr h1

theorem usage_fold_01 (cells : List Cell) (h : ∀ c ∈ cells, c.attr.page = 0 ∨ c.attr.page = 1) :
    ∀ acc, (acc = [] ∨ acc = [0] ∨ acc = [1] ∨ acc = [0, 1]) →
      (let r := cells.foldl (fun acc c => insertSorted c.attr.page acc) acc
       r = [] ∨ r = [0] ∨ r = [1] ∨ r = [0, 1]) := by
  induction cells with
  | nil => intro acc hacc; exact hacc
  | cons c cs ih =>
    intro acc hacc
    simp only [List.foldl_cons]
    apply ih (fun d hd => h d (by simp [hd]))
    rcases h c (by simp) with hp | hp <;> rw [hp] <;> rcases hacc with h1 | h1 | h1 | h1 <;> rw [h1] <;> decide

theorem usage_01 (cells : List Cell) (hne : cells ≠ []) (h : ∀ c ∈ cells, c.attr.page = 0 ∨ c.attr.page = 1) :
    analyzeFontUsage cells = [0] ∨ analyzeFontUsage cells = [1] ∨ analyzeFontUsage cells = [0, 1] := by
  unfold analyzeFontUsage
  rcases usage_fold_01 cells h [] (Or.inl rfl) with h1 | h1 | h1 | h1
  · exfalso
    cases cells with
    | nil => exact hne rfl
    | cons c cs =>
      have hc : c ∈ c :: cs := by simp
      have := page_of_usage (c :: cs) c hc
      unfold analyzeFontUsage at this
      rw [h1] at this; cases this
  · exact Or.inl h1
  · exact Or.inr (Or.inl h1)
  · exact Or.inr (Or.inr h1)

theorem usage_zero (cells : List Cell) (hne : cells ≠ []) (h : ∀ c ∈ cells, c.attr.page = 0) : analyzeFontUsage cells = [0] := by
  have no1 : 1 ∉ analyzeFontUsage cells := fun h1 => by
    obtain ⟨c, hc, hp⟩ := (mem_usage cells 1).mp h1
    rw [h c hc] at hp; cases hp
  rcases usage_01 cells hne (fun c hc => Or.inl (h c hc)) with h0 | h1 | h01
  · exact h0
  · exact absurd (by rw [h1]; simp) no1
  · exact absurd (by rw [h01]; simp) no1

theorem toPic_flatten_ne (b : LBuf) (hh : 1 ≤ b.bh) (hw : 1 ≤ b.bw) : b.toPic.rows.flatten ≠ [] := by
  intro he
  have hlen : b.toPic.rows.flatten.length = 0 := by rw [he]; rfl
  have hr0 : b.rowCells 0 ∈ b.toPic.rows := by
    simp only [LBuf.toPic, List.mem_map, List.mem_range]
    exact ⟨0, by omega, rfl⟩
  have : (b.rowCells 0).length ≤ b.toPic.rows.flatten.length := by
    obtain ⟨s, t, hst⟩ := List.append_of_mem hr0
    rw [hst]
    simp only [List.flatten_append, List.flatten_cons, List.length_append]
    omega
  rw [rowCells_length] at this
  omega

theorem mem_toPic_flatten (b : LBuf) (c : Cell) (h : c ∈ b.toPic.rows.flatten) : ∃ y, c ∈ b.rowCells y := by
  obtain ⟨r, hr, hc⟩ := List.mem_flatten.mp h
  simp only [LBuf.toPic, List.mem_map, List.mem_range] at hr
  obtain ⟨y, _, rfl⟩ := hr
  exact ⟨y, hc⟩

theorem toPic_usage_zero (b : LBuf) (hh : 1 ≤ b.bh) (hw : 1 ≤ b.bw) (h : CellsOK (fun c => c.attr.page = 0) b.lines) :
    analyzeFontUsage b.toPic.rows.flatten = [0] := by
  apply usage_zero _ (toPic_flatten_ne b hh hw)
  intro c hc
  obtain ⟨y, hy⟩ := mem_toPic_flatten b c hc
  rcases mem_rowCells b y c hy with h1 | h1 | ⟨hv, line, hl, hcl⟩
  · rw [h1]; rfl
  · rw [h1]; rfl
  · exact h line hl c hcl hv

/-- the three strings are `SauceString::read`s of at most `LEN` bytes, the comment count is one byte of the file -/
theorem metaOk_extract (data : List Nat) (hb : ∀ b ∈ data, b < 256) (s : Sauce.Sauce)
    (h : Sauce.extract dateOk data = .ok (some s)) : metaOk (some (metaOf s)) = true := by
  obtain ⟨hd, hdr, cs, len, hh, hr, rfl⟩ := extract_found h
  have hf := Sauce.headerOf_fields hh
  obtain ⟨_, h6, h5⟩ := Sauce.commentsOf_ok hd hr
  have h7 : hdr.nComments < 256 := hf.nComments ▸ getD_lt256 (fun b hbm => hb b (List.mem_of_mem_drop (List.mem_of_mem_drop hbm))) 0
  unfold metaOk metaOf Sauce.interpret
  simp only [Bool.and_eq_true, decide_eq_true_eq, List.all_eq_true]
  have hcl : Gen.Sauce.commentLimit = 255 := rfl
  exact ⟨⟨⟨⟨hf.title ▸ Sauce.strVal_length _ _ _, hf.author ▸ Sauce.strVal_length _ _ _⟩, hf.group ▸ Sauce.strVal_length _ _ _⟩, h5⟩, by rw [h6, hcl]; omega⟩

theorem metaOk_split (bytes : List Nat) (hb : ∀ b ∈ bytes, b < 256) (content : List Nat) (s : Option Sauce.Sauce)
    (h : Sauce.fromBytesSplit dateOk bytes = .ok (content, s)) :
    metaOk (s.map metaOf) = true ∧ (∀ b ∈ content, b < 256) := by
  obtain ⟨⟨n, rfl⟩, hs⟩ := fromBytesSplit_ok h
  refine ⟨?_, fun b hbm => hb b (List.mem_of_mem_take hbm)⟩
  cases s with
  | none => rfl
  | some s' => exact metaOk_extract bytes hb s' (hs s' rfl)

theorem sauce_width_lt (data : List Nat) (hb : ∀ b ∈ data, b < 256) (s : Sauce.Sauce)
    (h : Sauce.extract dateOk data = .ok (some s)) : s.width < 65536 := by
  obtain ⟨_, hdr, cs, len, hh, _, rfl⟩ := extract_found h
  have hw : ∀ i, ((data.drop (data.length - Gen.Sauce.sauceLen)).drop 96).getD i 0 < 256 :=
    getD_lt256 fun b hbm => hb b (List.mem_of_mem_drop (List.mem_of_mem_drop hbm))
  have ht1 : hdr.t1 < 65536 := by
    rw [(Sauce.headerOf_fields hh).t1]
    have := hw 0; have := hw 1; omega
  have key : ∀ (c1 c2 : Prop) [Decidable c1] [Decidable c2],
      (if c1 then hdr.t1 else if c2 then hdr.fileType * 2 % 65536 else Gen.Sauce.readerDefaultWidth) < 65536 := by
    intro c1 c2 _ _
    have : Gen.Sauce.readerDefaultWidth = 80 := rfl
    split
    · exact ht1
    · split <;> omega
  exact key _ _

theorem setChar_alloc (b : LBuf) (x y : Nat) (c : Cell) (h : (b.lines.length : Int) ≤ b.lh) :
    ((b.setChar x y c).lines.length : Int) ≤ (b.setChar x y c).lh := by
  unfold LBuf.setChar
  split
  · exact h
  · rename_i hc
    simp only [List.length_set]
    split
    · simp only [List.length_append, List.length_replicate]
      show ((b.lines.length + (y + 1 - b.lines.length) : Nat) : Int) ≤ b.lh
      omega
    · exact h

/-- what placing cells (the visible ones satisfying `P`) does to a buffer: the frame stays, the rows keep `CellsOK P`, the heights
    change only where the loader grows them (`gl`: the layer, `gb`: the buffer) -/
structure Placed (P : Cell → Prop) (gl gb : Bool) (b g : LBuf) : Prop extends SameFrame b g where
  cells : CellsOK P b.lines → CellsOK P g.lines
  lh : gl = false → g.lh = b.lh
  bh : gb = false → g.bh = b.bh
  eqh : gl = gb → b.lh = b.bh → g.lh = g.bh
  alloc : gl = false → (b.lines.length : Int) ≤ b.lh → (g.lines.length : Int) ≤ g.lh

theorem Placed.refl (P : Cell → Prop) (gl gb : Bool) (b : LBuf) : Placed P gl gb b b :=
  ⟨.refl b, id, fun _ => rfl, fun _ => rfl, fun _ h => h, fun _ h => h⟩

theorem Placed.trans {P : Cell → Prop} {gl gb : Bool} {a b c : LBuf} (h1 : Placed P gl gb a b) (h2 : Placed P gl gb b c) :
    Placed P gl gb a c :=
  ⟨h1.toSameFrame.trans h2.toSameFrame, h2.cells ∘ h1.cells, fun h => (h2.lh h).trans (h1.lh h), fun h => (h2.bh h).trans (h1.bh h),
    fun h e => h2.eqh h (h1.eqh h e), fun h e => h2.alloc h (h1.lh h ▸ h1.alloc h e)⟩

theorem placed_step (P : Cell → Prop) (gl gb : Bool) (b : LBuf) (x y : Nat) (c : Cell) (hc : isVisible c = true → P c) :
    Placed P gl gb b ((grow gl gb b y).setChar x y c) := by
  obtain ⟨hf, h1, h2⟩ := setChar_frame (grow gl gb b y) x y c
  refine ⟨(SameFrame.trans (b := grow gl gb b y) ⟨⟨rfl, rfl, rfl, rfl, rfl⟩, rfl⟩ hf), fun h => cellsOK_setChar P _ x y c h hc,
    fun h => by rw [h1]; subst h; rfl, fun h => by rw [h2]; subst h; rfl, fun h e => by rw [h1, h2]; subst h; cases gl <;> simp [grow, e],
    fun h e => ?_⟩
  subst h
  exact setChar_alloc (grow false gb b y) x y c e

theorem placeCell_tt (x0 xl : Nat) (b : LBuf) (x y : Nat) (c : Cell) :
    (placeCell true true x0 xl (b, x, y) c).1.lh = (placeCell true true x0 xl (b, x, y) c).1.bh := by
  rw [placeCell_eq]
  obtain ⟨_, h1, h2⟩ := setChar_frame (grow true true b y) x y c
  exact h1.trans h2.symm

theorem placeAll_placed (P : Cell → Prop) (gl gb : Bool) (x0 xl : Nat) (cells : List Cell) (b : LBuf) (x y : Nat)
    (hc : ∀ c ∈ cells, isVisible c = true → P c) : Placed P gl gb b (placeAll gl gb x0 xl b x y cells).1 :=
  placeAll_inv (Placed P gl gb b) gl gb x0 xl cells (fun b' x y c hm h => h.trans (placed_step P gl gb b' x y c (hc c hm))) b x y
    (.refl P gl gb b)

theorem fromU8_cell : ∀ a, a < 256 → ∀ ice : Bool,
    (fromU8 ice a).fg < 16 ∧ (fromU8 ice a).page = 0 ∧
    (if ice then (fromU8 ice a).bg < 16 ∧ isBlink (fromU8 ice a) = false else (fromU8 ice a).bg < 8) ∧ isBold (fromU8 ice a) = false := by
  decide +kernel

theorem attrCell_fromU8 (ice : Bool) (c a : Nat) (hc : c < 256) (ha : a < 256) :
    attrCell ice ⟨c, fromU8 ice a⟩ = true ∧ (⟨c, fromU8 ice a⟩ : Cell).attr.page = 0 := by
  obtain ⟨h1, h2, h3, _⟩ := fromU8_cell a ha ice
  refine ⟨?_, h2⟩
  unfold attrCell
  cases ice
  · simp only [Bool.false_eq_true, if_false] at h3 ⊢
    simp only [Bool.and_eq_true, decide_eq_true_eq]
    exact ⟨⟨by omega, h1⟩, h3⟩
  · simp only [if_true] at h3 ⊢
    simp only [Bool.and_eq_true, decide_eq_true_eq, Bool.not_eq_true']
    exact ⟨⟨by omega, h1⟩, h3.1, h3.2⟩

theorem pairsOf_mem (data : List Nat) : ∀ p ∈ pairsOf data, p.1 ∈ data ∧ p.2 ∈ data := by
  fun_induction pairsOf data with
  | case1 c a rest ih =>
    intro p hp
    rcases List.mem_cons.mp hp with rfl | hp
    · simp
    · exact ⟨by simp [(ih p hp).1], by simp [(ih p hp).2]⟩
  | case2 => intro p hp; cases hp

theorem attrCell_dflt (ice : Bool) : attrCell ice Cell.dflt = true := by cases ice <;> decide
theorem attrCell_invisible (ice : Bool) : attrCell ice Cell.invisible = true := by cases ice <;> decide

theorem attr_cells (ice : Bool) (data : List Nat) (hb : ∀ b ∈ data, b < 256) (ps : List (Nat × Nat))
    (hps : ∀ p ∈ ps, p.1 ∈ data ∧ p.2 ∈ data) :
    ∀ c ∈ ps.map (fun p => (⟨p.1, fromU8 ice p.2⟩ : Cell)), isVisible c = true → attrCell ice c = true ∧ c.attr.page = 0 := by
  intro c hc _
  obtain ⟨p, hp, rfl⟩ := List.mem_map.mp hc
  exact attrCell_fromU8 ice _ _ (hb _ (hps p hp).1) (hb _ (hps p hp).2)

theorem attr_toPic (g : LBuf) (ice : Bool) (h : CellsOK (fun c => attrCell ice c = true ∧ c.attr.page = 0) g.lines) (hh : 1 ≤ g.bh)
    (hw : 1 ≤ g.bw) :
    wellFormed g.toPic = true ∧ allCells g.toPic (attrCell ice) = true ∧ analyzeFontUsage g.toPic.rows.flatten = [0] :=
  ⟨toPic_wellFormed g hh, allCells_toPic _ _ g h (fun _ _ hc => hc.1) (attrCell_dflt _) (attrCell_invisible _),
    toPic_usage_zero g hh hw (fun l hl c hc hv => (h l hl c hc hv).2)⟩

theorem lookup_startFonts (s : Sauce.Sauce) : (lookupFont (startFonts s) 0).isSome = true := by
  unfold startFonts
  cases s.font.bind sauceFontByName <;> simp [lookupFont, setFont, List.lookup]

theorem start_ok (w0 h0 : Nat) (hw0 : 1 ≤ w0) (s : Option Sauce.Sauce) (b0 : LBuf) (hb0 : (LBuf.start w0 h0 true).setSauce true s = b0) :
    b0.lines = [] ∧ b0.pal = dosPalette ∧ b0.lw = b0.bw ∧ 1 ≤ b0.bw ∧ (lookupFont b0.fonts 0).isSome = true ∧ b0.sauce = s.map metaOf := by
  subst hb0
  cases s with
  | none => rw [start_setSauce_none]; exact ⟨rfl, rfl, rfl, hw0, rfl, rfl⟩
  | some s' => rw [start_setSauce']; exact ⟨rfl, rfl, rfl, sauceW_pos s', lookup_startFonts s', rfl⟩

end IcyVerif.BinFormats
