import IcyVerif.Lemmas.ArtFinish
/-! # Rows with skipped cells (cursor forward) (C04, compression)

A compressed ANSI row is a sequence of ITEMS: a printed cell (`some c`) or a cell the writer skipped with `CSI n C`
(`none`: the caret moves one column, nothing is written, the layer keeps showing what it showed — the default cell on a
fresh row).  A skipped cell never sits in the last column (the writer prints a run that reaches the right margin).
Rows are separated by line breaks (`picItems`) or, with longer-terminal output, each positioned with `CSI y H` (`picItemsL`). -/
namespace IcyVerif.ArtIO

def Screen.item (s : Screen) : Option Cell → Screen
  | some c => s.put c
  | none => s.right 1

def Screen.runItems (s : Screen) (items : List (Option Cell)) : Screen := items.foldl Screen.item s

theorem runItems_nil (s : Screen) : s.runItems [] = s := rfl
theorem runItems_cons (s : Screen) (i : Option Cell) (is : List (Option Cell)) : s.runItems (i :: is) = (s.item i).runItems is := rfl
theorem runItems_append (s : Screen) (a b : List (Option Cell)) : s.runItems (a ++ b) = (s.runItems a).runItems b := by
  simp [Screen.runItems, List.foldl_append]

/-- `n` columns to the right, away from the margin.  `Caret::right` clamps the column at `i32::MAX`; any bound on the width below
    that would do, 100000 is the one used throughout (the ANSI pictures have `w ≤ 999`). -/
theorem right_eq (s : Screen) (n : Nat) (h : s.cx + n < s.w) (hw : s.w ≤ 100000) : s.right n = { s with cx := s.cx + n } := by
  unfold Screen.right Screen.limit
  simp only [show min (s.cx + n) 2147483647 = s.cx + n by omega, show min (s.cx + n) (s.w - 1) = s.cx + n by omega]

theorem right_n (n : Nat) : ∀ (s : Screen), s.cx + n < s.w → s.w ≤ 100000 →
    s.right n = s.runItems (List.replicate n none) := by
  induction n with
  | zero => intro s h hw; rw [right_eq s 0 h hw]; rfl
  | succ k ih =>
    intro s h hw
    rw [List.replicate_succ, runItems_cons]
    show _ = (s.right 1).runItems _
    have hk : ({ s with cx := s.cx + 1 } : Screen).cx + k < s.w := by show s.cx + 1 + k < s.w; omega
    rw [right_eq s 1 (by omega) hw, ← ih _ hk hw, right_eq s (k + 1) h hw, right_eq _ k hk hw,
      show s.cx + (k + 1) = s.cx + 1 + k by omega]

theorem puts_replicate (n : Nat) (c : Cell) (s : Screen) :
    (List.replicate n c).foldl Screen.put s = s.runItems (List.replicate n (some c)) := by
  induction n generalizing s with
  | zero => rfl
  | succ k ih => rw [List.replicate_succ, List.replicate_succ, List.foldl_cons, runItems_cons, ih]; rfl

/-- what is shown where an item went: the printed cell, or what was there before -/
def itemShown (it : Option Cell) (old : Cell) : Cell :=
  match it with
  | some c => shown c
  | none => old

/-- a skipped item at index `i` leaves room: its column is not the last one -/
def SkipsInside (s : Screen) (items : List (Option Cell)) : Prop :=
  ∀ i, i < items.length → items.getD i none = none → s.cx + i + 1 < s.w

theorem item_step (s : Screen) (it : Option Cell) (hcx : s.cx < s.w) (hw : s.w ≤ 100000) (hsk : it = none → s.cx + 1 < s.w) :
    StepSpec (itemShown it) s (s.item it) := by
  cases it with
  | some c => exact put_step s c hcx
  | none =>
    show StepSpec _ s (s.right 1)
    rw [right_eq s 1 (hsk rfl) hw]
    refine ⟨rfl, fun _ => ⟨rfl, rfl⟩, fun h => absurd (hsk rfl) (by omega), fun x' y' => ?_⟩
    by_cases hxy : x' = s.cx ∧ y' = s.cy
    · rw [if_pos hxy]; rfl
    · rw [if_neg hxy]

theorem items_spec (items : List (Option Cell)) (s : Screen) (hfit : s.cx + items.length ≤ s.w) (hw : s.w ≤ 100000)
    (hskip : SkipsInside s items) : StepsSpec itemShown none s (s.runItems items) items :=
  steps_spec Screen.item itemShown none s.w (fun col it => it = none → col + 1 < s.w)
    (fun t it ht hc hsk => item_step t it (by omega) (by omega) (by rw [ht]; exact hsk)) items s rfl hfit hskip

/-- one row of a compressed picture: the items, then CR LF when the row is short and another row follows -/
def rowItems (w : Nat) (items : List (Option Cell)) (more : Bool) (s : Screen) : Screen :=
  if items.length < w ∧ more = true then (s.runItems items).exec Op.nl else s.runItems items

def picItems (w : Nat) : List (List (Option Cell)) → Screen → Screen
  | [], s => s
  | r :: rest, s => picItems w rest (rowItems w r (!rest.isEmpty) s)

/-- no skipped item in the last column of the screen (row starts at column 0) -/
def RowSkipsInside (w : Nat) (items : List (Option Cell)) : Prop :=
  ∀ i, i < items.length → items.getD i none = none → i + 1 < w

theorem items_row (s : Screen) (items : List (Option Cell)) (hcx : s.cx = 0) (hw2 : s.w ≤ 100000) (hfit : items.length ≤ s.w)
    (hsk : RowSkipsInside s.w items) : StepsSpec itemShown none s (s.runItems items) items :=
  items_spec items s (by rw [hcx]; omega) hw2 (fun i hi hn => by rw [hcx]; have := hsk i hi hn; omega)

theorem rowItems_spec (s : Screen) (items : List (Option Cell)) (more : Bool) (hcx : s.cx = 0) (hw : 0 < s.w)
    (hw2 : s.w ≤ 100000) (hfit : items.length ≤ s.w) (hsk : RowSkipsInside s.w items) :
    RowEndSpec items.length (fun x old => itemShown (items.getD x none) old) s (rowItems s.w items more s) more :=
  (items_row s items hcx hw2 hfit hsk).row_end more hcx hw hfit

theorem picItems_spec : ∀ (rows : List (List (Option Cell))) (s : Screen), s.cx = 0 → 0 < s.w → s.w ≤ 100000 →
    (∀ r ∈ rows, r.length ≤ s.w ∧ RowSkipsInside s.w r) →
    Stacked List.length (fun r x old => itemShown (r.getD x none) old) rows s.cy (shownAt s.lines) (shownAt (picItems s.w rows s).lines) ∧
    (picItems s.w rows s).w = s.w := by
  intro rows
  induction rows with
  | nil => intro s _ _ _ _; exact ⟨Stacked.nil _ _, rfl⟩
  | cons r rest ih =>
    intro s hcx hw hw2 hr
    obtain ⟨hf, hs⟩ := hr r List.mem_cons_self
    have R := rowItems_spec s r (!rest.isEmpty) hcx hw hw2 hf hs
    show Stacked _ _ _ _ _ (shownAt (picItems s.w rest (rowItems s.w r (!rest.isEmpty) s)).lines) ∧
      (picItems s.w rest (rowItems s.w r (!rest.isEmpty) s)).w = s.w
    cases rest with
    | nil => exact ⟨Stacked.cons _ _ _ _ _ _ R.view (Stacked.nil _ _), R.w_eq⟩
    | cons r2 rest2 =>
      obtain ⟨px, py⟩ := R.pos rfl
      have I := ih _ px (by rw [R.w_eq]; exact hw) (by rw [R.w_eq]; exact hw2)
        (by rw [R.w_eq]; exact fun q hq => hr q (List.mem_cons_of_mem _ hq))
      rw [R.w_eq, py] at I
      exact ⟨Stacked.cons _ _ _ _ _ _ R.view I.1, I.2⟩

theorem picItems_w (rows : List (List (Option Cell))) (s : Screen) (hcx : s.cx = 0) (hw : 0 < s.w) (hw2 : s.w ≤ 100000)
    (hr : ∀ r ∈ rows, r.length ≤ s.w ∧ RowSkipsInside s.w r) : (picItems s.w rows s).w = s.w :=
  (picItems_spec rows s hcx hw hw2 hr).2

theorem picItems_view (rows : List (List (Option Cell))) (s : Screen) (hcx : s.cx = 0) (hw : 0 < s.w) (hw2 : s.w ≤ 100000)
    (hr : ∀ r ∈ rows, r.length ≤ s.w ∧ RowSkipsInside s.w r) (x' y' : Nat) :
    shownAt (picItems s.w rows s).lines x' y' =
      if s.cy ≤ y' ∧ y' < s.cy + rows.length ∧ x' < (rows.getD (y' - s.cy) []).length then
        itemShown ((rows.getD (y' - s.cy) []).getD x' none) (shownAt s.lines x' y')
      else shownAt s.lines x' y' :=
  (picItems_spec rows s hcx hw hw2 hr).1.view [] x' y'

/-! ### rows positioned with `CSI y H` (longer-terminal output): no line breaks, every row starts at column 0 of its own row -/

/-- `CSI y H` on a non-terminal buffer -/
def Screen.gotoRow (s : Screen) (y : Nat) : Screen := { s with cx := 0, cy := y }

def picItemsL : List (List (Option Cell)) → Nat → Screen → Screen
  | [], _, s => s
  | r :: rest, y, s => picItemsL rest (y + 1) ((s.gotoRow y).runItems r)

theorem item_w (s : Screen) (it : Option Cell) : (s.item it).w = s.w := by
  cases it with
  | some c => exact exec_w s (Op.put c)
  | none => rfl

theorem runItems_w (items : List (Option Cell)) : ∀ (s : Screen), (s.runItems items).w = s.w := by
  induction items with
  | nil => intro s; rfl
  | cons it rest ih => intro s; rw [runItems_cons, ih, item_w]

theorem picItemsL_w : ∀ (rows : List (List (Option Cell))) (y : Nat) (s : Screen), (picItemsL rows y s).w = s.w := by
  intro rows
  induction rows with
  | nil => intro y s; rfl
  | cons r rest ih => intro y s; exact (ih _ _).trans (runItems_w r _)

theorem picItemsL_stacked : ∀ (rows : List (List (Option Cell))) (y : Nat) (s : Screen), 0 < s.w → s.w ≤ 100000 →
    (∀ r ∈ rows, r.length ≤ s.w ∧ RowSkipsInside s.w r) →
    Stacked List.length (fun r x old => itemShown (r.getD x none) old) rows y (shownAt s.lines) (shownAt (picItemsL rows y s).lines) := by
  intro rows
  induction rows with
  | nil => intro y s _ _ _; exact Stacked.nil _ _
  | cons r rest ih =>
    intro y s hw hw2 hr
    obtain ⟨hf, hs⟩ := hr r List.mem_cons_self
    have P := items_row (s.gotoRow y) r rfl hw2 hf hs
    have pw : ((s.gotoRow y).runItems r).w = s.w := P.w_eq
    have I := ih (y + 1) ((s.gotoRow y).runItems r) (by rw [pw]; exact hw) (by rw [pw]; exact hw2)
      (by rw [pw]; exact fun q hq => hr q (List.mem_cons_of_mem _ hq))
    exact Stacked.cons _ _ _ _ _ _ (P.view0 rfl) I

theorem picItemsL_view (rows : List (List (Option Cell))) (y : Nat) (s : Screen) (hw : 0 < s.w) (hw2 : s.w ≤ 100000)
    (hr : ∀ r ∈ rows, r.length ≤ s.w ∧ RowSkipsInside s.w r) (x' y' : Nat) :
    shownAt (picItemsL rows y s).lines x' y' =
      if y ≤ y' ∧ y' < y + rows.length ∧ x' < (rows.getD (y' - y) []).length then
        itemShown ((rows.getD (y' - y) []).getD x' none) (shownAt s.lines x' y')
      else shownAt s.lines x' y' :=
  (picItemsL_stacked rows y s hw hw2 hr).view [] x' y'

end IcyVerif.ArtIO
