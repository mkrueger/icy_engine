import IcyVerif.Model.RowsOther
import IcyVerif.Lemmas.TermPrim
/-! # The joint step IS `Term.step` with the row table carried along
`stepJ` does not call `Term.step` for characters that invoke a macro (it has to thread the row table through the
replay); this file shows that its geometry / parser-state component nevertheless equals `Term.step` — so every theorem
of C01 / C09 about `TermGeo` speaks about the same states the row-table theorems quantify over.  The same for the four
wrappers; the byte-oriented `ostepJ` calls `Term.ostep` itself. -/
namespace IcyVerif.Rows
open IcyVerif.Term

/-- `stepCore` consults the invoker exactly for the characters `invokes` names, with the state it names -/
theorem stepCore_inv (cfg : Cfg) (o : Orc) (inv : Int → St → Res St) (st : St) (ch : Char)
    (hg : RangeOk st.s st.c ∧ MusicSafe st.p.st st.p.mus ch) :
    stepCore cfg o inv st ch = match invokes st ch with
      | some (id, d) => (match inv id d with | .ok st' => ret st' .ok | .error e => .error e)
      | none => stepCore cfg o (fun _ s => .ok s) st ch := by
  unfold stepCore invokes
  have hn : ¬ ¬ (RangeOk st.s st.c ∧ MusicSafe st.p.st st.p.mus ch) := fun h => h hg
  rw [if_neg hn, if_neg hn]
  generalize st.p.st = q
  cases q with
  | endCsi f =>
    by_cases hf : f = '*' ∧ ch = 'z'
    · obtain ⟨rfl, rfl⟩ := hf
      unfold endCsi
      rcases st.p.nums with _ | ⟨id, rest⟩ <;> rfl
    · simp only []
      rw [if_neg hf]
      show endCsi o inv st f ch = endCsi o (fun _ s => .ok s) st f ch
      unfold endCsi
      by_cases h1 : f = '*'
      · have hz : ¬ ch = 'z' := fun h => hf ⟨h1, h⟩
        rw [if_pos h1, if_pos h1, if_neg hz, if_neg hz]
      · rw [if_neg h1, if_neg h1]
  | dcsMacro i =>
    -- every test occurs three times: in `stepCore` on the left, in `invokes`, in `stepCore` on the right
    simp only []
    by_cases hd : isDigit ch
    · rw [if_pos hd, if_pos hd, if_pos hd]
    · rw [if_neg hd, if_neg hd, if_neg hd]
      by_cases hb : ch = '['
      · rw [if_pos hb, if_pos hb, if_pos hb]
      · rw [if_neg hb, if_neg hb, if_neg hb]
        by_cases hs : ch = '*'
        · rw [if_pos hs, if_pos hs, if_pos hs]
        · rw [if_neg hs, if_neg hs, if_neg hs]
          by_cases hz : ch = 'z'
          · rw [if_pos hz, if_pos hz, if_pos hz]
            by_cases hi : i ≠ 2
            · rw [if_pos hi, if_pos hi, if_pos hi]
            · rw [if_neg hi, if_neg hi, if_neg hi]
              rcases st.p.nums with _ | ⟨id, _ | ⟨id2, rest⟩⟩ <;> rfl
          · rw [if_neg hz, if_neg hz, if_neg hz]
  | _ => rfl

/-- outside the guard both sides are the same overflow panic -/
theorem stepCore_noinv (cfg : Cfg) (o : Orc) (inv inv' : Int → St → Res St) (st : St) (ch : Char)
    (hi : invokes st ch = none) : stepCore cfg o inv st ch = stepCore cfg o inv' st ch := by
  by_cases hg : RangeOk st.s st.c ∧ MusicSafe st.p.st st.p.mus ch
  · rw [stepCore_inv cfg o inv st ch hg, stepCore_inv cfg o inv' st ch hg, hi]
  · unfold stepCore; rw [if_pos hg, if_pos hg]

/-- the joint result, if there is one, projects by `π` to what the geometry model returns -/
abbrev Sim {α β : Type} (rJ : JRes α) (π : α → β) (r : Res β) : Prop := Holds AnyErr rJ (fun y => r = .ok (π y))

abbrev stOut {α β : Type} (y : (α × β) × Out) : α × Out := (y.1.1, y.2)

theorem stepCoreJ_refines (cfg : Cfg) (o : Orc) (invJ : Int → JSt → JRes JSt) (inv : Int → St → Res St)
    (x : JSt) (ch : Char) (hinv : ∀ id y, Sim (invJ id y) Prod.fst (inv id y.1)) :
    Sim (stepCoreJ cfg o invJ x ch) stOut (stepCore cfg o inv x.1 ch) := by
  unfold stepCoreJ
  by_cases hg : RangeOk x.1.s x.1.c ∧ MusicSafe x.1.p.st x.1.p.mus ch
  · rw [if_pos hg, stepCore_inv cfg o inv x.1 ch hg]
    rcases invokes x.1 ch with _ | ⟨id, d⟩
    · simp only []
      generalize stepCore cfg o (fun _ s => .ok s) x.1 ch = a
      rcases a with e | ⟨st', out⟩
      · trivial
      · generalize ansiRows cfg x.1 ch x.2 = b
        rcases b with s | t'
        · trivial
        · rfl
    · simp only []
      have h := hinv id (d, x.2)
      generalize invJ id (d, x.2) = y at h ⊢
      rcases y with e | y
      · trivial
      · have h' : inv id d = .ok y.1 := h
        show (match inv id d with | .ok st' => ret st' .ok | .error e => .error e) = _
        rw [h']; rfl
  · rw [if_neg hg]
    have he : stepCore cfg o (fun _ s => .ok s) x.1 ch = .error (.overflow (if RangeOk x.1.s x.1.c then "sound.rs: cur_tempo * pause" else "i32 arithmetic on the cursor / buffer height")) := by
      unfold stepCore
      rw [if_pos hg]
    simp only [he]
    trivial

theorem replayJ_refines (stepfJ : JSt → Char → JR) (stepf : St → Char → R)
    (hstep : ∀ y ch, Sim (stepfJ y ch) stOut (stepf y.1 ch)) :
    ∀ (body : List Char) (x : JSt), Sim (replayJ stepfJ body x) Prod.fst (replay stepf body x.1) := by
  intro body
  induction body with
  | nil => intro x; exact rfl
  | cons ch rest ih =>
    intro x
    unfold replayJ replay
    by_cases hb : x.1.p.budget = 0
    · rw [if_pos hb, if_pos hb]; exact rfl
    · rw [if_neg hb, if_neg hb]
      simp only []
      have h2 := hstep ({ x.1 with p := { x.1.p with budget := x.1.p.budget - 1 } }, x.2) ch
      generalize stepfJ ({ x.1 with p := { x.1.p with budget := x.1.p.budget - 1 } }, x.2) ch = y at h2 ⊢
      rcases y with e | ⟨y, out⟩
      · trivial
      · have h2' : stepf { x.1 with p := { x.1.p with budget := x.1.p.budget - 1 } } ch = .ok (y.1, out) := h2
        rw [h2']
        exact ih y

theorem invokerJ_refines (stepfJ : JSt → Char → JR) (stepf : St → Char → R) (top : Bool)
    (hstep : ∀ y ch, Sim (stepfJ y ch) stOut (stepf y.1 ch))
    (id : Int) (x : JSt) : Sim (invokerJ stepfJ top id x) Prod.fst (invoker stepf top id x.1) := by
  unfold invokerJ invoker
  rcases macroGet x.1.p.macros id.toNat with _ | body
  · exact rfl
  · cases top <;> exact replayJ_refines stepfJ stepf hstep body _

theorem stepDJ_refines : ∀ (d : Nat) (cfg : Cfg) (o : Nat → Orc) (x : JSt) (ch : Char),
    Sim (stepDJ d cfg o x ch) stOut (stepD d cfg o x.1 ch) := by
  intro d
  induction d with
  | zero =>
    intro cfg o x ch
    unfold stepDJ stepD
    exact stepCoreJ_refines cfg _ _ _ (tickSt x.1, x.2) ch fun id y => rfl
  | succ d ih =>
    intro cfg o x ch
    unfold stepDJ stepD
    exact stepCoreJ_refines cfg _ _ _ (tickSt x.1, x.2) ch fun id y => invokerJ_refines _ _ _ (ih cfg o) id y

theorem stepJ_refines (cfg : Cfg) (o : Nat → Orc) (x : JSt) (ch : Char) : Sim (stepJ cfg o x ch) stOut (step cfg o x.1 ch) :=
  stepDJ_refines _ cfg o x ch

theorem runJ_refines (cfg : Cfg) (o : Nat → Orc) : ∀ (cs : List Char) (x : JSt),
    Sim (runJ cfg o x cs) Prod.fst (run cfg o x.1 cs) := by
  intro cs
  induction cs with
  | nil => intro x; exact rfl
  | cons ch rest ih =>
    intro x
    unfold runJ run
    have h2 := stepJ_refines cfg o x ch
    generalize stepJ cfg o x ch = y at h2 ⊢
    rcases y with e | ⟨y, out⟩
    · trivial
    · have h2' : step cfg o x.1 ch = .ok (y.1, out) := h2
      rw [h2']
      exact ih y

theorem geoW_refines (r : WR) (t : RRes Tab) : Sim (geoW r t) stOut r := by
  unfold geoW
  rcases r with e | ⟨w', out⟩
  · trivial
  · rcases t with s | t'
    · trivial
    · exact rfl

theorem innerJ_refines (x : WJ) (o : Nat → Orc) (ch : Char) : Sim (innerJ x o ch) stOut (inner x.1 o ch) := by
  unfold innerJ inner
  have h2 := stepJ_refines wcfg o (x.1.inner, x.2) ch
  generalize stepJ wcfg o (x.1.inner, x.2) ch = y at h2 ⊢
  rcases y with e | ⟨⟨st, t⟩, out⟩
  · trivial
  · have h2' : step wcfg o x.1.inner ch = .ok (st, out) := h2
    show _ = _
    rw [h2']

theorem avtRepeatJ_refines (o : Nat → Orc) (ch : Char) : ∀ (n : Nat) (x : WJ),
    Sim (avtRepeatJ o ch n x) stOut (avtRepeat o ch n x.1) := by
  intro n
  induction n with
  | zero => intro x; exact rfl
  | succ n ih =>
    intro x
    unfold avtRepeatJ avtRepeat
    have h2 := stepJ_refines wcfg o (x.1.inner, x.2) ch
    generalize stepJ wcfg o (x.1.inner, x.2) ch = y at h2 ⊢
    rcases y with e | ⟨⟨st, t⟩, out⟩
    · trivial
    · have h2' : step wcfg o x.1.inner ch = .ok (st, out) := h2
      rw [h2']
      cases out
      · exact ih _
      · exact rfl
      · exact ih _

theorem avatarStep_inner (w : WSt) (o : Nat → Orc) (ch : Char) (hav : w.avt = .chars) (h1 : ch ≠ '\x0c')
    (h2 : ¬ (ch = '\x19' ∨ ch = '\x16')) : avatarStep w o ch = inner w o ch := by
  unfold avatarStep
  simp only [hav]
  rw [if_neg h1, if_neg (fun h => h2 (Or.inl h)), if_neg (fun h => h2 (Or.inr h))]

theorem avatarJ_refines (o : Nat → Orc) (x : WJ) (ch : Char) : Sim (avatarJ x o ch) stOut (avatarStep x.1 o ch) := by
  unfold avatarJ
  simp only []
  split
  · rename_i hav
    refine Holds.ite (fun _ => geoW_refines _ _) fun h1 => Holds.ite (fun _ => geoW_refines _ _) fun h2 => ?_
    rw [avatarStep_inner x.1 o ch hav h1 h2]
    exact innerJ_refines x o ch
  · rename_i k hav
    refine Holds.ite (fun hk => ?_) fun _ => geoW_refines _ _
    unfold avatarStep
    simp only [hav]
    rw [if_neg (by omega), if_pos hk]
    have hr := avtRepeatJ_refines o x.1.avtChar (min ch.toNat 255) ({ x.1 with avt := .repeatChars 3 }, x.2)
    generalize avtRepeatJ o x.1.avtChar (min ch.toNat 255) ({ x.1 with avt := .repeatChars 3 }, x.2) = y at hr ⊢
    rcases y with e | ⟨⟨w', t'⟩, out⟩
    · trivial
    · have hr' : avtRepeat o x.1.avtChar (min ch.toNat 255) { x.1 with avt := .repeatChars 3 } = .ok (w', out) := hr
      rw [hr']
      cases out <;> exact rfl
  · exact geoW_refines _ _

theorem pcboardJ_refines (o : Nat → Orc) (x : WJ) (ch : Char) : Sim (pcboardJ x o ch) stOut (pcboardStep x.1 o ch) := by
  unfold pcboardJ
  refine Holds.ite (fun _ => geoW_refines _ _) fun hc => ?_
  have e : pcboardStep x.1 o ch = inner x.1 o ch := by
    unfold pcboardStep
    rw [if_neg (fun hh => hc (Or.inl hh)), if_neg (fun hh => hc (Or.inr (Or.inl hh))),
      if_neg (fun hh => hc (Or.inr (Or.inr hh)))]
  rw [e]
  exact innerJ_refines x o ch

theorem renegadeJ_refines (o : Nat → Orc) (x : WJ) (ch : Char) : Sim (renegadeJ x o ch) stOut (renegadeStep x.1 o ch) := by
  unfold renegadeJ
  refine Holds.ite (fun hc => ?_) fun _ => geoW_refines _ _
  have e : renegadeStep x.1 o ch = inner x.1 o ch := by
    unfold renegadeStep
    rw [if_pos hc.1, if_neg hc.2]
  rw [e]
  exact innerJ_refines x o ch

theorem ctrlaJ_refines (o : Nat → Orc) (x : WJ) (ch : Char) : Sim (ctrlaJ x o ch) stOut (ctrlaStep x.1 o ch) := by
  unfold ctrlaJ
  simp only []
  refine Holds.ite (fun hca => Holds.ite (fun hA => ?_) fun _ => geoW_refines _ _) fun hca =>
    Holds.ite (fun _ => geoW_refines _ _) fun h1 => ?_
  · unfold ctrlaStep
    subst hA
    simp only [hca, if_true, Char.reduceEq, if_false]
    have h2 := stepJ_refines wcfg o (x.1.inner, x.2) '\x01'
    generalize stepJ wcfg o (x.1.inner, x.2) '\x01' = y at h2 ⊢
    rcases y with e | ⟨⟨st, t⟩, out⟩
    · trivial
    · have h2' : step wcfg o x.1.inner '\x01' = .ok (st, out) := h2
      show _ = _
      rw [h2']
  · have e : ctrlaStep x.1 o ch = inner x.1 o ch := by
      unfold ctrlaStep
      rw [if_neg hca, if_neg h1]
    rw [e]
    exact innerJ_refines x o ch

theorem wstepJ_refines (e : Emu) (o : Nat → Orc) (x : WJ) (ch : Char) : Sim (wstepJ e o x ch) stOut (wstep e o x.1 ch) := by
  unfold wstepJ wstep
  refine Holds.ite (fun _ => trivial) fun hr => ?_
  rw [if_neg hr]
  cases e with
  | avatar => exact avatarJ_refines o x ch
  | pcboard => exact pcboardJ_refines o x ch
  | ctrla => exact ctrlaJ_refines o x ch
  | renegade => exact renegadeJ_refines o x ch

end IcyVerif.Rows
