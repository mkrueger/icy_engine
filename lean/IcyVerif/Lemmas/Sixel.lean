import IcyVerif.Model.Sixel
/-! The sixel machine: one specification per operation (`Out.Sat`) and one relation `Eff` for what an operation does to
    the state.  The invariants `Good` (C14: rows are whole pixels, the palette is not empty — no panic site is reachable,
    the output is a rectangle), `Small` (Lemmas/SixelCost) and `Frozen` (Lemmas/SixelRaster) are one `cases` on `Eff` each,
    carried through `parse_char` by `parseChar_inv`.  At the end the cursor arithmetic at the `i32` limit. -/
namespace IcyVerif.Sixel

def RowOK (r : Nat) : Prop := r % 4 = 0 ∧ r ≤ hugeLimit

structure Good (s : St) : Prop where
  rows : ∀ r ∈ s.rows, RowOK r
  height : s.rows.length ≤ hugeLimit
  palPos : 0 < s.palLen
  palLe : s.palLen ≤ hugeLimit

/-- `Out.Sat Good False True` spelt out (`outGood_iff`); the proofs and the properties use the `Out.Sat` form -/
def OutGood : Out St → Prop
  | .ok s => Good s
  | .panic _ => False
  | _ => True

theorem good_init : Good {} := by
  constructor <;> simp [hugeLimit]

/-- `o` is a value with `P` or a parse error; a panic only if `pn`, the out-of-range outcome only if `hg` -/
def Out.Sat {α : Type} (P : α → Prop) (pn hg : Prop) : Out α → Prop
  | .ok a => P a
  | .err _ => True
  | .panic _ => pn
  | .huge => hg

theorem Out.Sat.andThen {α β : Type} {P : α → Prop} {Q : β → Prop} {pn hg : Prop} {o : Out α} {f : α → Out β}
    (ho : o.Sat P pn hg) (hf : ∀ a, P a → (f a).Sat Q pn hg) : (o.andThen f).Sat Q pn hg := by
  cases o with
  | ok a => exact hf a ho
  | err e => trivial
  | panic p => exact ho
  | huge => exact ho

theorem Out.Sat.mono {α : Type} {P Q : α → Prop} {pn pn' hg hg' : Prop} {o : Out α} (ho : o.Sat P pn hg)
    (h : ∀ a, P a → Q a) (hp : pn → pn') (hh : hg → hg') : o.Sat Q pn' hg' := by
  cases o with
  | ok a => exact h a ho
  | err e => trivial
  | panic p => exact hp ho
  | huge => exact hh ho

theorem Out.Sat.ite {α : Type} {P : α → Prop} {pn hg c : Prop} [Decidable c] {a b : Out α}
    (ha : c → a.Sat P pn hg) (hb : ¬ c → b.Sat P pn hg) : (if c then a else b).Sat P pn hg := by
  by_cases h : c
  · rw [if_pos h]; exact ha h
  · rw [if_neg h]; exact hb h

theorem Out.Sat.of_ok {α : Type} {P : α → Prop} {pn hg : Prop} {o : Out α} {a : α} (ho : o.Sat P pn hg)
    (e : o = .ok a) : P a := by
  subst e; exact ho

theorem Out.Sat.mapOut {α β : Type} {P : α → Prop} {pn hg : Prop} {o : Out α} (h : o.Sat P pn hg) (f : α → β) :
    (mapOut f o).Sat (fun b => ∃ a, P a ∧ f a = b) pn hg := by
  cases o with
  | ok a => exact ⟨a, h, rfl⟩
  | err e => trivial
  | panic q => exact h
  | huge => exact h

theorem Out.Sat.ne_panic {α : Type} {P : α → Prop} {hg : Prop} {o : Out α} (h : o.Sat P False hg) (p : Site) :
    o ≠ .panic p := by
  rintro rfl; exact h

theorem Out.Sat.ne_huge {α : Type} {P : α → Prop} {pn : Prop} {o : Out α} (h : o.Sat P pn False) : o ≠ .huge := by
  rintro rfl; exact h

theorem outGood_iff {o : Out St} : OutGood o ↔ o.Sat Good False True := by
  cases o <;> exact Iff.rfl

theorem ok_andThen {α β : Type} (a : α) (f : α → Out β) : (Out.ok a).andThen f = f a := rfl
theorem err_andThen {α β : Type} (e : Err) (f : α → Out β) : (Out.err e : Out α).andThen f = .err e := rfl

theorem andThen_ok {α β : Type} {o : Out α} {f : α → Out β} {b : β} (h : o.andThen f = .ok b) :
    ∃ a, o = .ok a ∧ f a = .ok b := by
  cases o with
  | ok a => exact ⟨a, rfl, h⟩
  | err e => simp [Out.andThen] at h
  | panic p => simp [Out.andThen] at h
  | huge => simp [Out.andThen] at h

theorem repeatN_sat {P : St → Prop} {pn hg : Prop} {f : St → Out St} (hf : ∀ s, P s → (f s).Sat P pn hg) (n : Nat)
    {s : St} (h : P s) : (repeatN f n s).Sat P pn hg := by
  induction n generalizing s with
  | zero => exact h
  | succ n ih => rw [repeatN_succ]; exact (hf s h).andThen fun s' h' => ih h'

theorem run_sat {P : St → Prop} {pn hg : Prop} (cs : List Char)
    (step : ∀ c ∈ cs, ∀ s, P s → (parseChar s c).Sat P pn hg) {s : St} (h : P s) : (run s cs).Sat P pn hg := by
  induction cs generalizing s with
  | nil => exact h
  | cons c cs ih =>
    rw [run_cons]
    exact (step c (by simp) s h).andThen fun s' h' => ih (fun c' hc' => step c' (by simp [hc'])) h'

theorem run_append (s : St) (a b : List Char) : run s (a ++ b) = (run s a).andThen fun s' => run s' b := by
  induction a generalizing s with
  | nil => rfl
  | cons c cs ih =>
    simp only [List.cons_append, run_cons]
    cases parseChar s c with
    | ok s1 => simp only [Out.andThen]; exact ih s1
    | err e => rfl
    | panic p => rfl
    | huge => rfl

theorem length_resizeRows (rows : List Nat) (n fill : Nat) : (resizeRows rows n fill).length = n := by
  unfold resizeRows; split
  · simp; omega
  · simp; omega

theorem mem_resizeRows {rows : List Nat} {n fill r : Nat} (h : r ∈ resizeRows rows n fill) :
    r ∈ rows ∨ r = fill := by
  unfold resizeRows at h; split at h
  · exact Or.inl (List.mem_of_mem_take h)
  · rcases List.mem_append.1 h with h | h
    · exact Or.inl h
    · exact Or.inr (List.eq_of_mem_replicate h)

theorem forall_resizeRows {P : Nat → Prop} {rows : List Nat} {n fill : Nat} (h : ∀ r ∈ rows, P r) (hf : P fill) :
    ∀ r ∈ resizeRows rows n fill, P r := by
  intro r hr
  rcases mem_resizeRows hr with h' | h'
  · exact h r h'
  · rw [h']; exact hf

theorem getElem?_resizeRows_new {rows : List Nat} {n fill i r : Nat} (hi : rows.length ≤ i)
    (h : (resizeRows rows n fill)[i]? = some r) : r = fill := by
  unfold resizeRows at h
  split at h
  · rw [List.getElem?_take] at h
    split at h
    · have : rows[i]? = none := List.getElem?_eq_none hi
      rw [this] at h; simp at h
    · simp at h
  · rw [List.getElem?_append_right hi, List.getElem?_replicate] at h
    split at h
    · injection h with h; exact h.symm
    · simp at h

/-- the fill value of `growRows` (a row as wide as the first one, in whole pixels) is no wider than the rows -/
theorem width_mul_le {rows : List Nat} {C : Nat} (h : ∀ r ∈ rows, r ≤ C) : width rows * 4 ≤ C := by
  cases rows with
  | nil => exact Nat.zero_le _
  | cons r rs => exact Nat.le_trans (Nat.div_mul_le_self r 4) (h r List.mem_cons_self)

theorem lastLineOf_le (s : St) : lastLineOf s ≤ s.y * 6 + 6 := by
  unfold lastLineOf; split
  · rename_i h; simp at h; omega
  · exact Nat.le_refl _

/-- what the pixel loop at column `x` does to the rows: their number stays; each row stays as it is or, if it ended at
    or before the column, is extended to `(x + 1) * 4` bytes -/
def Painted (x : Nat) (rows rows' : List Nat) : Prop :=
  rows'.length = rows.length ∧ ∀ (i r' : Nat), rows'[i]? = some r' →
    ∃ r, rows[i]? = some r ∧ (r' = r ∨ (r ≤ x * 4 ∧ r' = (x + 1) * 4 ∧ (x + 1) * 4 ≤ hugeLimit))

theorem Painted.refl (x : Nat) (rows : List Nat) : Painted x rows rows :=
  ⟨rfl, fun _ r' h => ⟨r', h, Or.inl rfl⟩⟩

theorem Painted.trans {x : Nat} {a b c : List Nat} (h1 : Painted x a b) (h2 : Painted x b c) : Painted x a c := by
  refine ⟨h2.1.trans h1.1, fun i r'' h => ?_⟩
  obtain ⟨r', hr', h'⟩ := h2.2 i r'' h
  obtain ⟨r, hr, h''⟩ := h1.2 i r' hr'
  exact ⟨r, hr, by omega⟩

theorem Painted.set {rows : List Nat} {tl len x : Nat} (h : rows[tl]? = some len)
    (hh : ¬ (len ≤ x * 4 ∧ (x + 1) * 4 > hugeLimit)) :
    Painted x rows (rows.set tl (if len ≤ x * 4 then (x + 1) * 4 else len)) := by
  refine ⟨List.length_set, fun i r' hi => ?_⟩
  by_cases e : tl = i
  · subst e
    rw [List.getElem?_set_self (List.getElem?_eq_some_iff.1 h).1] at hi
    injection hi with hi
    exact ⟨len, h, by split at hi <;> omega⟩
  · rw [List.getElem?_set_ne e] at hi
    exact ⟨r', hi, Or.inl rfl⟩

theorem Painted.forall {x : Nat} {rows rows' : List Nat} (hp : Painted x rows rows') {P : Nat → Prop}
    (h : ∀ r ∈ rows, P r) (hx : (x + 1) * 4 ≤ hugeLimit → P ((x + 1) * 4)) : ∀ r ∈ rows', P r := by
  intro r' hr'
  obtain ⟨i, hi⟩ := List.mem_iff_getElem?.1 hr'
  obtain ⟨r, hr, hc⟩ := hp.2 i r' hi
  rcases hc with rfl | ⟨_, rfl, hle⟩
  · exact h _ (List.mem_of_getElem? hr)
  · exact hx hle

theorem pixelLoop_sat (mask yPos lastLine x : Nat) (is rows : List Nat) :
    (pixelLoop mask yPos lastLine x is rows).Sat (Painted x rows)
      (¬ (lastLine ≤ rows.length ∧ ∀ r ∈ rows, r % 4 = 0)) ((x + 1) * 4 > hugeLimit) := by
  induction is generalizing rows with
  | nil => exact Painted.refl x rows
  | cons i is ih =>
    simp only [pixelLoop]
    by_cases hbit : mask.testBit i = true
    · rw [if_pos hbit]
      by_cases hlast : yPos + i ≥ lastLine
      · rw [if_pos hlast]; exact Painted.refl x rows
      rw [if_neg hlast]
      cases hsome : rows[yPos + i]? with
      | none =>
        have : rows.length ≤ yPos + i := by simpa using hsome
        exact fun h => by omega
      | some len =>
        show Out.Sat _ _ _ (if len ≤ x * 4 ∧ (x + 1) * 4 > hugeLimit then _ else _)
        by_cases hh : len ≤ x * 4 ∧ (x + 1) * 4 > hugeLimit
        · rw [if_pos hh]; exact hh.2
        rw [if_neg hh]
        have hlen (hq : lastLine ≤ rows.length ∧ ∀ r ∈ rows, r % 4 = 0) : len % 4 = 0 :=
          hq.2 len (List.mem_of_getElem? hsome)
        by_cases hidx : x * 4 + 3 < (if len ≤ x * 4 then (x + 1) * 4 else len)
        · rw [if_pos hidx]
          refine (ih (rows.set (yPos + i) _)).mono (fun _ h => (Painted.set hsome hh).trans h) (fun hp hq => hp ?_) id
          refine ⟨by rw [List.length_set]; exact hq.1, fun r hr => ?_⟩
          rcases List.mem_or_eq_of_mem_set hr with h | h
          · exact hq.2 r h
          · have := hlen hq
            rw [h]; split <;> omega
        · rw [if_neg hidx]
          intro hq
          have := hlen hq
          split at hidx <;> omega
    · rw [if_neg hbit]; exact ih rows

/-- every exit is `.ok`, `.panic` or `.huge`; the two recursive arms are the induction hypothesis -/
theorem pixelLoop_ne_err (mask yPos lastLine x : Nat) (is rows : List Nat) (e : Err) :
    pixelLoop mask yPos lastLine x is rows ≠ .err e := by
  fun_induction pixelLoop mask yPos lastLine x is rows <;> first | assumption | nofun

theorem growRows_ne_err (rows : List Nat) (lastLine : Nat) (e : Err) : growRows rows lastLine ≠ .err e := by
  unfold growRows; split
  · split <;> nofun
  · nofun

theorem growRows_sat (rows : List Nat) (lastLine : Nat) :
    (growRows rows lastLine).Sat
      (fun rows' => (lastLine ≤ rows.length ∧ rows' = rows) ∨
        (rows.length < lastLine ∧ lastLine ≤ hugeLimit ∧ rows' = resizeRows rows lastLine (width rows * 4)))
      False (rows.length < lastLine ∧ (lastLine > hugeLimit ∨ (lastLine - rows.length) * (width rows * 4) > hugeLimit)) := by
  unfold growRows
  exact .ite (fun h1 => .ite (fun h2 => ⟨h1, h2⟩) fun _ => Or.inr ⟨h1, by omega, rfl⟩) fun _ => Or.inl ⟨by omega, rfl⟩

theorem defineColor_short {s : St} (h : s.nums.length ≤ 1) : defineColor s = .ok s := by
  unfold defineColor
  rw [if_neg (by omega)]

theorem defineColor_bad {s : St} (h : s.nums.length > 1) (h5 : s.nums.length ≠ 5) : defineColor s = .err .invalidColor := by
  unfold defineColor
  rw [if_pos h, if_pos (Or.inl h5)]

theorem defineColor_five {s : St} {a b c d e : Nat} (h : s.nums = [a, b, c, d, e]) :
    defineColor s = if s.color ≥ maxColors then .err .invalidColor
      else if b = 2 ∨ b = 1 then growPalette s else .err .unsupportedColorFormat := by
  unfold defineColor
  simp only [h, List.length_cons, List.length_nil, List.getElem?_cons_succ, List.getElem?_cons_zero]
  by_cases hc : s.color ≥ maxColors
  · simp [hc]
  · by_cases h2 : b = 2
    · simp [hc, h2]
    · by_cases h1 : b = 1
      · simp [hc, h1]
      · simp [hc, h1, h2]

theorem sizeArm_of_length {s : St} (h : s.nums.length < 2 ∨ s.nums.length > 4) : sizeArm s = .err .invalidPictureSize := by
  unfold sizeArm
  rw [if_pos (by omega)]

theorem sizeArm_two {s : St} {a b : Nat} (h : s.nums = [a, b]) :
    sizeArm s = .ok { s with state := .read, vscale := a, hscale := b } := by
  simp [sizeArm, h]

theorem sizeArm_three {s : St} {a b ht : Nat} (h : s.nums = [a, b, ht]) :
    sizeArm s = if ht > maxSize then .err .invalidPictureSize else if ht > hugeLimit then .huge
      else .ok { s with rows := resizeRows s.rows ht 0, heightSet := true, state := .read, vscale := a, hscale := b } := by
  simp [sizeArm, h]

theorem sizeArm_four {s : St} {a b w ht : Nat} (h : s.nums = [a, b, w, ht]) :
    sizeArm s = if w > maxSize ∨ ht > maxSize then .err .invalidPictureSize
      else if 4 * w > hugeLimit ∨ ht > hugeLimit ∨ (ht - s.rows.length) * (4 * w) > hugeLimit then .huge
      else .ok { s with rows := resizeRows s.rows ht (4 * w), heightSet := true, state := .read, vscale := a, hscale := b } := by
  simp [sizeArm, h]

/-- size declared by the numbers of a raster attribute: `[pan, pad, height]` or `[pan, pad, width, height]` -/
def declared : List Nat → Option (Nat × Nat)
  | [_, _, h] => some (0, h)
  | [_, _, w, h] => some (w, h)
  | _ => none

/-- the limits found in the source keep every allocation the model checks inside the modelled range -/
theorem limits_fit : 4 * maxSize ≤ hugeLimit ∧ maxSize * (4 * maxSize) ≤ hugeLimit ∧ maxColors ≤ hugeLimit ∧ 16 ≤ maxColors := by decide

/-- the end of a colour command: the palette may grow, up to `maxColors`; picture, cursor and parser state stay -/
structure Recolored (s t : St) : Prop where
  rows : t.rows = s.rows
  heightSet : t.heightSet = s.heightSet
  state : t.state = s.state
  x : t.x = s.x
  y : t.y = s.y
  pal : t.palLen = s.palLen ∨ (s.palLen ≤ t.palLen ∧ t.palLen ≤ maxColors)

/-- what one operation of the machine does to picture, palette and parser state: all that any invariant has to know -/
inductive Eff (ch : Char) (s t : St) : Prop
  /-- control characters, digits: the parser moves (into the raster state only on `"`) -/
  | moved (rows : t.rows = s.rows) (hs : t.heightSet = s.heightSet) (pal : t.palLen = s.palLen)
      (st : ch ≠ '"' → s.state ≠ .readSize → t.state ≠ .readSize)
  | color (c : Recolored s t)
  /-- end of a raster attribute declaring `w × h` -/
  | raster (w h : Nat) (at_ : s.state = .readSize) (d : declared s.nums = some (w, h)) (hw : w ≤ maxSize) (hh : h ≤ maxSize)
      (rows : t.rows = resizeRows s.rows h (4 * w)) (hs : t.heightSet = true) (st : t.state = .read)
      (pal : t.palLen = s.palLen)
  /-- a data character: the band is appended if missing (rows as wide as the first), then painted at column `s.x` -/
  | data (rows1 : List Nat) (hx : s.x < maxSize) (hl : lastLineOf s ≤ maxSize)
      (grow : (lastLineOf s ≤ s.rows.length ∧ rows1 = s.rows) ∨
        (s.rows.length < lastLineOf s ∧ rows1 = resizeRows s.rows (lastLineOf s) (width s.rows * 4)))
      (paint : Painted s.x rows1 t.rows) (hs : t.heightSet = s.heightSet) (st : t.state = s.state)
      (pal : t.palLen = s.palLen)

/-- the two panic conditions of `translate`: `% palette.len()`, and a row that is not a whole number of pixels -/
def Unsafe (s : St) : Prop := s.palLen % 4294967296 = 0 ∨ ¬ ∀ r ∈ s.rows, r % 4 = 0

/-- the one request that can leave the modelled range: a band of rows as wide as an over-wide first row -/
def TooWide (s : St) : Prop := maxSize * (width s.rows * 4) > hugeLimit

theorem growPalette_sat (s : St) :
    (growPalette s).Sat (fun t => t = s ∨ (s.palLen ≤ s.color ∧ t = { s with palLen := s.color + 1 })) False
      (s.color + 1 > hugeLimit) := by
  unfold growPalette
  exact .ite (fun hp => .ite id fun _ => Or.inr ⟨hp, rfl⟩) fun _ => Or.inl rfl

/-- out of range is excluded by `maxColors ≤ hugeLimit` -/
theorem colorArm_sat (s : St) : (colorArm s).Sat (Recolored s) False False := by
  have hs : Recolored s (setColor s) ∧ (setColor s).palLen = s.palLen := by
    unfold setColor; cases s.nums.head? <;> exact ⟨⟨rfl, rfl, rfl, rfl, rfl, Or.inl rfl⟩, rfl⟩
  obtain ⟨same, hpal⟩ := hs
  unfold colorArm
  by_cases h1 : (setColor s).nums.length ≤ 1
  · rw [defineColor_short h1]; exact same
  by_cases h5 : (setColor s).nums.length ≠ 5
  · rw [defineColor_bad (by omega) h5]; trivial
  match hn : (setColor s).nums, Decidable.of_not_not h5 with
  | [a, b, c, d, e], _ =>
    rw [defineColor_five hn]
    refine .ite (fun _ => trivial) fun hc => .ite (fun _ => ?_) fun _ => trivial
    refine (growPalette_sat _).mono (fun t ht => ?_) id fun hg => by have := limits_fit.2.2.1; omega
    rcases ht with rfl | ⟨hp, rfl⟩
    · exact same
    · exact ⟨same.rows, same.heightSet, same.state, same.x, same.y,
        Or.inr ⟨hpal ▸ Nat.le_succ_of_le hp, Nat.succ_le_of_lt (Nat.lt_of_not_ge hc)⟩⟩

theorem raster_fits {w h n : Nat} (hw : w ≤ maxSize) (hh : h ≤ maxSize) :
    ¬ (4 * w > hugeLimit ∨ h > hugeLimit ∨ (h - n) * (4 * w) > hugeLimit) := by
  have h1 : 4 * w ≤ 4 * maxSize := Nat.mul_le_mul_left 4 hw
  have h2 : (h - n) * (4 * w) ≤ maxSize * (4 * maxSize) := Nat.mul_le_mul (Nat.le_trans (Nat.sub_le _ _) hh) h1
  obtain ⟨_, _, _, _⟩ := limits_fit
  omega

/-- out of range is excluded by the `maxSize` guards (`raster_fits`) -/
theorem sizeArm_eff (ch : Char) {s : St} (hst : s.state = .readSize) : (sizeArm s).Sat (Eff ch s) False False := by
  have moved {t : St} (hr : t.rows = s.rows) (hh : t.heightSet = s.heightSet) (hp : t.palLen = s.palLen)
      (ht : t.state = .read) : Eff ch s t := .moved hr hh hp fun _ _ => ht ▸ PState.noConfusion
  match hn : s.nums with
  | [] => rw [sizeArm_of_length (Or.inl (by rw [hn]; exact Nat.zero_lt_two))]; trivial
  | [a] => rw [sizeArm_of_length (Or.inl (by rw [hn]; exact Nat.one_lt_two))]; trivial
  | [a, b] => rw [sizeArm_two hn]; exact moved rfl rfl rfl rfl
  | [a, b, h] =>
    rw [sizeArm_three hn]
    refine .ite (fun _ => trivial) fun hh => .ite (fun hg => ?_) fun _ => ?_
    · exact raster_fits (n := 0) (Nat.zero_le _) (Nat.le_of_not_gt hh) (Or.inr (Or.inl hg))
    · exact .raster 0 h hst (by rw [hn]; rfl) (Nat.zero_le _) (Nat.le_of_not_gt hh) rfl rfl rfl rfl
  | [a, b, w, h] =>
    rw [sizeArm_four hn]
    refine .ite (fun _ => trivial) fun hb => .ite (fun hg => ?_) fun _ => ?_
    · exact raster_fits (by omega) (by omega) hg
    · exact .raster w h hst (by rw [hn]; rfl) (by omega) (by omega) rfl rfl rfl rfl
  | a :: b :: c :: d :: e :: rest =>
    rw [sizeArm_of_length (Or.inr (by rw [hn]; simp only [List.length_cons]; omega))]; trivial

theorem translate_eff (s : St) (ch : Char) : (translate s ch).Sat (Eff ch s) (Unsafe s) (TooWide s) := by
  have hf := limits_fit
  fun_cases translate s ch
  · trivial                                 -- not a data character
  · rename_i h; exact Or.inl h              -- `% palette.len()`
  · trivial                                 -- `y * 6 + 6` leaves `i32`
  · trivial                                 -- column or band beyond `MAX_SIXEL_SIZE`
  rename_i hguard
  have hx : s.x < maxSize := by omega
  have hl : lastLineOf s ≤ maxSize := by omega
  have hwide : (lastLineOf s - s.rows.length) * (width s.rows * 4) ≤ maxSize * (width s.rows * 4) :=
    Nat.mul_le_mul_right _ (by omega)
  refine ((growRows_sat s.rows (lastLineOf s)).mono (fun _ h => h) False.elim fun ⟨_, h⟩ =>
    (by omega : hugeLimit < maxSize * (width s.rows * 4))).andThen fun rows hr => ?_
  have hlen : lastLineOf s ≤ rows.length := by
    rcases hr with ⟨h, rfl⟩ | ⟨_, _, rfl⟩
    · exact h
    · rw [length_resizeRows]; exact Nat.le_refl _
  have hmod (h : ∀ r ∈ s.rows, r % 4 = 0) : ∀ r ∈ rows, r % 4 = 0 := by
    rcases hr with ⟨_, rfl⟩ | ⟨_, _, rfl⟩
    · exact h
    · exact forall_resizeRows h (Nat.mul_mod_left _ _)
  refine ((pixelLoop_sat _ _ _ _ _ rows).mono (fun _ h => h) (fun h => Or.inr fun hm => h ⟨hlen, hmod hm⟩)
    (fun h => by omega)).andThen fun rows' hp => ?_
  exact .ite (fun _ => trivial) fun _ => .data rows hx hl (hr.imp id fun h => ⟨h.1, h.2.2⟩) hp rfl rfl rfl

theorem sixelData_eff (s : St) (ch : Char) : (sixelData s ch).Sat (Eff ch s) (Unsafe s) (TooWide s) := by
  fun_cases sixelData s ch
  · exact .moved rfl rfl rfl fun _ _ => PState.noConfusion        -- `#`
  · exact .moved rfl rfl rfl fun _ _ => PState.noConfusion        -- `!`
  · trivial                                                       -- `-` at the `i32` limit
  · exact .moved rfl rfl rfl fun _ h => h                         -- `-`
  · exact .moved rfl rfl rfl fun _ h => h                         -- `$`
  · rename_i h; exact .moved rfl rfl rfl fun hc => absurd h hc    -- `"`
  · exact .moved rfl rfl rfl fun _ h => h                         -- above 0x7F: ignored
  · exact translate_eff s ch

theorem sixelData_inv {P : St → Prop} {pn hg : Prop} {ch : Char} (keep : ∀ {s t}, P s → Eff ch s t → P t)
    (safe : ∀ {s}, P s → Unsafe s → pn) (fits : ∀ {s}, P s → TooWide s → hg) {s : St} (h : P s) :
    (sixelData s ch).Sat P pn hg :=
  (sixelData_eff s ch).mono (fun _ => keep h) (safe h) (fits h)

/-- the one walk over `parse_char` that every invariant uses -/
theorem parseChar_inv {P : St → Prop} {pn hg : Prop} {ch : Char} (keep : ∀ {s t}, P s → Eff ch s t → P t)
    (safe : ∀ {s}, P s → Unsafe s → pn) (fits : ∀ {s}, P s → TooWide s → hg) {s : St} (h : P s) :
    (parseChar s ch).Sat P pn hg := by
  have sd {s : St} (h : P s) := sixelData_inv keep safe fits (ch := ch) h
  have arm {o : Out St} (ho : o.Sat (Eff ch s) False False) : (o.andThen fun s' => sixelData s' ch).Sat P pn hg :=
    (ho.mono (fun _ => keep h) False.elim False.elim).andThen fun _ => sd
  have num {t : St} (hr : t.rows = s.rows) (hh : t.heightSet = s.heightSet) (hp : t.palLen = s.palLen)
      (hst : t.state = s.state) : P t := keep h (.moved hr hh hp fun _ hne => hst ▸ hne)
  fun_cases parseChar s ch
  · exact sd h                                         -- Read
  · exact num rfl rfl rfl rfl                          -- ReadColor: digit
  · exact num rfl rfl rfl rfl                          -- ReadColor: `;`
  · exact arm ((colorArm_sat s).mono (fun _ => .color) id id)   -- ReadColor: end of the colour command
  · exact num rfl rfl rfl rfl                          -- ReadSize: digit
  · exact num rfl rfl rfl rfl                          -- ReadSize: `;`
  · rename_i hs _ _; exact arm (sizeArm_eff ch hs)     -- ReadSize: end of the raster attribute
  · exact num rfl rfl rfl rfl                          -- Repeat: digit
  · trivial                                            -- Repeat: count beyond `MAX_SIXEL_SIZE`
  · exact (repeatN_sat (fun _ => sd) _ h).andThen fun _ h' =>   -- Repeat: the loop
      keep h' (.moved rfl rfl rfl fun _ _ => PState.noConfusion)
  · trivial                                            -- Repeat: no count

theorem run_inv {P : St → Prop} {pn hg : Prop} (cs : List Char)
    (keep : ∀ c ∈ cs, ∀ {s t}, P s → Eff c s t → P t) (safe : ∀ {s}, P s → Unsafe s → pn)
    (fits : ∀ {s}, P s → TooWide s → hg) {s : St} (h : P s) : (run s cs).Sat P pn hg :=
  run_sat cs (fun c hc _ h' => parseChar_inv (keep c hc) safe fits h') h

theorem Good.eff {ch : Char} {s t : St} (g : Good s) (e : Eff ch s t) : Good t := by
  obtain ⟨h4, -, hc, -⟩ := limits_fit
  have hm : maxSize ≤ hugeLimit := Nat.le_trans (Nat.le_mul_of_pos_left _ (by decide)) h4
  cases e with
  | moved hr _ hp _ => exact ⟨hr ▸ g.rows, hr ▸ g.height, hp ▸ g.palPos, hp ▸ g.palLe⟩
  | color c =>
    have := g.palPos; have := g.palLe; have := c.pal
    exact ⟨c.rows ▸ g.rows, c.rows ▸ g.height, by omega, by omega⟩
  | raster w h _ _ hw hh hr _ _ hp =>
    exact ⟨hr ▸ forall_resizeRows g.rows ⟨Nat.mul_mod_right _ _, Nat.le_trans (Nat.mul_le_mul_left 4 hw) h4⟩,
      by rw [hr, length_resizeRows]; exact Nat.le_trans hh hm, hp ▸ g.palPos, hp ▸ g.palLe⟩
  | data rows1 hx hl hg hpt _ _ hp =>
    have h1 : (∀ r ∈ rows1, RowOK r) ∧ rows1.length ≤ hugeLimit := by
      rcases hg with ⟨_, rfl⟩ | ⟨_, rfl⟩
      · exact ⟨g.rows, g.height⟩
      · exact ⟨forall_resizeRows g.rows ⟨Nat.mul_mod_left _ _, width_mul_le fun r hr => (g.rows r hr).2⟩,
          by rw [length_resizeRows]; exact Nat.le_trans hl hm⟩
    exact ⟨hpt.forall h1.1 fun h => ⟨Nat.mul_mod_left _ _, h⟩, hpt.1 ▸ h1.2, hp ▸ g.palPos, hp ▸ g.palLe⟩

theorem Good.safe {s : St} (g : Good s) : ¬ Unsafe s := by
  rintro (h | h)
  · have := g.palPos; have := g.palLe; simp only [hugeLimit] at *; omega
  · exact h fun r hr => (g.rows r hr).1

/-- every run from a `Good` state: no panic, a `Good` state if it returns -/
theorem run_good_sat {s : St} (g : Good s) (cs : List Char) : (run s cs).Sat Good False True :=
  run_inv cs (fun _ _ => Good.eff) (fun g h => g.safe h) (fun _ _ => trivial) g

/-- the `OutGood` spelling of `run_good_sat` -/
theorem run_good {s : St} (g : Good s) (cs : List Char) : OutGood (run s cs) := outGood_iff.2 (run_good_sat g cs)

theorem sixelData_dash (s : St) (h : s.y + 1 ≤ i32Max) : sixelData s '-' = .ok { s with x := 0, y := s.y + 1 } := by
  have : ¬ s.y + 1 > i32Max := by omega
  simp [sixelData, this]

theorem repeat_dash (n : Nat) (s : St) (h : s.y + (n + 1) ≤ i32Max) :
    repeatN (fun t => sixelData t '-') (n + 1) s = .ok { s with x := 0, y := s.y + (n + 1) } := by
  induction n generalizing s with
  | zero => rw [repeatN_succ, sixelData_dash s (by omega)]; rfl
  | succ n ih =>
    rw [repeatN_succ, sixelData_dash s (by omega)]
    simp only [Out.andThen]
    rw [ih _ (by simp only; omega)]
    simp only [Nat.add_assoc, Nat.add_comm 1]

/-- `!<m>-~` with `m` large enough to overflow the band arithmetic is an error: `m * 6 + 6 > i32::MAX` implies
    `m > MAX_SIXEL_SIZE`, so the repeat count itself is rejected (the cursor checks stay reachable through long runs of `-`) -/
theorem cursor_overflow_err (m : Nat) (h2 : m * 6 + 6 > i32Max) (cs : List Char) :
    run { state := .repeat_, nums := [m] } ('-' :: '~' :: cs) = .err .invalidPictureSize := by
  rw [run_cons]
  have hgt : m > maxSize := by
    simp only [maxSize, Gen.Sixel.maxSixelSize]
    simp only [i32Max] at h2
    omega
  have hp : parseChar { state := .repeat_, nums := [m] } '-' = .err .invalidPictureSize := by
    simp only [parseChar, List.head?_cons]
    rw [if_neg (by decide), if_pos hgt]
  rw [hp]; rfl

theorem foldl_max_ge (rows : List Nat) (a : Nat) : a ≤ rows.foldl max a ∧ ∀ r ∈ rows, r ≤ rows.foldl max a := by
  induction rows generalizing a with
  | nil => simp
  | cons r rs ih =>
    simp only [List.foldl]
    have := ih (max a r)
    refine ⟨by omega, ?_⟩
    intro r' hr'
    rcases List.mem_cons.1 hr' with h | h
    · subst h; omega
    · exact this.2 r' h

theorem rowLen_prop {P : Nat → Prop} {rows : List Nat} (h0 : P 0) (h : ∀ r ∈ rows, P r) : P (rowLen rows) :=
  List.foldlRecOn rows max h0 fun b hb a ha => by
    rw [Nat.max_def]; split
    · exact h a ha
    · exact hb

theorem rowLen_ok {rows : List Nat} (h : ∀ r ∈ rows, RowOK r) : RowOK (rowLen rows) :=
  rowLen_prop ⟨rfl, Nat.zero_le _⟩ h

end IcyVerif.Sixel
