import IcyVerif.Model.IcyDraw
import IcyVerif.Lemmas.Basics
/-! C07, IcyDraw: the cells of a layer payload — little-endian fields, one record of a row (an attribute word and the short or
long body behind it), one row, all rows: the reader run on what the writer emits returns exactly the cells the writer saw. -/
namespace IcyVerif.IcyDraw
open IcyVerif.Gen.Icy

@[simp] theorem Res.bind_ok' {α β : Type} (a : α) (f : α → Res β) : (Res.ok a >>= f) = f a := rfl
@[simp] theorem Res.pure_eq {α : Type} (a : α) : (pure a : Res α) = Res.ok a := rfl

theorem leBytes_length (n v : Nat) : (leBytes n v).length = n := by
  induction n generalizing v with
  | zero => rfl
  | succ n ih => simp [leBytes, ih]

theorem leVal_leBytes (n v : Nat) : leVal (leBytes n v) = v % 256 ^ n := by
  induction n generalizing v with
  | zero => simp [leBytes, leVal, Nat.mod_one]
  | succ n ih =>
    simp only [leBytes, leVal, ih]
    rw [Nat.pow_succ, Nat.mul_comm (256 ^ n) 256, Nat.mod_mul]

theorem lenLt_iff (bs : Bytes) (n : Nat) : lenLt bs n = true ↔ bs.length < n := by
  induction bs generalizing n with
  | nil => cases n <;> simp [lenLt]
  | cons b r ih => cases n with
    | zero => simp [lenLt]
    | succ n => simp [lenLt, ih]

theorem lenLt_false (bs : Bytes) (n : Nat) (h : n ≤ bs.length) : lenLt bs n = false := by
  cases hh : lenLt bs n with
  | false => rfl
  | true => rw [lenLt_iff] at hh; omega

theorem rdSlice_append (s r : Bytes) : rdSlice s.length (s ++ r) = .ok (s, r) := by
  unfold rdSlice
  rw [lenLt_false _ _ (by simp)]
  simp

theorem rdLE_leBytes (n v : Nat) (r : Bytes) : rdLE n (leBytes n v ++ r) = .ok (v % 256 ^ n, r) := by
  unfold rdLE
  have := rdSlice_append (leBytes n v) r
  rw [leBytes_length] at this
  rw [this]
  simp [leVal_leBytes]

/-- the two marker bits of the 16-bit attribute: 32768 = `attrInvisible`, 16384 = `attrShortData`, both = 49152 =
    `attrInvisibleShort` (the end-of-row marker); 49151 masks the short marker off -/
theorem attr_short (a : Nat) (ha : a < 65536) (hv : a &&& 32768 = 0) (hs : a &&& 16384 = 0) :
    (a ||| 16384) < 65536 ∧ (a ||| 16384) ≠ 49152 ∧ (a ||| 16384) &&& 16384 ≠ 0 ∧ (a ||| 16384) &&& 49151 = a := by
  refine ⟨?_, ?_, ?_, ?_⟩
  · exact Nat.or_lt_two_pow (n := 16) ha (by decide)
  · intro h
    have : (a ||| 16384) &&& 32768 = 0 := by rw [Nat.and_or_distrib_right, hv]; decide
    rw [h] at this; revert this; decide
  · rw [Nat.and_or_distrib_right, hs]; decide
  · rw [Nat.and_or_distrib_right]
    have h1 : a &&& 65535 = a := by
      have := Nat.and_two_pow_sub_one_eq_mod a 16
      simp at this; rw [this]; omega
    have h2 : (65535 : Nat) = 49151 ||| 16384 := by decide
    have h3 : a &&& 49151 = a := by
      conv => rhs; rw [← h1, h2, Nat.and_or_distrib_left, hs]
      simp
    rw [h3]; simp

theorem attr_long (a : Nat) (hv : a &&& 32768 = 0) : a ≠ 49152 ∧ a ≠ 32768 := by
  constructor <;> (intro h; subst h; revert hv; decide)

/-- what the reader does with a cell: `some c` = `set_char`, `none` = skipped -/
def optCell (c : Cell) : Option Cell := if c.visible then some c else none

def consRow (o : Option Cell) : Res (List (Option Cell) × Bytes) → Res (List (Option Cell) × Bytes)
  | .ok (cs, r) => .ok (o :: cs, r)
  | .fail e => .fail e

theorem readRow_word (w a : Nat) (ha : a < 65536) (r : Bytes) :
    readRow (w + 1) (leBytes 2 a ++ r) =
      if a = attrInvisibleShort then .ok ([], r) else
      if (if a &&& attrShortData != 0 then a &&& notShort else a) = attrInvisible then consRow none (readRow w r) else
      match readCellBody (a &&& attrShortData != 0) (if a &&& attrShortData != 0 then a &&& notShort else a) r with
      | .fail e => .fail e
      | .ok (c, r1) => if !isScalar c.ch then .fail .errCodec else consRow (some c) (readRow w r1) := by
  simp only [leBytes, List.cons_append, List.nil_append, readRow, Nat.mul_comm 256, Basics.le16_val a ha]
  split
  · rfl
  · split
    · cases readRow w r <;> rfl
    · cases readCellBody (a &&& attrShortData != 0) (if (a &&& attrShortData != 0) = true then a &&& notShort else a) r with
      | fail e => rfl
      | ok p =>
        obtain ⟨c, r1⟩ := p
        split
        · rfl
        · cases readRow w r1 <;> rfl

theorem readCellBody_short (a ch fg bg page : Nat) (r : Bytes) :
    readCellBody true a (ch :: fg :: bg :: page :: r) = .ok (⟨ch, fg, bg, page, a⟩, r) := by
  simp [readCellBody, lenLt]

theorem readCellBody_long (a ch fg bg page : Nat) (r : Bytes) :
    readCellBody false a (leBytes 4 ch ++ (leBytes 4 fg ++ (leBytes 4 bg ++ (leBytes 2 page ++ r)))) =
      .ok (⟨ch % 256 ^ 4, fg % 256 ^ 4, bg % 256 ^ 4, page % 256 ^ 2, a⟩, r) := by
  have := lenLt_false (leBytes 4 ch ++ (leBytes 4 fg ++ (leBytes 4 bg ++ (leBytes 2 page ++ r)))) 14 (by simp [leBytes_length]; omega)
  simp only [readCellBody, this, Bool.false_eq_true, if_false, rdLE_leBytes]

theorem readRow_term (w : Nat) (rest : Bytes) :
    readRow (w + 1) (leBytes 2 attrInvisibleShort ++ rest) = .ok ([], rest) := by
  rw [readRow_word _ _ (by decide), if_pos rfl]

theorem readRow_invisible (w : Nat) (rest : Bytes) :
    readRow (w + 1) (leBytes 2 attrInvisible ++ rest) = consRow none (readRow w rest) := by
  rw [readRow_word _ _ (by decide), if_neg (by decide), if_pos (by decide)]

theorem readRow_visible (w : Nat) (c : Cell) (rest : Bytes) (hw : c.wf = true) (hv : c.visible = true) :
    readRow (w + 1) (encodeCell c ++ rest) = consRow (some c) (readRow w rest) := by
  obtain ⟨ch, fg, bg, page, attr⟩ := c
  simp only [Cell.wf, Cell.visible, Bool.and_eq_true, decide_eq_true_eq, Bool.or_eq_true, Bool.not_eq_true',
    beq_iff_eq, attrInvisible, attrShortData] at hw hv
  obtain ⟨⟨⟨⟨⟨hsc, hfg⟩, hbg⟩, hpg⟩, hat⟩, hsh⟩ := hw
  have hs : attr &&& 16384 = 0 := hsh.resolve_left (by simp [hv])
  obtain ⟨f1, f2, f3, f4⟩ := attr_short attr hat hv hs
  obtain ⟨g1, g2⟩ := attr_long attr hv
  have hsc' : (!isScalar ch) = false := by simp [hsc]
  unfold encodeCell
  simp only [Cell.visible, attrInvisible, hv, beq_self_eq_true, if_true]
  split
  · -- short record: the marker bit is set in the word and masked off again by the reader
    rename_i hshort
    simp only [Cell.isShort, Cell.visible, attrInvisible, hv, shortMax, Bool.and_eq_true, beq_self_eq_true, true_and,
      ] at hshort
    obtain ⟨⟨⟨h1, h2⟩, h3⟩, h4⟩ := hshort
    have h1 := of_decide_eq_true h1; have h2 := of_decide_eq_true h2
    have h3 := of_decide_eq_true h3; have h4 := of_decide_eq_true h4
    have f3' : ((attr ||| 16384) &&& 16384 != 0) = true := by simp [f3]
    rw [List.append_assoc, show attrShortData = 16384 from rfl, readRow_word _ _ f1]
    simp only [attrShortData, attrInvisibleShort, attrInvisible, notShort, f2, f3', f4, g2, if_false, if_true, List.cons_append,
      List.nil_append, readCellBody_short, hsc', Bool.false_eq_true,
      Nat.mod_eq_of_lt (show ch < 256 by omega), Nat.mod_eq_of_lt (show fg < 256 by omega),
      Nat.mod_eq_of_lt (show bg < 256 by omega), Nat.mod_eq_of_lt (show page < 256 by omega)]
  · have hs' : (attr &&& 16384 != 0) = false := by simp [hs]
    have e1 : ch % 256 ^ 4 = ch := by
      simp only [isScalar, Bool.or_eq_true, decide_eq_true_eq, Bool.and_eq_true] at hsc; omega
    simp only [List.append_assoc]
    rw [readRow_word _ _ hat]
    simp only [attrShortData, attrInvisibleShort, attrInvisible, hs', g1, g2, if_false, Bool.false_eq_true, readCellBody_long,
      e1, Nat.mod_eq_of_lt (show fg < 256 ^ 4 by omega), Nat.mod_eq_of_lt (show bg < 256 ^ 4 by omega),
      Nat.mod_eq_of_lt (show page < 256 ^ 2 by omega), hsc']


def optRow (cs : List Cell) : List (Option Cell) := cs.map optCell

theorem encodeCell_invisible (c : Cell) (h : c.visible = false) : encodeCell c = leBytes 2 attrInvisible := by
  simp [encodeCell, h]

theorem readRow_cells (cs : List Cell) (k : Nat) (tail rest : Bytes) (hwf : ∀ c ∈ cs, c.wf = true)
    (hk : (k = 0 ∧ tail = []) ∨ (0 < k ∧ tail = leBytes 2 attrInvisibleShort)) :
    readRow (cs.length + k) (cs.flatMap encodeCell ++ (tail ++ rest)) = .ok (optRow cs, rest) := by
  induction cs with
  | nil =>
    rcases hk with ⟨rfl, rfl⟩ | ⟨hk, rfl⟩
    · simp [readRow, optRow]
    · obtain ⟨k', rfl⟩ : ∃ k', k = k' + 1 := ⟨k - 1, by omega⟩
      simp only [List.length_nil, Nat.zero_add, List.flatMap_nil, List.nil_append]
      rw [readRow_term]; rfl
  | cons c cs ih =>
    have ih' := ih (fun c hc => hwf c (List.mem_cons_of_mem _ hc))
    have hc := hwf c (List.mem_cons_self ..)
    have e : (c :: cs).length + k = (cs.length + k) + 1 := by simp; omega
    rw [e, List.flatMap_cons, List.append_assoc]
    cases hv : c.visible with
    | true =>
      rw [readRow_visible _ _ _ hc hv, ih']
      simp [consRow, optRow, optCell, hv]
    | false =>
      rw [encodeCell_invisible _ hv, readRow_invisible, ih']
      simp [consRow, optRow, optCell, hv]

theorem stripInv_prefix (cells : List Cell) :
    ∃ t, cells = stripInv cells ++ t ∧ ∀ c ∈ t, c.visible = false := by
  induction cells with
  | nil => exact ⟨[], rfl, by simp⟩
  | cons c cs ih =>
    obtain ⟨t, ht, hinv⟩ := ih
    simp only [stripInv]
    split
    · rename_i hnil
      rw [hnil] at ht
      simp only [List.nil_append] at ht
      cases hv : c.visible with
      | true => exact ⟨cs, by simp, by rw [ht]; exact hinv⟩
      | false =>
        refine ⟨c :: cs, by simp, ?_⟩
        intro d hd
        rcases List.mem_cons.mp hd with rfl | hd
        · exact hv
        · rw [ht] at hd; exact hinv d hd
    · exact ⟨t, by rw [List.cons_append, ← ht], hinv⟩

theorem stripInv_length_le (cells : List Cell) : (stripInv cells).length ≤ cells.length := by
  obtain ⟨t, ht, _⟩ := stripInv_prefix cells
  have := congrArg List.length ht
  simp at this; omega

theorem stripInv_mem (cells : List Cell) (c : Cell) (h : c ∈ stripInv cells) : c ∈ cells := by
  obtain ⟨t, ht, _⟩ := stripInv_prefix cells
  rw [ht]; exact List.mem_append_left _ h

theorem readRow_encodeRow (w : Nat) (cells : List Cell) (hlen : cells.length = w)
    (hwf : ∀ c ∈ cells, c.wf = true) (rest : Bytes) :
    readRow w (encodeRow w cells ++ rest) = .ok (optRow (stripInv cells), rest) := by
  have hle := stripInv_length_le cells
  have hwf' : ∀ c ∈ stripInv cells, c.wf = true := fun c hc => hwf c (stripInv_mem _ _ hc)
  unfold encodeRow
  simp only []
  by_cases hfull : w > (stripInv cells).length
  · simp only [hfull, if_true, List.append_assoc]
    have := readRow_cells (stripInv cells) (w - (stripInv cells).length) (leBytes 2 attrInvisibleShort) rest hwf'
      (Or.inr ⟨by omega, rfl⟩)
    rw [show (stripInv cells).length + (w - (stripInv cells).length) = w by omega] at this
    exact this
  · simp only [hfull, if_false, List.append_nil]
    have := readRow_cells (stripInv cells) 0 [] rest hwf' (Or.inl ⟨rfl, rfl⟩)
    rw [show (stripInv cells).length + 0 = w by omega] at this
    simpa using this

theorem encodeCell_ne_nil (c : Cell) : encodeCell c ≠ [] := by
  unfold encodeCell
  split
  · split <;> simp [leBytes]
  · simp [leBytes]

theorem encodeRow_ne_nil (w : Nat) (hw : 0 < w) (cells : List Cell) (hlen : cells.length = w) :
    encodeRow w cells ≠ [] := by
  unfold encodeRow
  simp only []
  by_cases hfull : w > (stripInv cells).length
  · simp [hfull, leBytes]
  · simp only [hfull, if_false, List.append_nil]
    have hle := stripInv_length_le cells
    cases hs : stripInv cells with
    | nil => rw [hs] at hfull; simp at hfull; omega
    | cons c cs => simp [List.flatMap_cons, encodeCell_ne_nil]

theorem readRows_rows (w : Nat) (hw : 0 < w) (rows : List (List Cell))
    (hlen : ∀ r ∈ rows, r.length = w) (hwf : ∀ r ∈ rows, ∀ c ∈ r, c.wf = true) :
    readRows w rows.length (rows.flatMap (encodeRow w)) = .ok (rows.map fun r => optRow (stripInv r)) := by
  induction rows with
  | nil => simp [readRows]
  | cons r rs ih =>
    have ih' := ih (fun r hr => hlen r (List.mem_cons_of_mem _ hr)) (fun r hr => hwf r (List.mem_cons_of_mem _ hr))
    have hr := hlen r (List.mem_cons_self ..)
    have hne := encodeRow_ne_nil w hw r hr
    simp only [List.length_cons, List.flatMap_cons, readRows]
    have : (encodeRow w r ++ rs.flatMap (encodeRow w)).isEmpty = false := by
      cases h : encodeRow w r with
      | nil => exact absurd h hne
      | cons a b => rfl
    rw [this]
    simp only [Bool.false_eq_true, if_false]
    rw [readRow_encodeRow w r hr (hwf r (List.mem_cons_self ..))]
    simp only [ih', List.map_cons]

end IcyVerif.IcyDraw
