import IcyVerif.Lemmas.BgiFillScan
/-! The BGI flood-fill model: the span lists.  `unc` counts the pixels of the 640 x 350 window that
no collected span covers; every span the scan loop collects covers a pixel that was not covered before, so `unc`
strictly decreases — the termination measure of `flood_fill`. -/
namespace IcyVerif.Bgi

theorem sum_map_set {α : Type} (f : α → Nat) : ∀ (l : List α) (i : Nat) (v : α) (h : i < l.length),
    ((l.set i v).map f).sum + f l[i] = (l.map f).sum + f v := by
  intro l
  induction l with
  | nil => intro i v h; simp at h
  | cons a t ih =>
    intro i v h
    cases i with
    | zero => simp [List.set]; omega
    | succ j =>
      simp only [List.set, List.map_cons, List.sum_cons, List.getElem_cons_succ]
      have := ih j v (by simpa using h)
      omega

/-- a sharper filter keeps no more elements, and fewer when it drops one the other keeps -/
theorem filter_length_lt {α : Type} (p q : α → Bool) (hpq : ∀ a, q a = true → p a = true) :
    ∀ (l : List α), (l.filter q).length ≤ (l.filter p).length ∧
      ∀ a0, a0 ∈ l → p a0 = true → q a0 = false → (l.filter q).length + 1 ≤ (l.filter p).length := by
  intro l
  have e : l.filter q = (l.filter p).filter q := by
    rw [List.filter_filter]
    exact List.filter_congr fun a _ => by cases hq : q a <;> simp [hpq a, hq]
  rw [e]
  exact ⟨List.length_filter_le _ _, fun a0 hm hp hq =>
    List.length_filter_lt_length_iff_exists.mpr ⟨a0, List.mem_filter.mpr ⟨hm, hp⟩, by simp [hq]⟩⟩

def coversX (row : List LI) (x : Int) : Bool := row.any fun li => decide (li.x1 ≤ x) && decide (x ≤ li.x2)

/-- pixels of one screen row that no span of the row covers -/
def uncRow (row : List LI) : Nat := ((List.range 640).filter fun (x : Nat) => !coversX row (x : Int)).length

/-- pixels of the window no collected span covers -/
def unc (fl : Array (List LI)) : Nat := (fl.toList.map uncRow).sum

def spans (fl : Array (List LI)) : Nat := (fl.toList.map List.length).sum

theorem uncRow_le (row : List LI) : uncRow row ≤ 640 := by
  unfold uncRow
  have := List.length_filter_le (fun (x : Nat) => !coversX row (x : Int)) (List.range 640)
  rw [List.length_range] at this
  exact this

theorem uncRow_cons (li : LI) (row : List LI) : uncRow (li :: row) ≤ uncRow row ∧
    ∀ cx : Int, 0 ≤ cx → cx ≤ 639 → coversX row cx = false → li.x1 ≤ cx → cx ≤ li.x2 → uncRow (li :: row) + 1 ≤ uncRow row := by
  have hpq : ∀ a : Nat, (!coversX (li :: row) (a : Int)) = true → (!coversX row (a : Int)) = true := by
    intro a h
    simp only [coversX, List.any_cons, Bool.not_eq_true', Bool.or_eq_false_iff] at h ⊢
    exact h.2
  obtain ⟨h1, h2⟩ := filter_length_lt (fun x : Nat => !coversX row (x : Int)) (fun x : Nat => !coversX (li :: row) (x : Int)) hpq (List.range 640)
  refine ⟨h1, ?_⟩
  intro cx h0 h639 hnc hl hr
  have hmem : cx.toNat ∈ List.range 640 := List.mem_range.mpr (by omega)
  have hcast : ((cx.toNat : Nat) : Int) = cx := by omega
  apply h2 cx.toNat hmem
  · simp only [hcast, hnc]; rfl
  · simp only [hcast, coversX, List.any_cons]
    simp [hl, hr]

/-- the span of row `r`: row number and column range -/
def LIok (li : LI) (r : Nat) : Prop := li.y = r ∧ 0 ≤ li.x1 ∧ li.x1 ≤ 639 ∧ -1 ≤ li.x2 ∧ li.x2 ≤ 639

/-- `fill_lines`: one list per screen row, the spans of a list lie in its row -/
def FlOk (fl : Array (List LI)) : Prop :=
  fl.size = 350 ∧ ∀ (r : Nat) (row : List LI), fl[r]? = some row → ∀ li, li ∈ row → LIok li r

theorem covers_eq_coversX {row : List LI} {r : Nat} (h : ∀ li, li ∈ row → LIok li r) (x : Int) :
    covers row x (r : Int) = coversX row x := by
  unfold covers coversX
  induction row with
  | nil => rfl
  | cons a t ih =>
    simp only [List.any_cons]
    have ha := (h a (List.mem_cons_self)).1
    rw [ih (fun li hli => h li (List.mem_cons_of_mem _ hli))]
    have : ((r : Int) == a.y) = true := by simp [ha]
    simp [this]

theorem rowAt_ok {fl : Array (List LI)} (hf : FlOk fl) {y : Int} (h0 : 0 ≤ y) (h1 : y < 350) :
    ∃ row, rowAt fl y = some row ∧ fl[y.toNat]? = some row := by
  unfold rowAt
  simp only [h0, if_true]
  have : y.toNat < fl.size := by rw [hf.1]; omega
  exact ⟨fl[y.toNat], by simp [this], by simp [this]⟩

/-- `already_drawn` on a screen row: no index panic, and the answer is "some span of the row covers the column" -/
theorem alreadyDrawn_ok {fl : Array (List LI)} (hf : FlOk fl) (x : Int) {y : Int} (h0 : 0 ≤ y) (h1 : y < 350) :
    ∃ row, fl[y.toNat]? = some row ∧ alreadyDrawn fl x y = some (coversX row x) := by
  obtain ⟨row, hr, hg⟩ := rowAt_ok hf h0 h1
  refine ⟨row, hg, ?_⟩
  unfold alreadyDrawn
  rw [hr]
  have hy : ((y.toNat : Nat) : Int) = y := by omega
  have := covers_eq_coversX (hf.2 y.toNat row hg) x
  rw [hy] at this
  simp [this]

theorem unc_le {fl : Array (List LI)} (hf : fl.size = 350) : unc fl ≤ 224000 := by
  unfold unc
  have : ∀ l : List (List LI), (l.map uncRow).sum ≤ l.length * 640 := by
    intro l
    induction l with
    | nil => simp
    | cons a t ih =>
      simp only [List.map_cons, List.sum_cons, List.length_cons]
      have := uncRow_le a
      rw [Nat.add_mul]
      omega
  have h := this fl.toList
  simp only [Array.length_toList, hf] at h
  omega

/-- pushing a span of row `li.y` on its list: no index panic, the lists stay well formed, one span more, `unc` does
not grow — and shrinks when the span covers a column of the window that was not covered -/
theorem pushLine_ok {fl : Array (List LI)} (hf : FlOk fl) (li : LI) (r : Nat) (hr : r < 350) (hli : LIok li r) :
    ∃ fl', pushLine fl li = some fl' ∧ FlOk fl' ∧ spans fl' = spans fl + 1 ∧ unc fl' ≤ unc fl ∧
      (∀ cx : Int, 0 ≤ cx → cx ≤ 639 → alreadyDrawn fl cx li.y = some false → li.x1 ≤ cx → cx ≤ li.x2 → unc fl' + 1 ≤ unc fl) := by
  have hy : li.y = (r : Int) := hli.1
  have hy0 : 0 ≤ li.y := by omega
  have hy1 : li.y < 350 := by omega
  have hyn : li.y.toNat = r := by omega
  obtain ⟨row, hrow, hg⟩ := rowAt_ok hf hy0 hy1
  rw [hyn] at hg
  have hlt : r < fl.size := by rw [hf.1]; exact hr
  have hlt' : r < fl.toList.length := by simpa using hlt
  have hget : fl.toList[r] = row := by
    have := hg
    rw [Array.getElem?_eq_getElem hlt] at this
    simpa using this
  refine ⟨fl.setIfInBounds r (li :: row), ?_, ?_, ?_, ?_, ?_⟩
  · unfold pushLine; rw [hrow, hyn]; rfl
  · refine ⟨by rw [Array.size_setIfInBounds]; exact hf.1, ?_⟩
    intro r' row' hr' l hl
    rw [Array.getElem?_setIfInBounds] at hr'
    by_cases he : r = r'
    · subst he
      simp only [if_true, hlt] at hr'
      cases hr'
      rcases List.mem_cons.mp hl with h | h
      · subst h; exact hli
      · exact hf.2 r row hg l h
    · simp only [he, if_false] at hr'
      exact hf.2 r' row' hr' l hl
  · unfold spans
    rw [Array.toList_setIfInBounds]
    have := sum_map_set List.length fl.toList r (li :: row) hlt'
    rw [hget] at this
    simp only [List.length_cons] at this
    omega
  · unfold unc
    rw [Array.toList_setIfInBounds]
    have := sum_map_set uncRow fl.toList r (li :: row) hlt'
    rw [hget] at this
    have := (uncRow_cons li row).1
    omega
  · intro cx h0 h639 had hl hr2
    obtain ⟨row2, hg2, had2⟩ := alreadyDrawn_ok hf cx hy0 hy1
    rw [hyn, hg] at hg2
    cases hg2
    rw [had2] at had
    have hnc : coversX row cx = false := by simpa using had
    unfold unc
    rw [Array.toList_setIfInBounds]
    have := sum_map_set uncRow fl.toList r (li :: row) hlt'
    rw [hget] at this
    have := (uncRow_cons li row).2 cx h0 h639 hnc hl hr2
    omega

theorem flOk_replicate : FlOk (Array.replicate 350 ([] : List LI)) := by
  refine ⟨by simp, ?_⟩
  intro r row h li hli
  rw [Array.getElem?_replicate] at h
  split at h
  · cases h; simp at hli
  · cases h

theorem spans_replicate : spans (Array.replicate 350 ([] : List LI)) = 0 := by
  unfold spans
  rw [Array.toList_replicate, List.map_replicate, List.sum_replicate_nat]
  rfl

end IcyVerif.Bgi
