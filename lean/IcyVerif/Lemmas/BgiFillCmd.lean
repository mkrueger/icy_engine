import IcyVerif.Lemmas.BgiFillLoops
import IcyVerif.Lemmas.BgiTotal
/-! The BGI flood-fill model: the whole command.  On a complete 640 x 350 canvas, for every viewport a
RIP stream can set, every seed and every border colour: the collecting phase neither panics nor stalls, its step count
is bounded by a function of the canvas size, and the drawing pass (one `bar` per span) returns and keeps the canvas complete. -/
namespace IcyVerif.Bgi

/-- steps of the collecting phase: the pixels `find_line` reads for the seed + 672002 worklist entries (`ffFuel` = 3 * 224000 + 2:
the measure `3 * unc + stack size` starts below it), each costing one step + at most 640 scan iterations of at most
1 + 1280 steps (819841 = 1 + 640 * 1281) -/
def ffBound : Nat := 1280 + 672002 * 819841

/-- what the drawing pass needs and keeps: a stream state with a complete screen -/
def DrawState (s : Bgi) : Prop := StreamState s ∧ s.winH = 350 ∧ s.screen.size = 224000

/-- the exposed picture is complete: the 640 x 350 window with a screen of that many cells -/
def Canvas (s : Bgi) : Prop := s.winW = 640 ∧ s.winH = 350 ∧ s.screen.size = 640 * 350

theorem Canvas.of_geom {s s' : Bgi} (hc : Canvas s) (h : Geom s s') : Canvas s' :=
  ⟨by rw [h.2.1, hc.1], by rw [h.2.2, hc.2.1], by rw [h.1, hc.2.2]⟩

theorem DrawState.canvas {s : Bgi} (hd : DrawState s) : Canvas s := ⟨hd.1.1, hd.2.1, hd.2.2⟩
theorem DrawState.of_canvas {s : Bgi} (hs : StreamState s) (hc : Canvas s) : DrawState s := ⟨hs, hc.2.1, hc.2.2⟩
theorem DrawState.putOk {s : Bgi} (hd : DrawState s) : PutOk s := hd.1.putOk

theorem DrawState.fillCtx {s : Bgi} (hd : DrawState s) (hw : 1 ≤ s.vp.w) : FillCtx s := by
  exact ⟨hd.1.winW, hd.2.1, hd.2.2, hw, by have := hd.1.vpw; omega⟩

theorem drawState_new : DrawState Bgi.new :=
  ⟨streamState_new, by decide, by simp [Bgi.new, Gen.Bgi.screenW, Gen.Bgi.screenH]⟩

theorem DrawState.framed {s s' : Bgi} (hd : DrawState s) (f : Frame s s') : DrawState s' := by
  obtain ⟨e, hsz⟩ := f
  rw [e]
  exact ⟨hd.1, hd.2.1, by rw [hsz]; exact hd.2.2⟩

/-- `DrawState` reads the window, the viewport, the user pattern, the fill style and the screen -/
theorem DrawState.of_eq {s s' : Bgi} (hd : DrawState s)
    (h : (s'.winW, s'.vp, s'.userPat, s'.fillStyle, s'.winH, s'.screen) = (s.winW, s.vp, s.userPat, s.fillStyle, s.winH, s.screen)) :
    DrawState s' := by
  simp only [Prod.mk.injEq] at h
  obtain ⟨e1, e2, e3, e4, e5, e6⟩ := h
  unfold DrawState StreamState at *
  rw [e1, e2, e3, e4, e5, e6]
  exact hd

theorem drawSpans_draws : ∀ (row : List LI) (r : Nat) (s : Bgi),
    Draws s id (fun _ => True) (DrawState s ∧ (∀ li, li ∈ row → LIok li r) ∧ r < 350) (drawSpans s row)
  | [], _, s => .ret rfl trivial
  | li :: t, r, s => by
    have c1 : DrawState s ∧ (∀ l, l ∈ li :: t → LIok l r) ∧ r < 350 → StreamState s ∧ (-1048576 ≤ li.x1 ∧ li.x1 ≤ 1048576) ∧
        (-1048576 ≤ li.y ∧ li.y ≤ 1048576) ∧ (-1048576 ≤ li.x2 ∧ li.x2 ≤ 1048576) ∧ (-1048576 ≤ li.y ∧ li.y ≤ 1048576) := fun ⟨hd, hrow, hr⟩ => by
      obtain ⟨l1, l2, l3, l4, l5⟩ := hrow li List.mem_cons_self
      exact ⟨hd.1, by omega, by omega, by omega, by omega⟩
    unfold drawSpans
    split
    · exact (bar_draws ..).fails ‹_› c1
    · exact (bar_draws ..).andThen ‹_› (fun _ _ => drawSpans_draws t r _)
        fun ⟨hd, hrow, hr⟩ f => ⟨hd.framed f, fun l hl => hrow l (List.mem_cons_of_mem _ hl), hr⟩

theorem drawRows_draws : ∀ (rows : List (List LI)) (k : Nat) (s : Bgi), Draws s id (fun _ => True)
    (DrawState s ∧ (∀ (i : Nat) (row : List LI), rows[i]? = some row → ∀ li, li ∈ row → LIok li (k + i)) ∧ k + rows.length ≤ 350)
    (drawRows s rows)
  | [], _, s => .ret rfl trivial
  | row :: t, k, s => by
    have c1 : DrawState s ∧ (∀ (i : Nat) (r : List LI), (row :: t)[i]? = some r → ∀ li, li ∈ r → LIok li (k + i)) ∧ k + (row :: t).length ≤ 350 →
        DrawState s ∧ (∀ li, li ∈ row.reverse → LIok li k) ∧ k < 350 := fun ⟨hd, hrows, hk⟩ =>
      ⟨hd, fun li hli => by simpa using hrows 0 row (by simp) li (List.mem_reverse.mp hli), by simp only [List.length_cons] at hk; omega⟩
    unfold drawRows
    split
    · exact (drawSpans_draws ..).fails ‹_› c1
    · refine (drawSpans_draws _ k s).andThen ‹_› (fun _ _ => drawRows_draws t (k + 1) _) fun ⟨hd, hrows, hk⟩ f => ⟨hd.framed f, ?_, ?_⟩
      · intro i r hr li hli
        have := hrows (i + 1) r (by simpa using hr) li hli
        rwa [show k + (i + 1) = k + 1 + i by omega] at this
      · simp only [List.length_cons] at hk; omega

theorem floodFill_framed {s s' : Bgi} {x y : Int} {b n k : Nat} (h : floodFill s x y b = .ok (s', n, k)) : Frame s s' := by
  unfold floodFill at h
  split at h
  · cases h
  · cases h
  · split at h
    · cases h
    · rename_i hd
      cases h
      exact (drawRows_draws _ 0 s).frame hd

theorem ffCollect_spec (s : Bgi) (hd : DrawState s) (x y : Int) (b : Nat) :
    ∃ fl n, ffCollect s x y b = .ok (fl, n) ∧ n ≤ ffBound ∧ (fl = #[] ∨ FlOk fl) ∧ spans fl ≤ 224001 := by
  have hd0 := hd
  obtain ⟨⟨hW, v1, v2, v3, v4, v5, v6, v7, v8, hup, hfs⟩, hH, hsz⟩ := hd
  have hempty : spans (#[] : Array (List LI)) ≤ 224001 := by unfold spans; simp
  obtain ⟨clip, hclip, ex, ey, er, eb⟩ := intersect_small (a := s.vp) (b := ⟨0, 0, 640, 350⟩) (by unfold Rect.Small; omega)
    (by unfold Rect.Small; simp only []; omega)
  -- the clip rectangle lies in the window
  have bx : 0 ≤ clip.x ∧ clip.x ≤ 1295 ∧ s.vp.x ≤ clip.x := by clear ey er eb; simp only [] at ex; omega
  have by' : 0 ≤ clip.y ∧ clip.y ≤ 1295 := by clear ex er eb; simp only [] at ey; omega
  have br : -1295 ≤ clip.x + clip.w ∧ clip.x + clip.w ≤ 640 ∧ clip.x + clip.w ≤ s.vp.x + s.vp.w := by
    clear ex ey eb; simp only [] at er; omega
  have bb : -1295 ≤ clip.y + clip.h ∧ clip.y + clip.h ≤ 350 := by clear ex ey er; simp only [] at eb; omega
  clear ex ey er eb
  unfold ffCollect
  simp only [hW, hH, hclip]
  by_cases hx : x < clip.x
  · simp only [hx, if_true]
    exact ⟨#[], 0, rfl, Nat.zero_le _, Or.inl rfl, hempty⟩
  · simp only [hx, if_false]
    rw [bottomRight_small (by unfold Rect.Small; omega)]
    simp only []
    by_cases hout : x ≥ clip.x + clip.w ∨ y < clip.y ∨ y ≥ clip.y + clip.h
    · simp only [hout, if_true]
      exact ⟨#[], 0, rfl, Nat.zero_le _, Or.inl rfl, hempty⟩
    · simp only [hout, if_false]
      have hx0 : 0 ≤ x := by omega
      have hx1 : x ≤ 639 := by omega
      have hy0 : 0 ≤ y := by omega
      have hy1 : y < 350 := by omega
      have hctx : FillCtx s := hd0.fillCtx (by omega)
      have htop : 0 ≤ clip.y := by'.1
      have hbot : clip.y + clip.h ≤ 350 := bb.2
      clear hx hout bx by' br bb v1 v2 v3 v4 v5 v6 v7 v8
      have hneg : ¬ ((350 : Int) < 0) := by decide
      simp only [hneg, if_false]
      have h350 : (350 : Int).toNat = 350 := rfl
      rw [h350]
      rw [chk_in (v := y * 640) (by omega)]
      simp only []
      rw [chk_in (v := y * 640 + x) (by omega)]
      simp only []
      obtain ⟨v, hv⟩ := scrAt_some (scr := s.screen) (i := y * 640 + x) (by omega) (by rw [hsz]; omega)
      rw [hv]
      simp only []
      have hrep : spans (Array.replicate 350 ([] : List LI)) ≤ 224001 := by rw [spans_replicate]; omega
      by_cases hb : v = b
      · simp only [hb, if_true]
        exact ⟨_, 0, rfl, Nat.zero_le _, Or.inr flOk_replicate, hrep⟩
      · simp only [hb, if_false]
        obtain ⟨r, c, hfind, hcle, hli⟩ := findLine_spec hctx x y b hx0 hx1 hy0 hy1
        rw [hfind]
        cases r with
        | none =>
          simp only []
          exact ⟨_, c, rfl, by unfold ffBound; omega, Or.inr flOk_replicate, hrep⟩
        | some li =>
          simp only []
          obtain ⟨l1, l2, l3, l4, l5, l6⟩ := hli li rfl
          obtain ⟨fl1, hpush, hfl1, hsp, hun, _⟩ := pushLine_ok flOk_replicate li y.toNat (by omega) ⟨by omega, l2, by omega, l4, by omega⟩
          rw [hpush]
          simp only []
          have hfu : ffFuel s = 672002 := by unfold ffFuel; rw [hW, hH]; rfl
          rw [hfu]
          have hunc := unc_le hfl1.1
          obtain ⟨fl', n', e, a1, a2, a3⟩ := ffOuter_spec hctx b clip.y (clip.y + clip.h) htop hbot 672002
            [⟨-1, li.x1, li.x2, li.y⟩, ⟨1, li.x1, li.x2, li.y⟩] fl1 c hfl1
            (by
              intro f hf
              simp only [List.mem_cons, List.mem_nil_iff, or_false] at hf
              rcases hf with h | h
              · subst h; exact ⟨l2, l5, Or.inr rfl, by dsimp only; omega, by dsimp only; omega⟩
              · subst h; exact ⟨l2, l5, Or.inl rfl, by dsimp only; omega, by dsimp only; omega⟩)
            (by simp only [List.length_cons, List.length_nil]; omega)
          rw [e]
          refine ⟨fl', n', rfl, by unfold ffBound; omega, Or.inr a1, ?_⟩
          rw [spans_replicate] at hsp
          have hunc0 := unc_le flOk_replicate.1
          omega

theorem floodFill_spec (s : Bgi) (hd : DrawState s) (x y : Int) (b : Nat) :
    ∃ s' n k, floodFill s x y b = .ok (s', n, k) ∧ DrawState s' ∧ n ≤ ffBound ∧ k ≤ 224001 := by
  obtain ⟨fl, n, hc, hn, hfl, hk⟩ := ffCollect_spec s hd x y b
  unfold floodFill
  rw [hc]
  simp only []
  have hdraw : ∃ s', drawRows s fl.toList = some s' := by
    rcases hfl with h | h
    · subst h; exact ⟨s, rfl⟩
    · refine (drawRows_draws fl.toList 0 s).total ⟨hd, fun i row hrow li hli => ?_, by simp [h.1]⟩
      have : fl[i]? = some row := by simpa using hrow
      simpa using h.2 i row this li hli
  obtain ⟨s', hs'⟩ := hdraw
  rw [hs']
  exact ⟨s', n, _, rfl, hd.framed ((drawRows_draws _ 0 s).frame hs'), hn, hk⟩

end IcyVerif.Bgi
