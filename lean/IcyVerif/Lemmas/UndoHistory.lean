import IcyVerif.Lemmas.UndoLaw
/-! # C08 framework: `InverseAt`, `Step.Good` (and, as predicates of a result, `Redone`, `Builds`, `Edits`); histories over the editor state, the stack invariant -/
namespace IcyVerif.Undo

/-- the inverse law for one record at one document: whenever `redo` succeeds, the record it leaves can be undone back to
    (a document observed as) `d`, redone, undone … for ever — from ANY document observed like the current one -/
def InverseAt (op : UndoOp) (d : Doc) : Prop := ∀ op' d', op.redo d = .ok (op', d') → Undoable op' d.obs d'.obs

/-- what the history's steps must satisfy: every record pushed is linked to the documents before/after its edit -/
def Step.Good : Step → Prop
  | .edit f => ∀ d op d', f d = .ok (some (op, d')) → Undoable op d.obs d'.obs
  | .act build => ∀ d op, build d = .ok (some op) → InverseAt op d
  | .touch f => ∀ d, (f d).obs = d.obs
  | _ => True

/-! The same as predicates of a RESULT, so that a proof can walk down the definition of a `redo` / a builder / an edit and
name the law at the leaf that returns a record. -/

/-- `redo`'s result at `d`: an error, or a record that can be undone back to `d` -/
def Redone (d : Doc) : Res → Prop
  | .ok (op', d') => Undoable op' d.obs d'.obs
  | .error _ => True

theorem inverseAt_of_redone {op : UndoOp} {d : Doc} (h : Redone d (op.redo d)) : InverseAt op d := by
  intro op' d' hr
  rw [hr] at h
  exact h

theorem InverseAt.redone {op : UndoOp} {d : Doc} (h : InverseAt op d) : Redone d (op.redo d) := by
  cases hr : op.redo d with
  | error e => trivial
  | ok p => exact h p.1 p.2 hr

/-- the result of a `Step.act`'s builder at `d`: an error, nothing, or a record that obeys the law at `d` -/
def Builds (d : Doc) : Except Err (Option UndoOp) → Prop
  | .ok (some op) => InverseAt op d
  | _ => True

/-- the result of a `Step.edit`'s edit at `d`: an error, nothing, or a record that can be undone back to `d` -/
def Edits (d : Doc) : Except Err (Option (UndoOp × Doc)) → Prop
  | .ok (some p) => Redone d (.ok p)
  | _ => True

theorem act_good {b : Doc → Except Err (Option UndoOp)} (h : ∀ d, Builds d (b d)) : (Step.act b).Good := by
  intro d op hop
  have := h d
  rw [hop] at this
  exact this

theorem edit_good {f : Doc → Except Err (Option (UndoOp × Doc))} (h : ∀ d, Edits d (f d)) : (Step.edit f).Good := by
  intro d op d' hop
  have := h d
  rw [hop] at this
  exact this

theorem of_ite {α : Sort _} {P : α → Prop} {c : Prop} [Decidable c] {a b : α} (ha : c → P a) (hb : ¬ c → P b) :
    P (if c then a else b) := by
  split
  · exact ha ‹_›
  · exact hb ‹_›

def Ed.undoN : Nat → Ed → Except Err Ed
  | 0, ed => .ok ed
  | k + 1, ed =>
    match ed.undo with
    | .ok ed' => ed'.undoN k
    | .error e => .error e

def Ed.redoN : Nat → Ed → Except Err Ed
  | 0, ed => .ok ed
  | k + 1, ed =>
    match ed.redo with
    | .ok ed' => ed'.redoN k
    | .error e => .error e

/-- both stacks are chains of links starting at the current document -/
structure Ed.WF (ed : Ed) (bs cs : List DObs) : Prop where
  ustack : UStack ed.doc.obs ed.undoStack bs
  rstack : RStack ed.doc.obs ed.redoStack cs

theorem Ed.undo_spec {ed : Ed} {op : UndoOp} {rest : List UndoOp} {b : DObs} {bs cs : List DObs}
    (hs : ed.undoStack = op :: rest) (h : ed.WF (b :: bs) cs) :
    ∃ ed', ed.undo = .ok ed' ∧ ed'.doc.obs = b ∧ ed'.undoStack = rest ∧ ed'.guards = ed.guards ∧ ed'.WF bs (ed.doc.obs :: cs) := by
  have hu := h.ustack
  rw [hs] at hu
  cases hu with
  | cons hop hrest =>
    obtain ⟨o2, e, h1, h2, h3⟩ := hop.step rfl
    refine ⟨{ ed with doc := e, undoStack := rest, redoStack := o2 :: ed.redoStack }, ?_, h2, rfl, rfl, ?_, ?_⟩
    · simp [Ed.undo, hs, h1]
    · simpa [h2] using hrest
    · show RStack e.obs (o2 :: ed.redoStack) (ed.doc.obs :: cs)
      rw [h2]
      exact .cons h3 h.rstack

theorem Ed.redo_spec {ed : Ed} {op : UndoOp} {rest : List UndoOp} {c : DObs} {bs cs : List DObs}
    (hs : ed.redoStack = op :: rest) (h : ed.WF bs (c :: cs)) :
    ∃ ed' o2, ed.redo = .ok ed' ∧ ed'.doc.obs = c ∧ ed'.redoStack = rest ∧ ed'.undoStack = o2 :: ed.undoStack ∧
      ed'.guards = ed.guards ∧ ed'.WF (ed.doc.obs :: bs) cs := by
  have hr := h.rstack
  rw [hs] at hr
  cases hr with
  | cons hop hrest =>
    obtain ⟨o2, e, h1, h2, h3⟩ := hop.step rfl
    refine ⟨{ ed with doc := e, redoStack := rest, undoStack := o2 :: ed.undoStack }, o2, ?_, h2, rfl, rfl, rfl, ?_, ?_⟩
    · simp [Ed.redo, hs, h1]
    · show UStack e.obs (o2 :: ed.undoStack) (ed.doc.obs :: bs)
      rw [h2]
      exact .cons h3 h.ustack
    · simpa [h2] using hrest

theorem Ed.redoN_succ {k : Nat} : ∀ {x y z : Ed}, x.redoN k = .ok y → y.redo = .ok z → x.redoN (k + 1) = .ok z := by
  induction k with
  | zero => intro x y z hx hy; cases hx; simp only [Ed.redoN, hy]
  | succ k ih =>
    intro x y z hx hy
    simp only [Ed.redoN] at hx ⊢
    cases hxr : x.redo with
    | error e => rw [hxr] at hx; cases hx
    | ok x1 => rw [hxr] at hx; exact ih hx hy

theorem Ed.undoN_redoN {k : Nat} : ∀ {ed : Ed} {bs cs : List DObs}, ed.WF bs cs → k ≤ ed.undoStack.length →
    ∃ ed2, ed.undoN k = .ok ed2 ∧ (ed.doc.obs :: bs)[k]? = some ed2.doc.obs ∧ ed2.undoStack = ed.undoStack.drop k ∧
      ∃ ed3, ed2.redoN k = .ok ed3 ∧ ed3.doc.obs = ed.doc.obs ∧ ed3.undoStack.length = ed.undoStack.length ∧
        ed3.redoStack.length = ed.redoStack.length ∧ ed3.WF bs cs := by
  induction k with
  | zero =>
    intro ed bs cs h _
    exact ⟨ed, rfl, rfl, rfl, ed, rfl, rfl, rfl, rfl, h⟩
  | succ k ih =>
    intro ed bs cs h hk
    cases hs : ed.undoStack with
    | nil => rw [hs] at hk; cases hk
    | cons op rest =>
      have hlen := h.ustack.length_eq
      rw [hs] at hlen hk
      cases bs with
      | nil => cases hlen
      | cons b bs =>
        obtain ⟨ed1, h1, h2, h3, _, h5⟩ := Ed.undo_spec hs h
        obtain ⟨ed2, g1, g2, g3, ed3, g4, g5, g6, g7, g8⟩ := ih h5 (by rw [h3]; exact Nat.le_of_succ_le_succ hk)
        -- `ed1`, hence `ed3`, has one more redo entry than `ed`
        have e1 := h5.rstack.length_eq
        have e2 := h.rstack.length_eq
        have e3 := g8.rstack.length_eq
        rw [List.length_cons] at e1
        cases hr3 : ed3.redoStack with
        | nil => rw [hr3] at e3; cases e3
        | cons o r =>
          obtain ⟨ed4, o4, f1, f2, f3, f4, _, f6⟩ := Ed.redo_spec hr3 g8
          refine ⟨ed2, ?_, ?_, ?_, ed4, Ed.redoN_succ g4 f1, f2, ?_, ?_, ?_⟩
          · simp only [Ed.undoN, h1, g1]
          · rw [List.getElem?_cons_succ, ← h2]; exact g2
          · rw [g3, h3, List.drop_succ_cons]
          · rw [f4, List.length_cons, g6, h3, List.length_cons]
          · rw [f3]
            rw [hr3, List.length_cons] at g7
            omega
          · rw [g5, h2] at f6
            exact f6

/-- invariant of a history that started on a stack of height `floor` under the document class `a0` -/
structure Ed.Inv (floor : Nat) (a0 : DObs) (st0 : List UndoOp) (ed : Ed) : Prop where
  wf : ∃ bs cs, ed.WF bs cs ∧ (ed.doc.obs :: bs)[ed.undoStack.length - floor]? = some a0
  above : floor ≤ ed.undoStack.length
  bottom : ed.undoStack.drop (ed.undoStack.length - floor) = st0
  guards : ∀ g ∈ ed.guards, floor ≤ g

/-- the part of `Ed.Inv` about the bottom of the undo stack (`Ed.Inv.unpack` / `of_bottom` convert) -/
structure Bottom (floor : Nat) (a0 : DObs) (st0 : List UndoOp) (a : DObs) (ops : List UndoOp) (bs : List DObs) : Prop where
  above : floor ≤ ops.length
  cls : (a :: bs)[ops.length - floor]? = some a0
  stack : ops.drop (ops.length - floor) = st0

theorem Bottom.push {floor : Nat} {a0 : DObs} {st0 : List UndoOp} {a : DObs} {ops : List UndoOp} {bs : List DObs}
    (h : Bottom floor a0 st0 a ops bs) (a' : DObs) (op : UndoOp) : Bottom floor a0 st0 a' (op :: ops) (a :: bs) := by
  have habove := h.above
  have e : (op :: ops).length - floor = (ops.length - floor) + 1 := by rw [List.length_cons]; omega
  refine ⟨by rw [List.length_cons]; omega, ?_, ?_⟩
  · rw [e, List.getElem?_cons_succ]; exact h.cls
  · rw [e, List.drop_succ_cons]; exact h.stack

theorem Bottom.pop {floor : Nat} {a0 : DObs} {st0 : List UndoOp} {a b : DObs} {op : UndoOp} {ops : List UndoOp} {bs : List DObs}
    (h : Bottom floor a0 st0 a (op :: ops) (b :: bs)) (hlt : floor < (op :: ops).length) : Bottom floor a0 st0 b ops bs := by
  rw [List.length_cons] at hlt
  have e : (op :: ops).length - floor = (ops.length - floor) + 1 := by rw [List.length_cons]; omega
  have hc := h.cls
  have hs := h.stack
  rw [e, List.getElem?_cons_succ] at hc
  rw [e, List.drop_succ_cons] at hs
  exact ⟨by omega, hc, hs⟩

/-- the top `n + 1` entries are folded into one; the guard stood `k` above the floor -/
theorem Bottom.squash {floor : Nat} {a0 : DObs} {st0 : List UndoOp} {a b : DObs} {ops : List UndoOp} {bs : List DObs}
    (h : Bottom floor a0 st0 a ops bs) {n k : Nat} (hlen : ops.length = floor + k + (n + 1)) (hb : bs[n]? = some b) (op : UndoOp) :
    Bottom floor a0 st0 a (op :: ops.drop (n + 1)) (b :: bs.drop (n + 1)) := by
  have e : (op :: ops.drop (n + 1)).length - floor = k + 1 := by
    rw [List.length_cons, List.length_drop, hlen]; omega
  have e0 : ops.length - floor = n + k + 1 := by omega
  have hbs : b :: bs.drop (n + 1) = bs.drop n := by
    have := List.drop_eq_getElem?_toList_append (l := bs) (i := n)
    rw [hb] at this
    exact this.symm
  refine ⟨by rw [List.length_cons, List.length_drop, hlen]; omega, ?_, ?_⟩
  · rw [e, List.getElem?_cons_succ, hbs, List.getElem?_drop]
    have hc := h.cls
    rw [e0, List.getElem?_cons_succ] at hc
    exact hc
  · rw [e, List.drop_succ_cons, List.drop_drop, show n + 1 + k = ops.length - floor by omega]
    exact h.stack

theorem Ed.Inv.of_bottom {floor : Nat} {a0 : DObs} {st0 : List UndoOp} {ed : Ed} {bs cs : List DObs} (hwf : ed.WF bs cs)
    (hb : Bottom floor a0 st0 ed.doc.obs ed.undoStack bs) (hg : ∀ g ∈ ed.guards, floor ≤ g) : ed.Inv floor a0 st0 :=
  ⟨⟨bs, cs, hwf, hb.cls⟩, hb.above, hb.stack, hg⟩

theorem Ed.Inv.unpack {floor : Nat} {a0 : DObs} {st0 : List UndoOp} {ed : Ed} (h : ed.Inv floor a0 st0) :
    ∃ bs cs, ed.WF bs cs ∧ Bottom floor a0 st0 ed.doc.obs ed.undoStack bs := by
  obtain ⟨bs, cs, hwf, hbot⟩ := h.wf
  exact ⟨bs, cs, hwf, h.above, hbot, h.bottom⟩

theorem Ed.Inv.push {floor : Nat} {a0 : DObs} {st0 : List UndoOp} {ed : Ed} (h : ed.Inv floor a0 st0) {op : UndoOp} {d' : Doc}
    (hop : Undoable op ed.doc.obs d'.obs) : (({ ed with doc := d' } : Ed).pushPlainUndo op).Inv floor a0 st0 := by
  obtain ⟨bs, cs, hwf, hB⟩ := h.unpack
  exact .of_bottom (bs := ed.doc.obs :: bs) (cs := []) ⟨.cons hop hwf.ustack, .nil _⟩ (hB.push d'.obs op) h.guards

theorem Ed.Inv.endAtomic {floor : Nat} {a0 : DObs} {st0 : List UndoOp} {ed : Ed} (h : ed.Inv floor a0 st0) :
    ed.endAtomic.Inv floor a0 st0 := by
  obtain ⟨bs, cs, hwf, hB⟩ := h.unpack
  unfold Ed.endAtomic
  cases hg : ed.guards with
  | nil => simp only []; exact h
  | cons base gs =>
    have hbase : floor ≤ base := h.guards base (by rw [hg]; exact List.mem_cons_self)
    have hgs : ∀ g ∈ gs, floor ≤ g := fun g hg' => h.guards g (by rw [hg]; exact List.mem_cons_of_mem _ hg')
    simp only []
    by_cases hc : base ≥ ed.undoStack.length
    · rw [if_pos hc]
      exact .of_bottom ⟨hwf.ustack, hwf.rstack⟩ hB hgs
    · rw [if_neg hc]
      obtain ⟨n, hn⟩ : ∃ n, ed.undoStack.length - base = n + 1 := ⟨ed.undoStack.length - base - 1, by omega⟩
      obtain ⟨k, hk⟩ : ∃ k, base = floor + k := ⟨base - floor, by omega⟩
      obtain ⟨b, hb1, hb2, hb3⟩ := hwf.ustack.fold n (by omega)
      rw [hn]
      exact .of_bottom (cs := cs) ⟨.cons (undoable_atomic hb2) hb3, hwf.rstack⟩
        (hB.squash (k := k) (by omega) hb1 _) hgs

theorem Ed.Inv.touch {floor : Nat} {a0 : DObs} {st0 : List UndoOp} {ed : Ed} (h : ed.Inv floor a0 st0) {f : Doc → Doc}
    (hf : (f ed.doc).obs = ed.doc.obs) : ({ ed with doc := f ed.doc } : Ed).Inv floor a0 st0 := by
  obtain ⟨bs, cs, hwf, hB⟩ := h.unpack
  refine .of_bottom (bs := bs) (cs := cs) ⟨?_, ?_⟩ ?_ h.guards
  · show UStack (f ed.doc).obs ed.undoStack bs
    rw [hf]; exact hwf.ustack
  · show RStack (f ed.doc).obs ed.redoStack cs
    rw [hf]; exact hwf.rstack
  · show Bottom floor a0 st0 (f ed.doc).obs ed.undoStack bs
    rw [hf]; exact hB

theorem Ed.Inv.clearRedo {floor : Nat} {a0 : DObs} {st0 : List UndoOp} {ed : Ed} (h : ed.Inv floor a0 st0) :
    ({ ed with redoStack := [] } : Ed).Inv floor a0 st0 := by
  obtain ⟨bs, cs, hwf, hB⟩ := h.unpack
  exact .of_bottom (bs := bs) (cs := []) ⟨hwf.ustack, .nil _⟩ hB h.guards

theorem Ed.Inv.beginAtomic {floor : Nat} {a0 : DObs} {st0 : List UndoOp} {ed : Ed} (h : ed.Inv floor a0 st0) :
    ed.beginAtomic.Inv floor a0 st0 := by
  obtain ⟨bs, cs, hwf, hB⟩ := h.unpack
  refine .of_bottom (bs := bs) (cs := []) ⟨hwf.ustack, .nil _⟩ hB fun g hg => ?_
  cases hg with
  | head => exact h.above
  | tail _ hg => exact h.guards g hg

theorem Ed.Inv.undo {floor : Nat} {a0 : DObs} {st0 : List UndoOp} {ed : Ed} (h : ed.Inv floor a0 st0)
    (hlen : floor < ed.undoStack.length) : ∃ ed', ed.undo = .ok ed' ∧ ed'.Inv floor a0 st0 := by
  obtain ⟨bs, cs, hwf, hB⟩ := h.unpack
  cases hs : ed.undoStack with
  | nil => rw [hs] at hlen; cases hlen
  | cons op rest =>
    have hl := hwf.ustack.length_eq
    rw [hs] at hl hB hlen
    cases bs with
    | nil => cases hl
    | cons b bs =>
      obtain ⟨ed', h1, h2, h3, h4, h5⟩ := Ed.undo_spec hs hwf
      exact ⟨ed', h1, .of_bottom h5 (by rw [h2, h3]; exact hB.pop hlen) (by rw [h4]; exact h.guards)⟩

theorem Ed.Inv.redo {floor : Nat} {a0 : DObs} {st0 : List UndoOp} {ed : Ed} (h : ed.Inv floor a0 st0) :
    ∃ ed', ed.redo = .ok ed' ∧ ed'.Inv floor a0 st0 := by
  obtain ⟨bs, cs, hwf, hB⟩ := h.unpack
  cases hs : ed.redoStack with
  | nil => exact ⟨ed, by simp only [Ed.redo, hs], h⟩
  | cons op rest =>
    have hl := hwf.rstack.length_eq
    rw [hs] at hl
    cases cs with
    | nil => cases hl
    | cons c cs =>
      obtain ⟨ed', o2, h1, h2, h3, h4, h5, h6⟩ := Ed.redo_spec hs hwf
      exact ⟨ed', h1, .of_bottom h6 (by rw [h2, h4]; exact hB.push c o2)
        (by rw [h5]; exact h.guards)⟩

/-- a step or a run went through with `P`, or stopped because an edit failed — never in `undo` or `redo` -/
def StackSafe (r : Except RunErr Ed) (P : Ed → Prop) : Prop :=
  match r with
  | .ok ed => P ed
  | .error .editFailed => True
  | .error _ => False

theorem StackSafe.elim {r : Except RunErr Ed} {P : Ed → Prop} (h : StackSafe r P) :
    (∀ e, r ≠ .error (.undoFailed e)) ∧ (∀ e, r ≠ .error (.redoFailed e)) ∧ ∀ ed', r = .ok ed' → P ed' := by
  cases r with
  | ok ed =>
    refine ⟨?_, ?_, ?_⟩
    · intro e he; cases he
    · intro e he; cases he
    · intro ed' he; cases he; exact h
  | error e =>
    cases e with
    | editFailed =>
      refine ⟨?_, ?_, ?_⟩
      · intro e he; cases he
      · intro e he; cases he
      · intro ed' he; cases he
    | undoFailed e => exact False.elim h
    | redoFailed e => exact False.elim h

theorem Ed.Inv.step {floor : Nat} {a0 : DObs} {st0 : List UndoOp} {ed : Ed} (h : ed.Inv floor a0 st0) {s : Step} (hg : s.Good) :
    StackSafe (ed.step floor s) (Ed.Inv floor a0 st0) := by
  cases s with
  | edit f =>
    simp only [Ed.step]
    cases hf : f ed.doc with
    | error e => trivial
    | ok p =>
      cases p with
      | none => exact h
      | some q => exact h.push (hg ed.doc q.1 q.2 hf)
  | act build =>
    simp only [Ed.step]
    cases hb : build ed.doc with
    | error e => trivial
    | ok q =>
      cases q with
      | none => exact h
      | some op =>
        simp only [Ed.pushUndoAction]
        cases hr : op.redo ed.doc with
        | error e => trivial
        | ok p => exact h.push (hg ed.doc op hb p.1 p.2 hr)
  | touch f => exact h.touch (f := f) (hg ed.doc)
  | clearRedo p =>
    simp only [Ed.step]
    by_cases hp : p ed.doc = true
    · rw [if_pos hp]; exact h.clearRedo
    · rw [if_neg hp]; exact h
  | beginAtomic => exact h.beginAtomic
  | endAtomic => exact h.endAtomic
  | undo =>
    simp only [Ed.step]
    by_cases hl : ed.undoStack.length ≤ floor
    · rw [if_pos hl]; exact h
    · rw [if_neg hl]
      obtain ⟨ed1, h1, h2⟩ := h.undo (by omega)
      rw [h1]
      exact h2
  | redo =>
    simp only [Ed.step]
    obtain ⟨ed1, h1, h2⟩ := h.redo
    rw [h1]
    exact h2

theorem Ed.Inv.run_safe {floor : Nat} {a0 : DObs} {st0 : List UndoOp} (hist : List Step) : ∀ {ed : Ed}, ed.Inv floor a0 st0 →
    (∀ s ∈ hist, s.Good) → StackSafe (ed.run floor hist) (Ed.Inv floor a0 st0) := by
  induction hist with
  | nil => intro ed h _; exact h
  | cons s rest ih =>
    intro ed h hg
    have hs := h.step (hg s List.mem_cons_self)
    simp only [Ed.run]
    cases hst : ed.step floor s with
    | error e => rw [hst] at hs; exact hs
    | ok ed1 =>
      rw [hst] at hs
      exact ih hs (fun s' hs' => hg s' (List.mem_cons_of_mem _ hs'))

theorem Ed.Inv.init {ed : Ed} {bs cs : List DObs} (h : ed.WF bs cs) (hg : ed.guards = []) :
    ed.Inv ed.undoStack.length ed.doc.obs ed.undoStack :=
  .of_bottom h ⟨Nat.le_refl _, by simp, by simp⟩ fun g hg' => by rw [hg] at hg'; cases hg'

theorem Ed.Inv.undo_all {floor : Nat} {a0 : DObs} {st0 : List UndoOp} {ed : Ed} (h : ed.Inv floor a0 st0) :
    ∃ ed2, ed.undoN (ed.undoStack.length - floor) = .ok ed2 ∧ ed2.doc.obs = a0 ∧ ed2.undoStack = st0 ∧
      ∃ ed3, ed2.redoN (ed.undoStack.length - floor) = .ok ed3 ∧ ed3.doc.obs = ed.doc.obs ∧
        ed3.undoStack.length = ed.undoStack.length := by
  obtain ⟨bs, cs, hwf, hB⟩ := h.unpack
  obtain ⟨ed2, h1, h2, h3, ed3, h4, h5, h6, _, _⟩ := Ed.undoN_redoN (k := ed.undoStack.length - floor) hwf (Nat.sub_le _ _)
  refine ⟨ed2, h1, ?_, ?_, ed3, h4, h5, h6⟩
  · rw [hB.cls] at h2
    simpa using h2.symm
  · rw [h3]; exact hB.stack

end IcyVerif.Undo
