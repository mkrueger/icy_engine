import IcyVerif.Lemmas.ArtAnsiFLine
/-! # The ANSI writer, row by row (C04): `RowsGS`, the row writers' equations, from the final screen to the loaded cells

`RowsGS` relates the rows of a picture to the item rows the reader performs (16 and all colours).  `ansi_rt_partial₁` also
claims the loaded HEIGHT, which `finish_view` does not give, so without compression it goes from the item rows to the screen
program of the picture (`picItems_printed`) and through `finish_spec` (Lemmas/ArtFinish.lean). -/
namespace IcyVerif.ArtIO
open IcyVerif.Gen.Art

/-- the rows of a picture from row `y` on next to the item rows the reader performs for them, when rows may be left out
    (`es` = the row is skipped: no items); a written row has `len row` items in relation `Q` to its first `len row` cells -/
inductive RowsGS (len : List Cell → Nat) (Q : List Cell → List (Option Cell) → Prop) (es : Nat → Bool) :
    Nat → List (List Cell) → List (List (Option Cell)) → Prop
  | nil (y : Nat) : RowsGS len Q es y [] []
  | cons {y : Nat} {row : List Cell} {items : List (Option Cell)} {rows : List (List Cell)} {irows : List (List (Option Cell))} :
      es y = false → items.length = len row → Q (row.take (len row)) items → RowsGS len Q es (y + 1) rows irows →
      RowsGS len Q es y (row :: rows) (items :: irows)
  | skip {y : Nat} {row : List Cell} {rows : List (List Cell)} {irows : List (List (Option Cell))} :
      es y = true → RowsGS len Q es (y + 1) rows irows → RowsGS len Q es y (row :: rows) ([] :: irows)

section RowsGS
variable {len : List Cell → Nat} {Q : List Cell → List (Option Cell) → Prop} {es : Nat → Bool} {y0 : Nat} {rows : List (List Cell)}
  {irows : List (List (Option Cell))}

theorem RowsGS.length_eq (h : RowsGS len Q es y0 rows irows) : irows.length = rows.length := by
  induction h with
  | nil => rfl
  | cons _ _ _ _ ih => rw [List.length_cons, List.length_cons, ih]
  | skip _ _ ih => rw [List.length_cons, List.length_cons, ih]

theorem RowsGS.get (h : RowsGS len Q es y0 rows irows) : ∀ k, k < rows.length →
    (es (y0 + k) = true ∧ irows.getD k [] = []) ∨
    (es (y0 + k) = false ∧ (irows.getD k []).length = len (rows.getD k []) ∧
      Q ((rows.getD k []).take (len (rows.getD k []))) (irows.getD k [])) := by
  induction h with
  | nil => intro k hk; exact absurd hk (Nat.not_lt_zero _)
  | @cons y row items rows irows h0 h1 h2 _ ih =>
    intro k hk
    cases k with
    | zero => exact Or.inr ⟨h0, h1, h2⟩
    | succ k' =>
      rw [show y + (k' + 1) = y + 1 + k' by omega]
      exact ih k' (Nat.lt_of_succ_lt_succ hk)
  | @skip y row rows irows h0 _ ih =>
    intro k hk
    cases k with
    | zero => exact Or.inl ⟨h0, rfl⟩
    | succ k' =>
      rw [show y + (k' + 1) = y + 1 + k' by omega]
      exact ih k' (Nat.lt_of_succ_lt_succ hk)

theorem RowsGS.fits {w : Nat} (hQ : ∀ cells items, items.length = cells.length → Q cells items → RowSkipsInside w items)
    (h : RowsGS len Q es y0 rows irows) (hlen : ∀ r ∈ rows, len r ≤ r.length ∧ len r ≤ w) :
    ∀ r ∈ irows, r.length ≤ w ∧ RowSkipsInside w r := by
  induction h with
  | nil => intro r hr; cases hr
  | @cons y row items rows irows _ h1 h2 _ ih =>
    intro r hr
    rcases List.mem_cons.1 hr with e | hm
    · obtain ⟨l1, l2⟩ := hlen row List.mem_cons_self
      rw [e]
      exact ⟨by rw [h1]; exact l2, hQ _ _ (by rw [List.length_take, h1]; omega) h2⟩
    · exact ih (fun q hq => hlen q (List.mem_cons_of_mem _ hq)) r hm
  | skip _ _ ih =>
    intro r hr
    rcases List.mem_cons.1 hr with e | hm
    · rw [e]; exact ⟨Nat.zero_le _, fun i hi _ => absurd hi (Nat.not_lt_zero _)⟩
    · exact ih (fun q hq => hlen q (List.mem_cons_of_mem _ hq)) r hm

end RowsGS

theorem isEmpty_eq_of_length_eq {α β : Type} {l : List α} {m : List β} (h : l.length = m.length) : l.isEmpty = m.isEmpty := by
  cases l with
  | nil =>
    cases m with
    | nil => rfl
    | cons _ _ => cases h
  | cons _ _ =>
    cases m with
    | nil => cases h
    | cons _ _ => rfl

theorem genCells_cons (o : AnsiOpts) (pal : List Rgb) (im : IceMode) (w : Nat) (row : List Cell) (rest : List (List Cell)) (st : AnsiState) :
    genCells o pal im w (row :: rest) st =
      (genCellsRow o pal im row (ansiRowLen o pal w row) 0 st).1 ::
        genCells o pal im w rest (genCellsRow o pal im row (ansiRowLen o pal w row) 0 st).2 := rfl

theorem genLines_cons_break (o : AnsiOpts) (w ht : Nat) (hl : o.longerTerminalOutput = false) (line : List CharCell)
    (lines : List (List CharCell)) (y : Nat) (first : Bool) :
    genLines o w ht (line :: lines) y first = genLine o w line.length 0 line ++
      (if line.length < w ∧ y + 1 < ht then (if o.compress = true ∧ w ≤ line.length + 1 then [32] else [13, 10]) else []) ++
      genLines o w ht lines (y + 1) false := by
  simp only [genLines, hl, Bool.false_eq_true, if_false, List.nil_append, Bool.not_false, true_and]

theorem genLines_cons_longer (o : AnsiOpts) (w ht : Nat) (hl : o.longerTerminalOutput = true) (line : List CharCell)
    (lines : List (List CharCell)) (y : Nat) (first : Bool) :
    genLines o w ht (line :: lines) y first = ((if first = true then csi [0] 109 else []) ++ csi [y + 1] 72) ++
      (genLine o w line.length 0 line ++ genLines o w ht lines (y + 1) false) := by
  simp only [genLines, hl, if_true, Bool.not_true, Bool.false_eq_true, false_and, if_false, List.append_nil, List.append_assoc]

theorem genCellsS_skip {o : AnsiOpts} {skip : Nat → Bool} {y : Nat} (hl : o.longerTerminalOutput = true) (hs : skip y = true)
    (pal : List Rgb) (im : IceMode) (w : Nat) (row : List Cell) (rest : List (List Cell)) (st : AnsiState) :
    genCellsS o skip pal im w (row :: rest) y st = [] :: genCellsS o skip pal im w rest (y + 1) st := by
  rw [genCellsS, if_pos ⟨hl, hs⟩]

theorem genCellsS_write {o : AnsiOpts} {skip : Nat → Bool} {y : Nat} (h : ¬ (o.longerTerminalOutput = true ∧ skip y = true))
    {pal : List Rgb} {im : IceMode} {w : Nat} {row : List Cell} {st st1 : AnsiState} {line : List CharCell}
    (hg : genCellsRow o pal im row (ansiRowLen o pal w row) 0 st = (line, st1)) (rest : List (List Cell)) :
    genCellsS o skip pal im w (row :: rest) y st = line :: genCellsS o skip pal im w rest (y + 1) st1 := by
  rw [genCellsS, if_neg h, hg]

theorem genLinesEv_skip {o : AnsiOpts} {skip : Nat → Bool} {y : Nat} (hl : o.longerTerminalOutput = true) (hs : skip y = true)
    (w h : Nat) (line : List CharCell) (rest : List (List CharCell)) (frows : List (List Nat)) (first : Bool) (cur : Nat) :
    genLinesEv o skip w h (line :: rest) frows y first cur = genLinesEv o skip w h rest frows.tail (y + 1) first cur := by
  rw [genLinesEv, if_pos ⟨hl, hs⟩]

theorem genLinesEv_comp {o : AnsiOpts} (hl : o.longerTerminalOutput = false) (skip : Nat → Bool)
    (w h : Nat) (line : List CharCell) (rest : List (List CharCell)) (frows : List (List Nat)) (y : Nat) (first : Bool) (cur : Nat) :
    genLinesEv o skip w h (line :: rest) frows y first cur =
      (genLineEv o w line.length 0 cur line (frows.headD [])).1 ++
      (if line.length < w ∧ y + 1 < h then [Ev.ext (if o.compress = true ∧ w ≤ line.length + 1 then [32] else [13, 10]), Ev.eol] else []) ++
      genLinesEv o skip w h rest frows.tail (y + 1) false (genLineEv o w line.length 0 cur line (frows.headD [])).2 := by
  rw [genLinesEv]
  simp only [hl, Bool.false_eq_true, false_and, if_false, List.nil_append, Bool.not_false, true_and]

theorem genLinesEv_longer {o : AnsiOpts} {skip : Nat → Bool} {y : Nat} (hl : o.longerTerminalOutput = true) (hs : skip y = false)
    (w h : Nat) (line : List CharCell) (rest : List (List CharCell)) (frows : List (List Nat)) (first : Bool) (cur : Nat) :
    genLinesEv o skip w h (line :: rest) frows y first cur =
      (if first = true then [Ev.ext (csi [0] 109)] else []) ++ [Ev.ext (csi [y + 1] 72), Ev.push] ++
      (genLineEv o w line.length 0 cur line (frows.headD [])).1 ++
      genLinesEv o skip w h rest frows.tail (y + 1) false (genLineEv o w line.length 0 cur line (frows.headD [])).2 := by
  rw [genLinesEv]
  simp only [hl, hs, Bool.false_eq_true, and_false, if_false, if_true, Bool.not_true, false_and, List.append_nil]

theorem ansiRun_cupRow (p : AnsiP) (core : Core) (y : Nat) (hs : core.stuck = false) (hg : p.st = .ground) (hy : y + 1 < 1000) :
    ansiRun p core (csi [y + 1] 72) = ({ p with st := .ground }, { core with scr := core.scr.gotoRow y }) := by
  rw [csi_read p core [y + 1] 72 hs hg (by simp) (by intro n hn; simp at hn; omega), ansiStep_cup _ core [y + 1] false hs rfl]
  simp [cup, Screen.limit, Screen.gotoRow]

/-- `hA`: `CSI 0 m` comes in front of the first row only, where the rendition is the default one -/
theorem head_readX (ic : Bool) (R : RdSt) (w : Nat) (p : AnsiP) (core : Core) (y : Nat) (first : Bool) (hinv : CInvX ic R w p core)
    (hA : first = true → R.1 = defaultAttr) (hy : y + 1 < 1000) :
    ∃ p1 core1, ansiRun p core ((if first = true then csi [0] 109 else []) ++ csi [y + 1] 72) = (p1, core1) ∧
      core1.scr = core.scr.gotoRow y ∧ CInvX ic R w p1 core1 := by
  have hb := hinv.base
  rw [ansiRun_append]
  cases first with
  | false =>
    simp only [Bool.false_eq_true, if_false, ansiRun_nil]
    rw [ansiRun_cupRow p core y hb.ns hb.ag hy]
    exact ⟨_, _, rfl, rfl, hinv.scr _ rfl _ rfl⟩
  | true =>
    simp only [if_true]
    rw [ansiRun_sgr p core hb.ns hb.ag [0] (by simp) (by simp)]
    have e : sgr core [0] = core := by
      have : sgr core [0] = { core with attr := defaultAttr } := by simp [sgr, sgrLoop, sgrOne]
      rw [this, ← hA rfl, ← hb.attr]
    rw [e]
    simp only []
    rw [ansiRun_cupRow { p with st := .ground } core y hb.ns rfl hy]
    exact ⟨_, _, rfl, rfl, hinv.scr _ rfl _ rfl⟩

/-- what the layer shows after the item rows, per cell -/
def itemsShown (irows : List (List (Option Cell))) (x y : Nat) : Cell :=
  if y < irows.length ∧ x < (irows.getD y []).length then itemShown ((irows.getD y []).getD x none) defaultCell else defaultCell

/-- from the reader's final screen to the loaded picture, without any assumption on which rows are empty: a loaded cell
    is the bold-folded shown cell, or it lies below the cropped height and then nothing but a default blank was there -/
theorem finish_view (f : Fmt) (hf : f ≠ .atascii) (rs : RS) (w : Nat) (irows : List (List (Option Cell)))
    (hsw : rs.core.scr.w = w) (hV : ∀ x y, shownAt rs.core.scr.lines x y = itemsShown irows x y) :
    (finish f rs).w = w ∧ (finish f rs).stuck = rs.core.stuck ∧ ∀ x y, x < w →
      ((finish f rs).cellAt x y = foldBold (itemsShown irows x y) ∨
       ((finish f rs).cellAt x y = invisibleCell ∧ itemsShown irows x y = defaultCell)) := by
  obtain ⟨C1, C2, C3⟩ := crop_view rs.core.scr.lines.length rs.core.scr.lines
  unfold finish
  rw [if_neg hf]
  refine ⟨hsw, rfl, ?_⟩
  intro x y hx
  show viewLines _ _ _ x y = _ ∨ (viewLines _ _ _ x y = _ ∧ _)
  rw [viewLines_eq, hsw]
  by_cases hy : y < (cropLines rs.core.scr.lines.length rs.core.scr.lines).length
  · left
    have : ¬ (w ≤ x ∨ (cropLines rs.core.scr.lines.length rs.core.scr.lines).length ≤ y) := by omega
    rw [if_neg this, shownAt_foldLines, C2 x y hy, hV]
  · right
    have : w ≤ x ∨ (cropLines rs.core.scr.lines.length rs.core.scr.lines).length ≤ y := Or.inr (by omega)
    rw [if_pos this]
    exact ⟨rfl, by rw [← hV]; exact C3 x y (by omega)⟩

/-- the case analysis `ansi_rt`, `ansi_rt_partial₃` and `ansi_rt_partial₄` share: the cell was printed (below the cropped
    height the item showed a default blank), or it was skipped or trimmed away -/
theorem loaded_cases {len : List Cell → Nat} {Pr : Cell → Option Cell → Prop} {Sk : Cell → Prop} {es : Nat → Bool} {w : Nat}
    {rows : List (List Cell)} {irows : List (List (Option Cell))} (f : Fmt) (hf : f ≠ .atascii) (rs : RS)
    (h : RowsGS len (ItemsP Pr Sk 0 w) es 0 rows irows) (hsw : rs.core.scr.w = w)
    (hV : ∀ x y, shownAt rs.core.scr.lines x y = itemsShown irows x y) {x y : Nat} (hx : x < w) (hy : y < rows.length)
    (hes : es y = false) (hrl : (rows.getD y []).length = w) (hlen : len (rows.getD y []) ≤ w) :
    (∃ it, Pr ((rows.getD y []).getD x defaultCell) it ∧
      ((finish f rs).cellAt x y = foldBold (itemShown it defaultCell) ∨
        ((finish f rs).cellAt x y = invisibleCell ∧ itemShown it defaultCell = defaultCell))) ∨
    ((Sk ((rows.getD y []).getD x defaultCell) ∨ len (rows.getD y []) ≤ x) ∧
      ((finish f rs).cellAt x y = defaultCell ∨ (finish f rs).cellAt x y = invisibleCell)) := by
  have F3 := (finish_view f hf rs w irows hsw hV).2.2 x y hx
  have hget0 := h.get y hy
  rw [Nat.zero_add] at hget0
  rcases hget0 with ⟨hs, _⟩ | ⟨_, G1, G2⟩
  · rw [hes] at hs; cases hs
  have hblank : itemsShown irows x y = defaultCell →
      (finish f rs).cellAt x y = defaultCell ∨ (finish f rs).cellAt x y = invisibleCell := fun e => by
    rw [e, foldBold_default] at F3; exact F3.imp id And.left
  unfold itemsShown at F3 hblank
  rw [h.length_eq, G1] at F3 hblank
  by_cases hxl : x < len (rows.getD y [])
  · have hget : ((rows.getD y []).take (len (rows.getD y []))).getD x defaultCell = (rows.getD y []).getD x defaultCell := by
      rw [List.getD_eq_getElem?_getD, List.getElem?_take, if_pos hxl, ← List.getD_eq_getElem?_getD]
    rw [if_pos ⟨hy, hxl⟩] at F3 hblank
    rcases G2 x (by rw [List.length_take, hrl]; omega) with h1 | ⟨h1, h2, _⟩
    · rw [hget] at h1; exact Or.inl ⟨_, h1, F3⟩
    · rw [hget] at h2; exact Or.inr ⟨Or.inl h2, hblank (by rw [h1]; rfl)⟩
  · rw [if_neg (fun hc => hxl hc.2)] at hblank
    exact Or.inr ⟨Or.inr (by omega), hblank rfl⟩

theorem runItems_some (cells : List Cell) : ∀ s : Screen, s.runItems (cells.map some) = s.runOps (putOps cells) := by
  induction cells with
  | nil => intro s; rfl
  | cons c cs ih => intro s; exact ih (s.put c)

theorem picItems_printed (w : Nat) : ∀ (rows : List (List Cell)) (s : Screen), (∀ r ∈ rows, r.length = w) →
    picItems w (rows.map fun r => (r.map prImg).map some) s = s.runOps (picOps id prImg w rows) := by
  intro rows
  induction rows with
  | nil => intro s _; rfl
  | cons r rest ih =>
    intro s hfull
    have hr : r.length = w := hfull r List.mem_cons_self
    show picItems w _ (rowItems w ((r.map prImg).map some) _ s) = s.runOps (rowOps id prImg w r (!rest.isEmpty) ++ picOps id prImg w rest)
    unfold rowItems rowOps
    rw [if_neg (fun h => by simp [hr] at h), if_neg (fun h => by simp [hr] at h), List.append_nil, runOps_append,
      ih _ (fun q hq => hfull q (List.mem_cons_of_mem _ hq)), runItems_some]
    rfl

theorem rows_printed {o : AnsiOpts} {w : Nat} {y : Nat} {rows : List (List Cell)} {irows : List (List (Option Cell))}
    (hc : o.compress = false) (hfull : ∀ r ∈ rows, r.length = w)
    (h : RowsGS (ansiRowLen o dosPalette w) (ItemsOkC o 0 w) (fun _ => false) y rows irows) :
    irows = rows.map fun r => (r.map prImg).map some := by
  induction h with
  | nil => rfl
  | @cons y row items rows irows _ h1 h2 _ ih =>
    have hlen : ansiRowLen o dosPalette w row = w := by unfold ansiRowLen; simp [hc]
    have hr : row.length = w := hfull row List.mem_cons_self
    rw [hlen, ← hr, List.take_length] at h2
    rw [hlen, ← hr] at h1
    rw [List.map_cons, ih (fun q hq => hfull q (List.mem_cons_of_mem _ hq))]
    congr 1
    apply List.ext_getElem?
    intro j
    by_cases hj : j < row.length
    · rcases h2 j hj with e | ⟨_, hk, _⟩
      · rw [List.getD_eq_getElem?_getD, List.getElem?_eq_getElem (by omega)] at e
        rw [List.getElem?_eq_getElem (by omega), List.getElem?_map, List.getElem?_map, List.getElem?_eq_getElem hj]
        rw [List.getD_eq_getElem?_getD, List.getElem?_eq_getElem hj] at e
        exact congrArg some e
      · rw [hc] at hk; cases hk.1
    · rw [List.getElem?_eq_none (by omega), List.getElem?_eq_none (by simp; omega)]
  | skip h0 _ _ => cases h0

end IcyVerif.ArtIO
