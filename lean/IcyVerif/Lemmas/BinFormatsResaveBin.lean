import IcyVerif.Lemmas.BinFormatsRange
/-!
# C05, BIN: every file the loader accepts loads to a picture the writer reproduces (or refuses)
-/
namespace IcyVerif.BinFormats
open IcyVerif.XbCompress IcyVerif.Gen

/-- what `Bin::load_buffer` can return -/
structure BinRange (s : Option Sauce.Sauce) (g : LBuf) : Prop where
  pal : g.pal = dosPalette
  lw : g.lw = g.bw
  lh : g.lh = g.bh
  w1 : 1 ≤ g.bw
  font : (lookupFont g.fonts 0).isSome = true
  sauce : g.sauce = s.map metaOf
  cells : CellsOK (fun c => attrCell (g.ice == .ice) c = true ∧ c.attr.page = 0) g.lines

theorem bin_range (data : List Nat) (hb : ∀ b ∈ data, b < 256) (s : Option Sauce.Sauce) (g : LBuf) (h : binLoad data s = .ok g) :
    BinRange s g := by
  unfold binLoad at h
  rw [show (BinFmt.binClearsRows == 1) = true from rfl] at h
  generalize hb0 : (LBuf.start BinFmt.binStartW BinFmt.binStartH true).setSauce true s = b0 at h
  obtain ⟨hl0, hp0, hw0, hw1, hf0, hs0⟩ := start_ok _ _ (by decide) s b0 hb0
  have hp := placeAll_placed (fun c => attrCell (b0.ice == .ice) c = true ∧ c.attr.page = 0) true false 0 (b0.bw - 1) _ b0 0 0
    (attr_cells (b0.ice == .ice) data hb (pairsOf data) (pairsOf_mem data))
  obtain rfl := Out.ok.inj h
  exact ⟨hp.pal.trans hp0, (hp.lw.trans hw0).trans hp.bw.symm, rfl, hp.bw.symm ▸ hw1, hp.fonts.symm ▸ hf0, hp.sauce.trans hs0,
    hp.ice.symm ▸ hp.cells (hl0 ▸ cellsOK_nil _)⟩

theorem bin_loaded_representable (o : Opts) (s : Option Sauce.Sauce) (g : LBuf) (hr : BinRange s g) (hm : metaOk g.sauce = true)
    (hs : o.sauce = true) (hh : 1 ≤ g.bh) (hev : g.bw % 2 = 0) (hw : g.bw ≤ 510) :
    Representable .bin o g.toPic = true := by
  obtain ⟨hwf, hcells, hpg⟩ := attr_toPic g _ hr.cells hh hr.w1
  obtain ⟨f0, hf0⟩ := Option.isSome_iff_exists.mp hr.font
  exact (representable_bin o _).mpr ⟨hm, f0, hwf, hev, by have := hr.w1; show 2 ≤ g.bw; omega, hw, hs, hcells, hr.pal, hpg, hf0⟩

theorem bin_loaded_refused (o : Opts) (date : List Nat) (s : Option Sauce.Sauce) (g : LBuf) (hr : BinRange s g) (hm : metaOk g.sauce = true)
    (hs : o.sauce = true) (hbad : g.bw % 2 ≠ 0 ∨ g.bw > 510) : save .bin o date g.toPic = .err := by
  show binSave o.sauce date g.toPic = .err
  unfold binSave
  by_cases hodd : g.toPic.w % 2 ≠ 0
  · rw [if_pos hodd]
  · have hgt : g.bw > 510 := by
      rcases hbad with h | h
      · exact absurd h hodd
      · exact h
    rw [if_neg hodd]
    simp only [hs, if_true]
    unfold writeSauce
    obtain ⟨_, hcl⟩ := metaOk_valid g.toPic [] hm
    have hcl' : ¬ ((g.toPic.sauce.getD {}).comments.length > Gen.Sauce.commentLimit) := by omega
    simp only [hcl', if_false]
    obtain ⟨f0, hf0⟩ := Option.isSome_iff_exists.mp hr.font
    have hf0' : lookupFont g.toPic.fonts 0 = some f0 := hf0
    simp only [hf0']
    have : Sauce.writeSauceInfo SauceKind.bin.idx (bufInfo g.toPic f0.name) date
        (g.toPic.rows.flatMap fun row => row.flatMap fun c => [c.ch % 256, asU8' g.toPic.ice c.attr]) = .err .binWidth := by
      unfold Sauce.writeSauceInfo Sauce.writeSauce
      have hcl2 : ¬ (((bufInfo g.toPic f0.name).sauce.getD {}).comments.length > Gen.Sauce.commentLimit) := hcl'
      have harm : (Sauce.writerArm SauceKind.bin.idx).fileType = none := by decide
      have hw : (bufInfo g.toPic f0.name).width / 2 > 255 := by
        have e : (bufInfo g.toPic f0.name).width = g.bw := rfl
        have e2 : g.toPic.w = g.bw := rfl
        rw [e2] at hodd
        rw [e]; omega
      simp only [hcl2, if_false, harm, hw, if_true]
      rfl
    rw [this]

end IcyVerif.BinFormats
