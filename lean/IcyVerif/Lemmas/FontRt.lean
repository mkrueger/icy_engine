import IcyVerif.Lemmas.Font
import IcyVerif.Model.IcyDraw
/-! # C17 / C07: the round trips of one bitmap font

The two domains (`WfFont`: width 8, C17; `WfFontW`: width 1..=8, C07's font slots), what the PSF1 and PSF2 loaders do for
every header (`fromBytes_psf1`, `fromBytes_psf2`), the one PSF2 round trip all PSF2 statements are instances of (`psf2File_rt`),
raw glyph data, the `CTerm:Font:` payload, the IcyDraw string field and `FONT_n` codec clause. -/
namespace IcyVerif.IcyDraw
open IcyVerif.Font

/-- the domain of the font-slot round trip: width 1..=8 (a glyph row is one byte), `h` rows per glyph with 1 ≤ h ≤ 255
    (`create_8` takes `u8`s), a complete table (`length` = number of glyphs, all indices below the first surrogate 0xD800 = 55296:
    256 and 512 are instances), every glyph has `h` rows; `WfFont` is this with width 8 (`WfFont.toW`) -/
structure WfFontW (f : BitFont) (h : Nat) : Prop where
  w1 : 1 ≤ f.w
  w8 : f.w ≤ 8
  hh : f.h = h
  h1 : 1 ≤ h
  h255 : h ≤ 255
  n : f.glyphs.length ≤ 55296
  len : f.length = f.glyphs.length
  rows : AllRows h f.glyphs

end IcyVerif.IcyDraw

namespace IcyVerif.Font
open IcyVerif.Uni IcyVerif.IcyDraw

/-- the domain of the bitmap-font round trips: width 8, `h` rows per glyph, a complete table whose indices are all
    scalar values (256 and 512 are instances; 55296 = 0xD800 is the first surrogate, where `char::from_u32` fails and the
    glyph loop stops keying glyphs), rows are bytes -/
structure WfFont (f : BitFont) (h : Nat) : Prop where
  w8 : f.w = 8
  hh : f.h = h
  h1 : 1 ≤ h
  h255 : h ≤ 255
  n : f.glyphs.length ≤ 55296
  len : f.length = f.glyphs.length
  rows : AllRows h f.glyphs

theorem WfFont.toW {f : BitFont} {h : Nat} (wf : WfFont f h) : WfFontW f h :=
  { w1 := by rw [wf.w8]; decide, w8 := by rw [wf.w8]; decide, hh := wf.hh, h1 := wf.h1, h255 := wf.h255, n := wf.n,
    len := wf.len, rows := wf.rows }

theorem wf_table (h : Nat) (h1 : 1 ≤ h) (h255 : h ≤ 255) (r : Nat → Glyph) (hr : ∀ g, (r g).length = h) :
    WfFont { w := 8, h := h, length := 256, glyphs := (List.range 256).map fun g => some (r g) } h :=
  { w8 := rfl, hh := rfl, h1 := h1, h255 := h255, n := by simp, len := by simp,
    rows := fun g hg => by
      obtain ⟨k, _, rfl⟩ := List.mem_map.mp hg
      exact ⟨_, rfl, hr k⟩ }

theorem _root_.IcyVerif.IcyDraw.WfFontW.eq_mk {f : BitFont} {h : Nat} (wf : WfFontW f h) :
    f = { w := f.w, h := h, length := f.glyphs.length, glyphs := f.glyphs } := by
  have := wf.len; have := wf.hh
  cases f; simp_all

theorem WfFont.eq_mk {f : BitFont} {h : Nat} (wf : WfFont f h) (h256 : f.glyphs.length = 256) :
    f = { w := 8, h := h, length := 256, glyphs := f.glyphs } := by
  have e := wf.toW.eq_mk
  rwa [wf.w8, h256] at e

theorem loop_eq (f : BitFont) (hlen : f.length = f.glyphs.length) : f.loop = f.glyphs := by
  unfold BitFont.loop
  rw [hlen]; simp [lookups_self]

/-- what `to_psf2_bytes` writes for a complete table (any width: the writer does not look at it) -/
theorem toPsf2_eq (f : BitFont) (h : Nat) (hlen : f.length = f.glyphs.length) (rows : AllRows h f.glyphs) :
    f.toPsf2 = .ok (psf2Header f ++ flat f.glyphs) := by
  unfold BitFont.toPsf2
  rw [loop_eq f hlen, allGlyphs_flat h _ rows]

theorem fromBytes_psf1 (mode charsize : Nat) (hcs : charsize ≠ 0) (rest : List Nat) :
    fromBytes (0x36 :: 0x04 :: mode :: charsize :: rest) =
      .ok { w := 8, h := charsize, length := if mode % 2 = 1 then 512 else 256, glyphs := glyphsFromU8 charsize rest } := by
  unfold fromBytes
  simp [loadPsf1, hcs]

theorem u32le_small (n : Nat) (h : n < 256) : u32le n = [n, 0, 0, 0] := by
  unfold u32le
  have e1 : n % 256 = n := Nat.mod_eq_of_lt h
  have e2 : n / 256 % 256 = 0 := by omega
  have e3 : n / 65536 % 256 = 0 := by omega
  have e4 : n / 16777216 % 256 = 0 := by omega
  rw [e1, e2, e3, e4]

/-- a PSF2 file with arbitrary header fields -/
def psf2File (version hs flags len cs height width : Nat) (body : List Nat) : List Nat :=
  u32le psf2Magic ++ u32le version ++ u32le hs ++ u32le flags ++ u32le len ++ u32le cs ++ u32le height ++ u32le width ++ body

theorem psf2File_length (version hs flags len cs height width : Nat) (body : List Nat) :
    (psf2File version hs flags len cs height width body).length = 32 + body.length := by
  simp [psf2File, u32le]; omega

theorem fromBytes_psf2 (version hs flags len cs height width : Nat) (body : List Nat)
    (hv : version < 4294967296) (hhs : hs < 4294967296) (hl : len < 4294967296) (hc : cs < 4294967296)
    (hht : height < 4294967296) (hw : width < 4294967296) :
    fromBytes (psf2File version hs flags len cs height width body) =
      (if version > 0 then .err
       else if asI32 len < 0 ∨ asI32 cs ≤ 0 ∨ asI32 len * asI32 cs + (hs : Int) ≠ ((32 + body.length : Nat) : Int) ∨
           asI32 cs ≠ ((height * ((width + 7) / 8) : Nat) : Int) then .err
       else .ok { w := asI32 width, h := asI32 height, length := asI32 len,
                  glyphs := glyphsFromU8 height ((psf2File version hs flags len cs height width body).drop hs) }) := by
  have hlen := psf2File_length version hs flags len cs height width body
  generalize hF : psf2File version hs flags len cs height width body = F at hlen
  unfold psf2File at hF
  simp only [u32le, psf2Magic, List.cons_append, List.nil_append] at hF
  rw [← hF]
  unfold fromBytes
  simp only
  rw [if_neg (by decide), if_pos (by decide)]
  unfold loadPsf2
  rw [hF, hlen]
  rw [if_neg (by omega)]
  rw [← hF]
  simp only [rd32, List.drop_succ_cons, List.drop_zero]
  rw [le32_u32le, le32_u32le, le32_u32le, le32_u32le, le32_u32le, le32_u32le]
  rw [Nat.mod_eq_of_lt hv, Nat.mod_eq_of_lt hhs, Nat.mod_eq_of_lt hl, Nat.mod_eq_of_lt hc, Nat.mod_eq_of_lt hht, Nat.mod_eq_of_lt hw]

theorem psf2Header_file (f : BitFont) (h : Nat) (hh : f.h = h) (h255 : h ≤ 255) (hn : f.glyphs.length ≤ 55296)
    (hlen : f.length = f.glyphs.length) (d : List Nat) :
    psf2Header f ++ d = psf2File 0 32 0 f.glyphs.length h h (asU32 f.w) d := by
  unfold psf2Header psf2File
  rw [hlen, hh, asU32_nat _ (by omega), asU32_nat _ (by omega)]

theorem psf2Header_eq_w (f : BitFont) (h : Nat) (wf : WfFontW f h) (d : List Nat) :
    psf2Header f ++ d = psf2File 0 32 0 f.glyphs.length h h f.w.toNat d := by
  rw [psf2Header_file f h wf.hh wf.h255 wf.n wf.len]
  have hw : asU32 f.w = f.w.toNat := by have := wf.w1; have := wf.w8; unfold asU32; omega
  rw [hw]

theorem psf2File_rt (f : BitFont) (h : Nat) (wf : WfFontW f h) (hs flags : Nat) (pad : List Nat)
    (h32 : 32 ≤ hs) (hhs : hs < 4294967296) (hp : pad.length = hs - 32) :
    fromBytes (psf2File 0 hs flags f.glyphs.length h h f.w.toNat (pad ++ flat f.glyphs)) = .ok f := by
  have hn := wf.n
  have h255 := wf.h255
  have h1 := wf.h1
  have hw1 := wf.w1
  have hw8 := wf.w8
  obtain ⟨w, hw⟩ : ∃ w : Nat, f.w = (w : Int) := ⟨f.w.toNat, by omega⟩
  rw [hw, Int.toNat_natCast]
  rw [hw] at hw1 hw8
  rw [fromBytes_psf2 0 hs flags f.glyphs.length h h w _ (by omega) hhs (by omega) (by omega) (by omega) (by omega)]
  rw [if_neg (by omega), asI32_small _ (by omega), asI32_small _ (by omega), asI32_small w (by omega)]
  have hlen := flat_length h _ wf.rows
  have hdiv : (w + 7) / 8 = 1 := by omega
  rw [if_neg (by
    simp only [List.length_append, hp, hlen, hdiv]
    rw [← Int.natCast_mul]
    omega)]
  have hd : (psf2File 0 hs flags f.glyphs.length h h w (pad ++ flat f.glyphs)).drop hs = flat f.glyphs := by
    have e : psf2File 0 hs flags f.glyphs.length h h w (pad ++ flat f.glyphs) =
        psf2File 0 hs flags f.glyphs.length h h w pad ++ flat f.glyphs := by simp [psf2File, List.append_assoc]
    rw [e, List.drop_left' (by rw [psf2File_length]; omega)]
  rw [hd, glyphsFromU8_flat h wf.h1 _ wf.rows wf.n, ← hw]
  exact congrArg Res.ok wf.eq_mk.symm

theorem psf2_roundtrip (f : BitFont) (h : Nat) (wf : WfFontW f h) :
    fromBytes (psf2Header f ++ flat f.glyphs) = .ok f := by
  rw [psf2Header_eq_w f h wf]
  exact psf2File_rt f h wf 32 0 [] (Nat.le_refl _) (by decide) rfl

/-- the width bound of `WfFontW` is exact: the writer always takes the height as `charsize`, the reader insists on
    `charsize == height * ((width + 7) / 8)` -/
theorem psf2_width_out_of_range (f : BitFont) (h : Nat) (hh : f.h = h) (h1 : 1 ≤ h) (h255 : h ≤ 255)
    (hn : f.glyphs.length ≤ 55296) (hlenf : f.length = f.glyphs.length) (rows : AllRows h f.glyphs)
    (hi : -2147483648 ≤ f.w ∧ f.w < 2147483648) (hw : f.w < 1 ∨ 8 < f.w) :
    f.toPsf2 = .ok (psf2Header f ++ flat f.glyphs) ∧ fromBytes (psf2Header f ++ flat f.glyphs) = .err := by
  refine ⟨toPsf2_eq f h hlenf rows, ?_⟩
  have hW : asU32 f.w < 4294967296 := by unfold asU32; omega
  have hW' : asU32 f.w = 0 ∨ 9 ≤ asU32 f.w := by unfold asU32; omega
  rw [psf2Header_file f h hh h255 hn hlenf]
  generalize asU32 f.w = w at *
  rw [fromBytes_psf2 0 32 0 f.glyphs.length h h w _ (by omega) (by omega) (by omega) (by omega) (by omega) hW]
  rw [if_neg (by omega), asI32_small _ (by omega), asI32_small _ (by omega)]
  have hne : (h : Int) ≠ ((h * ((w + 7) / 8) : Nat) : Int) := by
    rcases hW' with h0 | h9
    · subst h0; simp; omega
    · have h2 : 2 ≤ (w + 7) / 8 := by omega
      have : h * 2 ≤ h * ((w + 7) / 8) := Nat.mul_le_mul_left h h2
      omega
  rw [if_pos (Or.inr (Or.inr (Or.inr hne)))]


theorem toU8_eq (f : BitFont) (h : Nat) (wf : WfFont f h) : f.toU8 = .ok (flat f.glyphs) := by
  unfold BitFont.toU8
  rw [loop_eq f wf.len, convertAux_flat h _ _ wf.rows]

theorem encodeAnsi_eq (c : Codec) (f : BitFont) (h : Nat) (wf : WfFont f h) (slot : Nat) :
    encodeAnsi c f slot = .ok (prefixCTerm ++ c.fmt slot ++ [58] ++ c.b64e (flat f.glyphs)) := by
  unfold encodeAnsi; rw [toU8_eq f h wf]

theorem raw_roundtrip (f : BitFont) (h : Nat) (wf : WfFont f h) (h256 : f.glyphs.length = 256)
    (hm : noMagic (flat f.glyphs) = true) : fromBytes (flat f.glyphs) = .ok f := by
  have hlen := flat_length h _ wf.rows
  have hg := glyphsFromU8_flat h wf.h1 _ wf.rows wf.n
  have h1 := wf.h1
  generalize hd : flat f.glyphs = d at hlen hm hg
  rw [h256] at hlen
  obtain ⟨a, b, c, e, rest, rfl, _⟩ := Basics.exists_cons4 (n := 0) (l := d) (by omega)
  unfold fromBytes
  simp only [noMagic, Bool.and_eq_true, Bool.not_eq_true', beq_eq_false_iff_ne, ne_eq, Bool.and_eq_false_iff] at hm
  simp only
  have hpsf1 : ¬ (a = 0x36 ∧ b = 0x04) := by
    intro ⟨h1, h2⟩; rcases hm.1 with h | h
    · exact h h1
    · exact h h2
  rw [if_neg hpsf1, if_neg hm.2]
  unfold loadPlain
  have hmod : (a :: b :: c :: e :: rest).length % 256 = 0 := by rw [hlen]; omega
  have hdiv : (a :: b :: c :: e :: rest).length / 256 = h := by rw [hlen]; omega
  rw [if_neg (by omega)]
  simp only [hdiv, hg]
  exact congrArg Res.ok (wf.eq_mk h256).symm

/-- raw glyph data through `create_8` / `from_basic` (what the XBin, ADF and IDF loaders call): no sniffing -/
theorem basic_roundtrip (f : BitFont) (h : Nat) (wf : WfFont f h) (h256 : f.glyphs.length = 256) :
    fromBasic 8 h (flat f.glyphs) = f := by
  unfold fromBasic
  rw [glyphsFromU8_flat h wf.h1 _ wf.rows wf.n]
  exact (wf.eq_mk h256).symm

theorem splitColon_append (a rest : List Nat) (h : 58 ∉ a) : splitColon (a ++ 58 :: rest) = some (a, rest) := by
  induction a with
  | nil => simp [splitColon]
  | cons x xs ih =>
    have hx : x ≠ 58 := fun e => h (by simp [e])
    have hxs : 58 ∉ xs := fun e => h (List.mem_cons_of_mem _ e)
    simp [splitColon, hx, ih hxs]

theorem splitColon_spec : ∀ (l num rest : List Nat), splitColon l = some (num, rest) → l = num ++ 58 :: rest := by
  intro l
  induction l with
  | nil => intro num rest h; simp [splitColon] at h
  | cons x xs ih =>
    intro num rest h
    unfold splitColon at h
    by_cases hx : x = 58
    · rw [if_pos hx] at h
      simp only [Option.some.injEq, Prod.mk.injEq] at h
      obtain ⟨rfl, rfl⟩ := h
      simp [hx]
    · rw [if_neg hx] at h
      simp only [Option.map_eq_some_iff] at h
      obtain ⟨⟨n', r'⟩, hs, he⟩ := h
      simp only [Prod.mk.injEq] at he
      obtain ⟨rfl, rfl⟩ := he
      rw [ih n' r' hs]
      rfl

/-- what the theorems assume about crate `base64` and `{}` / `parse::<usize>` -/
structure CodecLaws (c : Codec) : Prop where
  b64 : ∀ x, c.b64d (c.b64e x) = some x
  num : ∀ n, c.parse (c.fmt n) = some n
  nocolon : ∀ n, 58 ∉ c.fmt n

theorem load_encoded (c : Codec) (slot : Nat) (d : List Nat) (hnum : c.parse (c.fmt slot) = some slot)
    (hb64 : c.b64d (c.b64e d) = some d) (hcolon : 58 ∉ c.fmt slot) :
    loadCustomFont c (prefixCTerm ++ c.fmt slot ++ [58] ++ c.b64e d) =
      (match fromBytes d with | .ok g => .ok (slot, g) | .err => .err | .panic => .panic) := by
  unfold loadCustomFont
  have hdrop : (prefixCTerm ++ c.fmt slot ++ [58] ++ c.b64e d).drop prefixCTerm.length = c.fmt slot ++ 58 :: c.b64e d := by
    simp [List.append_assoc]
  rw [hdrop, splitColon_append _ _ hcolon]
  simp only [hnum, hb64]
  cases fromBytes d <;> rfl

theorem rd32_u32le (n : Nat) (rest : List Nat) : rd32 (u32le n ++ rest) 0 = some (n % 4294967296) := by
  simp only [u32le, rd32, List.drop_zero, List.cons_append, List.nil_append]
  rw [le32_u32le]

theorem string_roundtrip (name rest : List Nat) (hv : ValidUtf8 name) (hl : name.length < 4294967296) :
    readString (writeString name ++ rest) = .ok (name, name.length + 4) ∧
    (writeString name ++ rest).drop (name.length + 4) = rest := by
  have hmod : name.length % 4294967296 = name.length := Nat.mod_eq_of_lt hl
  constructor
  · unfold readString writeString
    rw [List.append_assoc, rd32_u32le, hmod]
    have hlen : ¬ ((u32le name.length ++ (name ++ rest)).length < 4 + name.length) := by
      simp [u32le]; omega
    simp only [hlen, if_false]
    have : ((u32le name.length ++ (name ++ rest)).drop 4).take name.length = name := by
      simp [u32le]
    rw [this]
    rw [lossyBytes_of_valid name hv]
  · unfold writeString
    simp [u32le]

/-- the `FONT_n` clause of C07's `CodecsOk`, once for both types the models keep a slot font in (`mk`): name as it is, data
    `to_psf2_bytes`, decoder `from_bytes` behind `from_utf8_lossy` on the name -/
theorem font_codec_ok {F S : Type} (cd : Codecs F S) (mk : List Nat → BitFont → F) (x : F) (name : List Nat) (f : BitFont)
    (hx : mk name f = x) (hname : cd.fontName x = name)
    (hdata : cd.fontData x = match f.toPsf2 with | .ok d => d | _ => [])
    (hdec : ∀ d, cd.fontDec name d =
      match fromBytes d with | .ok g => .ok (mk (lossyBytes name) g) | .err => .fail .errCodec | .panic => .fail .panic)
    (hv : ValidUtf8 name) (hs : name.length < 4294967296) (h : Nat) (wf : WfFontW f h) :
    (cd.fontName x).length < 4294967296 ∧ cd.fontDec (cd.fontName x) (cd.fontData x) = .ok x := by
  rw [hname, hdata, toPsf2_eq f h wf.len wf.rows, hdec, psf2_roundtrip f h wf, lossyBytes_of_valid name hv]
  exact ⟨hs, congrArg _ hx⟩
end IcyVerif.Font
