import IcyVerif.Lemmas.ArtAnsiPend
import IcyVerif.Lemmas.ArtAnsiFRows
import IcyVerif.Lemmas.ArtShows
/-! # The whole ANSI writer: no panic, its output as chunks, and the reader over it without splits (C04)

`font_map.get(..).unwrap()` never panics under `FontsOk`; the `usize` subtraction in `push_result` never underflows, because
`last_line_break` is at most `output.len() + result.len()` whenever `push_result` runs (the end-of-row code sets it to
`result.len()`); the chunks handed to `push_result` are `ChunkOk` (`ansi_chunks`).  In namespace `C04`: the hypotheses
`SauceFits`, `Pic.Full` and the rows left out `effSkip` of the property's theorems, the reader before the first row and after
the last, and `ansi_unsplit`: the reader over the writer's bytes without splits, for any relation between cells and items. -/
namespace IcyVerif.ArtIO
open IcyVerif.Gen.Art

/-- every cell's font page has a font in the buffer, and `font_map` sends it to an ANSI font page -/
def FontsOk (fi : FontInfo) : Prop :=
  ∀ y x, ∃ n, fontMap fi.slots ((fi.pages.getD y []).getD x 0) = some n ∧ n < ansiFonts

theorem mapM_some {α β : Type} (f : α → Option β) (P : β → Prop) : ∀ (l : List α), (∀ x ∈ l, ∃ v, f x = some v ∧ P v) →
    ∃ r, l.mapM f = some r ∧ ∀ v ∈ r, P v := by
  intro l
  induction l with
  | nil => intro _; exact ⟨[], rfl, fun v h => by simp at h⟩
  | cons a as ih =>
    intro h
    obtain ⟨v, hv, pv⟩ := h a List.mem_cons_self
    obtain ⟨r, hr, pr⟩ := ih (fun x hx => h x (List.mem_cons_of_mem _ hx))
    refine ⟨v :: r, ?_, ?_⟩
    · simp [List.mapM_cons, hv, hr]
    · intro u hu
      rcases List.mem_cons.1 hu with e | e
      · rw [e]; exact pv
      · exact pr u e

theorem fontRows_some (fi : FontInfo) (hf : FontsOk fi) : ∀ (lines : List (List CharCell)) (y : Nat),
    ∃ frows, fontRows fi.slots fi.pages lines y = some frows ∧ ∀ fr ∈ frows, ∀ f ∈ fr, f < ansiFonts := by
  intro lines
  induction lines with
  | nil => intro y; exact ⟨[], rfl, fun fr h => by simp at h⟩
  | cons line rest ih =>
    intro y
    obtain ⟨r, hr, pr⟩ := mapM_some (fun x => fontMap fi.slots ((fi.pages.getD y []).getD x 0)) (· < ansiFonts) (List.range line.length)
      (fun x _ => hf y x)
    obtain ⟨rs, hrs, prs⟩ := ih (y + 1)
    refine ⟨r :: rs, ?_, ?_⟩
    · unfold fontRows; rw [hr, hrs]
    · intro fr hfr
      rcases List.mem_cons.1 hfr with e | e
      · rw [e]; exact pr
      · exact prs fr e

theorem run_append (max : Option Nat) (s : WSt) (a b : List Ev) : WSt.run max s (a ++ b) = WSt.run max (WSt.run max s a) b := by
  simp [WSt.run, List.foldl_append]

theorem run_cons (max : Option Nat) (s : WSt) (e : Ev) (es : List Ev) : WSt.run max s (e :: es) = WSt.run max (s.step max e) es := rfl

/-- `last_line_break` does not exceed what has been written and collected -/
def WSt.Good (s : WSt) : Prop := s.llb ≤ s.out.length + s.res.length ∧ s.underflow = false

theorem step_good (max : Option Nat) (s : WSt) (e : Ev) (hg : s.Good) (he : e ≠ .drop) : (s.step max e).Good := by
  obtain ⟨h1, h2⟩ := hg
  cases e with
  | ext bs => exact ⟨by show s.llb ≤ s.out.length + (s.res ++ bs).length; simp; omega, h2⟩
  | eol => exact ⟨by show s.res.length ≤ s.out.length + s.res.length; omega, h2⟩
  | drop => exact absurd rfl he
  | push =>
    obtain ⟨_, _, hr, hg⟩ := step_push max s
    obtain ⟨g1, g2⟩ := hg h1
    exact ⟨by rw [hr]; exact g1, g2.trans h2⟩

theorem run_good (max : Option Nat) : ∀ (evs : List Ev) (s : WSt), s.Good → Ev.drop ∉ evs → (WSt.run max s evs).Good :=
  fun evs _ h hd => List.foldlRecOn evs _ h fun b hb e he => step_good max b e hb fun q => hd (q ▸ he)

theorem run_res (max : Option Nat) : ∀ (evs : List Ev) (s : WSt), (WSt.run max s evs).res = pend evs s.res := by
  intro evs
  induction evs with
  | nil => intro s; rfl
  | cons e es ih =>
    intro s
    rw [run_cons, ih]
    cases e with
    | ext bs => rfl
    | eol => rfl
    | drop => rfl
    | push => obtain ⟨_, _, hr, _⟩ := step_push max s; rw [hr]; rfl

theorem run_underflow (max : Option Nat) (a b : List Ev) (ha : Ev.drop ∉ a) (hb : Ev.drop ∉ b) (hp : pend a [] = []) :
    (WSt.run max {} (a ++ [.drop] ++ b)).underflow = false := by
  rw [run_append, run_append]
  have g0 : (WSt.run max {} a).Good := run_good max a {} ⟨Nat.zero_le _, rfl⟩ ha
  have r0 : (WSt.run max {} a).res = [] := by rw [run_res]; exact hp
  have g1 : (WSt.run max (WSt.run max {} a) [.drop]).Good := by
    obtain ⟨h1, h2⟩ := g0
    refine ⟨?_, h2⟩
    show (WSt.run max {} a).llb ≤ (WSt.run max {} a).out.length + ([] : List Nat).length
    rw [r0] at h1; exact h1
  exact (run_good max b _ g1 hb).2

theorem bytesOf_prepEvs (o : AnsiOpts) (im : IceMode) : bytesOf (prepEvs o im) = ansiPrep o im := by
  unfold prepEvs ansiPrep
  rw [bytesOf_append]
  by_cases h : im = .ice <;> cases o.prep <;> simp [h, bytesOf]

theorem bytesOf_endEvs (im : IceMode) : bytesOf (endEvs im) = ansiEnd im := by
  unfold endEvs ansiEnd
  by_cases h : im = .ice <;> simp [h, bytesOf]

theorem pend_end (im : IceMode) : pend (endEvs im) [] = [] := by
  unfold endEvs; split <;> rfl

/-- `evsOk_end` (Lemmas/ArtAnsiEvs.lean) under a second name -/
theorem evsOk_end' (im : IceMode) : EvsOk (endEvs im) := evsOk_end im

/-- the events of `screen_prep` and `generate` -/
def ansiEvsA (o : AnsiOpts) (skip : Nat → Bool) (frows : List (List Nat)) (p : Pic) : List Ev :=
  prepEvs o p.ice ++ genLinesEv o skip p.w p.rows.length
    (genCellsS o skip p.pal p.ice p.w (p.rows.map fun r => r ++ List.replicate (p.w - r.length) defaultCell) 0 ansiState0) frows 0 true 0

theorem ansiEvs_eq (o : AnsiOpts) (skip : Nat → Bool) (frows : List (List Nat)) (p : Pic) :
    ansiEvs o skip frows p = ansiEvsA o skip frows p ++ [.drop] ++ endEvs p.ice := by
  unfold ansiEvs ansiEvsA; simp

theorem pend_ansiA (o : AnsiOpts) (skip : Nat → Bool) (frows : List (List Nat)) (p : Pic) (hw : 0 < p.w) :
    pend (ansiEvsA o skip frows p) [] = [] := by
  unfold ansiEvsA
  rw [pend_append, pend_prep]
  cases hl : o.longerTerminalOutput with
  | true => exact pend_genLines_longer o skip p.w p.rows.length hl _ _ _ _ _
  | false =>
    generalize hrows : (p.rows.map fun r => r ++ List.replicate (p.w - r.length) defaultCell) = rows
    have hlen : rows.length = p.rows.length := by rw [← hrows]; simp
    by_cases hne : rows = []
    · rw [hne]; simp [genCellsS, genLinesEv, pend]
    · apply pend_genLines_comp o skip p.w p.rows.length hl
      · exact genCellsS_nonempty o skip p.pal p.ice p.w hw hl rows 0 ansiState0
      · rw [genCellsS_length, hlen]; omega
      · intro e
        have := genCellsS_length o skip p.pal p.ice p.w rows 0 ansiState0
        rw [e] at this
        exact hne (List.length_eq_zero_iff.1 this.symm)

theorem ansi_chunks (o : AnsiOpts) (skip : Nat → Bool) (frows : List (List Nat)) (p : Pic) (hw : 0 < p.w)
    (hd : ∀ r ∈ p.rows, ∀ c ∈ r, EncDom o c.ch) :
    (∀ k ∈ chunksOf (ansiEvs o skip frows p) [], ChunkOk k) ∧
    (chunksOf (ansiEvs o skip frows p) []).flatten = bytesOf (ansiEvsA o skip frows p) ++ ansiEnd p.ice ∧
    ∀ max, (WSt.run max {} (ansiEvs o skip frows p)).underflow = false := by
  have okA : EvsOk (ansiEvsA o skip frows p) := evsOk_ansi o skip frows p hd
  have okE : EvsOk (endEvs p.ice) := evsOk_end p.ice
  have hpA := pend_ansiA o skip frows p hw
  have hch : chunksOf (ansiEvs o skip frows p) [] = chunksOf (ansiEvsA o skip frows p) [] ++ chunksOf (endEvs p.ice) [] := by
    rw [ansiEvs_eq, List.append_assoc, chunksOf_append, hpA]
    rfl
  refine ⟨?_, ?_, ?_⟩
  · intro k hk
    rw [hch] at hk
    rcases List.mem_append.1 hk with h | h
    · exact chunksOf_ok _ [] chunkOk_nil okA.ext k h
    · exact chunksOf_ok _ [] chunkOk_nil okE.ext k h
  · rw [hch, List.flatten_append]
    have e1 := chunks_pend (ansiEvsA o skip frows p) okA.noDrop []
    rw [hpA] at e1
    have e2 := chunks_pend (endEvs p.ice) okE.noDrop []
    rw [pend_end] at e2
    simp only [List.append_nil, List.nil_append] at e1 e2
    rw [e1, e2, bytesOf_endEvs]
  · intro max
    rw [ansiEvs_eq]
    exact run_underflow max _ _ okA.noDrop okE.noDrop hpA

end IcyVerif.ArtIO

namespace IcyVerif.C04
open IcyVerif.ArtIO IcyVerif.Gen.Art

theorem relS_initial (ic : Bool) : RelS ic ansiState0.isBlink ansiState0 defaultAttr :=
  (relS_iff _ _ _ _).2 ⟨relX_default ic ansiState0 dosPalette dosPre_refl, by decide, by decide, rfl⟩

theorem relX_initial (ic : Bool) : RelX ic ansiState0.isBlink ansiState0 defaultAttr dosPalette :=
  relX_default ic ansiState0 dosPalette dosPre_refl

/-- the screen preparation (`CSI 2 J`, or `CSI 1;1 H`) leaves the fresh reader as it is -/
theorem ansi_prepSeq_read (o : AnsiOpts) (p : AnsiP) (core : Core) (ns : core.stuck = false) (ag : p.st = .ground)
    (hfresh : core.scr.lines = [] ∧ core.scr.cx = 0 ∧ core.scr.cy = 0) :
    ∃ p', ansiRun p core (match o.prep with
      | .none => []
      | .clear => [27, 91, 50, 74]
      | .home => [27, 91, 49, 59, 49, 72]) = (p', core) ∧ p'.st = .ground := by
  obtain ⟨fresh1, _, fresh2⟩ := fresh_clear_home core.scr hfresh
  cases o.prep with
  | none => exact ⟨p, rfl, ag⟩
  | clear =>
    show ∃ p', ansiRun p core (csi [2] 74) = (p', core) ∧ _
    rw [ansiRun_clear p core ns ag, fresh1]
    exact ⟨_, rfl, rfl⟩
  | home =>
    show ∃ p', ansiRun p core (csi [1, 1] 72) = (p', core) ∧ _
    rw [ansiRun_cup p core ns ag 1 1 (by omega) (by omega), show cup core.scr [1, 1] = core.scr from fresh2]
    exact ⟨_, rfl, rfl⟩

theorem ansi_prep_read (o : AnsiOpts) (im : IceMode) (p : AnsiP) (core : Core)
    (ns : core.stuck = false) (ag : p.st = .ground) (hfresh : core.scr.lines = [] ∧ core.scr.cx = 0 ∧ core.scr.cy = 0) :
    ∃ p', ansiRun p core (ansiPrep o im) = (p', if im = .ice then { core with bufIce := .ice, caretIce := true } else core) ∧
      p'.st = .ground := by
  unfold ansiPrep
  by_cases him : im = .ice
  · rw [if_pos him, if_pos him, ansiRun_append_of_eq (ansiRun_iceOn p core ns ag)]
    exact ansi_prepSeq_read o _ _ ns rfl hfresh
  · rw [if_neg him, if_neg him, List.nil_append]
    exact ansi_prepSeq_read o p core ns ag hfresh

theorem ansi_end_core (im : IceMode) (p : AnsiP) (core : Core) (ns : core.stuck = false) (ag : p.st = .ground) :
    (ansiRun p core (ansiEnd im)).2.scr = core.scr ∧ (ansiRun p core (ansiEnd im)).2.stuck = false ∧
    (ansiRun p core (ansiEnd im)).2.pal = core.pal := by
  unfold ansiEnd
  by_cases him : im = .ice
  · rw [if_pos him, ansiRun_iceOff p core ns ag]; exact ⟨rfl, ns, rfl⟩
  · rw [if_neg him]; exact ⟨rfl, ns, rfl⟩

/-- what the SAUCE record may say: nothing (then the picture is 80 columns wide), or the picture's width 1..=132, any
    height from 1 on, and the iCE flag exactly when the buffer is in iCE mode (as `write_sauce_info` sets it) -/
def SauceFits (sauce : Option Sauce) (p : Pic) : Prop :=
  (sauce = none ∧ p.w = 80) ∨ (∃ h, sauce = some ⟨p.w, h, decide (p.ice = .ice)⟩ ∧ 1 ≤ h ∧ 1 ≤ p.w ∧ p.w ≤ 132)

theorem SauceFits.width {sauce : Option Sauce} {p : Pic} (hs : SauceFits sauce p) : 1 ≤ p.w ∧ p.w ≤ 132 := by
  rcases hs with ⟨_, h⟩ | ⟨_, _, _, h1, h2⟩
  · omega
  · exact ⟨h1, h2⟩

theorem initial_ansi (sauce : Option Sauce) (p : Pic) (hs : SauceFits sauce p) :
    ∃ H, (initial .ansi sauce).core.scr = freshScreen p.w H ∧ (initial .ansi sauce).core.stuck = false ∧
      (initial .ansi sauce).ansi.st = .ground ∧ (initial .ansi sauce).core.attr = defaultAttr ∧
      ((initial .ansi sauce).core.caretIce = true → p.ice = .ice) ∧ 1 ≤ (initial .ansi sauce).core.termH ∧ 1 ≤ p.w ∧ p.w ≤ 132 := by
  rcases hs with ⟨e, hw⟩ | ⟨h, e, h1, h2, h3⟩
  · subst e
    exact ⟨25, by rw [hw]; rfl, rfl, rfl, rfl, (fun q => by cases q), by decide, by omega, by omega⟩
  · subst e
    have hcond : ¬ (p.w = 0 ∨ 1000 < p.w) := by omega
    refine ⟨h, ?_, rfl, rfl, rfl, ?_, ?_, h2, h3⟩
    · simp [initial, hcond, freshScreen]
    · simp [initial]
    · simp [initial, hcond]; exact h1

theorem initial_pal (sauce : Option Sauce) : (initial .ansi sauce).core.pal = dosPalette := by cases sauce <;> rfl

theorem prep_cinv (o : AnsiOpts) (p : Pic) (sauce : Option Sauce) (hs : SauceFits sauce p) :
    ∃ (H : Nat) (P1 : AnsiP) (C1 : Core),
      ansiRun (initial .ansi sauce).ansi (initial .ansi sauce).core (ansiPrep o p.ice) = (P1, C1) ∧
      CInvX (decide (p.ice = .ice)) (defaultAttr, dosPalette) p.w P1 C1 ∧ C1.scr = freshScreen p.w H ∧ 1 ≤ p.w ∧ p.w ≤ 132 := by
  obtain ⟨H, i1, i2, i3, i4, i5, i6, hw1, hw2⟩ := initial_ansi sauce p hs
  obtain ⟨P1, c1, c2⟩ := ansi_prep_read o p.ice (initial .ansi sauce).ansi (initial .ansi sauce).core i2 i3 (by rw [i1]; exact ⟨rfl, rfl, rfl⟩)
  have ipal := initial_pal sauce
  refine ⟨H, P1, _, c1, ⟨?_, by split <;> exact ipal⟩, by split <;> exact i1, hw1, hw2⟩
  by_cases him : p.ice = .ice
  · rw [if_pos him]
    exact ⟨i2, c2, by simp [him], i4, by show (initial .ansi sauce).core.scr.w = p.w; rw [i1]; rfl, i6⟩
  · rw [if_neg him]
    have hci : (initial .ansi sauce).core.caretIce = false := by
      cases hq : (initial .ansi sauce).core.caretIce with
      | false => rfl
      | true => exact absurd (i5 hq) him
    exact ⟨i2, c2, by simp [him, hci], i4, by rw [i1]; rfl, i6⟩

theorem load_ansi_noBom (sauce : Option Sauce) (bs : List Nat) (hbom : bomPrefixed bs = false) :
    load .ansi sauce bs = finish .ansi (run .ansi (initial .ansi sauce) bs) := by
  unfold load; rw [if_neg (by decide), convertText_of_noBom hbom]

theorem bomGuard_noBom (bytes : List Nat) : bomPrefixed (bomGuard bytes) = false := by
  unfold bomGuard bomPrefixed
  have h1 : ansiBomBytes = [239, 187, 191] := by decide
  have h2 : ansiBomGuard = [27, 91, 48, 109] := by decide
  rw [h1, h2]
  -- guarded output starts with ESC; unguarded output failed the very test `bomPrefixed` makes
  cases h : (bytes.take ([239, 187, 191] : List Nat).length == [239, 187, 191]) with
  | true => rfl
  | false => exact h

theorem run_bomGuard (sauce : Option Sauce) (bytes : List Nat) :
    run .ansi (initial .ansi sauce) (bomGuard bytes) = run .ansi (initial .ansi sauce) bytes := by
  unfold bomGuard
  split
  · have h2 : ansiBomGuard = csi [0] 109 := by decide
    have hst : (initial .ansi sauce).ansi.st = .ground := by cases sauce <;> rfl
    have hns : (initial .ansi sauce).core.stuck = false := by cases sauce <;> rfl
    rw [run_ansi_eq, run_ansi_eq, h2, ansiRun_append, ansiRun_sgr _ _ hns hst [0] (by simp) (by simp)]
    have e1 : ({ (initial .ansi sauce).ansi with st := .ground } : AnsiP) = (initial .ansi sauce).ansi := by
      cases sauce <;> rfl
    have e2 : sgr (initial .ansi sauce).core [0] = (initial .ansi sauce).core := by
      cases sauce <;> rfl
    rw [e1, e2]
  · rfl

/-- every row holds all `w` cells (what `Buffer::get_char` shows of a row) -/
def Pic.Full (p : Pic) : Prop := ∀ r ∈ p.rows, r.length = p.w

theorem Pic.Full.pad {p : Pic} (hfull : Pic.Full p) : (p.rows.map fun r => r ++ List.replicate (p.w - r.length) defaultCell) = p.rows := by
  have : ∀ r ∈ p.rows, r ++ List.replicate (p.w - r.length) defaultCell = r := by
    intro r hr; rw [hfull r hr, Nat.sub_self, List.replicate_zero, List.append_nil]
  calc (p.rows.map fun r => r ++ List.replicate (p.w - r.length) defaultCell) = p.rows.map id := List.map_congr_left this
    _ = p.rows := List.map_id _

theorem writeAnsi_eq_evs (o : AnsiOpts) (p : Pic) : writeAnsi o p = bytesOf (ansiEvsA o (fun _ => false) [] p) ++ ansiEnd p.ice := by
  unfold writeAnsi ansiEvsA
  simp only []
  rw [bytesOf_append, bytesOf_prepEvs, genCellsS_noskip, ← genLines_eq_ev]

/-- the rows the writer leaves out: `skip_lines`, which it looks at only with longer-terminal positioning -/
def effSkip (o : AnsiOpts) (skip : Option (List Nat)) (y : Nat) : Bool := o.longerTerminalOutput && skipFn skip y

theorem itemsShown_fresh (irows : List (List (Option Cell))) (s : Screen) (hcy : s.cy = 0) (hl : s.lines = []) (x y : Nat) :
    (if s.cy ≤ y ∧ y < s.cy + irows.length ∧ x < (irows.getD (y - s.cy) []).length then
        itemShown ((irows.getD (y - s.cy) []).getD x none) (shownAt s.lines x y)
      else shownAt s.lines x y) = itemsShown irows x y := by
  rw [hcy, hl, shownAt_nil]
  unfold itemsShown
  simp only [Nat.zero_le, true_and, Nat.zero_add, Nat.sub_zero]

/-- `hread`: what one written row does (all colours: `row_readF`, 16 colours: `row_read16`) -/
theorem ansi_unsplit {Rel : AnsiState → RdSt → Prop} {Dom : Cell → Prop} {Q : List Rgb → List Cell → List (Option Cell) → Prop}
    (o : AnsiOpts) (skip : Option (List Nat)) (frows : List (List Nat)) (p : Pic) (sauce : Option Sauce) (hs : SauceFits sauce p)
    (hlh : o.longerTerminalOutput = true → p.rows.length ≤ 999) (hfull : Pic.Full p) (hdom : p.AllCells Dom)
    (hread : RowRead o p.pal p.ice (decide (p.ice = .ice)) p.w Rel Dom Q)
    (hmono : ∀ P P' cells items, P <+: P' → Q P cells items → Q P' cells items) (hrel : Rel ansiState0 (defaultAttr, dosPalette))
    (hskips : ∀ P cells items, items.length = cells.length → Q P cells items → RowSkipsInside p.w items)
    (hfonts : ∀ fr ∈ frows, ∀ f ∈ fr, f < ansiFonts) :
    ∃ (irows : List (List (Option Cell))) (Pf : List Rgb) (c0 : Core),
      (ansiRun (initial .ansi sauce).ansi (initial .ansi sauce).core (bytesOf (ansiEvsA o (skipFn skip) frows p) ++ ansiEnd p.ice)).2 = c0 ∧
      RowsGS (ansiRowLen o p.pal p.w) (Q Pf) (effSkip o skip) 0 p.rows irows ∧ DosPre Pf ∧ Pf.length ≤ 16 + 2 * p.w * p.rows.length ∧
      c0.stuck = false ∧ c0.pal = Pf ∧ c0.scr.w = p.w ∧ ∀ x y, shownAt c0.scr.lines x y = itemsShown irows x y := by
  obtain ⟨H, p1, core1, hprep, hcinv, hscr1, hw1, hw2⟩ := prep_cinv o p sauce hs
  have hbytes : bytesOf (ansiEvsA o (skipFn skip) frows p) ++ ansiEnd p.ice = ansiPrep o p.ice ++
      (bytesOf (genLinesEv o (skipFn skip) p.w p.rows.length (genCellsS o (skipFn skip) p.pal p.ice p.w p.rows 0 ansiState0) frows 0 true 0) ++ ansiEnd p.ice) := by
    unfold ansiEvsA
    rw [bytesOf_append, bytesOf_prepEvs, hfull.pad, List.append_assoc]
  have h16 : (defaultAttr, dosPalette).2.length = 16 := by decide
  have hlen : ∀ r ∈ p.rows, ansiRowLen o p.pal p.w r ≤ r.length ∧ ansiRowLen o p.pal p.w r ≤ p.w := fun r hr => by
    have := (ansiRowLen_specX o p.pal p.w (by omega) r).2.1
    rw [hfull r hr]; exact ⟨this, this⟩
  rw [hbytes, ansiRun_append_of_eq hprep]
  have hrows : ∃ (irows : List (List (Option Cell))) (Rf : RdSt) (p2 : AnsiP) (core2 : Core),
      ansiRun p1 core1 (bytesOf (genLinesEv o (skipFn skip) p.w p.rows.length
        (genCellsS o (skipFn skip) p.pal p.ice p.w p.rows 0 ansiState0) frows 0 true 0)) = (p2, core2) ∧
      RowsGS (ansiRowLen o p.pal p.w) (Q Rf.2) (effSkip o skip) 0 p.rows irows ∧ dosPalette <+: Rf.2 ∧
      Rf.2.length ≤ 16 + 2 * p.w * p.rows.length ∧ CInvX (decide (p.ice = .ice)) Rf p.w p2 core2 ∧ core2.scr.w = p.w ∧
      ∀ x y, shownAt core2.scr.lines x y = itemsShown irows x y := by
    cases hl : o.longerTerminalOutput with
    | false =>
      obtain ⟨irows, Rf, p2, core2, hR, R1, Rp, Rl, R2, R3⟩ := rows_compG o (skipFn skip) p.pal p.ice (decide (p.ice = .ice)) p.w p.rows.length
        (by omega) (by omega) hl hread hmono p.rows frows ansiState0 (defaultAttr, dosPalette) 0 true 0 p1 core1 hfull hdom hrel hcinv
        (fun _ => by rw [hscr1]; rfl) (by omega) hfonts
      have hes : effSkip o skip = fun _ => false := by funext y; simp [effSkip, hl]
      have hfits := R1.fits (hskips _) hlen
      rw [hscr1] at R2
      refine ⟨irows, Rf, p2, core2, hR, by rw [hes]; exact R1, Rp, by rw [h16] at Rl; exact Rl, R3, ?_, fun x y => ?_⟩
      · rw [R2]; exact picItems_w irows (freshScreen p.w H) rfl (by show 0 < p.w; omega) (by show p.w ≤ 100000; omega) hfits
      · rw [R2]
        exact (picItems_view irows (freshScreen p.w H) rfl (by show 0 < p.w; omega) (by show p.w ≤ 100000; omega) hfits x y).trans
          (itemsShown_fresh irows (freshScreen p.w H) rfl rfl x y)
    | true =>
      obtain ⟨irows, Rf, p2, core2, hR, R1, Rp, Rl, R2, R3⟩ := rows_longerG o (skipFn skip) p.pal p.ice (decide (p.ice = .ice)) p.w p.rows.length
        (hlh hl) hl hread hmono p.rows frows ansiState0 (defaultAttr, dosPalette) 0 true 0 p1 core1 hfull hdom hrel hcinv
        (fun _ => rfl) (by omega) hfonts
      have hes : effSkip o skip = skipFn skip := by funext y; simp [effSkip, hl]
      have hfits := R1.fits (hskips _) hlen
      rw [hscr1] at R2
      refine ⟨irows, Rf, p2, core2, hR, by rw [hes]; exact R1, Rp, by rw [h16] at Rl; exact Rl, R3, ?_, fun x y => ?_⟩
      · rw [R2.w, picItemsL_w]; rfl
      · rw [R2.lines]
        exact (picItemsL_view irows 0 (freshScreen p.w H) (by show 0 < p.w; omega) (by show p.w ≤ 100000; omega) hfits x y).trans
          (itemsShown_fresh irows (freshScreen p.w H) rfl rfl x y)
  obtain ⟨irows, Rf, p2, core2, hR, R1, Rp, Rl, R3, W, V⟩ := hrows
  rw [ansiRun_append_of_eq hR]
  obtain ⟨e1, ens, epal⟩ := ansi_end_core p.ice p2 core2 R3.base.ns R3.base.ag
  exact ⟨irows, Rf.2, _, rfl, R1, DosPre.mono dosPre_refl Rp, Rl, ens, epal.trans R3.pal, by rw [e1]; exact W, fun x y => by rw [e1]; exact V x y⟩

/-- the loaded palette of a picture of at most 10^6 rows is far below 2^31 entries: its indices are palette indices for `get_rgb` -/
theorem pf_small {p : Pic} {Pf : List Rgb} (hw2 : p.w ≤ 132) (hrows : p.rows.length ≤ 1000000)
    (hlen : Pf.length ≤ 16 + 2 * p.w * p.rows.length) : Pf.length ≤ 2147483648 := by
  have h1 : 2 * p.w * p.rows.length ≤ 2 * 132 * 1000000 := Nat.mul_le_mul (Nat.mul_le_mul_left 2 hw2) hrows
  omega

end IcyVerif.C04
