import IcyVerif.Lemmas.ArtFormats
/-! # ATASCII: inverse video is bit 7, rows end with EOL (155) — C15 -/
namespace IcyVerif.ArtIO
open IcyVerif.Gen.Art

/-- what the ATASCII loader makes of a cell: the character, and inverse video (background > 0) as black on white -/
def ataImg (c : Cell) : Cell :=
  ⟨c.ch, ⟨if 0 < c.attr.bg then 0 else 7, if 0 < c.attr.bg then 7 else 0, Flags.none⟩⟩

/-- seven-bit characters (bit 7 is the inverse-video flag) that are no control codes of the ATASCII reader: 27 ESC, 28–31 cursor
    keys, 125 clear, 126 backspace, 127 tab -/
def AtaDom (c : Cell) : Prop :=
  c.ch < 128 ∧ c.ch ≠ 27 ∧ c.ch ≠ 28 ∧ c.ch ≠ 29 ∧ c.ch ≠ 30 ∧ c.ch ≠ 31 ∧ c.ch ≠ 125 ∧ c.ch ≠ 126 ∧ c.ch ≠ 127

def AtaR (_ : Unit) (r : RS) : Prop := r.core.stuck = false ∧ r.ataEsc = false ∧ r.core.attr.fl = Flags.none

theorem ataStep_print (c : Core) (v : Nat) (inv : Prop) [Decidable inv] (ns : c.stuck = false) (hv : v < 128)
    (hd : v ≠ 27 ∧ v ≠ 28 ∧ v ≠ 29 ∧ v ≠ 30 ∧ v ≠ 31 ∧ v ≠ 125 ∧ v ≠ 126 ∧ v ≠ 127) :
    ataStep false c (if inv then v + 128 else v) =
      (false, ({ c with attr := { c.attr with fg := if inv then 0 else 7, bg := if inv then 7 else 0 } } : Core).printValue v) := by
  unfold ataStep
  -- the tests the byte passes, in the order of `ataStep`: stuck, a pending ESC, ESC (27), clear (125), EOL (155), the ignored codes
  -- (127, 158, 159, 253), the cursor / edit codes outside the sub-language (28–31, 126, 156, 157, 254, 255); then bit 7 decides
  by_cases h : inv
  · simp only [if_pos h]
    rw [if_neg (by rw [ns]; decide), if_neg (by decide), if_neg (by omega), if_neg (by omega), if_neg (by omega), if_neg (by omega), if_neg (by omega),
      Nat.mod_eq_of_lt (by omega), if_pos (by omega), Nat.add_sub_cancel]
  · simp only [if_neg h]
    rw [if_neg (by rw [ns]; decide), if_neg (by decide), if_neg (by omega), if_neg (by omega), if_neg (by omega), if_neg (by omega), if_neg (by omega),
      Nat.mod_eq_of_lt (by omega), if_neg (by omega)]

theorem ata_cell (s : Unit) (r : RS) (c : Cell) (hR : AtaR s r) (hd : AtaDom c) :
    ∃ b s', ataEmit s c = some (b, s') ∧ AtaR s' (b.foldl (step .atascii) r) ∧
      (b.foldl (step .atascii) r).core.scr = r.core.scr.put (ataImg c) := by
  obtain ⟨h128, hd⟩ := hd
  obtain ⟨ns, he, hfl⟩ := hR
  have hemit : ataEmit s c = some ([if 0 < c.attr.bg then c.ch + 128 else c.ch], ()) := by
    unfold ataEmit
    simp only []
    rw [Nat.mod_eq_of_lt (by omega), if_neg (by omega)]
    have hesc : atasciiEscaped.contains (if 0 < c.attr.bg then c.ch + 128 else c.ch) = false := by
      split <;> simp [atasciiEscaped] <;> omega
    rw [hesc]; rfl
  have e : [if 0 < c.attr.bg then c.ch + 128 else c.ch].foldl (step .atascii) r =
      { r with ataEsc := false, core := { r.core with attr := (ataImg c).attr, scr := r.core.scr.put (ataImg c) } } := by
    show step .atascii r _ = _
    unfold step
    simp only []
    rw [he, ataStep_print r.core c.ch (0 < c.attr.bg) ns h128 hd, Core.printValue_scalar _ (by omega)]
    simp only [ataImg, hfl]
  refine ⟨_, (), hemit, ?_, ?_⟩ <;> rw [e]
  exact ⟨ns, rfl, rfl⟩

theorem ata_eol (s : Unit) (r : RS) (hR : AtaR s r) :
    AtaR s ([atasciiEol].foldl (step .atascii) r) ∧ ([atasciiEol].foldl (step .atascii) r).core.scr = r.core.scr.exec Op.nl := by
  obtain ⟨ns, he, hfl⟩ := hR
  have e : [atasciiEol].foldl (step .atascii) r = { r with core := { r.core with scr := r.core.scr.lf } } := by
    simp [atasciiEol, step, ataStep, ns, he]
  rw [e]
  exact ⟨⟨ns, he, hfl⟩, rfl⟩

end IcyVerif.ArtIO
