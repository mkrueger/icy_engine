import IcyVerif.Lemmas.TermStep
import IcyVerif.Model.TermWrap
/-! # Avatar, PCBoard, Ctrl-A, Renegade: what an arm of a wrapper does to the wrapped ANSI state (`WEff`)
Hence whatever the ANSI machine keeps (`StepInv`) the wrappers keep. -/
namespace IcyVerif.Term

abbrev GoodW (r : WSt × Out) : Prop := GoodSt r.1.inner

def winner (r : WR) : R :=
  match r with
  | .ok (w, out) => .ok (w.inner, out)
  | .error e => .error e

/-- What one arm of a wrapper does to the ANSI state `w.inner`: what an arm of the ANSI parser may do (`Eff`, without
    macro calls), or the character (or `^A`) goes to the ANSI parser, or Avatar's repeat.  `x` is `w` after the arm has set
    its own fields (sequence flag, Avatar's sub-state), which it does before it calls the ANSI parser. -/
inductive WEff (o : Nat → Orc) (w : WSt) : WR → Prop
  | arm (r : WR) (h : Eff (fun _ st => .ok st) w.inner (winner r)) : WEff o w r
  | ansi (x : WSt) (ch : Char) (hx : x.inner = w.inner) : WEff o w (inner x o ch)
  | rep (x : WSt) (ch : Char) (n : Nat) (hx : x.inner = w.inner) :
      WEff o w (match avtRepeat o ch n x with
        | .ok (w', .err) => .ok (w', .err)
        | .ok (w', _) => .ok ({ w' with avt := .chars }, .ok)
        | .error e => .error e)
  | ctrlA (x : WSt) (hx : x.inner = w.inner) :
      WEff o w (match step wcfg o x.inner '\x01' with
        | .ok (st, _) => .ok ({ x with inner := st }, .ok)
        | .error e => .error e)

section
variable {o : Nat → Orc} {w : WSt}

theorem WEff.ite {c : Prop} [Decidable c] {a b : WR}
    (ha : c → WEff o w a) (hb : ¬ c → WEff o w b) : WEff o w (if c then a else b) := iteInduction ha hb

theorem WEff.move (x : WSt) (out : Out) (c' : Car) (hc : Moved w.inner.c w.inner.s c')
    (hx : x.inner = { w.inner with c := c' }) : WEff o w (.ok (x, out)) := by
  refine .arm _ ?_
  show Eff _ w.inner (ret x.inner out)
  rw [hx]; exact .upd _ _ _ _ .same hc ⟨rfl, rfl, rfl, .same⟩

theorem WEff.keep (x : WSt) (out : Out) (hx : x.inner = w.inner) : WEff o w (.ok (x, out)) :=
  .move x out _ .same hx

theorem WEff.clear (x : WSt) (out : Out) (s' : Scr) (hs : Cleared w.inner.s s')
    (hx : x.inner = { w.inner with s := s', c := ⟨0, 0, w.inner.c.ins⟩ }) : WEff o w (.ok (x, out)) := by
  refine .arm _ ?_
  show Eff _ w.inner (ret x.inner out)
  rw [hx]; exact .clear _ _ _ _ hs ⟨rfl, rfl, rfl, .same⟩

theorem WEff.limit (x : WSt) (c : Car) (out : Out) (hx : x.inner = w.inner) :
    WEff o w (wlimit x c out) := by
  refine .arm _ ?_
  have : winner (wlimit x c out) = liftC x.inner (Term.limit x.inner.s c) out := by
    unfold wlimit; cases Term.limit x.inner.s c <;> rfl
  rw [this, hx]; exact .clamp _ _ _ ⟨rfl, rfl, rfl, .same⟩

end

theorem avatarStep_eff (w : WSt) (o : Nat → Orc) (ch : Char) : WEff o w (avatarStep w o ch) := by
  unfold avatarStep
  simp only []
  split
  · -- plain characters: form feed; ^Y and ^V open a sequence; anything else goes to the ANSI parser
    refine .ite (fun _ => .clear _ _ _ .ff rfl) fun _ => .ite (fun _ => .keep _ _ rfl) fun _ => ?_
    exact .ite (fun _ => .keep _ _ rfl) fun _ => .ansi _ _ rfl
  · -- the command after ^V: 1, 2 colour; 3, 4 up / down; 5, 6 left / right; 7, 8 and the unknown ones
    refine .ite (fun _ => .keep _ _ rfl) fun _ => .ite (fun _ => .keep _ _ rfl) fun _ => ?_
    refine .ite (fun _ => .limit _ _ _ rfl) fun _ => .ite (fun _ => .limit _ _ _ rfl) fun _ => ?_
    refine .ite (fun _ => .move _ _ _ .back rfl) fun _ => .ite (fun _ => .move _ _ _ .fwd rfl) fun _ => ?_
    exact .ite (fun _ => .keep _ _ rfl) fun _ => .ite (fun _ => .keep _ _ rfl) fun _ => .keep _ _ rfl
  · -- ^Y: the character, then the count and the repetition
    exact .ite (fun _ => .keep _ _ rfl) fun _ => .ite (fun _ => .rep _ _ _ rfl) fun _ => .keep _ _ rfl
  · -- the colour byte
    exact .keep _ _ rfl
  · -- ^V ^H: the row, then the column and the move
    exact .ite (fun _ => .keep _ _ rfl) fun _ => .ite (fun _ => .limit _ _ _ rfl) fun _ => .keep _ _ rfl

theorem pcboardStep_eff (w : WSt) (o : Nat → Orc) (ch : Char) : WEff o w (pcboardStep w o ch) := by
  unfold pcboardStep
  refine .ite (fun _ => .ite (fun _ => .keep _ _ rfl) fun _ => .keep _ _ rfl) fun _ => ?_
  refine .ite (fun _ => .ite (fun _ => .keep _ _ rfl) fun _ => .ite (fun _ => .keep _ _ rfl) fun _ => .keep _ _ rfl) fun _ => ?_
  exact .ite (fun _ => .keep _ _ rfl) fun _ => .ansi _ _ rfl

theorem renegadeStep_eff (w : WSt) (o : Nat → Orc) (ch : Char) : WEff o w (renegadeStep w o ch) := by
  unfold renegadeStep
  refine .ite (fun _ => .ite (fun _ => .keep _ _ rfl) fun _ => .ansi _ _ rfl) fun _ => ?_
  exact .ite (fun _ => .ite (fun _ => .keep _ _ rfl) fun _ => .keep _ _ rfl) fun _ =>
    .ite (fun _ => .keep _ _ rfl) fun _ => .keep _ _ rfl

theorem ctrlaStep_eff (w : WSt) (o : Nat → Orc) (ch : Char) : WEff o w (ctrlaStep w o ch) := by
  unfold ctrlaStep
  -- outside a sequence: ^A opens one, anything else goes to the ANSI parser
  refine .ite (fun _ => ?_) fun _ => .ite (fun _ => .keep _ _ rfl) fun _ => .ansi _ _ rfl
  -- after ^A: `L` clears, `'` goes home; `<` goes left, `|` to column 0
  refine .ite (fun _ => .clear _ _ _ .cs rfl) fun _ => .ite (fun _ => .move _ _ _ (.home _) rfl) fun _ => ?_
  refine .ite (fun _ => .limit _ _ _ rfl) fun _ => .ite (fun _ => .move _ _ _ .col0 rfl) fun _ => ?_
  -- `]` goes down; `A` prints ^A through the ANSI parser
  refine .ite (fun _ => .limit _ _ _ rfl) fun _ => .ite (fun _ => .ctrlA _ rfl) fun _ => ?_
  -- the codes without effect and the colours; a byte from 128 on moves right
  refine .ite (fun _ => .keep _ _ rfl) fun _ => .ite (fun _ => .keep _ _ rfl) fun _ => ?_
  exact .ite (fun _ => .limit _ _ _ rfl) fun _ => .keep _ _ rfl

theorem wstep_eff (e : Emu) (o : Nat → Orc) (w : WSt) (ch : Char) : WEff o w (wstep e o w ch) := by
  unfold wstep
  refine .ite (fun _ => .arm _ (.overflow _)) fun _ => ?_
  cases e with
  | avatar => exact avatarStep_eff w o ch
  | pcboard => exact pcboardStep_eff w o ch
  | ctrla => exact ctrlaStep_eff w o ch
  | renegade => exact renegadeStep_eff w o ch

section
variable {E : Panic → Prop} {P : St → Prop} {o : Nat → Orc}

theorem inner_holds (hstep : ∀ st ch, P st → Holds E (step wcfg o st ch) (fun r => P r.1)) (w : WSt) (ch : Char)
    (h : P w.inner) : Holds E (inner w o ch) (fun r => P r.1.inner) := by
  unfold inner
  have hs := hstep w.inner ch h
  generalize step wcfg o w.inner ch = x at hs ⊢
  rcases x with e | ⟨st, out⟩ <;> exact hs

theorem avtRepeat_holds (hstep : ∀ st ch, P st → Holds E (step wcfg o st ch) (fun r => P r.1)) (ch : Char) :
    ∀ (n : Nat) (w : WSt), P w.inner → Holds E (avtRepeat o ch n w) (fun r => P r.1.inner) := by
  intro n
  induction n with
  | zero => intro w h; exact h
  | succ n ih =>
    intro w h
    unfold avtRepeat
    have hs := hstep w.inner ch h
    generalize step wcfg o w.inner ch = x at hs ⊢
    rcases x with e | ⟨st, _ | _ | _⟩
    · exact hs
    · exact ih _ hs
    · exact hs
    · exact ih _ hs

theorem WEff.holds {w : WSt} {r : WR} (h : WEff o w r)
    (hstep : ∀ st ch, P st → Holds E (step wcfg o st ch) (fun r => P r.1))
    (harm : ∀ r, Eff (fun _ st => .ok st) w.inner r → Holds E r (fun r => P r.1)) (hP : P w.inner) :
    Holds E r (fun r => P r.1.inner) := by
  cases h with
  | arm r h =>
    have hr := harm _ h
    rcases r with e | x <;> exact hr
  | ansi x ch hx => exact inner_holds hstep x ch (hx ▸ hP)
  | rep x ch n hx =>
    have hr := avtRepeat_holds hstep ch n x (hx ▸ hP)
    generalize avtRepeat o ch n x = y at hr ⊢
    rcases y with e | ⟨w', _ | _ | _⟩ <;> exact hr
  | ctrlA x hx =>
    have hs := hstep x.inner '\x01' (hx ▸ hP)
    generalize step wcfg o x.inner '\x01' = y at hs ⊢
    rcases y with e | ⟨st, out⟩ <;> exact hs

theorem wstep_holds (hP : StepInv E P) (e : Emu) (o : Nat → Orc) (w : WSt) (ch : Char) (h : P w.inner) :
    Holds E (wstep e o w ch) (fun r => P r.1.inner) := by
  by_cases hr : RangeOk w.inner.s w.inner.c
  · exact (wstep_eff e o w ch).holds (fun st ch hs => step_holds hP wcfg o st ch hs)
      (fun r he => hP.arm he hr (fun _ _ hd => hd) h) h
  · unfold wstep; rw [if_pos hr]; exact hP.ov _

theorem wrun_holds (hP : StepInv E P) (e : Emu) (o : Nat → Orc) :
    ∀ (cs : List Char) (w : WSt), P w.inner → Holds E (wrun e o w cs) (fun w' => P w'.inner) := by
  intro cs
  induction cs with
  | nil => intro w h; exact h
  | cons ch rest ih =>
    intro w h
    unfold wrun
    have h2 := wstep_holds hP e o w ch h
    generalize wstep e o w ch = x at h2 ⊢
    rcases x with e | ⟨w', out⟩
    · exact h2
    · exact ih w' h2
end

theorem wok_good (w : WSt) (out : Out) (h : GoodSt w.inner) : okOrOv (.ok (w, out) : WR) GoodW := h

theorem wstep_good (e : Emu) (o : Nat → Orc) (w : WSt) (ch : Char) (h : GoodSt w.inner) :
    Holds IsOv (wstep e o w ch) GoodW := wstep_holds goodSt_inv e o w ch h

theorem wrun_good (e : Emu) (o : Nat → Orc) (cs : List Char) (w : WSt) (h : GoodSt w.inner) :
    Holds IsOv (wrun e o w cs) (fun w' => GoodSt w'.inner) := wrun_holds goodSt_inv e o cs w h

end IcyVerif.Term
