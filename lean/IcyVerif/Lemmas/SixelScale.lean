import IcyVerif.Lemmas.Sixel
/-! The two scale fields never influence the decoder: the machine run from two states that differ only in
    `vscale` / `hscale` ends in states that differ only there (same rows, same errors, same panics).  Hence the
    picture `Sixel::parse_from` returns does not depend on the scales the terminal passes. -/
namespace IcyVerif.Sixel

def strip (s : St) : St := { s with vscale := 0, hscale := 0 }

/-- equal up to the scale fields -/
def SE (a b : Out St) : Prop := mapOut strip a = mapOut strip b

theorem strip_strip (s : St) : strip (strip s) = strip s := rfl

theorem mapOut_ok (f : α → β) (a : α) : mapOut f (.ok a) = .ok (f a) := rfl
theorem mapOut_err (f : α → β) (e : Err) : mapOut f (.err e : Out α) = .err e := rfl
theorem mapOut_panic (f : α → β) (p : Site) : mapOut f (.panic p : Out α) = .panic p := rfl
theorem mapOut_huge (f : α → β) : mapOut f (.huge : Out α) = .huge := rfl

theorem se_refl (a : Out St) : SE a a := rfl

/-- a step function that reads no scale -/
def Blind (f : St → Out St) : Prop := ∀ s, SE (f s) (f (strip s))

theorem blind_of_eq {f : St → Out St} (h : Blind f) {s t : St} (e : strip s = strip t) : SE (f s) (f t) := by
  unfold SE
  rw [h s, h t, e]

/-! `SE` is a congruence for the constructions the machine is written with.  The conditions of the model read no scale,
    so both sides branch alike (`c` below is the condition on `s`, which is the condition on `strip s` by `rfl`), and
    no update reads one: the leaves `.ok { s with … }` are related by `rfl`. -/

theorem se_ite {c : Prop} {inst : Decidable c} {a a' b b' : Out St} (ha : c → SE a a') (hb : ¬ c → SE b b') :
    SE (@ite _ c inst a b) (@ite _ c inst a' b') := by
  by_cases h : c
  · rw [if_pos h, if_pos h]; exact ha h
  · rw [if_neg h, if_neg h]; exact hb h

theorem se_andThen {a b : Out St} {f : St → Out St} (h : SE a b) (hf : Blind f) : SE (a.andThen f) (b.andThen f) := by
  cases a with
  | ok s =>
    cases b with
    | ok t => exact blind_of_eq hf (Out.ok.inj h)
    | _ => cases h
  | _ =>
    cases b with
    | ok t => cases h
    | _ => exact h

theorem se_bind {α : Type} (o : Out α) {k k' : α → Out St} (h : ∀ a, SE (k a) (k' a)) : SE (o.andThen k) (o.andThen k') := by
  cases o with
  | ok a => exact h a
  | err e => rfl
  | panic p => rfl
  | huge => rfl

-- the four guards of `translate`, the resize, the pixel loop, the `x + 1` check
theorem translate_blind (ch : Char) : Blind (fun s => translate s ch) := fun _ =>
  se_ite (fun _ => rfl) fun _ => se_ite (fun _ => rfl) fun _ => se_ite (fun _ => rfl) fun _ => se_ite (fun _ => rfl) fun _ =>
    se_bind _ fun _ => se_bind _ fun _ => se_ite (fun _ => rfl) fun _ => rfl

-- `#`, `!`, `-` (with its `i32` check), `$`, `"`, above 0x7F, data
theorem sixelData_blind (ch : Char) : Blind (fun s => sixelData s ch) := fun s =>
  se_ite (fun _ => rfl) fun _ => se_ite (fun _ => rfl) fun _ => se_ite (fun _ => se_ite (fun _ => rfl) fun _ => rfl) fun _ =>
    se_ite (fun _ => rfl) fun _ => se_ite (fun _ => rfl) fun _ => se_ite (fun _ => rfl) fun _ => translate_blind ch s

theorem repeatN_blind {f : St → Out St} (hf : Blind f) (n : Nat) : Blind (repeatN f n) := by
  induction n with
  | zero => intro s; rfl
  | succ n ih =>
    intro s
    rw [repeatN_succ, repeatN_succ]
    exact se_andThen (hf s) ih

theorem colorArm_blind : Blind colorArm := by
  intro s
  have hs : setColor (strip s) = strip (setColor s) := by
    unfold setColor
    show (match s.nums.head? with | some c => _ | none => _) = _
    cases s.nums.head? <;> rfl
  unfold colorArm
  rw [hs]
  generalize setColor s = u
  by_cases h1 : u.nums.length ≤ 1
  · rw [defineColor_short h1, defineColor_short (s := strip u) h1]; rfl
  have h1' : u.nums.length > 1 := by omega
  by_cases h5 : u.nums.length ≠ 5
  · rw [defineColor_bad h1' h5, defineColor_bad (s := strip u) h1' h5]; rfl
  match hn : u.nums, Decidable.of_not_not h5 with
  | [a, b, c, d, e], _ =>
    rw [defineColor_five hn, defineColor_five (s := strip u) hn]
    exact se_ite (fun _ => rfl) fun _ => se_ite (fun _ => se_ite (fun _ => se_ite (fun _ => rfl) fun _ => rfl) fun _ => rfl) fun _ => rfl

theorem sizeArm_blind : Blind sizeArm := by
  intro s
  by_cases hl : s.nums.length < 2 ∨ s.nums.length > 4
  · rw [sizeArm_of_length hl, sizeArm_of_length (s := strip s) hl]; rfl
  match hn : s.nums with
  | [a, b] => rw [sizeArm_two hn, sizeArm_two (s := strip s) hn]; rfl
  | [a, b, h] =>
    rw [sizeArm_three hn, sizeArm_three (s := strip s) hn]
    exact se_ite (fun _ => rfl) fun _ => se_ite (fun _ => rfl) fun _ => rfl
  | [a, b, w, h] =>
    rw [sizeArm_four hn, sizeArm_four (s := strip s) hn]
    exact se_ite (fun _ => rfl) fun _ => se_ite (fun _ => rfl) fun _ => rfl
  | [] | [_] | _ :: _ :: _ :: _ :: _ :: _ => rw [hn] at hl; simp only [List.length_cons, List.length_nil] at hl; omega

theorem parseChar_blind (ch : Char) : Blind (fun s => parseChar s ch) := by
  intro s
  show SE (parseChar s ch) (parseChar (strip s) ch)
  have hst : (strip s).state = s.state := rfl
  unfold parseChar
  rw [hst]
  cases s.state with
  | read => exact sixelData_blind ch s
  | readColor =>
    exact se_ite (fun _ => rfl) fun _ => se_ite (fun _ => rfl) fun _ => se_andThen (colorArm_blind s) (sixelData_blind ch)
  | readSize =>
    exact se_ite (fun _ => rfl) fun _ => se_ite (fun _ => rfl) fun _ => se_andThen (sizeArm_blind s) (sixelData_blind ch)
  | repeat_ =>
    refine se_ite (fun _ => rfl) fun _ => ?_
    show SE (match s.nums.head? with | some n => _ | none => _) (match s.nums.head? with | some n => _ | none => _)
    cases s.nums.head? with
    | none => rfl
    | some n =>
      exact se_ite (fun _ => rfl) fun _ => se_andThen (repeatN_blind (sixelData_blind ch) n s) fun _ => rfl

theorem run_blind (cs : List Char) : Blind (fun s => run s cs) := by
  induction cs with
  | nil => intro s; rfl
  | cons c cs ih =>
    intro s
    show SE (run s (c :: cs)) (run (strip s) (c :: cs))
    rw [run_cons, run_cons]
    exact se_andThen (parseChar_blind c s) ih

theorem mapOut_mapOut {α β γ : Type} (f : β → γ) (g : α → β) (o : Out α) :
    mapOut f (mapOut g o) = mapOut (fun a => f (g a)) o := by
  cases o <;> rfl

theorem se_mapOut {β : Type} {a b : Out St} (h : SE a b) (f : St → β) (hf : ∀ s, f (strip s) = f s) :
    mapOut f a = mapOut f b := by
  have := congrArg (mapOut f) h
  simpa only [mapOut_mapOut, hf] using this

/-- **The picture does not depend on the scales**: `Sixel::parse_from` with any `horizontal_scale` /
    `vertical_scale` returns the picture (sizes, byte count), the error or the panic of `parse` -/
theorem decode_img (hs vs : Nat) (payload : List Char) :
    mapOut (·.img) (decode hs vs payload) = parse payload :=
  (mapOut_mapOut _ _ _).trans
    (se_mapOut (blind_of_eq (run_blind (payload ++ ['#'])) (s := { hscale := hs, vscale := vs }) (t := {}) rfl) finish
      fun _ => rfl)

end IcyVerif.Sixel
