import IcyVerif.Lemmas.IgsKeeps
/-! The IGS `DrawExecutor` model: `flood_fill` (a stack of cells, four neighbours pushed per
coloured cell) ends.  Measure: 4 x (cells that still have the old colour) + stack size; it drops by one with every
cell popped.  So the fuel `4 * width * height + 2` of the model is never used up: at most that many cells are popped,
whatever the seed. -/
namespace IcyVerif.IgsPaint

def cntOld (old : Nat) (p : Paint) : Nat := p.screen.toList.count old

theorem cntOld_le (old : Nat) (p : Paint) : cntOld old p ≤ p.screen.size := by
  unfold cntOld
  have := List.count_le_length (a := old) (l := p.screen.toList)
  simpa using this

/-- a cell of the screen: `get_pixel` reads it, `set_pixel` writes it, no panic -/
theorem pixel_at (p : Paint) (hr : p.res < 3) (hs : p.screen.size = (resW p * resH p).toNat) (x y : Int)
    (hx : 0 ≤ x ∧ x < resW p) (hy : 0 ≤ y ∧ y < resH p) (c : Nat) :
    (y * resW p + x).toNat < p.screen.size ∧ getPixel p x y = .ok (p.screen.getD (y * resW p + x).toNat 0) ∧
      setPixel p x y c = .ok { p with screen := p.screen.setIfInBounds (y * resW p + x).toNat c } := by
  obtain ⟨hw, hh⟩ := resWH p hr
  have hoff : 0 ≤ y * resW p + x ∧ y * resW p + x < (p.screen.size : Int) := by
    rw [hs]
    rcases hw with h | h <;> rcases hh with g | g <;> rw [h, g] <;> rw [h] at hx <;> rw [g] at hy <;> omega
  have hoffs := offsetOf_ok p hr x y (by rcases hw with h | h <;> rw [h] at hx <;> omega) (by rcases hh with g | g <;> rw [g] at hy <;> omega)
  refine ⟨by omega, ?_, ?_⟩
  · unfold getPixel
    rw [hoffs, ok_bind, if_pos hoff]
    rfl
  · unfold setPixel
    rw [hoffs, ok_bind, if_pos hoff]
    rfl

theorem cntOld_set (old col : Nat) (hne : col ≠ old) (p : Paint) (i : Nat) (hi : i < p.screen.size) (hv : p.screen.getD i 0 = old) :
    cntOld old { p with screen := p.screen.setIfInBounds i col } + 1 = cntOld old p := by
  unfold cntOld
  simp only []
  rw [Array.toList_setIfInBounds]
  have hl : i < p.screen.toList.length := by simpa using hi
  rw [List.count_set hl]
  have hget : p.screen.toList[i] = old := by
    have : p.screen.getD i 0 = p.screen[i] := by simp [Array.getD, hi]
    rw [this] at hv
    simpa using hv
  have hpos : 0 < List.count old p.screen.toList := by
    apply List.count_pos_iff.mpr
    rw [← hget]
    exact List.getElem_mem hl
  have h1 : (p.screen.toList[i] == old) = true := by simp [hget]
  have h2 : (col == old) = false := by simp [hne]
  simp only [h1, h2, if_true, Bool.false_eq_true, if_false]
  omega

/-- the measure: 4 x (cells still holding `old`) + stack size drops with every cell popped -/
theorem floodLoop_total (old col : Nat) (hne : col ≠ old) : ∀ (fuel : Nat) (st : List (Int × Int)) (p : Paint), p.res < 3 →
    p.screen.size = (resW p * resH p).toNat → 4 * cntOld old p + st.length ≤ fuel → (floodLoop old col fuel st p).Tot fun _ => True
  | _, [], p, _, _, _ => by unfold floodLoop; exact .ok trivial
  | 0, _ :: _, _, _, _, hm => by simp at hm
  | k + 1, (x, y) :: t, p, hr, hs, hm => by
    simp only [List.length_cons] at hm
    unfold floodLoop
    -- a cell outside the screen is dropped, and so is one that does not hold the old colour: the stack shrinks
    refine .ite (fun _ => floodLoop_total old col hne k t p hr hs (by omega)) fun hout => ?_
    obtain ⟨hlt, hget, hset⟩ := pixel_at p hr hs x y (by omega) (by omega) col
    refine Res.Tot.bind (P := (· = p.screen.getD (y * resW p + x).toNat 0)) ⟨_, hget, rfl⟩ fun _ e => ?_
    subst e
    refine .ite (fun _ => floodLoop_total old col hne k t p hr hs (by omega)) fun hcp => ?_
    -- the cell is recoloured: one cell less holds `old`, and that pays for the four neighbours pushed
    have hc := cntOld_set old col hne p (y * resW p + x).toNat hlt (by simpa using hcp)
    obtain ⟨hw, hh⟩ := resWH p hr
    refine Res.Tot.bind (P := (· = { p with screen := p.screen.setIfInBounds (y * resW p + x).toNat col })) ⟨_, hset, rfl⟩ fun _ e => ?_
    subst e
    refine .chk (by omega) <| .chk (by omega) <| .chk (by omega) <| .chk (by omega) ?_
    exact floodLoop_total old col hne k _ _ hr (by show (p.screen.setIfInBounds _ col).size = _; rw [Array.size_setIfInBounds]; exact hs)
      (by simp only [List.length_cons]; omega)

theorem floodFill_paints (p : Paint) (x0 y0 : Int) : Paints p (p.screen.size = (resW p * resH p).toNat) (floodFill p x0 y0) where
  sat := floodFill_step
  total hr hs := by
    unfold floodFill
    refine Res.Tot.returns (P := fun _ => True) (.ite (fun _ => .ok trivial) fun hout => ?_)
    obtain ⟨_, hget, _⟩ := pixel_at p hr hs x0 y0 (by omega) (by omega) 0
    refine Res.Tot.bind (P := (· = p.screen.getD (y0 * resW p + x0).toNat 0)) ⟨_, hget, rfl⟩ fun _ e => ?_
    subst e
    refine .ite (fun _ => .ok trivial) fun he => floodLoop_total _ _ (fun h => he h.symm) _ _ p hr hs ?_
    -- at most every cell holds the old colour: the fuel `4 * width * height + 2` covers the measure
    have := cntOld_le (p.screen.getD (y0 * resW p + x0).toNat 0) p
    simp only [List.length_cons, List.length_nil]
    rw [hs] at this
    omega

end IcyVerif.IgsPaint
