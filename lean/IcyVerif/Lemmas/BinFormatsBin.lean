import IcyVerif.Lemmas.BinFormatsSauce
/-!
# C05, BIN: save → load reproduces every representable picture
-/
namespace IcyVerif.BinFormats
open IcyVerif.XbCompress IcyVerif.Gen

theorem bin_load (p : Pic) (s : Sauce.Sauce) (hwf : wellFormed p = true) (hw1 : 1 ≤ p.w) (hw2 : p.w ≤ 1000)
    (hsw : s.width = p.w) (hsi : s.ice = (p.ice == .ice))
    (hcells : allCells p (attrCell (p.ice == .ice)) = true) (hpages : analyzeFontUsage p.rows.flatten = [0]) :
    binLoad (p.rows.flatMap fun row => row.flatMap fun c => [c.ch % 256, asU8' p.ice c.attr]) (some s) =
      .ok (shownBuf p p.w (if s.ice then .ice else .unlimited) dosPalette (startFonts s) (some (metaOf s))) := by
  have hdec : ∀ r ∈ p.rows, ∀ c ∈ r,
      (⟨c.ch % 256, fromU8' (if (p.ice == IceMode.ice) then IceMode.ice else IceMode.unlimited) (asU8' p.ice c.attr)⟩ : Cell) = shownCell c := by
    intro r hr c hc
    have hac : attrCell (p.ice == IceMode.ice) c = true := allCells_mem hcells hr hc
    have hp0 := page_zero p.rows hpages r hr c hc
    have hch : c.ch % 256 = c.ch := by
      have : c.ch ≤ 255 := by unfold attrCell at hac; simp only [Bool.and_eq_true, decide_eq_true_eq] at hac; exact hac.1.1
      omega
    rw [hch]
    cases hice : p.ice with
    | ice => rw [hice] at hac; exact dec_ice c hac hp0
    | blink => rw [hice] at hac; exact dec_blink c hac hp0
    | unlimited => rw [hice] at hac; exact dec_unl c hac hp0
  unfold binLoad
  rw [show (BinFmt.binClearsRows == 1) = true from rfl, start_setSauce _ _ s (by omega) (by omega), hsw, hsi]
  dsimp only
  rw [flatMap_rows, pairsOf_flat, map_dec_enc p.rows (fun c => (c.ch % 256, asU8' p.ice c.attr)) _ hdec,
    placeAll_shown true false p hwf hw1 _ rfl (Nat.le_refl _) (Or.inl rfl)]
  simp [shownBuf]

theorem binSave_eq (s : Bool) (date : List Nat) (p : Pic) : binSave s date p = withSauce s .bin p date (binSave false date p) :=
  show Sauces s .bin p date _ _ from .ite .err (.leaf _)

theorem binSave_ok_iff (date : List Nat) (p : Pic) (body : List Nat) :
    binSave false date p = .ok body ↔
      p.w % 2 = 0 ∧ body = p.rows.flatMap fun row => row.flatMap fun c => [c.ch % 256, asU8' p.ice c.attr] := by
  unfold binSave
  rw [ok_ite_err_iff]
  exact ⟨fun ⟨h, e⟩ => ⟨Decidable.not_not.mp h, (Out.ok.inj e).symm⟩, fun ⟨h, e⟩ => ⟨fun h' => h' h, e ▸ rfl⟩⟩

/-- BIN stores neither width nor mode nor font: the record says the width and mode and carries the name of font 0 -/
theorem bin_core (o : Opts) (date : List Nat) (p : Pic) (f0 : Font) (hmeta : metaOk p.sauce = true) (d : BinDom o p f0)
    (hdate : dateOk date = true) :
    ∃ bytes sc g, save .bin o date p = .ok bytes ∧ fromBytes .bin bytes = .ok g ∧ SamePicture .bin p g ∧ g.fonts = startFonts sc ∧
      sc.font = some (Sauce.strText (Sauce.carryNul (Sauce.strFrom Gen.Sauce.tinfoLen f0.name))) := by
  obtain ⟨hwf, hev, hw2, hw510, hs, hcells, hpal, hpages, hf0⟩ := d
  let body := p.rows.flatMap fun row => row.flatMap fun c => [c.ch % 256, asU8' p.ice c.attr]
  obtain ⟨bytes, hw, _, hfb⟩ := fromBytes_sauced .bin .bin p date body f0 hf0 hmeta (fun _ => by omega) hdate
  obtain ⟨c1, _, c3, _, _, c4, _⟩ := IcyVerif.C11.carry_bin (bufInfo p f0.name) (bytes.length - body.length)
  have hcw : (Sauce.carry SauceKind.bin.idx (bufInfo p f0.name) (bytes.length - body.length)).width = p.w := by
    show (Sauce.carry 7 _ _).width = p.w
    rw [c1]; show p.w / 2 * 2 = p.w; omega
  refine ⟨bytes, _, _, ?_, hfb.trans (bin_load p _ hwf (by omega) (by omega) hcw c3 hcells hpages), ?_, rfl, c4⟩
  · show binSave o.sauce date p = .ok bytes
    rw [binSave_eq, (binSave_ok_iff date p _).mpr ⟨hev, rfl⟩, hs]
    exact hw
  · have hmode : ∀ b : Bool, b = (p.ice == .ice) → isIce (if b then IceMode.ice else IceMode.unlimited) = isIce p.ice := by
      rintro _ rfl; cases p.ice <;> rfl
    rw [← hpal]
    exact samePicture_shown .bin p p.w _ _ _ hwf (Nat.le_refl _) (hmode _ c3) (fun h => absurd h (by decide))

theorem bin_roundtrip (o : Opts) (date : List Nat) (p : Pic) (hrep : Representable .bin o p = true) (hdate : dateOk date = true) :
    ∃ bytes g, save .bin o date p = .ok bytes ∧ fromBytes .bin bytes = .ok g ∧ SamePicture .bin p g := by
  obtain ⟨hmeta, f0, d⟩ := (representable_bin o p).mp hrep
  obtain ⟨bytes, _, g, h1, h2, h3, _⟩ := bin_core o date p f0 hmeta d hdate
  exact ⟨bytes, g, h1, h2, h3⟩

end IcyVerif.BinFormats
