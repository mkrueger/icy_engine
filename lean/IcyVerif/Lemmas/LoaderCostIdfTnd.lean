import IcyVerif.Lemmas.LoaderCostBase
/-! IceDraw (IDF) and Tundra loaders: `_res`, and one walk per loop: when they cannot panic (C02, through `_res`), work within the budget for
    every file (C03). -/
namespace IcyVerif.Loaders
open IcyVerif.Bytes IcyVerif.Bytes.Res IcyVerif.Gen IcyVerif.Gen.Loaders

/-- invariant of the IceDraw reader: the column stays inside the 16-bit rectangle `x1..=x2` of the header; the row is checked
    against `u16::MAX` BEFORE a cell is written and advanced by one after it, so it reaches 65536 at most -/
def IdfPos (p : Pos) : Prop := 0 ≤ p.x ∧ p.x ≤ 65535 ∧ 0 ≤ p.y ∧ p.y ≤ 65536

theorem idfAdvance_sat (x1 x2 : Int) (h1 : 0 ≤ x1 ∧ x1 ≤ 65535) (h2 : x2 ≤ 65535) (p : Pos)
    (hp : 0 ≤ p.x ∧ p.x ≤ 65535 ∧ 0 ≤ p.y ∧ p.y ≤ 65535) : (idfAdvance x1 x2 p).Sat IdfPos := by
  unfold idfAdvance IdfPos
  apply Sat.bind (chk32_sat (by omega)); intro x hx; subst hx
  refine Sat.ite (fun _ => ?_) (fun _ => ?_)
  · apply Sat.bind (chk32_sat (by omega)); intro y hy; subst hy
    simp only [sat_pure]; omega
  · simp only [sat_pure]; omega

theorem tndU32_sat (d : Bytes) (o : Nat) (h : o + 4 ≤ d.size) :
    (tndU32 d o).Sat (fun v => -2147483648 ≤ v ∧ v ≤ 2147483647) := by
  unfold tndU32
  apply Sat.bind (slice_sat (by omega)); intro _ _
  apply Sat.bind (rd_sat (by omega)); intro _ _
  apply Sat.bind (rd_sat (by omega)); intro _ _
  apply Sat.bind (rd_sat (by omega)); intro _ _
  apply Sat.bind (rd_sat (by omega)); intro _ _
  simp only [sat_pure]
  exact asI32_range _

theorem tndGeo_bw (sauce : Option (Nat × Nat)) (hs : ∀ sw sh, sauce = some (sw, sh) → sw ≤ 2147483647) :
    1 ≤ (tndGeo sauce).bw ∧ (tndGeo sauce).bw ≤ 2147483647 := by
  have hb0 := initGeo_bw 80 25 tndLinesCleared sauce (by decide)
  have hwa : tndWideAbove = 1000 := rfl
  unfold tndGeo
  cases sauce with
  | none => simp only []; omega
  | some p =>
    obtain ⟨sw, sh⟩ := p
    have := hs sw sh rfl
    simp only []
    split
    · simp only []; omega
    · omega

end IcyVerif.Loaders

namespace IcyVerif.LoaderCost
open IcyVerif.Bytes IcyVerif.Bytes.Res IcyVerif.Loaders IcyVerif.Gen IcyVerif.Gen.Loaders RC

theorem idfRunC_res (x1 x2 : Int) : ∀ n p g, (idfRunC x1 x2 n p g).res = idfRun x1 x2 n p g
  | 0, _, _ => rfl
  | n + 1, p, g => by simp only [idfRunC, idfRun, res_bind, res_tick, res_fail, ok_bind, apply_ite RC.res, res_lift, res_setCharC, idfRunC_res x1 x2 n]

theorem idfLoopC_res (d : Bytes) (ds : Nat) (x1 x2 : Int) : ∀ fuel o p g, (idfLoopC d ds x1 x2 fuel o p g).res = idfLoop d ds x1 x2 fuel o p g
  | 0, _, _, _ => by unfold idfLoopC idfLoop; exact res_ite (fun _ => rfl) (fun _ => rfl)
  | fuel + 1, _, _, _ => by
    unfold idfLoopC idfLoop
    simp only [res_bind, res_tick, ok_bind, apply_ite RC.res, res_pure, res_lift, idfRunC_res, idfLoopC_res d ds x1 x2 fuel]

theorem loadIdfC_res (d : Bytes) (sauce : Option (Nat × Nat)) : (loadIdfC d sauce).res = loadIdf d sauce := by
  unfold loadIdfC loadIdf
  simp only [res_bind, res_spend, res_fail, ok_bind, apply_ite RC.res, res_pure, res_lift, idfLoopC_res]
  rfl

theorem idfRunC_pot (x1 x2 : Int) (h1 : 0 ≤ x1 ∧ x1 ≤ 65535) (h2 : x2 ≤ 65535) :
    ∀ (n : Nat) (p : Pos) (g : Geo), IdfPos p → g.lines ≤ 65536 →
      (idfRunC x1 x2 n p g).Pot (fun _ => False) n (65536 - g.lines) 0 (fun r => IdfPos r.1 ∧ r.2.lines ≤ 65536)
        (fun _ => 0) (fun r => 65536 - r.2.lines) (fun _ => 0) := by
  intro n
  induction n with
  | zero => intro p g hp hg; exact Pot.pure ⟨hp, hg⟩
  | succ n ih =>
    intro p g hp hg
    unfold idfRunC
    unfold IdfPos at hp
    refine Pot.tick_bind (Nat.succ_pos n) (Pot.guard (fun hy => Pot.sat_bind (chk32_sat (by omega)) (fun h _ => ?_)))
    have hy' : p.y < ((65536 : Nat) : Int) := by omega
    refine Pot.setChar_bind (g := { g with lh := h, bh := h }) hg hy' (Pot.sat_bind (idfAdvance_sat x1 x2 h1 h2 p (by omega)) (fun q hq => ?_))
    exact Pot.weaken (ih q _ hq (setChar_lines_le _ p.x p.y 65536 hg hy')) (by omega)

/-- what holds at the head of every iteration of the IceDraw loop, with at most `m` bytes of the `ds` data bytes left -/
structure IdfInv (ds fuel o m : Nat) (p : Pos) (g : Geo) : Prop where
  fuel : m < fuel
  left : ds ≤ o + m
  off : o ≤ ds
  pos : IdfPos p
  /-- rows only up to the 16-bit row limit -/
  lines : g.lines ≤ 65536

/-- `while o + 1 < data_size`: every iteration consumes at least two bytes and runs at most 65535 cells -/
theorem idfLoopC_pot (d : Bytes) (ds : Nat) (hds : ds + 4 ≤ d.size) (x1 x2 : Int) (h1 : 0 ≤ x1 ∧ x1 ≤ 65535) (h2 : x2 ≤ 65535) :
    ∀ (fuel o m : Nat) (p : Pos) (g : Geo), IdfInv ds fuel o m p g →
      (idfLoopC d ds x1 x2 fuel o p g).Pot (fun _ => False) (10923 * m) (65536 - g.lines) 0 (fun r => r.1 ≤ ds) (fun _ => 0) (fun _ => 0) (fun _ => 0) := by
  intro fuel
  induction fuel with
  | zero => intro o m p g h; have := h.fuel; omega
  | succ fuel ih =>
    intro o m p g h
    obtain ⟨hf, hm, ho, hp, hg⟩ := h
    unfold idfLoopC
    refine Pot.ite (fun _ => Pot.pure ho (Nat.zero_le _) (Nat.zero_le _)) (fun hc => ?_)
    have hc' : o + 1 < ds := Decidable.not_not.mp hc
    refine Pot.tick_bind (by omega) (Pot.sat_bind (rd_sat (by omega)) (fun ch _ => Pot.sat_bind (rd_sat (by omega)) (fun attr _ => Pot.ite (fun _ => ?_) (fun _ => ?_))))
    · refine Pot.sat_bind (rdU16_sat (by omega)) (fun rle hrle => ?_)
      refine Pot.ite (fun _ => Pot.pure (by show o + 2 ≤ ds; omega) (Nat.zero_le _) (Nat.zero_le _)) (fun h3 => Pot.sat_bind (rd_sat (by omega)) (fun _ _ => Pot.sat_bind (rd_sat (by omega)) (fun _ _ => ?_)))
      -- six bytes pay for the iteration and a run of at most 65535 cells: `6 * 10923 = 1 + 65535 + 2`
      exact Pot.call (idfRunC_pot x1 x2 h1 h2 rle p g hp hg) (by omega) (fun r hr => Pot.weaken (ih (o + 2 + 2 + 2) (m - 6) r.1 r.2
        { fuel := by omega, left := by omega, off := by omega, pos := hr.1, lines := hr.2 }) (by omega) (Nat.le_refl _))
    · exact Pot.call (idfRunC_pot x1 x2 h1 h2 1 p g hp hg) (by omega) (fun r hr => Pot.weaken (ih (o + 2) (m - 2) r.1 r.2
        { fuel := by omega, left := by omega, off := by omega, pos := hr.1, lines := hr.2 }) (by omega) (Nat.le_refl _))

theorem loadIdfC_pot (d : Bytes) (sauce : Option (Nat × Nat)) :
    (loadIdfC d sauce).Spends (fun _ => False) (10923 * d.size) 65536 4144 := by
  unfold loadIdfC
  have e1 : idfHeaderSize = 12 := rfl
  have e2 : idfFontSize = 4096 := rfl
  have e3 : idfPaletteSize = 48 := rfl
  refine Pot.guard (fun hlen => Pot.sat_bind (slice_sat (by omega)) (fun _ _ => Pot.guard (fun _ => ?_)))
  refine Pot.sat_bind (rdU16_sat (by omega)) (fun x1 hx1 => Pot.sat_bind (rdU16_sat (by omega)) (fun y1 hy1 => Pot.sat_bind (rdU16_sat (by omega)) (fun x2 hx2 => Pot.guard (fun hx => ?_))))
  refine Pot.sat_bind (chk32_sat (by omega)) (fun w _ => Pot.sat_bind (usub_sat (by omega)) (fun ds1 hds1 => Pot.sat_bind (usub_sat (by omega)) (fun ds hds => ?_)))
  have hpos : IdfPos ⟨(x1 : Int), (y1 : Int)⟩ := by unfold IdfPos; simp only []; omega
  have hg0 : (initGeo 80 25 idfLinesCleared (if idfResizeToSauce then sauce else none)).lines = 0 := by
    rw [initGeo_lines]; simp [idfLinesCleared]
  refine Pot.bind_le (idfLoopC_pot d ds (by omega) x1 x2 (by omega) (by omega) (d.size + 1) 12 d.size ⟨x1, y1⟩ _
    { fuel := Nat.lt_succ_self _, left := by omega, off := by omega, pos := hpos, lines := by show (initGeo _ _ _ _).lines ≤ _; rw [hg0]; omega }) (by omega) (Nat.sub_le _ _) (Nat.zero_le _) (fun r hr => ?_)
  have hr' : r.1 + 4096 + 48 ≤ d.size := by omega
  refine Pot.sat_bind (slice_sat (by omega)) (fun _ _ => ?_)
  -- with the sum named, `omega` sees one atom and not a 4096-fold successor
  generalize hq : r.1 + idfFontSize = q
  exact Pot.sat_bind (slice_sat ⟨by omega, by omega⟩) (fun _ _ => Pot.spend_bind (by omega) (pot_done _))

theorem tndColorC_res (d : Bytes) (o : Nat) (has : Bool) (pal : Nat) : ((tndColorC d o has pal).res.bind fun r => Res.ok r.1) = tndColor d o has := by
  unfold tndColorC tndColor
  cases has with
  | true =>
    simp only [Bool.not_true, Bool.false_eq_true, if_false]
    split
    · rfl
    · simp only [res_bind, res_lift, res_spend, res_pure]
      cases rd sTnd d (o + 1) <;> try rfl
      cases rd sTnd d (o + 2) <;> try rfl
      cases rd sTnd d (o + 3) <;> rfl
  | false => rfl

/-- `bind` whose first part carries an extra component the C02 model does not have -/
theorem res_bind_fst {α β γ : Type} {x : RC (α × β)} {y : Res α} (h : (x.res.bind fun r => Res.ok r.1) = y)
    (f : α × β → RC γ) (f' : α → Res γ) (hf : ∀ r, (f r).res = f' r.1) : (x >>= f).res = y >>= f' := by
  rw [res_bind, ← h]
  cases x.res with
  | ok r => exact hf r
  | err => rfl
  | panic s => rfl

theorem tndArgsC_res (d : Bytes) (o cmd pal : Nat) :
    ((tndArgsC d o cmd pal).res.bind fun r => Res.ok r.1) =
      (if cmd > tndCmdLo ∧ cmd ≤ tndCmdHi then
          if o ≥ d.size then Res.err else do
            let _ ← rd sTnd d o
            let o ← tndColor d (o + 1) (cmd &&& tndColorFg != 0)
            tndColor d o (cmd &&& tndColorBg != 0)
        else Res.ok o) := by
  unfold tndArgsC
  split
  · split
    · rfl
    · simp only [res_bind, res_lift]
      cases rd sTnd d o with
      | ok v =>
        simp only [ok_bind]
        have h1 := tndColorC_res d (o + 1) (cmd &&& tndColorFg != 0) pal
        rw [← h1]
        cases (tndColorC d (o + 1) (cmd &&& tndColorFg != 0) pal).res with
        | ok r => exact tndColorC_res d r.1 _ r.2
        | err => rfl
        | panic s => rfl
      | err => rfl
      | panic s => rfl
  · rfl

theorem tndLoopC_res (d : Bytes) (bw : Int) : ∀ fuel o p g pal, (tndLoopC d bw fuel o p g pal).res = tndLoop d bw fuel o p g := by
  intro fuel
  induction fuel with
  | zero =>
    intro o p g pal
    unfold tndLoopC tndLoop
    exact res_ite (fun _ => rfl) (fun _ => rfl)
  | succ fuel ih =>
    intro o p g pal
    unfold tndLoopC tndLoop
    refine res_ite (fun _ => rfl) (fun _ => ?_)
    simp only [res_bind, res_tick, ok_bind, res_lift]
    congr 1; funext cmd
    refine res_ite (fun _ => ?_) (fun _ => ?_)
    · simp only [res_bind, res_fail, apply_ite RC.res, res_lift, ih]
    · refine (res_bind_fst (tndArgsC_res d (o + 1) cmd pal) _ _ ?_)
      intro r
      simp only [res_bind, res_lift, res_setCharC, ok_bind, ih]

theorem loadTndC_res (d : Bytes) (sauce : Option (Nat × Nat)) : (loadTndC d sauce).res = loadTnd d sauce := by
  unfold loadTndC loadTnd
  simp only [res_bind, res_fail, apply_ite RC.res, res_lift, tndLoopC_res]

/-- `c` bytes consumed pay `P` each: what is left for the bytes behind them, and `x <= P * c` spent now -/
theorem mul_budget (P a b c x : Nat) (h : b + c ≤ a) (hx : x ≤ P * c) : P * b + x ≤ P * a :=
  Nat.le_trans (Nat.add_le_add_left hx _) (by rw [← Nat.mul_add]; exact Nat.mul_le_mul_left P h)

/-- a colour record: the palette search costs at most `pal <= P` comparisons and is paid for by the 4 bytes it consumes -/
theorem tndColorC_pot {S : String → Prop} (d : Bytes) (P o : Nat) (has : Bool) (pal : Nat) (hP : d.size ≤ P) (hpal : pal ≤ o) (ho : o ≤ d.size) :
    (tndColorC d o has pal).Pot S 0 0 (P * (d.size - o)) (fun r => o ≤ r.1 ∧ r.1 ≤ d.size ∧ r.2 ≤ r.1)
      (fun _ => 0) (fun _ => 0) (fun r => P * (d.size - r.1)) := by
  unfold tndColorC
  refine Pot.ite (fun _ => Pot.pure ⟨Nat.le_refl _, ho, hpal⟩) (fun _ => Pot.guard (fun hlen => ?_))
  have hb := mul_budget P (d.size - o) (d.size - (o + 4)) 4 pal (by omega) (by omega)
  refine Pot.sat_bind (rd_sat (by omega)) (fun _ _ => Pot.sat_bind (rd_sat (by omega)) (fun _ _ => Pot.sat_bind (rd_sat (by omega)) (fun _ _ => Pot.spend_bind (by omega) ?_)))
  exact Pot.pure ⟨by omega, by omega, by omega⟩ (hE := by show P * (d.size - (o + 4)) ≤ _; omega)

theorem tndArgsC_pot {S : String → Prop} (d : Bytes) (P o cmd pal : Nat) (hP : d.size ≤ P) (hpal : pal ≤ o) (ho : o ≤ d.size) :
    (tndArgsC d o cmd pal).Pot S 0 0 (P * (d.size - o)) (fun r => o ≤ r.1 ∧ r.1 ≤ d.size ∧ r.2 ≤ r.1)
      (fun _ => 0) (fun _ => 0) (fun r => P * (d.size - r.1)) := by
  unfold tndArgsC
  refine Pot.ite (fun _ => Pot.guard (fun hlen => ?_)) (fun _ => Pot.pure ⟨Nat.le_refl _, ho, hpal⟩)
  have hb := mul_budget P (d.size - o) (d.size - (o + 1)) 1 0 (by omega) (Nat.zero_le _)
  refine Pot.sat_bind (rd_sat (by omega)) (fun _ _ => ?_)
  refine Pot.bind (Pot.weaken (tndColorC_pot d P (o + 1) _ pal hP (by omega) (by omega)) (hE := by omega)) (fun r hr => ?_)
  exact (tndColorC_pot d P r.1 _ r.2 hP hr.2.2 hr.2.1).imp (fun r2 hr2 => ⟨by omega, hr2.2.1, hr2.2.2⟩)

set_option linter.unusedVariables false in
/-- (says nothing; what is known of `tndU32` is `tndU32_sat`) -/
theorem tndU32_ok_any {d : Bytes} {o : Nat} {v : Int} (h : tndU32 d o = .ok v) : True := trivial

/-- what holds at the head of every iteration of the Tundra loop -/
structure TndInv (d : Bytes) (bw : Int) (B fuel o : Nat) (p : Pos) (g : Geo) (pal : Nat) : Prop where
  fuel : d.size < fuel + o
  off : o ≤ d.size
  /-- the palette holds at most one colour per byte read -/
  pal : pal ≤ o
  /-- the column is below the width, or 0 (what `advance_pos` and a position record leave) -/
  col : -2147483648 ≤ p.x ∧ (p.x < bw ∨ p.x = 0)
  /-- a position record sets the row below 65535, after that it grows by at most one per cell, and a cell consumes a byte -/
  row : -2147483648 ≤ p.y ∧ p.y ≤ 65534 + (o : Int)
  lines : g.lines ≤ B

/-- Palette searches are paid by the colour bytes (`extra <= P * |d|`).  All invariants hold whenever the operations return; that the file fits
    and the width is an `i32` is needed only for "no panic". -/
theorem tndLoopC_pot (d : Bytes) (bw : Int) (B P : Nat) (hB : 65535 + d.size ≤ B) (hP : d.size ≤ P) :
    ∀ (fuel o : Nat) (p : Pos) (g : Geo) (pal : Nat), TndInv d bw B fuel o p g pal →
      (tndLoopC d bw fuel o p g pal).Spends (Unless (FitsI32 d ∧ bw ≤ 2147483647)) (d.size - o) (B - g.lines) (P * (d.size - o)) := by
  unfold FitsI32
  intro fuel
  induction fuel with
  | zero => intro o p g pal h; have := h.fuel; have := h.off; omega
  | succ fuel ih =>
    intro o p g pal h
    obtain ⟨hf, _, hpal, hx, hy, hg⟩ := h
    unfold tndLoopC
    refine Pot.ite (fun _ => pot_done _) (fun hc => ?_)
    have ho : o < d.size := Decidable.not_not.mp hc
    refine Pot.tick_bind (by omega) (Pot.sat_bind (rd_sat ho) (fun cmd _ => Pot.ite (fun _ => Pot.guard (fun h8 => ?_)) (fun _ => ?_)))
    · have hb9 := mul_budget P (d.size - o) (d.size - (o + 1 + 8)) 9 0 (by omega) (Nat.zero_le _)
      refine Pot.sat_bind (tndU32_sat d _ (by omega)) (fun y hy' => Pot.guard (fun hy65 => Pot.sat_bind (tndU32_sat d _ (by omega)) (fun x hx' => Pot.guard (fun _ => ?_))))
      exact Pot.weaken (ih (o + 1 + 8) ⟨x, y⟩ g pal
        { fuel := by omega, off := by omega, pal := by omega, col := by show _ ≤ x ∧ (x < bw ∨ x = 0); omega
          row := by show _ ≤ y ∧ y ≤ _; omega, lines := hg }) (by omega) (hE := by omega)
    · have hb1 := mul_budget P (d.size - o) (d.size - (o + 1)) 1 0 (by omega) (Nat.zero_le _)
      refine Pot.bind_le (tndArgsC_pot d P (o + 1) cmd pal hP (by omega) (by omega)) (Nat.zero_le _) (Nat.zero_le _) (by omega) (fun op hop => ?_)
      -- the budget the recursive call needs, out of what the arguments have left
      refine Pot.weaken (W := d.size - op.1) (R := B - g.lines) (E := P * (d.size - op.1)) ?_ (by omega) (Nat.le_add_left _ _) (Nat.le_add_right _ _)
      refine Pot.lift_bind (chk32_unless (fun _ => by omega)) (fun h _ => ?_)
      have hrow : p.y < (B : Int) := by omega
      refine Pot.setChar_bind (g := { g with lh := h }) hg hrow (Pot.lift_bind (S := Unless _) (P := fun q => -2147483648 ≤ q.x ∧ (q.x < bw ∨ q.x = 0) ∧ q.y ≤ p.y + 1 ∧ p.y ≤ q.y) ?_ (fun q hq => ?_))
      · refine SatS.unless (fun hC => advance_step (by omega) (by omega)) (fun q hq => ?_)
        rcases advance_ok hq with ⟨h1, h2, h3⟩ | ⟨h1, h2, _⟩ <;> omega
      · exact ih op.1 q _ op.2
          { fuel := by omega, off := hop.2.1, pal := hop.2.2, col := ⟨hq.1, hq.2.1⟩, row := by omega, lines := setChar_lines_le _ p.x p.y B hg hrow }

theorem loadTndC_pot (d : Bytes) (sauce : Option (Nat × Nat)) :
    (loadTndC d sauce).Spends (Unless (FitsI32 d ∧ (tndGeo sauce).bw ≤ 2147483647)) d.size (65535 + d.size) (d.size * d.size) := by
  unfold loadTndC
  have h1 : tndHeader.length = 8 := rfl
  refine Pot.guard (fun hlen => Pot.sat_bind (slice_sat (by omega)) (fun _ _ => Pot.guard (fun _ => ?_)))
  have hg00 : (initGeo 80 25 tndLinesCleared sauce).lines = 0 := by rw [initGeo_lines]; simp [tndLinesCleared]
  -- the wide-SAUCE rule of the start buffer (C05 repair) changes the widths only
  have hg0 : (tndGeo sauce).lines = 0 := by
    unfold tndGeo
    dsimp only
    split
    · split
      · exact hg00
      · exact hg00
    · exact hg00
  have hm : d.size * (d.size - (1 + tndHeader.length)) ≤ d.size * d.size := Nat.mul_le_mul_left _ (Nat.sub_le _ _)
  exact Pot.weaken (tndLoopC_pot d _ (65535 + d.size) d.size (Nat.le_refl _) (Nat.le_refl _) (d.size + 1) (1 + tndHeader.length) ⟨0, 0⟩ _ 1
    { fuel := by omega, off := by omega, pal := by omega, col := ⟨by decide, Or.inr rfl⟩, row := by show _ ≤ (0 : Int) ∧ (0 : Int) ≤ _; omega
      lines := by rw [hg0]; omega }) (Nat.sub_le _ _) (Nat.sub_le _ _) hm

end IcyVerif.LoaderCost

namespace IcyVerif.Loaders
open IcyVerif.Bytes IcyVerif.Bytes.Res IcyVerif.LoaderCost

theorem loadIdf_sat (d : Bytes) (sauce : Option (Nat × Nat)) : (loadIdf d sauce).Sat (fun _ => True) :=
  loadIdfC_res d sauce ▸ (loadIdfC_pot d sauce).sat.toSat (fun _ h => h)

theorem loadTnd_sat (d : Bytes) (hd : FitsI32 d) (sauce : Option (Nat × Nat)) (hs : ∀ sw sh, sauce = some (sw, sh) → sw ≤ 2147483647) :
    (loadTnd d sauce).Sat (fun _ => True) :=
  loadTndC_res d sauce ▸ (loadTndC_pot d sauce).sat.toSat (fun _ h => h ⟨hd, (tndGeo_bw sauce hs).2⟩)

end IcyVerif.Loaders
