import IcyVerif.Model.PalStream
import IcyVerif.Lemmas.PaletteIdx
/-! Stream-level palette laws (C16): the invariant "an index that was handed out for a colour resolves to that colour",
    stability of every valid index under everything except an OSC 4 of that very index, palette growth bounds, and what
    kind of operations each decoder (SGR, `CSI t`, OSC, Tundra) can produce at all. -/
namespace IcyVerif.PalStream
open IcyVerif.Palette IcyVerif.Gen.PalStream

/-- the operation redefines palette entry `i` -/
def Op.sets (i : Nat) : Op → Prop
  | .set k _ => k = i
  | _ => False

instance (i : Nat) (op : Op) : Decidable (op.sets i) := by
  cases op <;> simp only [Op.sets] <;> infer_instance

/-- the operation is an OSC-4 style redefinition -/
def Op.isSet : Op → Bool
  | .set _ _ => true
  | _ => false

theorem not_sets_of_not_isSet {op : Op} (h : op.isSet = false) (i : Nat) : ¬ op.sets i := by
  cases op <;> simp_all [Op.isSet, Op.sets]

theorem exec_len (s : St) (op : Op) : s.pal.length ≤ (exec s op).pal.length := by
  cases op with
  | set k c => exact setColor_length_ge _ _ _
  | insFg c => exact insertColor_length_ge _ _
  | insBg c => exact insertColor_length_ge _ _
  | ins c => exact insertColor_length_ge _ _
  | _ => exact Nat.le_refl _

theorem exec_keeps {s : St} {op : Op} {i : Nat} (h : ¬ op.sets i) : Keeps i s.pal (exec s op).pal := by
  cases op with
  | set k c => exact keeps_set fun e => h e.symm
  | insFg c => exact keeps_insert
  | insBg c => exact keeps_insert
  | ins c => exact keeps_insert
  | _ => exact .refl

theorem run_cons (s : St) (op : Op) (ops : List Op) : run s (op :: ops) = run (exec s op) ops := rfl
theorem run_append (s : St) (a b : List Op) : run s (a ++ b) = run (run s a) b := by
  simp [run, List.foldl_append]

theorem run_len (ops : List Op) (s : St) : s.pal.length ≤ (run s ops).pal.length :=
  List.foldlRecOn (motive := fun t : St => s.pal.length ≤ t.pal.length) ops _ (Nat.le_refl _)
    fun b hb op _ => Nat.le_trans hb (exec_len b op)

theorem run_keeps {s : St} {ops : List Op} {i : Nat} (h : ∀ op ∈ ops, ¬ op.sets i) : Keeps i s.pal (run s ops).pal :=
  List.foldlRecOn (motive := fun t : St => Keeps i s.pal t.pal) ops _ .refl fun _ hb op ho => hb.trans (exec_keeps (h op ho))

/-- what the caret colours were last SELECTED BY COLOUR for (`none`: selected by index / reset / entry redefined since) -/
structure Want where
  fg : Option Rgb
  bg : Option Rgb

def Want.none : Want := ⟨Option.none, Option.none⟩

/-- the ghost state of the invariant: how one operation changes what the caret colours were selected for -/
def track (s : St) (w : Want) : Op → Want
  | .selFg _ => { w with fg := Option.none }
  | .selBg _ => { w with bg := Option.none }
  | .insFg c => { w with fg := some c }
  | .insBg c => { w with bg := some c }
  | .ins _ => w
  | .swap => ⟨w.bg, w.fg⟩
  | .reset => Want.none
  | .set k _ => ⟨if s.fg = k then Option.none else w.fg, if s.bg = k then Option.none else w.bg⟩
  | .put _ => w

def trackRun : St → Want → List Op → Want
  | _, w, [] => w
  | s, w, op :: ops => trackRun (exec s op) (track s w op) ops

/-- a wanted colour sits at the caret's index, inside the palette -/
def Holds (pal : List Rgb) (idx : Nat) : Option Rgb → Prop
  | Option.none => True
  | some c => idx < pal.length ∧ pal.getD idx black = c

/-- THE INVARIANT: both caret indices resolve to the colours they were handed out for -/
def Good (s : St) (w : Want) : Prop := Holds s.pal s.fg w.fg ∧ Holds s.pal s.bg w.bg

theorem Holds.keeps {p q : List Rgb} {i : Nat} {o : Option Rgb} (h : Holds p i o) (k : Keeps i p q) : Holds q i o := by
  cases o with
  | none => trivial
  | some c => exact ⟨Nat.lt_of_lt_of_le h.1 k.len, (k.get h.1).trans h.2⟩

theorem holds_insert (p : List Rgb) (c : Rgb) : Holds (insertColor p c).1 (insertColor p c).2 (some c) :=
  ⟨insertColor_idx_lt p c, insertColor_getD p c⟩

theorem holds_after_set {p : List Rgb} {i k : Nat} {o : Option Rgb} (c : Rgb) (h : Holds p i o) :
    Holds (setColor p k c) i (if i = k then Option.none else o) := by
  by_cases e : i = k
  · simp [e, Holds]
  · rw [if_neg e]; exact h.keeps (keeps_set e)

theorem good_exec (s : St) (w : Want) (op : Op) (h : Good s w) : Good (exec s op) (track s w op) := by
  obtain ⟨hf, hb⟩ := h
  cases op with
  | selFg i => exact ⟨trivial, hb⟩
  | selBg i => exact ⟨hf, trivial⟩
  | insFg c => exact ⟨holds_insert s.pal c, hb.keeps keeps_insert⟩
  | insBg c => exact ⟨hf.keeps keeps_insert, holds_insert s.pal c⟩
  | ins c => exact ⟨hf.keeps keeps_insert, hb.keeps keeps_insert⟩
  | swap => exact ⟨hb, hf⟩
  | reset => exact ⟨trivial, trivial⟩
  | set k c => exact ⟨holds_after_set c hf, holds_after_set c hb⟩
  | put t => exact ⟨hf, hb⟩

theorem trackRun_append (s : St) (w : Want) (a b : List Op) :
    trackRun s w (a ++ b) = trackRun (run s a) (trackRun s w a) b := by
  induction a generalizing s w with
  | nil => rfl
  | cons op a ih => simp only [List.cons_append, trackRun, run_cons]; exact ih _ _

theorem good_run (ops : List Op) (s : St) (w : Want) (h : Good s w) : Good (run s ops) (trackRun s w ops) := by
  induction ops generalizing s w with
  | nil => exact h
  | cons op ops ih => exact ih (exec s op) (track s w op) (good_exec s w op h)

theorem good_none (s : St) : Good s Want.none := ⟨trivial, trivial⟩

/-- the palette length an operation can force (only an OSC 4 beyond the end grows it by more than one) -/
def Op.bound : Op → Nat
  | .set k _ => k + 1
  | _ => 0

theorem exec_len_le (s : St) (op : Op) (B : Nat) (hb : op.bound ≤ B) :
    (exec s op).pal.length ≤ max s.pal.length B + 1 := by
  cases op with
  | set k c => simp only [exec, setColor_length]; simp only [Op.bound] at hb; omega
  | insFg c => have := insertColor_length_le s.pal c; simp only [exec]; omega
  | insBg c => have := insertColor_length_le s.pal c; simp only [exec]; omega
  | ins c => have := insertColor_length_le s.pal c; simp only [exec]; omega
  | _ => simp only [exec]; omega

theorem run_len_le (ops : List Op) (s : St) (B : Nat) (hb : ∀ op ∈ ops, op.bound ≤ B) :
    (run s ops).pal.length ≤ max s.pal.length B + ops.length := by
  induction ops generalizing s with
  | nil => simp [run]; omega
  | cons op ops ih =>
    have h1 := exec_len_le s op B (hb op (by simp))
    have h2 := ih (exec s op) (fun o ho => hb o (by simp [ho]))
    rw [run_cons]; simp only [List.length_cons]; omega

theorem exec_nodup (s : St) (op : Op) (hs : op.isSet = false) (h : s.pal.Nodup) : (exec s op).pal.Nodup := by
  cases op with
  | set k c => simp [Op.isSet] at hs
  | insFg c => exact insertColor_nodup s.pal c h
  | insBg c => exact insertColor_nodup s.pal c h
  | ins c => exact insertColor_nodup s.pal c h
  | _ => exact h

theorem run_nodup (ops : List Op) (s : St) (hs : ∀ op ∈ ops, op.isSet = false) (h : s.pal.Nodup) :
    (run s ops).pal.Nodup :=
  List.foldlRecOn (motive := fun t : St => t.pal.Nodup) ops _ h fun b hb op ho => exec_nodup b op (hs op ho) hb

/-- SGR, `CSI t` and the Tundra loader decode into `COp`, which has no redefinition: they can only select and insert -/
theorem map_toOp_noSet (l : List COp) : ∀ op ∈ l.map COp.toOp, op.isSet = false := by
  intro op h
  obtain ⟨c, _, rfl⟩ := List.mem_map.mp h
  cases c <;> rfl

theorem oscSets_le (ms : List (List Nat × Rgb)) : ∀ kc ∈ (oscSets ms).1, kc.1 ≤ oscMaxIndex := by
  induction ms with
  | nil => simp [oscSets]
  | cons m ms ih =>
    obtain ⟨ds, c⟩ := m
    simp only [oscSets]
    split
    · exact ih
    · split
      · simp
      · split
        · exact ih
        · intro kc h
          simp only [List.mem_cons] at h
          rcases h with e | e
          · subst e; simp only []; omega
          · exact ih kc e

theorem cells_put (s : St) (a b : List Op) (t : Nat) : (t, (run s a).fg, (run s a).bg) ∈ cells s (a ++ .put t :: b) := by
  induction a generalizing s with
  | nil => simp [cells, run]
  | cons op a ih =>
    cases op with
    | put u => simp only [List.cons_append, cells, run_cons, exec]; exact List.mem_cons_of_mem _ (ih s)
    | _ => simp only [List.cons_append, cells, run_cons]; exact ih _

theorem sgrArm_38 : sgrArm 38 = some (38, 38, 5, 0, 0) := by decide
theorem sgrArm_48 : sgrArm 48 = some (48, 48, 6, 0, 0) := by decide

theorem sgrOps_fg256 (n : Nat) (h : n ≤ 255) : sgrOps [38, 5, n] = ([.insFg (xterm n)], true) := by
  have h' : n ≤ extMax := h
  simp [sgrOps, sgrOpsC, sgrGo, sgrOne, sgrArm_38, extColor, extIndexed, h', COp.toOp]

theorem sgrOps_bg256 (n : Nat) (h : n ≤ 255) : sgrOps [48, 5, n] = ([.insBg (xterm n)], true) := by
  have h' : n ≤ extMax := h
  simp [sgrOps, sgrOpsC, sgrGo, sgrOne, sgrArm_48, extColor, extIndexed, h', COp.toOp]

theorem sgrOps_fgRgb (c : Rgb) (h : c.Valid) : sgrOps [38, 2, c.r, c.g, c.b] = ([.insFg c], true) := by
  obtain ⟨h1, h2, h3⟩ := h
  have e1 : c.r ≤ extMax := by show c.r ≤ 255; omega
  have e2 : c.g ≤ extMax := by show c.g ≤ 255; omega
  have e3 : c.b ≤ extMax := by show c.b ≤ 255; omega
  simp [sgrOps, sgrOpsC, sgrGo, sgrOne, sgrArm_38, extColor, extIndexed, extRgb, e1, e2, e3, COp.toOp]

theorem fillTo16_keeps (p : List Rgb) (i : Nat) : Keeps i p (fillTo16 p) := keeps_append

theorem fillTo16_length (p : List Rgb) : (fillTo16 p).length = max p.length dosDefault.length := by
  simp [fillTo16]; omega

theorem resize_eq (p : List Rgb) (n : Nat) :
    resize p n = (if n > p.length then fillTo16 p ++ List.replicate (n - (fillTo16 p).length) black else p).take n := by
  have cut : ∀ q : List Rgb, (if n < q.length then q.take n else q) = q.take n := fun q => by
    split
    · rfl
    · exact (List.take_of_length_le (by omega)).symm
  exact cut _

theorem resize_length (p : List Rgb) (n : Nat) : (resize p n).length = n := by
  rw [resize_eq, List.length_take]
  split
  · simp only [List.length_append, List.length_replicate]; omega
  · omega

theorem resize_getD (p : List Rgb) (n i : Nat) (hi : i < p.length) (hn : i < n) :
    (resize p n).getD i black = p.getD i black := by
  rw [resize_eq, List.getD_eq_getElem?_getD, List.getElem?_take_of_lt hn, ← List.getD_eq_getElem?_getD]
  split
  · exact ((fillTo16_keeps p i).trans keeps_append).get hi
  · rfl

end IcyVerif.PalStream
