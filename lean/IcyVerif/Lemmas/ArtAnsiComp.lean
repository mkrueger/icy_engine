import IcyVerif.Lemmas.ArtAnsiXSgr
/-! # The ANSI writer (C04): the cells of the theorems, one character, items; the 16-colour line and reader invariant

`ItemsP` is the shape of every relation between the cells of a row and the items the reader performs for them.  For 16 colours:
the cells (`CellDom`, `prImg`), lines as `subst_sound` phrases them (`LineOk`), the reader between two cells (`CInv`), its items
(`ItemsOk`; `ItemsOkC` = `ItemsOk` plus "only the compressing writer skips cells", the form the row loops use). -/
namespace IcyVerif.ArtIO
open IcyVerif.Gen.Art

/-- characters the chosen control-character handling can encode -/
def EncDom (o : AnsiOpts) (ch : Nat) : Prop :=
  ch < 256 ∧ match o.ctrl with
    | .ignore => AnsiPrintable ch
    | .icyTerm => True
    | .filterOut => ¬ (ch ∈ ansiControlChars)

theorem not_ctrl_printable {ch : Nat} (h : ¬ (ch ∈ ansiControlChars)) : AnsiPrintable ch := by
  simp [ansiControlChars] at h
  unfold AnsiPrintable; omega

/-- the control characters the writer prefixes with ESC are the ones the reader prints after ESC -/
theorem ctrl_escPrintable : ∀ ch ∈ ansiControlChars, escPrintable ch = true ∧ ch ≠ 91 := by decide

theorem cellChar_read (o : AnsiOpts) (p : AnsiP) (c : Core) (ch : Nat) (hs : c.stuck = false) (hg : p.st = .ground)
    (hd : EncDom o ch) :
    ansiRun p c (cellChar o ch) = ({ p with lastCh := ch }, c.printAnsi ch) := by
  obtain ⟨h256, hm⟩ := hd
  have hmod : ch % 256 = ch := by omega
  unfold cellChar
  by_cases hc : ansiControlChars.contains ch = true
  · rw [if_pos hc]
    cases hk : o.ctrl with
    | ignore =>
      rw [hk] at hm
      simp only [hmod]
      rw [ansiRun_cons, ansiStep_print p c ch hs hg hm, ansiRun_nil]
    | icyTerm =>
      simp only [hmod]
      obtain ⟨he, h91⟩ := ctrl_escPrintable ch (by simpa using hc)
      rw [ansiRun_cons, ansiStep_esc p c hs hg, ansiRun_cons, ansiStep_esc_print _ c hs rfl ch h91 he, ansiRun_nil, hg]
    | filterOut =>
      rw [hk] at hm
      exact absurd (by simpa using hc) hm
  · rw [if_neg hc]
    have hnm : ¬ (ch ∈ ansiControlChars) := by simpa using hc
    simp only [hmod]
    rw [ansiRun_cons, ansiStep_print p c ch hs hg (not_ctrl_printable hnm), ansiRun_nil]

/-- the cell as the reader prints it (before the bold folding of `parse_with_parser`) -/
def prImg (c : Cell) : Cell := ⟨c.ch, printedAttr c.attr⟩

def CellDom (o : AnsiOpts) (ic : Bool) (c : Cell) : Prop := Attr16 ic c.attr ∧ EncDom o c.ch

/-- the cells of (part of) a row next to the `CharCell`s `generate_cells` made of them: each one's SGR parameters are
    simple and move the reader from the previous cell's rendition to its own; no 24-bit colour command -/
inductive LineOk (o : AnsiOpts) (ic : Bool) : Attr → List Cell → List CharCell → Prop
  | nil (A : Attr) : LineOk o ic A [] []
  | cons (A : Attr) (c : Cell) (cc : CharCell) (cs : List Cell) (ccs : List CharCell) :
      cc.ch = c.ch → cc.sgrTc = [] → AllSimple cc.sgr → sgrSimple A cc.sgr = caretAttr ic c.attr →
      RelS ic cc.cur.isBlink cc.cur (caretAttr ic c.attr) → CellDom o ic c → LineOk o ic (caretAttr ic c.attr) cs ccs →
      LineOk o ic A (c :: cs) (cc :: ccs)

/-- the rendition in force after a list of cells -/
def lastAttr (ic : Bool) (A : Attr) : List Cell → Attr
  | [] => A
  | c :: cs => lastAttr ic (caretAttr ic c.attr) cs

/-- the reader between two steps of the line loop: ground state, rendition `A`, screen width `w` -/
structure CInv (ic : Bool) (A : Attr) (w : Nat) (p : AnsiP) (c : Core) : Prop where
  ns : c.stuck = false
  ag : p.st = .ground
  ice : c.caretIce = ic
  attr : c.attr = A
  sw : c.scr.w = w
  th : 1 ≤ c.termH

/-- a cell the writer may skip with cursor forward: a space on colour 0 that does not blink -/
def SkipCell (c : Cell) : Prop := c.ch = 32 ∧ (printedAttr c.attr).bg = 0 ∧ (printedAttr c.attr).fl.blink = false

/-- the items the reader performs for the cells of (the rest of) a row that starts in column `x`: each cell is printed
    with its own rendition, or it is a skippable cell that is skipped away from the right margin -/
def ItemsOk (x w : Nat) (cells : List Cell) (items : List (Option Cell)) : Prop :=
  ∀ j, j < cells.length →
    items.getD j none = some (prImg (cells.getD j defaultCell)) ∨
    (items.getD j none = none ∧ SkipCell (cells.getD j defaultCell) ∧ x + j + 1 < w)

/-- the shape the lemmas about items are stated for; `ItemsOk` and `ItemsOkX` are instances of it written out (`itemsOkX_eq`
    is `rfl`): every cell's item stands in relation `Pr` to it, or it is a skip over a cell of kind `Sk` away from the right
    margin -/
def ItemsP (Pr : Cell → Option Cell → Prop) (Sk : Cell → Prop) (x w : Nat) (cells : List Cell) (items : List (Option Cell)) : Prop :=
  ∀ j, j < cells.length →
    Pr (cells.getD j defaultCell) (items.getD j none) ∨
    (items.getD j none = none ∧ Sk (cells.getD j defaultCell) ∧ x + j + 1 < w)

/-- `ItemsOk`, with the fact that only the compressing writer skips cells -/
def ItemsOkC (o : AnsiOpts) (x w : Nat) : List Cell → List (Option Cell) → Prop :=
  ItemsP (fun c it => it = some (prImg c)) (fun c => o.compress = true ∧ SkipCell c) x w

theorem itemsP_run {Pr : Cell → Option Cell → Prop} {Sk : Cell → Prop} (x w m : Nat) (c : Cell) (cs : List Cell) (it : Option Cell)
    (items' : List (Option Cell)) (hm : m ≤ cs.length + 1)
    (hrun : ∀ j, j < m → Pr ((c :: cs).getD j defaultCell) it ∨ (it = none ∧ Sk ((c :: cs).getD j defaultCell) ∧ x + j + 1 < w))
    (hrest : ItemsP Pr Sk (x + m) w ((c :: cs).drop m) items') :
    ItemsP Pr Sk x w (c :: cs) (List.replicate m it ++ items') := by
  intro j hj
  by_cases hjm : j < m
  · have e : (List.replicate m it ++ items').getD j none = it := by
      rw [List.getD_eq_getElem?_getD, List.getElem?_append_left (by simp; exact hjm), List.getElem?_replicate, if_pos hjm]; rfl
    rw [e]; exact hrun j hjm
  · have e : (List.replicate m it ++ items').getD j none = items'.getD (j - m) none := by
      rw [List.getD_eq_getElem?_getD, List.getElem?_append_right (by simp; omega)]
      simp [List.getD_eq_getElem?_getD]
    have e2 : (c :: cs).getD j defaultCell = ((c :: cs).drop m).getD (j - m) defaultCell := by
      simp only [List.getD_eq_getElem?_getD, List.getElem?_drop]
      congr 2; omega
    have hlen : j - m < ((c :: cs).drop m).length := by simp at hj ⊢; omega
    rw [e, e2]
    rcases hrest (j - m) hlen with h | ⟨h1, h2, h3⟩
    · exact Or.inl h
    · exact Or.inr ⟨h1, h2, by omega⟩

end IcyVerif.ArtIO
