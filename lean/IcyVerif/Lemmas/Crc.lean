import IcyVerif.Model.Crc
/-! C19: XOR-linearity of the two shift-register steps, the kernel check of the regenerated tables (every entry is the bit
    steps of its index), and the table-driven CRC-16 byte step. -/
namespace IcyVerif.Crc
open IcyVerif.Gen.Crc

theorem iter_succ' (f : α → α) (n : Nat) (x : α) : iter f (n+1) x = f (iter f n x) := by
  induction n generalizing x with
  | zero => rfl
  | succ n ih => simp only [iter] at ih ⊢; rw [ih]

theorem iter_add (f : α → α) (m n : Nat) (x : α) : iter f (m+n) x = iter f n (iter f m x) := by
  induction m generalizing x with
  | zero => simp [iter]
  | succ m ih => rw [Nat.add_right_comm]; simp only [iter]; exact ih _

theorem iter_linear {n : Nat} (f : BitVec n → BitVec n) (hf : ∀ a b, f (a ^^^ b) = f a ^^^ f b)
    (k : Nat) (a b : BitVec n) : iter f k (a ^^^ b) = iter f k a ^^^ iter f k b := by
  induction k generalizing a b with
  | zero => rfl
  | succ k ih => simp only [iter]; rw [hf, ih]

theorem xor_cancel_mid {n : Nat} (x y p : BitVec n) : x ^^^ p ^^^ (y ^^^ p) = x ^^^ y := by
  calc x ^^^ p ^^^ (y ^^^ p) = x ^^^ y ^^^ (p ^^^ p) := by ac_rfl
    _ = x ^^^ y := by simp

theorem step16_linear (a b : BitVec 16) : step16 (a ^^^ b) = step16 a ^^^ step16 b := by
  unfold step16
  have h : (a ^^^ b).msb = (a.msb ^^ b.msb) := by simp [BitVec.msb_xor]
  rw [h]
  cases ha : a.msb <;> cases hb : b.msb <;> simp [BitVec.shiftLeft_xor_distrib]
  · ac_rfl
  · ac_rfl
  · rw [xor_cancel_mid]

theorem step32_linear (a b : BitVec 32) : step32 (a ^^^ b) = step32 a ^^^ step32 b := by
  unfold step32
  have h : (a ^^^ b).getLsbD 0 = (a.getLsbD 0 ^^ b.getLsbD 0) := by simp
  rw [h]
  cases ha : a.getLsbD 0 <;> cases hb : b.getLsbD 0 <;> simp [BitVec.ushiftRight_xor_distrib]
  · ac_rfl
  · ac_rfl
  · rw [xor_cancel_mid]

/-- `Z` = eight steps = one zero byte shifted through the CRC-32 register -/
def Z (x : BitVec 32) : BitVec 32 := iter step32 8 x
theorem Z_linear (a b : BitVec 32) : Z (a ^^^ b) = Z a ^^^ Z b := iter_linear _ step32_linear 8 a b
def Z16 (x : BitVec 16) : BitVec 16 := iter step16 8 x
theorem Z16_linear (a b : BitVec 16) : Z16 (a ^^^ b) = Z16 a ^^^ Z16 b := iter_linear _ step16_linear 8 a b

theorem step32_clean (x : BitVec 32) (k : Nat) (h : ∀ j, j < k → x.getLsbD j = false) :
    iter step32 k x = x >>> k := by
  induction k with
  | zero => simp [iter]
  | succ k ih =>
    rw [iter_succ', ih (fun j hj => h j (Nat.lt_succ_of_lt hj))]
    unfold step32
    have : (x >>> k).getLsbD 0 = false := by simpa using h k (Nat.lt_succ_self k)
    rw [this]; simp [BitVec.shiftRight_add]

theorem step16_clean (x : BitVec 16) (k : Nat) (hk : k ≤ 16) (h : ∀ j, j < k → x.getLsbD (15 - j) = false) :
    iter step16 k x = x <<< k := by
  induction k with
  | zero => simp [iter]
  | succ k ih =>
    rw [iter_succ', ih (by omega) (fun j hj => h j (Nat.lt_succ_of_lt hj))]
    unfold step16
    have : (x <<< k).msb = false := by
      have := h k (Nat.lt_succ_self k)
      simp only [BitVec.msb_eq_getLsbD_last, BitVec.getLsbD_shiftLeft]
      have e : 16 - 1 - k = 15 - k := by omega
      simp [this]
    rw [this]; simp [BitVec.shiftLeft_add]

theorem mask8 {w : Nat} (hw : 8 ≤ w) (j : Nat) : (255#w).getLsbD j = decide (j < 8) := by
  have : (255 : Nat) = 2^8 - 1 := by decide
  simp only [BitVec.getLsbD_ofNat, this, Nat.testBit_two_pow_sub_one]
  by_cases h : j < 8 <;> simp [h]; omega

/-! ## table checks by kernel evaluation: the 32-bit step runs on naturals (`step32N`); a row of the sliced table is checked
    against the row before it, the first against the indices -/
def ok2 (P : Nat → Nat → Bool) : List Nat → List Nat → Bool
  | [], [] => true
  | p :: ps, q :: qs => P p q && ok2 P ps qs
  | _, _ => false

theorem ok2_spec (P : Nat → Nat → Bool) (a b : List Nat) (h : ok2 P a b = true)
    (j : Nat) (hj : j < a.length) : P (a.getD j 0) (b.getD j 0) = true := by
  induction a generalizing b j with
  | nil => simp at hj
  | cons p ps ih =>
    cases b with
    | nil => simp [ok2] at h
    | cons q qs =>
      simp only [ok2, Bool.and_eq_true] at h
      cases j with
      | zero => simpa using h.1
      | succ j => simpa using ih qs h.2 j (by simpa using hj)

theorem getD_range (n j : Nat) (hj : j < n) : (List.range n).getD j 0 = j := by
  rw [List.getD_eq_getElem?_getD, List.getElem?_range hj]; rfl

def P16row (i v : Nat) : Bool := BitVec.ofNat 16 v == Z16 (BitVec.ofNat 16 (i <<< 8))
theorem t16_ok : ok2 P16row (List.range 256) t16 = true := by decide +kernel
theorem t16_length : t16.length = 256 := by decide +kernel

theorem tab16_eq (i : Nat) (hi : i < 256) : tab16 i = Z16 (BitVec.ofNat 16 (i <<< 8)) := by
  have := ok2_spec P16row _ t16 t16_ok i (by rw [List.length_range]; exact hi)
  rw [getD_range _ _ hi] at this
  exact eq_of_beq this

/-- `step32` on naturals, branch-free: the polynomial is xor-ed in when the low bit is set.  The operations are named
    directly because the kernel evaluates them on literals at once, but has to unfold the notation classes first. -/
def step32N (x : Nat) : Nat := Nat.xor (Nat.shiftRight x 1) (Nat.mul 0xEDB88320 (Nat.mod x 2))

theorem step32_toNat (x : BitVec 32) : (step32 x).toNat = step32N x.toNat := by
  have h : x.getLsbD 0 = decide (x.toNat % 2 = 1) := by simp [BitVec.getLsbD, Nat.testBit_zero]
  unfold step32
  show _ = (x.toNat >>> 1) ^^^ (0xEDB88320 * (x.toNat % 2))
  rw [h]
  rcases Nat.mod_two_eq_zero_or_one x.toNat with hx | hx <;> simp [hx, P32]

def ZN (x : Nat) : Nat := step32N (step32N (step32N (step32N (step32N (step32N (step32N (step32N x)))))))

/-- `k` zero bytes pushed through the register (`Z` iterated; `ZN` above is `Z` on naturals) -/
def Zn (k : Nat) (x : BitVec 32) : BitVec 32 := iter Z k x
theorem Zn_succ (k : Nat) (x : BitVec 32) : Zn (k+1) x = Z (Zn k x) := iter_succ' _ _ _

def rowNext (p q : Nat) : Bool := q == ZN (p % 2 ^ 32)
theorem rowNext_spec (p q : Nat) (h : rowNext p q = true) : BitVec.ofNat 32 q = Z (BitVec.ofNat 32 p) := by
  have Z_toNat : ∀ x : BitVec 32, (Z x).toNat = ZN x.toNat := fun x => by simp only [Z, iter, step32_toNat, ZN]
  rw [eq_of_beq h, ← BitVec.toNat_ofNat, ← Z_toNat, BitVec.ofNat_toNat, BitVec.setWidth_eq]

def okChain : List (List Nat) → Bool
  | a :: b :: rest => (ok2 rowNext a b && a.length == 256) && okChain (b :: rest)
  | _ => true

theorem okChain_spec (L : List (List Nat)) (h : okChain L = true) (k : Nat) (hk : k + 1 < L.length) :
    ok2 rowNext (L.getD k []) (L.getD (k+1) []) = true ∧ (L.getD k []).length = 256 := by
  induction L generalizing k with
  | nil => simp at hk
  | cons a L ih =>
    cases L with
    | nil => simp at hk
    | cons b rest =>
      simp only [okChain, Bool.and_eq_true, beq_iff_eq] at h
      cases k with
      | zero => simpa using h.1
      | succ k =>
        have := ih h.2 k (by simpa using hk)
        simpa using this

theorem t32_chain_ok : okChain (List.range 256 :: t32) = true ∧ t32.length = 16 := by decide +kernel

theorem t32r0_length : t32r0.length = 256 := by decide +kernel

theorem t32_rows : t32 = [t32r0, t32r1, t32r2, t32r3, t32r4, t32r5, t32r6, t32r7, t32r8, t32r9,
    t32r10, t32r11, t32r12, t32r13, t32r14, t32r15] := rfl

/-- row `k` of the chain `indices :: t32` holds `k` zero bytes pushed through after the index -/
theorem chain_rows (k i : Nat) (hk : k ≤ 16) (hi : i < 256) :
    BitVec.ofNat 32 (((List.range 256 :: t32).getD k []).getD i 0) = Zn k (BitVec.ofNat 32 i) := by
  induction k with
  | zero => rw [List.getD_cons_zero, getD_range _ _ hi]; rfl
  | succ k ih =>
    have h := okChain_spec _ t32_chain_ok.1 k (by rw [List.length_cons, t32_chain_ok.2]; omega)
    rw [Zn_succ, ← ih (by omega)]
    exact rowNext_spec _ _ (ok2_spec rowNext _ _ h.1 i (by rw [h.2]; exact hi))

theorem tab32_eq (k i : Nat) (hk : k < 16) (hi : i < 256) : tab32 k i = Zn (k+1) (BitVec.ofNat 32 i) :=
  chain_rows (k+1) i hk hi


theorem id16_1 (c : BitVec 16) (b : BitVec 8) :
    c ^^^ (b.setWidth 16 <<< 8) = ((((c >>> 8).setWidth 8) ^^^ b).setWidth 16 <<< 8) ^^^ (c &&& 0xFF#16) := by
  apply BitVec.eq_of_getLsbD_eq
  intro j hj
  simp only [BitVec.getLsbD_xor, BitVec.getLsbD_and, BitVec.getLsbD_shiftLeft, BitVec.getLsbD_setWidth,
    BitVec.getLsbD_ushiftRight, mask8 (w := 16) (by decide)]
  by_cases h : j < 8
  · simp [h]
  · have e : 8 + (j - 8) = j := by omega
    have e2 : j - 8 < 8 := by omega
    have e3 : j - 8 < 16 := by omega
    simp [h, e, e2, e3, hj]

theorem id16_2 (c : BitVec 16) : (c &&& 0xFF#16) <<< 8 = c <<< 8 := by
  apply BitVec.eq_of_getLsbD_eq
  intro j hj
  simp only [BitVec.getLsbD_shiftLeft, BitVec.getLsbD_and, mask8 (w := 16) (by decide)]
  by_cases h : j < 8
  · simp [h]
  · have e2 : j - 8 < 8 := by omega
    simp [h, e2]

theorem update_crc16_eq (c : BitVec 16) (b : BitVec 8) : updateCrc16 c b = bitUpd16 c b := by
  have ofNat_shl8 : ∀ x : BitVec 8, BitVec.ofNat 16 (x.toNat <<< 8) = (x.setWidth 16) <<< 8 := fun x => by
    apply BitVec.eq_of_toNat_eq
    simp [BitVec.toNat_shiftLeft, Nat.shiftLeft_eq]
  unfold updateCrc16 bitUpd16
  rw [id16_1, ← Z16, Z16_linear, tab16_eq _ (BitVec.isLt _), ofNat_shl8]
  have : Z16 (c &&& 0xFF#16) = c <<< 8 := by
    unfold Z16
    rw [step16_clean _ 8 (by omega), id16_2]
    intro j hj
    have : ¬ (15 - j < 8) := by omega
    simp [mask8 (w := 16) (by decide), this]
  rw [this]
  exact BitVec.xor_comm _ _

theorem updateCrc16_fun : updateCrc16 = bitUpd16 := funext fun c => funext (update_crc16_eq c)

end IcyVerif.Crc
