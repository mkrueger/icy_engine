import IcyVerif.Model.ArtWriters
import IcyVerif.Lemmas.Basics
/-! # Screen-level lemmas for the art readers (C15, C04)

What `Buffer::print_char` / `Caret::lf` do to the picture `Buffer::get_char` shows (`shownAt`), independent of any
format: a `put` changes exactly the cell under the caret, an `lf` changes nothing that is shown.  The second half holds what everything
downstream is stated with: screen programs (`Op`, `runOps`), a row of one-column steps (`StepSpec`, `StepsSpec`; `steps_spec` is the one
induction, shared by rows of cells — `PutsSpec` — and rows of ANSI items) and the end of a row (`RowEndSpec`; `StepsSpec.row_end` has
the full-width row that ends by the auto-wrap instead of CR LF). -/
namespace IcyVerif.ArtIO

/-- what `Buffer::get_char` shows of one row at column `x` (inside the layer) -/
def lineShown (l : List Cell) (x : Nat) : Cell :=
  match l[x]? with
  | some c => shown c
  | none => defaultCell

/-- what `Buffer::get_char` shows at `(x, y)` (inside the layer) -/
def shownAt (lines : List (List Cell)) (x y : Nat) : Cell := lineShown ((lines[y]?).getD []) x

theorem viewLines_eq (w h : Nat) (lines : List (List Cell)) (x y : Nat) :
    viewLines w h lines x y = if w ≤ x ∨ h ≤ y then invisibleCell else shownAt lines x y := by
  unfold viewLines shownAt lineShown
  by_cases hb : w ≤ x ∨ h ≤ y
  · simp [hb]
  · simp only [hb, if_false]
    cases hl : lines[y]? with
    | none => simp
    | some l => rfl

theorem shown_invisible : shown invisibleCell = defaultCell := by decide

theorem shown_of_visible {c : Cell} (h : c.isVisible = true) : shown c = c := by simp [shown, h]

theorem lineShown_nil (x : Nat) : lineShown [] x = defaultCell := by simp [lineShown]

theorem shownAt_nil (x y : Nat) : shownAt [] x y = defaultCell := by simp [shownAt, lineShown]

theorem lineShown_replicate_invisible (n x : Nat) : lineShown (List.replicate n invisibleCell) x = defaultCell := by
  unfold lineShown
  rw [List.getElem?_replicate]
  by_cases hx : x < n <;> simp [hx, shown_invisible]

theorem shownAt_replicate_invisible (n w x y : Nat) :
    shownAt (List.replicate n (List.replicate w invisibleCell)) x y = defaultCell := by
  unfold shownAt
  rw [List.getElem?_replicate]
  by_cases hy : y < n
  · simp [hy, lineShown_replicate_invisible]
  · simp [hy, lineShown_nil]

/-! `Line::set_char`, `Layer::set_char` and `Caret::lf` first make the list long enough (`padTo`), then store. -/

/-- `l` made at least `n` long with `d` -/
def padTo {α : Type} (l : List α) (n : Nat) (d : α) : List α := l ++ List.replicate (n - l.length) d

theorem getElem?_padTo {α : Type} (l : List α) (n : Nat) (d : α) (j : Nat) :
    (padTo l n d)[j]? = if j < l.length then l[j]? else if j < n then some d else none := by
  unfold padTo
  rw [List.getElem?_append, List.getElem?_replicate]
  split
  · rfl
  · by_cases h : j < n <;> simp [h] <;> omega

theorem length_padTo {α : Type} (l : List α) (n : Nat) (d : α) : (padTo l n d).length = max l.length n := by
  unfold padTo; rw [List.length_append, List.length_replicate]; omega

/-- the model's test `l.length ≤ x` is redundant: nothing is appended to a list that is long enough -/
theorem padTo_of_lt {α : Type} (l : List α) (n : Nat) (d : α) (h : ¬ l.length < n) : padTo l n d = l := by
  unfold padTo; rw [show n - l.length = 0 by omega]; exact List.append_nil l

theorem lineSetChar_eq (l : List Cell) (x : Nat) (c : Cell) : lineSetChar l x c = (padTo l (x + 1) invisibleCell).set x c := by
  unfold lineSetChar
  split
  · rfl
  · rw [padTo_of_lt _ _ _ (by omega)]

theorem linesSetChar_eq (lines : List (List Cell)) (w x y : Nat) (c : Cell) :
    linesSetChar lines w x y c = (padTo lines (y + 1) (List.replicate w invisibleCell)).modify y (fun l => lineSetChar l x c) := by
  unfold linesSetChar
  split
  · rfl
  · rw [padTo_of_lt _ _ _ (by omega)]

theorem linesExtend_eq (lines : List (List Cell)) (y : Nat) : linesExtend lines y = padTo lines (y + 1) [] := by
  unfold linesExtend
  split
  · rfl
  · rw [padTo_of_lt _ _ _ (by omega)]

theorem lineShown_lineSetChar (l : List Cell) (x x' : Nat) (c : Cell) :
    lineShown (lineSetChar l x c) x' = if x' = x then shown c else lineShown l x' := by
  unfold lineShown
  rw [lineSetChar_eq, List.getElem?_set, length_padTo, getElem?_padTo]
  by_cases hx : x' = x
  · subst hx; rw [if_pos rfl, if_pos (by omega), if_pos rfl]
  · rw [if_neg (fun e => hx e.symm), if_neg hx]
    by_cases h1 : x' < l.length
    · rw [if_pos h1]
    · rw [if_neg h1, List.getElem?_eq_none (Nat.le_of_not_lt h1)]
      by_cases h2 : x' < x + 1
      · rw [if_pos h2]; exact shown_invisible
      · rw [if_neg h2]

theorem length_lineSetChar (l : List Cell) (x : Nat) (c : Cell) : (lineSetChar l x c).length = max l.length (x + 1) := by
  rw [lineSetChar_eq, List.length_set, length_padTo]

theorem lineSetChar_ne_nil (l : List Cell) (x : Nat) (c : Cell) : lineSetChar l x c ≠ [] := by
  intro h
  have h1 := length_lineSetChar l x c
  rw [h, List.length_nil] at h1
  omega

theorem getElem?_linesSetChar (lines : List (List Cell)) (w x y j : Nat) (c : Cell) :
    (linesSetChar lines w x y c)[j]? =
      if j = y then some (lineSetChar ((lines[y]?).getD (List.replicate w invisibleCell)) x c)
      else if j < lines.length then lines[j]? else if j < y then some (List.replicate w invisibleCell) else none := by
  rw [linesSetChar_eq, List.getElem?_modify, getElem?_padTo]
  by_cases hj : j = y
  · subst hj
    by_cases h1 : j < lines.length <;> simp [h1]
  · have hj' : ¬ y = j := fun e => hj e.symm
    simp only [hj, hj', if_false, id_map']
    by_cases h1 : j < lines.length <;> by_cases h2 : j < y <;> simp [h1, h2] <;> omega

theorem shownAt_linesSetChar (lines : List (List Cell)) (w x y x' y' : Nat) (c : Cell) :
    shownAt (linesSetChar lines w x y c) x' y' = if x' = x ∧ y' = y then shown c else shownAt lines x' y' := by
  unfold shownAt
  rw [getElem?_linesSetChar]
  by_cases hy : y' = y
  · subst hy
    rw [if_pos rfl, Option.getD_some, lineShown_lineSetChar]
    by_cases hx : x' = x
    · rw [if_pos hx, if_pos ⟨hx, rfl⟩]
    · rw [if_neg hx, if_neg (fun h => hx h.1)]
      cases lines[y']? with
      | some l => rfl
      | none => exact (lineShown_replicate_invisible _ _).trans (lineShown_nil _).symm
  · rw [if_neg hy, if_neg (fun h : x' = x ∧ y' = y => hy h.2)]
    by_cases h1 : y' < lines.length
    · rw [if_pos h1]
    · rw [if_neg h1, List.getElem?_eq_none (Nat.le_of_not_lt h1)]
      by_cases h2 : y' < y
      · rw [if_pos h2]; exact lineShown_replicate_invisible _ _
      · rw [if_neg h2]

theorem length_linesSetChar (lines : List (List Cell)) (w x y : Nat) (c : Cell) :
    (linesSetChar lines w x y c).length = max lines.length (y + 1) := by
  rw [linesSetChar_eq, List.length_modify, length_padTo]

def RowNonEmpty (lines : List (List Cell)) (y : Nat) : Prop := ∃ l, lines[y]? = some l ∧ l ≠ []

theorem rowNonEmpty_linesSetChar (lines : List (List Cell)) (w x y : Nat) (c : Cell) :
    RowNonEmpty (linesSetChar lines w x y c) y :=
  ⟨_, by rw [getElem?_linesSetChar, if_pos rfl], lineSetChar_ne_nil _ _ _⟩

theorem rowNonEmpty_linesSetChar_other (lines : List (List Cell)) (w x y y' : Nat) (c : Cell)
    (h : RowNonEmpty lines y') : RowNonEmpty (linesSetChar lines w x y c) y' := by
  by_cases e : y' = y
  · subst e; exact rowNonEmpty_linesSetChar _ _ _ _ _
  · obtain ⟨l, hl, hne⟩ := h
    have hlt : y' < lines.length := (List.getElem?_eq_some_iff.1 hl).1
    exact ⟨l, by rw [getElem?_linesSetChar, if_neg e, if_pos hlt, hl], hne⟩

theorem getElem?_linesExtend (lines : List (List Cell)) (y j : Nat) :
    (linesExtend lines y)[j]? = if j < lines.length then lines[j]? else if j ≤ y then some [] else none := by
  rw [linesExtend_eq, getElem?_padTo]
  simp only [Nat.lt_succ_iff]

theorem length_linesExtend (lines : List (List Cell)) (y : Nat) :
    (linesExtend lines y).length = max lines.length (y + 1) := by
  rw [linesExtend_eq, length_padTo]

theorem shownAt_linesExtend (lines : List (List Cell)) (y x' y' : Nat) :
    shownAt (linesExtend lines y) x' y' = shownAt lines x' y' := by
  unfold shownAt
  rw [getElem?_linesExtend]
  by_cases hj : y' < lines.length
  · rw [if_pos hj]
  · rw [if_neg hj, List.getElem?_eq_none (Nat.le_of_not_lt hj)]
    split <;> rfl

theorem rowNonEmpty_linesExtend (lines : List (List Cell)) (y y' : Nat) (h : RowNonEmpty lines y') :
    RowNonEmpty (linesExtend lines y) y' := by
  obtain ⟨l, hl, hne⟩ := h
  exact ⟨l, by rw [getElem?_linesExtend, if_pos (List.getElem?_eq_some_iff.1 hl).1, hl], hne⟩

theorem setChar_frame (s : Screen) (x y : Nat) (c : Cell) :
    (s.setChar x y c).w = s.w ∧ (s.setChar x y c).layerH = s.layerH ∧ (s.setChar x y c).cx = s.cx ∧ (s.setChar x y c).cy = s.cy := by
  unfold Screen.setChar; split <;> exact ⟨rfl, rfl, rfl, rfl⟩

theorem put_steps (s : Screen) (c : Cell) :
    s.put c = if s.w ≤ s.cx + 1 then ({ ({ s with layerH := max s.layerH (s.cy + 1) } : Screen).setChar s.cx s.cy c with cx := s.cx + 1 } : Screen).lf
      else { ({ s with layerH := max s.layerH (s.cy + 1) } : Screen).setChar s.cx s.cy c with cx := s.cx + 1 } := by
  have e : (if s.layerH < s.cy + 1 then { s with layerH := s.cy + 1 } else s) = ({ s with layerH := max s.layerH (s.cy + 1) } : Screen) := by
    split
    · rw [Nat.max_eq_right (by omega)]
    · rw [Nat.max_eq_left (by omega)]
  have hf := setChar_frame ({ s with layerH := max s.layerH (s.cy + 1) } : Screen) s.cx s.cy c
  unfold Screen.put
  simp only [e]
  exact ite_congr (by rw [hf.1, hf.2.2.1]) (fun _ => by rw [hf.2.2.1]) (fun _ => by rw [hf.2.2.1])

theorem put_w_layerH (s : Screen) (c : Cell) : (s.put c).w = s.w ∧ (s.put c).layerH = max s.layerH (s.cy + 1) := by
  rw [put_steps]
  obtain ⟨h1, h2, _, _⟩ := setChar_frame ({ s with layerH := max s.layerH (s.cy + 1) } : Screen) s.cx s.cy c
  split <;> exact ⟨h1, h2⟩

theorem put_layerH (s : Screen) (c : Cell) : s.cy + 1 ≤ (s.put c).layerH := by
  rw [(put_w_layerH s c).2]; exact Nat.le_max_right _ _

theorem put_eq (s : Screen) (c : Cell) (h : s.cx < s.w) :
    s.put c =
      if s.cx + 1 < s.w then
        { w := s.w, layerH := max s.layerH (s.cy + 1), lines := linesSetChar s.lines s.w s.cx s.cy c, cx := s.cx + 1, cy := s.cy }
      else
        { w := s.w, layerH := max s.layerH (s.cy + 1), lines := linesExtend (linesSetChar s.lines s.w s.cx s.cy c) (s.cy + 1),
          cx := 0, cy := s.cy + 1 } := by
  have hset : ({ s with layerH := max s.layerH (s.cy + 1) } : Screen).setChar s.cx s.cy c =
      { s with layerH := max s.layerH (s.cy + 1), lines := linesSetChar s.lines s.w s.cx s.cy c } := by
    unfold Screen.setChar
    exact if_neg (fun hc => by have hc' : s.w ≤ s.cx ∨ max s.layerH (s.cy + 1) ≤ s.cy := hc; omega)
  rw [put_steps, hset]
  by_cases hw : s.cx + 1 < s.w
  · rw [if_pos hw, if_neg (by omega)]
  · rw [if_neg hw, if_pos (by omega)]; rfl

theorem put_view (s : Screen) (c : Cell) (h : s.cx < s.w) (x' y' : Nat) :
    shownAt (s.put c).lines x' y' = if x' = s.cx ∧ y' = s.cy then shown c else shownAt s.lines x' y' := by
  rw [put_eq s c h]
  split
  · exact shownAt_linesSetChar _ _ _ _ _ _ _
  · show shownAt (linesExtend _ _) x' y' = _
    rw [shownAt_linesExtend]; exact shownAt_linesSetChar _ _ _ _ _ _ _

theorem put_pos_in (s : Screen) (c : Cell) (h : s.cx + 1 < s.w) : (s.put c).cx = s.cx + 1 ∧ (s.put c).cy = s.cy := by
  rw [put_eq s c (by omega)]; simp [h]

theorem put_pos_wrap (s : Screen) (c : Cell) (h : s.cx + 1 = s.w) : (s.put c).cx = 0 ∧ (s.put c).cy = s.cy + 1 := by
  have n : ¬ s.cx + 1 < s.w := by omega
  rw [put_eq s c (by omega)]; simp [n]

theorem put_lines_in (s : Screen) (c : Cell) (h : s.cx + 1 < s.w) :
    (s.put c).lines = linesSetChar s.lines s.w s.cx s.cy c := by
  rw [put_eq s c (by omega)]; simp [h]

theorem put_lines_wrap (s : Screen) (c : Cell) (h : s.cx + 1 = s.w) :
    (s.put c).lines = linesExtend (linesSetChar s.lines s.w s.cx s.cy c) (s.cy + 1) := by
  have n : ¬ s.cx + 1 < s.w := by omega
  rw [put_eq s c (by omega)]; simp [n]

/-- the two things a writer-shaped row does to the screen: print a cell, end the row (CR LF) -/
inductive Op
  | put (c : Cell)
  | nl

def Screen.exec (s : Screen) : Op → Screen
  | .put c => s.put c
  | .nl => s.cr.lf

def Screen.runOps (s : Screen) (ops : List Op) : Screen := ops.foldl Screen.exec s

theorem runOps_nil (s : Screen) : s.runOps [] = s := rfl

theorem runOps_cons (s : Screen) (o : Op) (os : List Op) : s.runOps (o :: os) = (s.exec o).runOps os := rfl

theorem runOps_append (s : Screen) (a b : List Op) : s.runOps (a ++ b) = (s.runOps a).runOps b := by
  simp [Screen.runOps, List.foldl_append]

def putOps (cells : List Cell) : List Op := cells.map Op.put

theorem putOps_append (a b : List Cell) : putOps (a ++ b) = putOps a ++ putOps b := by simp [putOps]

theorem runOps_putOps (cells : List Cell) (s : Screen) : s.runOps (putOps cells) = cells.foldl Screen.put s := by
  unfold Screen.runOps putOps; rw [List.foldl_map]; rfl

theorem exec_w (s : Screen) (o : Op) : (s.exec o).w = s.w := by
  cases o with
  | nl => rfl
  | put c => exact (put_w_layerH s c).1

theorem runOps_w (ops : List Op) (s : Screen) : (s.runOps ops).w = s.w :=
  List.foldlRecOn ops Screen.exec (motive := fun t => t.w = s.w) rfl fun t h o _ => (exec_w t o).trans h

/-! the layer height only grows (needed where nothing is cropped: ATASCII) -/

theorem runOps_layerH_mono (ops : List Op) (s : Screen) : s.layerH ≤ (s.runOps ops).layerH :=
  List.foldlRecOn ops Screen.exec (motive := fun t => s.layerH ≤ t.layerH) (Nat.le_refl _) fun t h o _ =>
    Nat.le_trans h (match o with
      | .nl => Nat.le_refl _
      | .put c => by show _ ≤ (t.put c).layerH; rw [(put_w_layerH t c).2]; exact Nat.le_max_left _ _)

/-- one step along a row: the caret moves one column to the right (to the start of the next row at the margin) and at most
    the cell under it changes what it shows, from `old` to `sh old` -/
structure StepSpec (sh : Cell → Cell) (s s' : Screen) : Prop where
  w_eq : s'.w = s.w
  pos_in : s.cx + 1 < s.w → s'.cx = s.cx + 1 ∧ s'.cy = s.cy
  pos_wrap : s.cx + 1 = s.w → s'.cx = 0 ∧ s'.cy = s.cy + 1
  view : ∀ x' y', shownAt s'.lines x' y' = if x' = s.cx ∧ y' = s.cy then sh (shownAt s.lines x' y') else shownAt s.lines x' y'

theorem put_step (s : Screen) (c : Cell) (h : s.cx < s.w) : StepSpec (fun _ => shown c) s (s.put c) :=
  ⟨(put_w_layerH s c).1, put_pos_in s c, put_pos_wrap s c, put_view s c h⟩

/-- what a row of steps `is` that fits into the screen row does: where the caret ends, and that column `s.cx + k` of the row shows what
    step `k` made of it (`sh i old`) -/
structure StepsSpec {ι : Type} (sh : ι → Cell → Cell) (d : ι) (s s' : Screen) (is : List ι) : Prop where
  w_eq : s'.w = s.w
  pos_in : s.cx + is.length < s.w → s'.cx = s.cx + is.length ∧ s'.cy = s.cy
  pos_wrap : is ≠ [] → s.cx + is.length = s.w → s'.cx = 0 ∧ s'.cy = s.cy + 1
  view : ∀ x' y', shownAt s'.lines x' y' =
    if y' = s.cy ∧ s.cx ≤ x' ∧ x' < s.cx + is.length then sh (is.getD (x' - s.cx) d) (shownAt s.lines x' y') else shownAt s.lines x' y'

/-- a row of one-column steps (`ok col i`: step `i` may be taken in column `col`).  The steps are cells to print (`puts_spec`: any
    column will do) or items of a compressed ANSI row (`items_spec` in ArtItems: a skipped cell must not be in the last column). -/
theorem steps_spec {ι : Type} (stp : Screen → ι → Screen) (sh : ι → Cell → Cell) (d : ι) (w : Nat) (ok : Nat → ι → Prop)
    (hstep : ∀ s i, s.w = w → s.cx < w → ok s.cx i → StepSpec (sh i) s (stp s i))
    (is : List ι) (s : Screen) (hsw : s.w = w) (hfit : s.cx + is.length ≤ w) (hok : ∀ k, k < is.length → ok (s.cx + k) (is.getD k d)) :
    StepsSpec sh d s (is.foldl stp s) is := by
  -- the same holds after every prefix: step `k` finds the caret in column `s.cx + k` of the row
  have P : ∀ k, k ≤ is.length →
      ((is.take k).foldl stp s).w = s.w ∧
      (s.cx + k < s.w → ((is.take k).foldl stp s).cx = s.cx + k ∧ ((is.take k).foldl stp s).cy = s.cy) ∧
      (0 < k → s.cx + k = s.w → ((is.take k).foldl stp s).cx = 0 ∧ ((is.take k).foldl stp s).cy = s.cy + 1) ∧
      ∀ x' y', shownAt ((is.take k).foldl stp s).lines x' y' =
        if y' = s.cy ∧ s.cx ≤ x' ∧ x' < s.cx + k then sh (is.getD (x' - s.cx) d) (shownAt s.lines x' y')
        else shownAt s.lines x' y' := by
    intro k
    induction k with
    | zero => exact fun _ => ⟨rfl, fun _ => ⟨rfl, rfl⟩, fun h => absurd h (Nat.lt_irrefl 0), fun x' y' => (if_neg (fun h => by omega)).symm⟩
    | succ k ih =>
      intro hk
      obtain ⟨Iw, Iin, _, Iview⟩ := ih (by omega)
      obtain ⟨px, py⟩ := Iin (by omega)
      have hi : is.take (k + 1) = is.take k ++ [is.getD k d] := by
        rw [List.take_add_one, List.getD_eq_getElem?_getD, List.getElem?_eq_getElem hk]; rfl
      rw [hi, List.foldl_append]
      generalize (is.take k).foldl stp s = t at Iw px py Iview
      obtain ⟨Fw, Fin, Fwrap, Fview⟩ := hstep t (is.getD k d) (Iw.trans hsw) (by rw [px]; omega) (by rw [px]; exact hok k hk)
      rw [Iw, px, py] at Fin Fwrap
      rw [px, py] at Fview
      refine ⟨Fw.trans Iw, fun h => ?_, fun _ h => Fwrap (by omega), fun x' y' => ?_⟩
      · obtain ⟨qx, qy⟩ := Fin (by omega); exact ⟨qx.trans (Nat.add_assoc _ _ _), qy⟩
      · show shownAt (stp t (is.getD k d)).lines x' y' = _
        rw [Fview, Iview]
        by_cases hxy : x' = s.cx + k ∧ y' = s.cy
        · rw [if_pos hxy, if_neg (fun h => by omega), if_pos ⟨hxy.2, by omega, by omega⟩, hxy.1, Nat.add_sub_cancel_left]
        · rw [if_neg hxy]
          by_cases hc : y' = s.cy ∧ s.cx ≤ x' ∧ x' < s.cx + k
          · rw [if_pos hc, if_pos ⟨hc.1, hc.2.1, by omega⟩]
          · rw [if_neg hc, if_neg (fun h => hc ⟨h.1, h.2.1, by have := fun e => hxy ⟨e, h.1⟩; omega⟩)]
  have H := P is.length (Nat.le_refl _)
  rw [List.take_length] at H
  exact ⟨H.1, H.2.1, fun hne => H.2.2.1 (List.length_pos_iff.2 hne), H.2.2.2⟩

/-- printing `cells` from the caret on when they fit into the row: the row of steps, and how many rows the layer then holds -/
structure PutsSpec (s s' : Screen) (cells : List Cell) : Prop extends StepsSpec (fun c _ => shown c) defaultCell s s' cells where
  len_in : cells ≠ [] → s.lines.length ≤ s.cy + 1 → s.cx + cells.length < s.w →
    s'.lines.length = s.cy + 1 ∧ RowNonEmpty s'.lines s.cy
  len_wrap : cells ≠ [] → s.lines.length ≤ s.cy + 1 → s.cx + cells.length = s.w →
    s'.lines.length = s.cy + 2 ∧ s'.lines[s.cy + 1]? = some [] ∧ RowNonEmpty s'.lines s.cy

theorem puts_len (cells : List Cell) : ∀ (s : Screen), s.cx + cells.length ≤ s.w → cells ≠ [] → s.lines.length ≤ s.cy + 1 →
    (s.cx + cells.length < s.w → (cells.foldl Screen.put s).lines.length = s.cy + 1 ∧ RowNonEmpty (cells.foldl Screen.put s).lines s.cy) ∧
    (s.cx + cells.length = s.w → (cells.foldl Screen.put s).lines.length = s.cy + 2 ∧
      (cells.foldl Screen.put s).lines[s.cy + 1]? = some [] ∧ RowNonEmpty (cells.foldl Screen.put s).lines s.cy) := by
  induction cells with
  | nil => intro s _ h; exact absurd rfl h
  | cons c cs ih =>
    intro s hfit _ hl
    rw [List.length_cons] at hfit ⊢
    rw [List.foldl_cons]
    by_cases hin : s.cx + 1 < s.w
    · obtain ⟨px, py⟩ := put_pos_in s c hin
      have pl := put_lines_in s c hin
      by_cases hne : cs = []
      · subst hne
        refine ⟨fun _ => ?_, fun h => by rw [List.length_nil] at h; omega⟩
        show (s.put c).lines.length = _ ∧ RowNonEmpty (s.put c).lines s.cy
        rw [pl]
        exact ⟨by rw [length_linesSetChar]; omega, rowNonEmpty_linesSetChar _ _ _ _ _⟩
      · have I := ih (s.put c) (by rw [px, (put_w_layerH s c).1]; omega) hne (by rw [pl, py, length_linesSetChar]; omega)
        rw [px, py, (put_w_layerH s c).1] at I
        exact ⟨fun h => I.1 (by omega), fun h => I.2 (by omega)⟩
    · have hcs : cs = [] := List.eq_nil_of_length_eq_zero (by omega)
      subst hcs
      refine ⟨fun h => by rw [List.length_nil] at h; omega, fun _ => ?_⟩
      show (s.put c).lines.length = _ ∧ (s.put c).lines[s.cy + 1]? = some [] ∧ RowNonEmpty (s.put c).lines s.cy
      rw [put_lines_wrap s c (by omega)]
      refine ⟨by rw [length_linesExtend, length_linesSetChar]; omega, ?_, rowNonEmpty_linesExtend _ _ _ (rowNonEmpty_linesSetChar _ _ _ _ _)⟩
      rw [getElem?_linesExtend, length_linesSetChar, if_neg (by omega), if_pos (Nat.le_refl _)]

theorem puts_spec (cells : List Cell) (s : Screen) (hfit : s.cx + cells.length ≤ s.w) : PutsSpec s (s.runOps (putOps cells)) cells := by
  rw [runOps_putOps]
  exact ⟨steps_spec Screen.put (fun c _ => shown c) defaultCell s.w (fun _ _ => True) (fun t c _ hc _ => put_step t c (by omega)) cells s rfl hfit
      (fun _ _ => trivial),
    fun hne hl h => (puts_len cells s hfit hne hl).1 h, fun hne hl h => (puts_len cells s hfit hne hl).2 h⟩

theorem nl_spec (s : Screen) :
    (s.exec Op.nl).w = s.w ∧ (s.exec Op.nl).cx = 0 ∧ (s.exec Op.nl).cy = s.cy + 1 ∧
    (∀ x' y', shownAt (s.exec Op.nl).lines x' y' = shownAt s.lines x' y') ∧
    (s.exec Op.nl).lines.length = max s.lines.length (s.cy + 2) := by
  refine ⟨rfl, rfl, rfl, ?_, ?_⟩
  · intro x' y'; exact shownAt_linesExtend _ _ _ _
  · show (linesExtend _ _).length = _
    rw [length_linesExtend]; rfl

theorem StepsSpec.view0 {ι : Type} {sh : ι → Cell → Cell} {d : ι} {s s' : Screen} {is : List ι} (P : StepsSpec sh d s s' is)
    (hcx : s.cx = 0) (x' y' : Nat) :
    shownAt s'.lines x' y' = if y' = s.cy ∧ x' < is.length then sh (is.getD x' d) (shownAt s.lines x' y') else shownAt s.lines x' y' := by
  rw [P.view, hcx]
  by_cases hc : y' = s.cy ∧ x' < is.length
  · rw [if_pos hc, if_pos ⟨hc.1, Nat.zero_le _, by omega⟩, Nat.sub_zero]
  · rw [if_neg hc, if_neg (fun h => hc ⟨h.1, by omega⟩)]

/-- what one written row of `n` columns does to the reader's screen: with another row to follow the caret stands at the start of the next
    screen row; column `x < n` of the row shows `F x old` -/
structure RowEndSpec (n : Nat) (F : Nat → Cell → Cell) (s s' : Screen) (more : Bool) : Prop where
  w_eq : s'.w = s.w
  pos : more = true → s'.cx = 0 ∧ s'.cy = s.cy + 1
  view : ∀ x' y', shownAt s'.lines x' y' = if y' = s.cy ∧ x' < n then F x' (shownAt s.lines x' y') else shownAt s.lines x' y'

theorem StepsSpec.row_end {ι : Type} {sh : ι → Cell → Cell} {d : ι} {s s1 : Screen} {is : List ι} (P : StepsSpec sh d s s1 is) (more : Bool)
    (hcx : s.cx = 0) (hw : 0 < s.w) (hfit : is.length ≤ s.w) :
    RowEndSpec is.length (fun x old => sh (is.getD x d) old) s (if is.length < s.w ∧ more = true then s1.exec Op.nl else s1) more := by
  by_cases hnl : is.length < s.w ∧ more = true
  · -- a short row with another one to follow is ended by CR LF
    rw [if_pos hnl]
    obtain ⟨nw, nx, ny, nv, _⟩ := nl_spec s1
    exact ⟨nw.trans P.w_eq, fun _ => ⟨nx, by rw [ny, (P.pos_in (by rw [hcx]; omega)).2]⟩, fun x' y' => (nv x' y').trans (P.view0 hcx x' y')⟩
  · -- a full-width row has wrapped by itself
    rw [if_neg hnl]
    refine ⟨P.w_eq, fun hm => P.pos_wrap (fun e => ?_) ?_, P.view0 hcx⟩
    · rw [e] at hnl; exact hnl ⟨hw, hm⟩
    · rcases Nat.lt_or_ge is.length s.w with h | h
      · exact absurd ⟨h, hm⟩ hnl
      · rw [hcx]; omega

end IcyVerif.ArtIO
