/-! General facts about lists and numbers that several parts of the development use and core lacks.
    Nothing here mentions the model. -/
namespace IcyVerif.Basics

theorem getD_mem {α : Type} {l : List α} {i : Nat} {d : α} (h : i < l.length) : l.getD i d ∈ l := by
  rw [List.getD_eq_getElem?_getD, List.getElem?_eq_getElem h]
  exact List.getElem_mem h

theorem getD_append_left {α : Type} (l₁ l₂ : List α) (i : Nat) (d : α) (h : i < l₁.length) :
    (l₁ ++ l₂).getD i d = l₁.getD i d := by
  simp [List.getD_eq_getElem?_getD, List.getElem?_append_left h]

theorem getD_append_right {α : Type} (l₁ l₂ : List α) (i : Nat) (d : α) (h : l₁.length ≤ i) :
    (l₁ ++ l₂).getD i d = l₂.getD (i - l₁.length) d := by
  simp [List.getD_eq_getElem?_getD, List.getElem?_append_right h]

theorem getD_map {α β : Type} (f : α → β) (l : List α) (i : Nat) (d : α) (d' : β) (h : i < l.length) :
    (l.map f).getD i d' = f (l.getD i d) := by
  simp [List.getD_eq_getElem?_getD, List.getElem?_eq_getElem h]

/-- the middle block of three, cut out by its offset and length -/
theorem take_drop_mid {α : Type} (pre blk post : List α) (n m : Nat) (hn : n = pre.length) (hm : m = blk.length) :
    ((pre ++ (blk ++ post)).drop n).take m = blk := by
  subst hn hm
  rw [List.drop_left, List.take_left]

/-- a 16-bit value from its little-endian bytes -/
theorem le16_val (n : Nat) (h : n < 65536) : n % 256 + n / 256 % 256 * 256 = n := by omega

theorem exists_cons4 {α : Type} {l : List α} {n : Nat} (h : n + 4 ≤ l.length) :
    ∃ a b c d t, l = a :: b :: c :: d :: t ∧ n ≤ t.length :=
  match l, h with
  | a :: b :: c :: d :: t, h => ⟨a, b, c, d, t, rfl, by simpa using h⟩

/-- a product of two integers bounded in absolute value -/
theorem mul_bounds {y w a b : Int} (hy : -a ≤ y ∧ y ≤ a) (hw : -b ≤ w ∧ w ≤ b) :
    -(a * b) ≤ y * w ∧ y * w ≤ a * b := by
  have h1 : y.natAbs ≤ a.toNat := by omega
  have h2 : w.natAbs ≤ b.toNat := by omega
  have h3 : y.natAbs * w.natAbs ≤ a.toNat * b.toNat := Nat.mul_le_mul h1 h2
  have h4 : (y * w).natAbs = y.natAbs * w.natAbs := Int.natAbs_mul y w
  have h5 : a * b = ((a.toNat * b.toNat : Nat) : Int) := by
    rw [Int.natCast_mul, Int.toNat_of_nonneg (by omega), Int.toNat_of_nonneg (by omega)]
  omega

end IcyVerif.Basics
