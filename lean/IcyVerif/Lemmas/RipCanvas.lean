import IcyVerif.Model.RipCanvas
import IcyVerif.Lemmas.BgiFillCmd
import IcyVerif.Lemmas.BgiLine
/-! Lemmas about the RIP canvas model: `rectangle` and the polygons as contracts (`Draws`) on top of `line`; the picture has four
bytes per cell; the driver's fold over the picture is the fold over its bytes. -/
namespace IcyVerif.Bgi

theorem pixelBytes_length (pal : List Nat) (px : Nat) : (pixelBytes pal px).length = 4 := by
  unfold pixelBytes; split <;> rfl

theorem rectangle_draws (s : Bgi) (l t r b : Int) : Draws s id (fun _ => True) (PutOk s) (rectangle s l t r b) := by
  unfold rectangle
  split
  · exact (line_draws ..).fails ‹_›
  refine (line_draws ..).andThen ‹_› fun _ _ => ?_
  split
  · exact (line_draws ..).fails ‹_›
  refine (line_draws ..).andThen ‹_› fun _ _ => ?_
  split
  · exact (line_draws ..).fails ‹_›
  exact (line_draws ..).andThen ‹_› fun _ _ => line_draws ..

theorem polySegs_draws : ∀ (pts : List (Int × Int)) (s : Bgi) (last : Int × Int), Draws s (·.1) (fun _ => True) (PutOk s) (polySegs s last pts)
  | [], s, last => .ret rfl trivial
  | p :: rest, s, last => by
    unfold polySegs
    split
    · exact (line_draws ..).fails ‹_›
    · exact (line_draws ..).andThen ‹_› fun _ _ => polySegs_draws rest _ p

theorem drawPolyLine_draws (s : Bgi) (pts : List (Int × Int)) : Draws s id (fun _ => True) (PutOk s) (drawPolyLine s pts) := by
  cases pts with
  | nil => exact .ret rfl trivial
  | cons p0 t => exact (polySegs_draws (p0 :: t) s p0).map (fun _ => rfl) fun _ _ => trivial

theorem drawPoly_draws (s : Bgi) (pts : List (Int × Int)) : Draws s id (fun _ => True) (PutOk s) (drawPoly s pts) := by
  cases pts with
  | nil => exact .ret rfl trivial
  | cons p0 t =>
    have h := polySegs_draws (p0 :: t) s p0
    unfold drawPoly
    simp only []
    split
    · rename_i e; exact h.fails e
    · rename_i e; exact h.andThen e fun _ _ => line_draws ..

theorem picFold_eq {β : Type} (f : β → Nat → β) (init : β) (s : Bgi) : picFold f init s = (pictureData s).foldl f init := by
  unfold picFold pictureData
  rw [← Array.foldl_toList, List.foldl_flatMap]

end IcyVerif.Bgi
