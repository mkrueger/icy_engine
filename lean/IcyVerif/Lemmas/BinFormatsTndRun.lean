import IcyVerif.Lemmas.BinFormatsTnd
/-!
# C05, Tundra: the bytes the writer emits drive the loader as `jstep` says

One cell: the writer appends `tndChunk`, and the loader run over it does `jstep`'s side of the cell (`tndLoop_chunk`).  All cells by
induction over them (`tndStream`, `tnd_run`).
-/
namespace IcyVerif.BinFormats
open IcyVerif.XbCompress IcyVerif.Gen

/-- the bytes written for one cell -/
def tndChunk (P : List Rgb) (s : JS) (c : Cell) : List Nat :=
  if wfOf P s c || wbOf P s c then
    [boolBit (wfOf P s c) BinFmt.tndColorFg ||| boolBit (wbOf P s c) BinFmt.tndColorBg, c.ch] ++
      (if wfOf P s c then rgbBytes (getRgb P (tndShown c.attr)) else []) ++
      (if wbOf P s c then rgbBytes (getRgb P c.attr.bg) else [])
  else [c.ch]

theorem cmd_ne_zero : ∀ wf wb : Bool,
    (boolBit wf BinFmt.tndColorFg ||| boolBit wb BinFmt.tndColorBg ≠ 0) ↔ (wf || wb) = true := by decide

theorem tndCell_eq (P : List Rgb) (sw : TW) (js : JS) (idx : Nat) (c : Cell) (ha : sw.attr = js.wattr) (hf : sw.first = js.first)
    (hv : isVisible c = true) (hc : c.ch ≤ 255) :
    tndCell P sw idx c = some { out := sw.out ++ tndChunk P js c, attr := (jstep P js c).1.wattr, first := false, skip := sw.skip } := by
  unfold tndCell
  have hc' : ¬ (c.ch > 255) := by omega
  simp only [hv, Bool.not_true, Bool.false_eq_true, if_false, hc']
  have hwf : (getRgb P (tndShown sw.attr) != getRgb P (tndShown c.attr) || isBold sw.attr != isBold c.attr ||
      (decide (BinFmt.tndCtlLo ≤ c.ch) && decide (c.ch ≤ BinFmt.tndCtlHi)) || sw.first) = wfOf P js c := by
    unfold wfOf ctlChar; rw [ha, hf]
  have hwb : (getRgb P sw.attr.bg != getRgb P c.attr.bg || sw.first) = wbOf P js c := by
    unfold wbOf; rw [ha, hf]
  rw [hwf, hwb]
  unfold tndChunk jstep
  by_cases hany : (wfOf P js c || wbOf P js c) = true
  · have hne := (cmd_ne_zero (wfOf P js c) (wbOf P js c)).mpr hany
    simp only [hne, ne_eq, not_false_eq_true, if_true, hany, List.append_assoc]
  · have hany' : (wfOf P js c || wbOf P js c) = false := by simpa using hany
    have hne : ¬ (boolBit (wfOf P js c) BinFmt.tndColorFg ||| boolBit (wbOf P js c) BinFmt.tndColorBg ≠ 0) := by
      rw [cmd_ne_zero]; simp [hany']
    simp only [hne, if_false, hany', Bool.false_eq_true, ha]

theorem loop_fg (F ch z r g b : Nat) (X : List Nat) (sl : TL) :
    tndLoop (F + 1) (2 :: ch :: z :: r :: g :: b :: X) sl =
      tndLoop F X (tndPut { sl with buf := { sl.buf with pal := (insertColor sl.buf.pal (r, g, b)).1 }, fg := (insertColor sl.buf.pal (r, g, b)).2 } ch) := by
  rw [SauceLoad.tndLoop_succ]; rfl

theorem loop_bg (F ch z r g b : Nat) (X : List Nat) (sl : TL) :
    tndLoop (F + 1) (4 :: ch :: z :: r :: g :: b :: X) sl =
      tndLoop F X (tndPut { sl with buf := { sl.buf with pal := (insertColor sl.buf.pal (r, g, b)).1 }, bg := (insertColor sl.buf.pal (r, g, b)).2 } ch) := by
  rw [SauceLoad.tndLoop_succ]; rfl

theorem loop_both (F ch z r g b z2 r2 g2 b2 : Nat) (X : List Nat) (sl : TL) :
    tndLoop (F + 1) (6 :: ch :: z :: r :: g :: b :: z2 :: r2 :: g2 :: b2 :: X) sl =
      tndLoop F X (tndPut { sl with
        buf := { sl.buf with pal := (insertColor (insertColor sl.buf.pal (r, g, b)).1 (r2, g2, b2)).1 },
        fg := (insertColor sl.buf.pal (r, g, b)).2,
        bg := (insertColor (insertColor sl.buf.pal (r, g, b)).1 (r2, g2, b2)).2 } ch) := by
  rw [SauceLoad.tndLoop_succ]; rfl

theorem loop_plain (F ch : Nat) (X : List Nat) (sl : TL) (h : ch = 0 ∨ ch > 6) :
    tndLoop (F + 1) (ch :: X) sl = tndLoop F X (tndPut sl ch) := by
  have n1 : ¬ (ch = BinFmt.tndPosition) := by have : BinFmt.tndPosition = 1 := rfl; omega
  have n2 : ¬ (ch > BinFmt.tndCmdAbove ∧ ch ≤ BinFmt.tndCmdUpTo) := by
    have h1 : BinFmt.tndCmdAbove = 1 := rfl
    have h2 : BinFmt.tndCmdUpTo = 6 := rfl
    omega
  rw [SauceLoad.tndLoop_succ]; unfold SauceLoad.tndStep; rw [if_neg n1, if_neg n2]; rfl

theorem tndLoop_chunk (P : List Rgb) (js : JS) (c : Cell) (F : Nat) (X : List Nat) (sl : TL)
    (hp : sl.buf.pal = js.lpal) (hfg : sl.fg = js.lfg) (hbg : sl.bg = js.lbg) :
    tndLoop (F + 1) (tndChunk P js c ++ X) sl =
      tndLoop F X (tndPut { sl with buf := { sl.buf with pal := (jstep P js c).1.lpal }, fg := (jstep P js c).1.lfg, bg := (jstep P js c).1.lbg } c.ch) := by
  unfold tndChunk jstep
  obtain ⟨buf, fg, bg, x, y⟩ := sl
  simp only at hp hfg hbg
  subst hfg; subst hbg
  cases hwf : wfOf P js c <;> cases hwb : wbOf P js c
  · have hctl : ctlChar c.ch = false := by
      unfold wfOf at hwf; simp only [Bool.or_eq_false_iff] at hwf; exact hwf.1.2
    have hlo : BinFmt.tndCtlLo = 1 := rfl
    have hhi : BinFmt.tndCtlHi = 6 := rfl
    have hrange : c.ch = 0 ∨ c.ch > 6 := by
      unfold ctlChar at hctl
      simp only [hlo, hhi, Bool.and_eq_false_iff, decide_eq_false_iff_not] at hctl
      omega
    simp only [Bool.or_self, Bool.false_eq_true, if_false, List.cons_append, List.nil_append]
    rw [loop_plain _ _ _ _ hrange]
    congr 2
    cases buf
    simp only at hp
    simp [hp]
  · simp only [Bool.false_or, if_true, Bool.false_eq_true, if_false, List.append_nil, rgbBytes, List.cons_append, List.nil_append]
    have : boolBit false BinFmt.tndColorFg ||| boolBit true BinFmt.tndColorBg = 4 := by decide
    rw [this, loop_bg]
    simp only [hp]
  · simp only [Bool.or_false, if_true, Bool.false_eq_true, if_false, List.append_nil, rgbBytes, List.cons_append, List.nil_append]
    have : boolBit true BinFmt.tndColorFg ||| boolBit false BinFmt.tndColorBg = 2 := by decide
    rw [this, loop_fg]
    simp only [hp]
  · simp only [Bool.or_self, if_true, rgbBytes, List.cons_append, List.nil_append]
    have : boolBit true BinFmt.tndColorFg ||| boolBit true BinFmt.tndColorBg = 6 := by decide
    rw [this, loop_both]
    simp only [hp]

def withPal (b : LBuf) (q : List Rgb) : LBuf := { b with pal := q }

theorem withPal_outside (q : List Rgb) : Outside (withPal · q) :=
  ⟨fun _ => rfl, fun _ => rfl, fun _ => rfl, fun _ _ => rfl, fun _ _ => rfl⟩

theorem placeAll_pal (gl gb : Bool) (x0 xl : Nat) (cs : List Cell) (b : LBuf) (q : List Rgb) (x y : Nat) :
    placeAll gl gb x0 xl (withPal b q) x y cs =
      (withPal (placeAll gl gb x0 xl b x y cs).1 q, (placeAll gl gb x0 xl b x y cs).2) :=
  (withPal_outside q).placeAll gl gb (fun _ _ _ => rfl) x0 xl cs b x y

theorem withPal_withPal (b : LBuf) (q r : List Rgb) : withPal (withPal b q) r = withPal b r := rfl

theorem tndPut_nat (sl : TL) (xn yn : Nat) (ch : Nat) (hx : sl.x = (xn : Int)) (hy : sl.y = (yn : Int)) (hbw : 1 ≤ sl.buf.bw) :
    tndPut sl ch =
      { sl with buf := (placeCell true false 0 (sl.buf.bw - 1) (sl.buf, xn, yn) ⟨ch, ⟨sl.fg, sl.bg, 0, Xb.defaultPage⟩⟩).1,
                x := ((placeCell true false 0 (sl.buf.bw - 1) (sl.buf, xn, yn) ⟨ch, ⟨sl.fg, sl.bg, 0, Xb.defaultPage⟩⟩).2.1 : Nat),
                y := ((placeCell true false 0 (sl.buf.bw - 1) (sl.buf, xn, yn) ⟨ch, ⟨sl.fg, sl.bg, 0, Xb.defaultPage⟩⟩).2.2 : Nat) } := by
  unfold tndPut placeCell LBuf.setCharI
  rw [hx, hy]
  have h0 : ¬ ((xn : Int) < 0 ∨ (yn : Int) < 0) := by omega
  simp only [h0, if_false, Int.toNat_natCast, if_true, Bool.false_eq_true]
  have hb : (({ sl.buf with lh := (yn : Int) + 1 } : LBuf).setChar xn yn ⟨ch, ⟨sl.fg, sl.bg, 0, Xb.defaultPage⟩⟩).bw = sl.buf.bw := (setChar_frame _ _ _ _).1.bw
  rw [hb]
  by_cases hw : xn + 1 > sl.buf.bw - 1
  · have : (xn : Int) + 1 ≥ (sl.buf.bw : Int) := by omega
    simp only [hw, this, if_true]
    rfl
  · have : ¬ ((xn : Int) + 1 ≥ (sl.buf.bw : Int)) := by omega
    simp only [hw, this, if_false]
    rfl

/-- the loader state after the cells `cells`, started at column `xn`, row `yn` -/
def runResult (P : List Rgb) (js : JS) (sl : TL) (xn yn : Nat) (cells : List Cell) : TL :=
  { buf := withPal (placeAll true false 0 (sl.buf.bw - 1) sl.buf xn yn (jrow P js cells).2).1 (jrow P js cells).1.lpal,
    fg := (jrow P js cells).1.lfg, bg := (jrow P js cells).1.lbg,
    x := ((placeAll true false 0 (sl.buf.bw - 1) sl.buf xn yn (jrow P js cells).2).2.1 : Nat),
    y := ((placeAll true false 0 (sl.buf.bw - 1) sl.buf xn yn (jrow P js cells).2).2.2 : Nat) }

/-- the bytes the writer produces for `cells`, started in joint state `js` -/
def tndStream (P : List Rgb) : JS → List Cell → List Nat
  | _, [] => []
  | js, c :: cs => tndChunk P js c ++ tndStream P (jstep P js c).1 cs

theorem tndCells_stream (P : List Rgb) : ∀ (cells : List Cell) (js : JS) (sw : TW) (idx : Nat),
    sw.attr = js.wattr → sw.first = js.first → (∀ c ∈ cells, isVisible c = true ∧ c.ch ≤ 255) →
    tndCells P sw idx cells =
      some { out := sw.out ++ tndStream P js cells, attr := (jrow P js cells).1.wattr, first := (jrow P js cells).1.first, skip := sw.skip } := by
  intro cells
  induction cells with
  | nil =>
    intro js sw idx ha hf _
    simp only [tndCells, jrow, tndStream, List.append_nil]
    cases sw; simp only at ha hf; rw [ha, hf]
  | cons c cs ih =>
    intro js sw idx ha hf hcells
    obtain ⟨hv, hc⟩ := hcells c List.mem_cons_self
    unfold tndCells tndStream
    rw [tndCell_eq P sw js idx c ha hf hv hc]
    simp only
    rw [ih (jstep P js c).1 _ (idx + 1) rfl (by unfold jstep; rfl) (fun d hd => hcells d (List.mem_cons_of_mem _ hd))]
    simp only [jrow, List.append_assoc]

theorem tndStream_length (P : List Rgb) : ∀ (cells : List Cell) (js : JS), cells.length ≤ (tndStream P js cells).length := by
  intro cells
  induction cells with
  | nil => intro _; exact Nat.le_refl _
  | cons c cs ih =>
    intro js
    have hchunk1 : 1 ≤ (tndChunk P js c).length := by
      unfold tndChunk
      by_cases h : (wfOf P js c || wbOf P js c) = true <;> simp [h]
    have := ih (jstep P js c).1
    simp only [tndStream, List.length_cons, List.length_append]
    omega

theorem tnd_run (P : List Rgb) : ∀ (cells : List Cell) (js : JS) (sl : TL) (xn yn F : Nat) (X : List Nat),
    sl.buf.pal = js.lpal → sl.fg = js.lfg → sl.bg = js.lbg → sl.x = (xn : Int) → sl.y = (yn : Int) → 1 ≤ sl.buf.bw →
    tndLoop (F + cells.length) (tndStream P js cells ++ X) sl = tndLoop F X (runResult P js sl xn yn cells) := by
  intro cells
  induction cells with
  | nil =>
    intro js sl xn yn F X hp hfg hbg hx hy _
    simp only [tndStream, List.nil_append, List.length_nil, Nat.add_zero, runResult, jrow, placeAll, List.foldl_nil]
    congr 1
    cases sl with
    | mk buf fg bg x y =>
      simp only at hp hfg hbg hx hy
      subst hfg; subst hbg; subst hx; subst hy
      cases buf
      simp only at hp
      simp [withPal, hp]
  | cons c cs ih =>
    intro js sl xn yn F X hp hfg hbg hx hy hbw
    let js1 := (jstep P js c).1
    let cell1 := (jstep P js c).2
    let sl0 : TL := { sl with buf := { sl.buf with pal := js1.lpal }, fg := js1.lfg, bg := js1.lbg }
    have hput := tndPut_nat sl0 xn yn c.ch hx hy hbw
    let pc := placeCell true false 0 (sl.buf.bw - 1) (sl.buf, xn, yn) cell1
    have hpc : placeCell true false 0 (sl0.buf.bw - 1) (sl0.buf, xn, yn) ⟨c.ch, ⟨sl0.fg, sl0.bg, 0, Xb.defaultPage⟩⟩ = (withPal pc.1 js1.lpal, pc.2) := by
      show placeCell true false 0 (sl.buf.bw - 1) (withPal sl.buf js1.lpal, xn, yn) cell1 = _
      exact placeAll_pal _ _ _ _ [cell1] _ _ _ _
    rw [hpc] at hput
    let sl1 : TL := { buf := withPal pc.1 js1.lpal, fg := js1.lfg, bg := js1.lbg, x := (pc.2.1 : Nat), y := (pc.2.2 : Nat) }
    have hsl1 : tndPut sl0 c.ch = sl1 := hput
    have hbw1 : sl1.buf.bw = sl.buf.bw := by
      show (placeCell true false 0 (sl.buf.bw - 1) (sl.buf, xn, yn) cell1).1.bw = _
      rw [placeCell_eq]; exact (setChar_frame _ _ _ _).1.bw
    have hl' := ih js1 sl1 pc.2.1 pc.2.2 F X rfl rfl rfl rfl rfl (by rw [hbw1]; exact hbw)
    have e1 : F + (c :: cs).length = (F + cs.length) + 1 := by simp only [List.length_cons]; omega
    rw [e1, tndStream, List.append_assoc, tndLoop_chunk P js c (F + cs.length) (tndStream P js1 cs ++ X) sl hp hfg hbg]
    show tndLoop (F + cs.length) (tndStream P js1 cs ++ X) (tndPut sl0 c.ch) = _
    rw [hsl1, hl']
    congr 1
    -- the two descriptions of the final state agree
    unfold runResult
    have hpa : placeAll true false 0 (sl1.buf.bw - 1) sl1.buf pc.2.1 pc.2.2 (jrow P js1 cs).2 =
        (withPal (placeAll true false 0 (sl.buf.bw - 1) pc.1 pc.2.1 pc.2.2 (jrow P js1 cs).2).1 js1.lpal,
         (placeAll true false 0 (sl.buf.bw - 1) pc.1 pc.2.1 pc.2.2 (jrow P js1 cs).2).2) := by
      rw [hbw1]
      exact placeAll_pal _ _ _ _ _ _ _ _ _
    have hcons : placeAll true false 0 (sl.buf.bw - 1) sl.buf xn yn (jrow P js (c :: cs)).2 =
        placeAll true false 0 (sl.buf.bw - 1) pc.1 pc.2.1 pc.2.2 (jrow P js1 cs).2 := by
      simp only [jrow, placeAll, List.foldl_cons]
      rfl
    rw [hpa, hcons]
    simp only [jrow, withPal_withPal]
    rfl

end IcyVerif.BinFormats
