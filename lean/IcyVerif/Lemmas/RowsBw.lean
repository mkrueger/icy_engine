import IcyVerif.Lemmas.TermSize
/-! # The buffer WIDTH stays in 1..=132 along every stream
`GoodSt` (the invariant of C01 / C09) says nothing about the buffer width `bw` (`Buffer::get_width`): cursor geometry
does not read it.  The content operations do — `get_last_editable_column` is `bw - 1` when there are no left/right
margins, and `scroll_left` / `scroll_right` turn that into a column index.  Only `clear_screen` and `Caret::ff` write
`bw` (`set_size(terminal_state.get_size())`), and they set it to the terminal width, which `ScrOk` bounds.
So `GoodSt` together with `BwStep` (kept, or set to a value in range) from a given state on is an invariant of the ANSI machine
and of its wrappers; the frame of a step says that `bw` is kept or set to the terminal width. -/
namespace IcyVerif.Term

def BwOk (s : Scr) : Prop := 1 ≤ s.bw ∧ s.bw ≤ 132

def BwStep (st st' : St) : Prop := st'.s.bw = st.s.bw ∨ BwOk st'.s

theorem bwStep_refl (st : St) : BwStep st st := Or.inl rfl
theorem bwStep_trans {a b c : St} (h1 : BwStep a b) (h2 : BwStep b c) : BwStep a c := by
  cases h2 with
  | inr h => exact Or.inr h
  | inl h =>
    cases h1 with
    | inl g => exact Or.inl (h.trans g)
    | inr g => exact Or.inr (by unfold BwOk at *; rw [h]; exact g)
theorem bwOk_of_step {st st' : St} (h : BwStep st st') (h0 : BwOk st.s) : BwOk st'.s := by
  cases h with
  | inl g => unfold BwOk at *; rw [g]; exact h0
  | inr g => exact g

theorem bwOk_of_tw {s s' : Scr} (hk : ScrOk s) (h : s'.bw = s.tw) : BwOk s' := by
  unfold BwOk; rw [h]; exact ⟨hk.tw1, hk.tw2⟩

theorem Frame.bwStep {st x : St} (h : Frame st x) (hk : ScrOk st.s) : BwStep st x := h.bw.imp id (bwOk_of_tw hk)

/-- `BwStep` needs `ScrOk` of the state a clear starts from, so the invariant carries `GoodSt` -/
theorem bw_inv (st0 : St) : StepInv IsOv (fun st => GoodSt st ∧ BwStep st0 st) where
  counters st _ _ h := ⟨good_keep st _ h.1 rfl, h.2⟩
  ov site := ⟨site, rfl⟩
  arm {inv st r} he hr hinv h := by
    have hd : ∀ id p', ParStep st.p p' → Holds IsOv (inv id ⟨st.s, st.c, p'⟩) fun x => GoodSt x ∧ BwStep st0 x :=
      fun id p' hp => hinv id _ ⟨good_keep st p' h.1 hp.resized, h.2⟩
    have hg := he.good (fun id p' hp => (hd id p' hp).mono fun _ h => h.1) h.1 (rangeOk_bh _ _ h.1.scr hr)
    have hf := he.frame
    rcases r with e | r
    · exact hg
    · refine ⟨hg, ?_⟩
      rcases hf with f | ⟨id, p', hp, hi⟩
      · exact bwStep_trans h.2 (f.bwStep h.1.scr)
      · exact ((hd id p' hp).val hi).2

theorem WEff.goodBw {o : Nat → Orc} {w : WSt} {r : WR} (h : WEff o w r) (hg : GoodSt w.inner)
    (hb : BwOk w.inner.s) (hr : RangeOk w.inner.s w.inner.c) :
    Holds IsOv r (fun r => GoodSt r.1.inner ∧ BwOk r.1.inner.s) :=
  (h.holds (fun st ch hs => step_holds (bw_inv w.inner) wcfg o st ch hs)
    (fun _ he => (bw_inv w.inner).arm he hr (fun _ _ hd => hd) ⟨hg, bwStep_refl _⟩) ⟨hg, bwStep_refl _⟩).mono
      fun _ h => ⟨h.1, bwOk_of_step h.2 hb⟩

abbrev BwW (w : WSt) (r : WSt × Out) : Prop := BwStep w.inner r.1.inner

theorem wstep_bw (e : Emu) (o : Nat → Orc) (w : WSt) (ch : Char) (h : GoodSt w.inner) : okThen (wstep e o w ch) (BwW w) :=
  okThen_iff.2 (((wstep_holds (bw_inv w.inner) e o w ch ⟨h, bwStep_refl _⟩).mono fun _ h => h.2).weaken fun _ _ => trivial)

abbrev BwO (st : OSt) (r : OSt × Out) : Prop := r.1.s.bw = st.s.bw ∨ BwOk r.1.s

theorem printValue_bw (st x : OSt) (v : Nat) (h : x.s = st.s) : okThen (printValue x v) (BwO st) :=
  okThen_iff.2 ((printValue_onlyBh x st v h).mono fun r hr => .inl (by rw [hr]))

theorem ostep_bw (e : Emu2) (st : OSt) (ch : Char) (hk : ScrOk st.s) : Holds AnyErr (ostep e st ch) (BwO st) :=
  Holds.mono (ostep_frame e st ch) fun _ h => h.2.2.imp id (bwOk_of_tw hk)

end IcyVerif.Term
