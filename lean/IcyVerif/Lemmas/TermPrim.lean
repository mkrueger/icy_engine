import IcyVerif.Model.TermAnsi
/-! # Terminal geometry: the parts of the invariant, the result predicate `Holds`, the specifications of the caret primitives
`Holds E r P` (`ok` with `P`, or an error that `E` admits) is how every lemma file of the three parser models speaks about a result. -/
namespace IcyVerif.Term

/-- sizes and margins are sane (holds in every reachable state, also after a resize); 132 and 60 are the clamps of the
    text-area resize `CSI 8 ; h ; w t`, the only function that writes the terminal size -/
structure ScrOk (s : Scr) : Prop where
  tw1 : 1 ≤ s.tw
  tw2 : s.tw ≤ 132
  th1 : 1 ≤ s.th
  th2 : s.th ≤ 60
  bh0 : 1 ≤ s.bh
  mtb : ∀ t b, s.mtb = some (t, b) → 0 ≤ t ∧ t ≤ b ∧ b < s.th
  mlr : ∀ l r, s.mlr = some (l, r) → 0 ≤ l ∧ l ≤ r ∧ r < s.tw

/-- the weak cursor invariant that survives a resize: non-negative and not far outside — the column may lie beyond a
    narrowed screen, the row may lie below the buffer by less than a screen (a screen enlarged beyond it) -/
def CurOk (s : Scr) (c : Car) : Prop := 0 ≤ c.x ∧ c.x ≤ 132 ∧ 0 ≤ c.y ∧ c.y ≤ s.bh + 60
/-- C09: the cursor is inside the visible screen (and the buffer is at least a screen high) -/
def InScr (s : Scr) (c : Car) : Prop := s.th ≤ s.bh ∧ c.x < s.tw ∧ s.fv ≤ c.y ∧ c.y < s.fv + s.th
def InScrY (s : Scr) (c : Car) : Prop := s.th ≤ s.bh ∧ s.fv ≤ c.y ∧ c.y < s.fv + s.th

/-- `r` is `ok` with `P`, or fails with an error that `E` admits -/
def Holds {ε α : Type} (E : ε → Prop) (r : Except ε α) (P : α → Prop) : Prop :=
  match r with
  | .ok a => P a
  | .error e => E e

abbrev NoErr {ε : Type} (_ : ε) : Prop := False
abbrev AnyErr {ε : Type} (_ : ε) : Prop := True
/-- the conservative `overflow` panic, which C01 excepts (row numbers beyond `i32`) -/
def IsOv (e : Panic) : Prop := ∃ site, e = Panic.overflow site

section
variable {ε α : Type} {E : ε → Prop} {P Q : α → Prop}

@[simp] theorem Holds.ok (a : α) : Holds E (.ok a) P = P a := rfl
theorem Holds.ite {c : Prop} [Decidable c] {a b : Except ε α} (ha : c → Holds E a P) (hb : ¬ c → Holds E b P) :
    Holds E (if c then a else b) P := iteInduction (motive := (Holds E · P)) ha hb
/-- for walks that do not need the path conditions -/
theorem Holds.ite' {c : Prop} [Decidable c] {a b : Except ε α} (ha : Holds E a P) (hb : Holds E b P) :
    Holds E (if c then a else b) P := .ite (fun _ => ha) fun _ => hb
/-- as a rewrite rule: a cascade without `match` is taken apart by `simp only` itself -/
theorem Holds.ite_iff {c : Prop} [Decidable c] {a b : Except ε α} :
    Holds E (if c then a else b) P ↔ (c → Holds E a P) ∧ (¬ c → Holds E b P) := by
  by_cases h : c <;> simp [h]
theorem Holds.mono {r : Except ε α} (h : Holds E r P) (hpq : ∀ a, P a → Q a) : Holds E r Q := by
  cases r with
  | ok a => exact hpq a h
  | error e => exact h
theorem Holds.left {Q' : α → Prop} {r : Except ε α} (h : Holds E r (fun a => P a ∧ Q' a)) : Holds E r P := h.mono fun _ h => h.1
theorem Holds.weaken {E' : ε → Prop} {r : Except ε α} (h : Holds E r P) (he : ∀ e, E e → E' e) : Holds E' r P := by
  cases r with
  | ok a => exact h
  | error e => exact he e h
theorem Holds.val {r : Except ε α} {a : α} (h : Holds E r P) (he : r = .ok a) : P a := by rw [he] at h; exact h
theorem Holds.err {r : Except ε α} {e : ε} (h : Holds E r P) (he : r = .error e) : E e := by rw [he] at h; exact h
/-- as an equation, to reduce the caller's `match` on the result -/
theorem Holds.isOk {r : Except ε α} (h : Holds NoErr r P) : ∃ a, r = .ok a ∧ P a := by
  cases r with
  | ok a => exact ⟨a, rfl, h⟩
  | error e => exact h.elim
theorem Holds.ne_error {r : Except ε α} (h : Holds NoErr r P) (e : ε) : r ≠ .error e := fun hr => by rw [hr] at h; exact h
theorem Holds.of_noErr {r : Except ε α} (h : Holds NoErr r P) : Holds E r P := h.weaken fun _ => False.elim
end

/-! `Holds NoErr`, `Holds IsOv`, `Holds AnyErr` with a `match` of their own.  Stated with them: `okOrOv_match_pair` and, each
the `Holds` statement beside it taken through an `_iff` below, `run_good`, `wok_good`, `printValue_good`, `printValue_same`,
`printValue_bw`, `wstep_bw`, `printValueF_good`; every other statement and every proof uses `Holds`. -/
def okAnd {α : Type} (r : Res α) (P : α → Prop) : Prop :=
  match r with
  | .ok a => P a
  | .error _ => False
@[simp] theorem okAnd_ok {α : Type} (a : α) (P : α → Prop) : okAnd (.ok a : Res α) P = P a := rfl
def okOrOv {α : Type} (r : Res α) (P : α → Prop) : Prop :=
  match r with
  | .ok a => P a
  | .error e => ∃ site, e = Panic.overflow site
def okThen {α : Type} (r : Res α) (P : α → Prop) : Prop :=
  match r with
  | .ok a => P a
  | .error _ => True

theorem okAnd_iff {α : Type} {r : Res α} {P : α → Prop} : okAnd r P ↔ Holds NoErr r P := by cases r <;> exact Iff.rfl
theorem okOrOv_iff {α : Type} {r : Res α} {P : α → Prop} : okOrOv r P ↔ Holds IsOv r P := by cases r <;> exact Iff.rfl
theorem okThen_iff {α : Type} {r : Res α} {P : α → Prop} : okThen r P ↔ Holds AnyErr r P := by cases r <;> exact Iff.rfl

theorem margins_inside (a b n t e : Int) (h : (if max a 0 > min b (n - 1) then none else some (max a 0, min b (n - 1))) = some (t, e)) :
    0 ≤ t ∧ t ≤ e ∧ e < n := by
  split at h
  · cases h
  · simp only [Option.some.injEq, Prod.mk.injEq] at h
    omega

theorem numChar_cases (st : St) (ch : Char) :
    numChar st ch = none ∨ ∃ n, numChar st ch = some { st with p := { st.p with nums := n } } := by
  unfold numChar
  split
  · exact Or.inr ⟨_, rfl⟩
  · split
    · exact Or.inr ⟨_, rfl⟩
    · exact Or.inl rfl

theorem sat_le (v : Int) : sat v ≤ 2147483647 := by unfold sat; omega
theorem sat_id (v : Int) (h1 : -2147483648 ≤ v) (h2 : v ≤ 2147483647) : sat v = v := by
  unfold sat; omega

theorem fv_eq (s : Scr) (h : ScrOk s) (hs : s.bh ≤ 2147483647) : s.fv = max 0 (s.bh - s.th) := by
  have := h.th1; have := h.th2; have := h.bh0
  unfold Scr.fv satSub sat; omega

theorem fv_congr (s s' : Scr) (h1 : s'.bh = s.bh) (h2 : s'.th = s.th) : s'.fv = s.fv := by unfold Scr.fv; rw [h1, h2]

theorem fv_nonneg (s : Scr) : 0 ≤ s.fv := by unfold Scr.fv; omega

theorem scrOk_bh (s : Scr) (b : Int) (h : ScrOk s) (hb : 1 ≤ b) : ScrOk { s with bh := b } :=
  ⟨h.tw1, h.tw2, h.th1, h.th2, hb, h.mtb, h.mlr⟩

/-- `RangeOk` bounds `fv + bh = 2·bh - th` by `i32::MAX`; with `th ≤ 60` the buffer has fewer than 2^30 + 31 rows.  The
    other bounds near 2^30 in this file are this one with room for the rows a primitive may add before the next guard:
    1073741900 for `print_char`, 1073742000 for the line feed inside it (a line feed grows the buffer by up to 62 rows —
    the cursor may be 60 below it —, a wrapped print by up to 124), and 1073741000 is a round number below all of them. -/
theorem rangeOk_bh (s : Scr) (c : Car) (hk : ScrOk s) (h : RangeOk s c) : s.bh ≤ 1073741854 := by
  have := hk.th1; have := hk.th2; have := hk.bh0
  obtain ⟨⟨_, h1⟩, _⟩ := h
  unfold Scr.fv satSub sat at h1
  omega

theorem rangeOk_of_small (s : Scr) (c : Car) (hk : ScrOk s) (hc : CurOk s c) (hb : s.bh ≤ 1073741000) :
    RangeOk s c := by
  have := hk.tw1; have := hk.tw2; have := hk.th1; have := hk.th2; have := hk.bh0
  obtain ⟨hx0, hx1, hy0, hy1⟩ := hc
  have hfv := fv_eq s hk (by omega)
  simp only [RangeOk, InI32]
  omega

theorem not_echPanics (s : Scr) (c : Car) (n : Int) (hx : 0 ≤ c.x) : ¬ EchPanics s c n := by
  unfold EchPanics; omega
theorem mtbBottom_nonneg (s : Scr) (h : ∀ t b, s.mtb = some (t, b) → 0 ≤ t ∧ t ≤ b ∧ b < s.th) : 0 ≤ mtbBottom s := by
  unfold mtbBottom
  split
  · rename_i t e he; have := h t e he; omega
  · exact Int.le_refl 0
theorem not_lineOpPanics (s : Scr) (y : Int) (hm : ∀ t b, s.mtb = some (t, b) → 0 ≤ t ∧ t ≤ b ∧ b < s.th) (hy : 0 ≤ y) :
    ¬ LineOpPanics s y := by
  have := mtbBottom_nonneg s hm
  unfold LineOpPanics; omega

theorem limit_spec (s : Scr) (c : Car) (h : ScrOk s) :
    ∃ c', limit s c = .ok c' ∧ 0 ≤ c'.x ∧ c'.x < s.tw ∧ s.fv ≤ c'.y ∧ c'.y < s.fv + s.th ∧ c'.ins = c.ins := by
  have := h.tw1; have := h.th1
  unfold limit
  have hn : ¬ (s.fv > s.fv + s.th - 1) := by omega
  simp only [hn, if_false]
  refine ⟨_, rfl, ?_, ?_, ?_, ?_, rfl⟩ <;> simp only [clampI] <;> omega

theorem limit_full (s : Scr) (c : Car) (h : ScrOk s) (hb : s.bh ≤ 2147483647) :
    Holds NoErr (limit s c) (fun c' => CurOk s c' ∧ c'.ins = c.ins ∧ (s.th ≤ s.bh → InScr s c')) := by
  obtain ⟨c', hl, l0, l1, l2, l3, l4⟩ := limit_spec s c h
  have := h.tw2; have := h.th1; have := h.th2; have := h.bh0
  have hfv := fv_eq s h hb
  rw [hl]
  exact ⟨⟨l0, by omega, by omega, by omega⟩, l4, fun hi => ⟨hi, l1, l2, l3⟩⟩

/-- unforced, the cursor is taken back one row only below a bottom margin, hence below the first visible row -/
theorem checkScrollDown_row (s : Scr) (c : Car) (hk : ScrOk s) :
    checkScrollDown s c false = c ∨ (checkScrollDown s c false = { c with y := c.y - 1 } ∧ s.fv < c.y) := by
  unfold checkScrollDown
  by_cases h : (s.needsScrolling = true ∨ false = true) ∧ c.y > s.lastEditable
  · rw [if_pos h]
    refine .inr ⟨rfl, ?_⟩
    obtain ⟨hn | hn, hy⟩ := h
    · unfold Scr.needsScrolling at hn
      unfold Scr.lastEditable at hy
      cases hm : s.mtb with
      | none => rw [hm] at hn; cases hn
      | some p => rw [hm] at hy; have := hk.mtb p.1 p.2 hm; simp only at hy; omega
    · cases hn
  · rw [if_neg h]; exact .inl rfl

/-- what the three specifications below say of the screen (`OnlyBh` is the first half without any precondition) -/
def ScrStep (s s' : Scr) : Prop := s' = { s with bh := s'.bh } ∧ s.bh ≤ s'.bh

theorem lf_spec (s : Scr) (c : Car) (hk : ScrOk s) (hy0 : 0 ≤ c.y) (hy1 : c.y ≤ s.bh + 60) (hs : s.bh ≤ 1073742000) :
    Holds NoErr (lf s c) (fun r => ScrStep s r.1 ∧ r.1.bh ≤ s.bh + 62 ∧
      CurOk r.1 r.2 ∧ r.2.ins = c.ins ∧ (InScrY s c → InScr r.1 r.2)) := by
  have := hk.tw1; have := hk.tw2; have := hk.th1; have := hk.th2; have := hk.bh0
  have hB : 1 ≤ max s.bh (c.y + 1 + 1) := by omega
  have hB12 : s.bh ≤ max s.bh (c.y + 1 + 1) ∧ max s.bh (c.y + 1 + 1) ≤ s.bh + 62 := by omega
  have hk1 := scrOk_bh s _ hk hB
  have hfv := fv_eq s hk (by omega)
  have hfv1 : ({ s with bh := max s.bh (c.y + 1 + 1) } : Scr).fv = max 0 (max s.bh (c.y + 1 + 1) - s.th) :=
    fv_eq _ hk1 (by show max s.bh (c.y + 1 + 1) ≤ _; omega)
  have hlim := limit_full _ { c with x := 0, y := c.y + 1 } hk1 (by show max s.bh (c.y + 1 + 1) ≤ _; omega)
  have hsc := checkScrollDown_row _ { c with x := 0, y := c.y + 1 } hk1
  unfold lf
  simp only []
  split
  · -- below the last editable row: `limit` alone puts the cursor on the screen
    obtain ⟨c2, hl, hlim⟩ := hlim.isOk
    rw [hl]
    exact ⟨⟨rfl, hB12.1⟩, hB12.2, hlim.1, hlim.2.1, fun hi => hlim.2.2 (Int.le_trans hi.1 hB12.1)⟩
  · rcases hsc with h | ⟨h, hlt⟩
    · rw [h]
      simp only [Holds.ok, ScrStep, CurOk, InScr, InScrY]
      generalize ({ s with bh := max s.bh (c.y + 1 + 1) } : Scr).fv = f1 at hfv1 ⊢
      exact ⟨⟨trivial, hB12.1⟩, hB12.2, by omega, trivial, fun hi => by omega⟩
    · rw [h]
      simp only [Holds.ok, ScrStep, CurOk, InScr, InScrY] at hlt ⊢
      generalize ({ s with bh := max s.bh (c.y + 1 + 1) } : Scr).fv = f1 at hfv1 hlt ⊢
      exact ⟨⟨trivial, hB12.1⟩, hB12.2, by omega, trivial, fun hi => by omega⟩

theorem printChar_spec (s : Scr) (c : Car) (hk : ScrOk s) (hc : CurOk s c) (hs : s.bh ≤ 1073741900) :
    Holds NoErr (printChar s c) (fun r => ScrStep s r.1 ∧ r.1.bh ≤ s.bh + 124 ∧
      CurOk r.1 r.2 ∧ r.2.ins = c.ins ∧ (InScr s c → InScr r.1 r.2)) := by
  have := hk.tw1; have := hk.tw2; have := hk.th1; have := hk.th2; have := hk.bh0
  obtain ⟨hx0, hx1, hy0, hy1⟩ := hc
  have hB : 1 ≤ max s.bh (c.y + 1) := by omega
  have hB12 : s.bh ≤ max s.bh (c.y + 1) ∧ max s.bh (c.y + 1) ≤ s.bh + 124 := by omega
  have hfv := fv_eq s hk (by omega)
  -- a cursor on the screen is inside the buffer: printing there does not grow it
  have hgrow : InScr s c → max s.bh (c.y + 1) = s.bh := fun hi => by
    have := hi.1; have := hi.2.2.2; omega
  unfold printChar
  rw [if_neg (by omega), if_neg (by omega)]
  simp only []
  by_cases hw : c.x + 1 ≥ s.tw
  · rw [if_pos hw]
    by_cases ha : s.autowrap = true
    · rw [if_pos ha]
      refine Holds.mono (lf_spec { s with bh := max s.bh (c.y + 1) } { c with x := c.x + 1 } (scrOk_bh s _ hk hB)
        hy0 (by simp only; omega) (by simp only; omega)) ?_
      intro r ⟨⟨h1, h2⟩, h3, h4, h5, h6⟩
      simp only at h1 h2 h3 h5 h6
      refine ⟨⟨by rw [h1], by omega⟩, by omega, h4, h5, fun hi => h6 ?_⟩
      rw [hgrow hi]; exact ⟨hi.1, hi.2.2.1, hi.2.2.2⟩
    · rw [if_neg ha]
      refine ⟨⟨rfl, hB12.1⟩, hB12.2, ⟨by simp only; omega, by simp only; omega, hy0, by simp only; omega⟩, rfl, fun hi => ?_⟩
      show InScr { s with bh := max s.bh (c.y + 1) } _
      rw [hgrow hi]; exact ⟨hi.1, by have := hi.2.1; simp only; omega, hi.2.2.1, hi.2.2.2⟩
  · rw [if_neg hw]
    refine ⟨⟨rfl, hB12.1⟩, hB12.2, ⟨by simp only; omega, by simp only; omega, hy0, by simp only; omega⟩, rfl, fun hi => ?_⟩
    show InScr { s with bh := max s.bh (c.y + 1) } _
    rw [hgrow hi]; exact ⟨hi.1, by simp only; omega, hi.2.2.1, hi.2.2.2⟩

theorem printN_spec (n : Nat) (s : Scr) (c : Car) (hk : ScrOk s) (hc : CurOk s c) :
    Holds IsOv (printN n s c) (fun r => ScrStep s r.1 ∧ CurOk r.1 r.2 ∧ r.2.ins = c.ins ∧ (InScr s c → InScr r.1 r.2)) := by
  induction n generalizing s c with
  | zero =>
    show Holds IsOv (.ok (s, c)) _
    rw [Holds.ok]
    exact ⟨⟨rfl, Int.le_refl _⟩, hc, rfl, id⟩
  | succ n ih =>
    simp only [printN]
    by_cases hr : RangeOk s c
    · simp only [hr, not_true_eq_false, if_false]
      have hb := rangeOk_bh s c hk hr
      have hp := printChar_spec s c hk hc (by omega)
      obtain ⟨⟨s1, c1⟩, hpc, ⟨h1, h2⟩, h3, h4, h5, h6⟩ := hp.isOk
      rw [hpc]
      simp only at h1 h2 h3 h4 h5 h6
      have hk1 : ScrOk s1 := by rw [h1]; exact scrOk_bh s _ hk (by have := hk.bh0; omega)
      refine Holds.mono (ih s1 c1 hk1 h4) ?_
      intro r ⟨⟨g1, g2⟩, g3, g4, g5⟩
      refine ⟨⟨?_, by omega⟩, g3, by rw [g4, h5], fun hi => g5 (h6 hi)⟩
      rw [g1, h1]
    · simp only [hr, not_false_eq_true, if_true, Holds]
      exact ⟨_, rfl⟩

/-- `lf`, `print_char`, REP write nothing but the buffer height, whatever state they start from -/
def OnlyBh (s : Scr) (r : Res (Scr × Car)) : Prop := Holds AnyErr r (fun p => p.1 = { s with bh := p.1.bh })

theorem lf_onlyBh (s : Scr) (c : Car) : OnlyBh s (lf s c) := by
  unfold OnlyBh lf
  simp only []
  split
  · split
    · rfl
    · trivial
  · rfl

theorem printChar_onlyBh (s : Scr) (c : Car) : OnlyBh s (printChar s c) := by
  unfold OnlyBh printChar
  refine Holds.ite (fun _ => trivial) fun _ => Holds.ite (fun _ => trivial) fun _ => ?_
  refine Holds.ite (fun _ => Holds.ite (fun _ => ?_) fun _ => rfl) fun _ => rfl
  exact Holds.mono (lf_onlyBh { s with bh := max s.bh (c.y + 1) } _) fun r h => by rw [h]

theorem printN_onlyBh : ∀ (n : Nat) (s : Scr) (c : Car), OnlyBh s (printN n s c) := by
  intro n
  induction n with
  | zero => intro s c; exact rfl
  | succ n ih =>
    intro s c
    unfold OnlyBh printN
    refine Holds.ite (fun _ => trivial) fun _ => ?_
    have hp := printChar_onlyBh s c
    generalize printChar s c = x at hp ⊢
    rcases x with e | ⟨s1, c1⟩
    · trivial
    · exact Holds.mono (ih s1 c1) fun r2 h2 => by
        have hp' : s1 = { s with bh := s1.bh } := hp
        rw [h2, hp']

end IcyVerif.Term
