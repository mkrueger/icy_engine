import IcyVerif.Model.Loaders
/-! Post-conditions on `Res` and the byte-cursor primitives (C02).

`r.Sat P`: `r` is not a panic, and if it is `ok a` then `P a`; `r.SatS S P`: the same with panics at the sites `S` tolerated (`Sat` is `SatS`
at the empty predicate, its rules are those of `SatS`); `Unless C`: the site predicate "no panic provided `C`".  One lemma per primitive of
`Model/Bytes` in three forms: `_sat` (in range: no panic), `_site` (unconditional: only its own site), `_ok` (once it has returned). -/
namespace IcyVerif.Bytes
namespace Res
variable {α β : Type}

/-- not a panic; a value satisfies `P` -/
def Sat (P : α → Prop) : Res α → Prop
  | .ok a => P a
  | .err => True
  | .panic _ => False

@[simp] theorem sat_ok {P : α → Prop} {a : α} : (Res.ok a).Sat P ↔ P a := Iff.rfl
@[simp] theorem sat_err {P : α → Prop} : (Res.err : Res α).Sat P ↔ True := Iff.rfl
@[simp] theorem sat_panic {P : α → Prop} {s : String} : (Res.panic s : Res α).Sat P ↔ False := Iff.rfl
@[simp] theorem sat_pure {P : α → Prop} {a : α} : (pure a : Res α).Sat P ↔ P a := Iff.rfl

/-- like `Sat`, but panics at sites satisfying `S` are tolerated (sites owned by other properties) -/
def SatS (S : String → Prop) (P : α → Prop) : Res α → Prop
  | .ok a => P a
  | .err => True
  | .panic s => S s

variable {S : String → Prop} {P : α → Prop} {Q : β → Prop} {x : Res α} {f : α → Res β}

theorem SatS.bind (hx : x.SatS S P) (hf : ∀ a, P a → (f a).SatS S Q) : (x >>= f).SatS S Q := by
  cases x with
  | ok a => exact hf a hx
  | err => trivial
  | panic s => exact hx

theorem SatS.map {S : String → Prop} {P : α → Prop} {Q : β → Prop} {x : Res α} {f : α → β}
    (hx : x.SatS S P) (hf : ∀ a, P a → Q (f a)) : (f <$> x).SatS S Q := by
  cases x with
  | ok a => exact hf a hx
  | err => trivial
  | panic s => exact hx

theorem SatS.mono {S : String → Prop} {P Q : α → Prop} {x : Res α} (hx : x.SatS S P) (h : ∀ a, P a → Q a) : x.SatS S Q := by
  cases x with
  | ok a => exact h a hx
  | err => trivial
  | panic s => exact hx

theorem SatS.ite {c : Prop} [Decidable c] {t e : Res α}
    (ht : c → t.SatS S P) (he : ¬ c → e.SatS S P) : (if c then t else e).SatS S P := by
  by_cases h : c
  · rw [if_pos h]; exact ht h
  · rw [if_neg h]; exact he h

/-- a guard of a loader, `if c { return Err(..) }`: the rest runs under `¬ c` -/
theorem SatS.guard {c : Prop} [Decidable c] {e : Res α} (he : ¬ c → e.SatS S P) :
    (if c then .err else e).SatS S P :=
  SatS.ite (fun _ => True.intro) he

theorem SatS.weaken {S T : String → Prop} {P : α → Prop} {x : Res α} (h : x.SatS S P) (hST : ∀ s, S s → T s) : x.SatS T P := by
  cases x with
  | ok a => exact h
  | err => trivial
  | panic s => exact hST s h

theorem SatS.panic_site (hx : x.SatS S P) {s : String} (h : x = .panic s) : S s := by
  subst h; exact hx

theorem SatS.of_ok (hx : x.SatS S P) {a : α} (h : x = .ok a) : P a := by
  subst h; exact hx

/-- no panic provided `C` (the sites play no part): for loaders whose arithmetic is safe only under a bound on the file -/
abbrev Unless (C : Prop) : String → Prop := fun _ => ¬ C

theorem SatS.unless {C : Prop} {P' : α → Prop} (hs : C → x.Sat P') (hok : ∀ a, x = .ok a → P a) : x.SatS (Unless C) P := by
  cases x with
  | ok a => exact hok a rfl
  | err => trivial
  | panic s => exact fun hc => hs hc

theorem Sat.toSatS (hx : x.Sat P) : x.SatS S P := by
  cases x with
  | ok a => exact hx
  | err => trivial
  | panic s => exact hx.elim

theorem SatS.toSat {S : String → Prop} {P : α → Prop} {x : Res α} (hx : x.SatS S P) (hS : ∀ s, ¬ S s) : x.Sat P := by
  cases x with
  | ok a => exact hx
  | err => trivial
  | panic s => exact (hS s hx).elim

/-! `x.Sat P` unfolds to `x.SatS (fun _ => False) P` (both are the same `match`): the rules of `Sat` are those of `SatS`. -/

theorem Sat.bind (hx : x.Sat P) (hf : ∀ a, P a → (f a).Sat Q) : (x >>= f).Sat Q :=
  SatS.bind (S := fun _ => False) hx hf

theorem Sat.map {P : α → Prop} {Q : β → Prop} {x : Res α} {f : α → β}
    (hx : x.Sat P) (hf : ∀ a, P a → Q (f a)) : (f <$> x).Sat Q :=
  SatS.map (S := fun _ => False) hx hf

theorem Sat.mono {P Q : α → Prop} {x : Res α} (hx : x.Sat P) (h : ∀ a, P a → Q a) : x.Sat Q :=
  SatS.mono (S := fun _ => False) hx h

theorem Sat.ite {c : Prop} [Decidable c] {t e : Res α}
    (ht : c → t.Sat P) (he : ¬ c → e.Sat P) : (if c then t else e).Sat P :=
  SatS.ite (S := fun _ => False) ht he

theorem Sat.guard {c : Prop} [Decidable c] {e : Res α} (he : ¬ c → e.Sat P) : (if c then .err else e).Sat P :=
  Sat.ite (fun _ => True.intro) he

theorem Sat.noPanic (hx : x.Sat P) : x.NoPanic := by
  intro s h; subst h; exact hx

theorem noPanic_iff_sat {x : Res α} : x.NoPanic ↔ x.Sat (fun _ => True) := by
  constructor
  · intro h
    cases x with
    | ok a => trivial
    | err => trivial
    | panic s => exact (h s rfl).elim
  · exact Sat.noPanic

theorem SatS.bind_sat (hx : x.Sat P) (hf : ∀ a, P a → (f a).SatS S Q) : (x >>= f).SatS S Q :=
  SatS.bind hx.toSatS hf

theorem bind_ok {b : β} (h : x >>= f = .ok b) : ∃ a, x = .ok a ∧ f a = .ok b := by
  cases x with
  | ok a => exact ⟨a, rfl, h⟩
  | err => cases h
  | panic s => cases h

end Res

open Res

theorem byteAt_lt (d : Bytes) (o : Nat) : byteAt d o < 256 := by
  simp only [byteAt]; omega

theorem rd_sat_eq {s : String} {d : Bytes} {o : Nat} (h : o < d.size) : (rd s d o).Sat (fun v => v = byteAt d o) := by
  simp only [rd, h, if_true, sat_ok]

theorem rd_sat {s : String} {d : Bytes} {o : Nat} (h : o < d.size) : (rd s d o).Sat (fun v => v < 256) :=
  (rd_sat_eq h).mono (fun _ hv => hv ▸ byteAt_lt d o)

theorem slice_sat {s : String} {d : Bytes} {a b : Nat} (h : a ≤ b ∧ b ≤ d.size) : (slice s d a b).Sat (fun _ => True) := by
  simp only [slice, h, and_self, if_true, sat_ok]

theorem usub_sat {s : String} {a b : Nat} (h : b ≤ a) : (usub s a b).Sat (fun v => v = a - b) := by
  simp only [usub, h, if_true, sat_ok]

theorem chk32_sat {s : String} {v : Int} (h : -2147483648 ≤ v ∧ v ≤ 2147483647) : (chk32 s v).Sat (fun w => w = v) := by
  simp only [chk32, i32Min, i32Max, h, and_self, if_true, sat_ok]

theorem rdU16_val {s : String} {d : Bytes} {o : Nat} (h : o + 1 < d.size) :
    (rdU16 s d o).Sat (fun v => v = byteAt d o + byteAt d (o + 1) * 256 ∧ v < 65536) := by
  have h0 : o < d.size := by omega
  simp only [rdU16, rd, h0, h, if_true, sat_ok, true_and]
  have := byteAt_lt d o; have := byteAt_lt d (o + 1); omega

theorem rdU16_sat {s : String} {d : Bytes} {o : Nat} (h : o + 1 < d.size) : (rdU16 s d o).Sat (fun v => v < 65536) :=
  (rdU16_val h).mono (fun _ hv => hv.2)

theorem rdU16s_sat {s : String} {d : Bytes} {o : Nat} (h : o + 2 ≤ d.size) : (rdU16s s d o).Sat (fun v => v < 65536) := by
  have hs : o ≤ o + 2 ∧ o + 2 ≤ d.size := by omega
  simp only [rdU16s, slice, hs, and_self, if_true, sat_ok]
  have := byteAt_lt d o; have := byteAt_lt d (o + 1); omega

theorem rdU32_sat {s : String} {d : Bytes} {o : Nat} (h : o + 4 ≤ d.size) : (rdU32 s d o).Sat (fun v => v < 4294967296) := by
  have hs : o ≤ o + 4 ∧ o + 4 ≤ d.size := by omega
  simp only [rdU32, slice, hs, and_self, if_true, sat_ok]
  have := byteAt_lt d o; have := byteAt_lt d (o + 1); have := byteAt_lt d (o + 2); have := byteAt_lt d (o + 3); omega

theorem rdU64_sat {s : String} {d : Bytes} {o : Nat} (h : o + 8 ≤ d.size) : (rdU64 s d o).Sat (fun _ => True) := by
  have hs : o ≤ o + 8 ∧ o + 8 ≤ d.size := by omega
  simp only [rdU64, slice, hs, and_self, if_true, sat_ok]

theorem rd_site {s : String} {d : Bytes} {o : Nat} : (rd s d o).SatS (· = s) (fun v => v < 256) := by
  unfold rd; split
  · exact byteAt_lt d o
  · rfl

theorem slice_site {s : String} {d : Bytes} {a b : Nat} : (slice s d a b).SatS (· = s) (fun _ => a ≤ b ∧ b ≤ d.size) := by
  unfold slice; split
  · rename_i h; exact h
  · rfl

theorem usub_site {s : String} {a b : Nat} : (usub s a b).SatS (· = s) (fun v => v = a - b ∧ b ≤ a) := by
  unfold usub; split
  · rename_i h; exact ⟨rfl, h⟩
  · rfl

theorem chk32_site {s : String} {v : Int} : (chk32 s v).SatS (· = s) (fun w => w = v) := by
  unfold chk32; split
  · rfl
  · rfl

theorem chk32_unless {C : Prop} {s : String} {v : Int} (h : C → -2147483648 ≤ v ∧ v ≤ 2147483647) :
    (chk32 s v).SatS (Unless C) (fun w => w = v) :=
  SatS.unless (fun hc => chk32_sat (h hc)) (fun _ ha => SatS.of_ok chk32_site ha)

theorem rdU16_site {s : String} {d : Bytes} {o : Nat} : (rdU16 s d o).SatS (· = s) (fun v => v < 65536) := by
  unfold rdU16 rd
  by_cases h0 : o < d.size
  · by_cases h1 : o + 1 < d.size
    · simp only [h0, h1, if_true]
      have := byteAt_lt d o; have := byteAt_lt d (o + 1)
      show _ < 65536
      omega
    · simp only [h0, h1, if_true, if_false]; rfl
  · simp only [h0, if_false]; rfl

theorem chk32_ok {s : String} {v w : Int} (h : chk32 s v = .ok w) : w = v := by
  unfold chk32 at h; split at h
  · cases h; rfl
  · cases h

theorem rd_ok {s : String} {d : Bytes} {o v : Nat} (h : rd s d o = .ok v) : o < d.size ∧ v < 256 := by
  unfold rd at h; split at h
  · rename_i ho; cases h; exact ⟨ho, byteAt_lt d o⟩
  · cases h

theorem rdU16_ok {s : String} {d : Bytes} {o v : Nat} (h : rdU16 s d o = .ok v) : v < 65536 :=
  SatS.of_ok rdU16_site h

theorem asI32_range (x : Nat) : -2147483648 ≤ asI32 x ∧ asI32 x ≤ 2147483647 := by
  simp only [asI32]; split <;> omega

theorem asI32_small {x : Nat} (h : x < 2147483648) : asI32 x = (x : Int) := by
  simp only [asI32]
  have : x % 4294967296 = x := Nat.mod_eq_of_lt (by omega)
  rw [this]; simp [h]

/-- `Array.append` pushes one by one (quadratic in the kernel): a test vector padded with `Array.replicate` is evaluated as a list append -/
theorem append_replicate (l : List Nat) (n v : Nat) : l.toArray ++ Array.replicate n v = (l ++ List.replicate n v).toArray := by
  apply Array.ext'; simp

theorem extract_size_le (d : Bytes) (n : Nat) : (d.extract 0 n).size ≤ d.size := by
  simp only [Array.size_extract]; omega

end IcyVerif.Bytes

namespace IcyVerif.Loaders
open IcyVerif.Bytes IcyVerif.Bytes.Res IcyVerif.Gen IcyVerif.Gen.Loaders

/-- the row counter of the 2-bytes-per-cell / 1-byte-per-cell loaders is an `i32` that grows with the file:
    the theorems for BIN, ADF and Tundra are stated for files of less than 2 GiB - 64 KiB -/
def FitsI32 (d : Bytes) : Prop := d.size + 65536 < 2147483648

theorem setChar_fields (g : Geo) (x y : Int) :
    (g.setChar x y).bw = g.bw ∧ (g.setChar x y).bh = g.bh ∧ (g.setChar x y).lw = g.lw ∧ (g.setChar x y).lh = g.lh := by
  unfold Geo.setChar; split
  · exact ⟨rfl, rfl, rfl, rfl⟩
  · split <;> exact ⟨rfl, rfl, rfl, rfl⟩

/-- (the `lw` projection of `setChar_fields`) -/
theorem setChar_lw (g : Geo) (x y : Int) : (g.setChar x y).lw = g.lw := (setChar_fields g x y).2.2.1

theorem initGeo_bw (w h : Nat) (c : Bool) (s : Option (Nat × Nat)) (hw : 1 ≤ w) :
    1 ≤ (initGeo w h c s).bw ∧ (initGeo w h c s).bw ≤ max (w : Int) 1000 := by
  unfold initGeo
  have h1 : sauceMaxWidth = 1000 := rfl
  have h2 : sauceDefaultWidth = 80 := rfl
  cases s with
  | none => simp only []; omega
  | some p =>
    obtain ⟨sw, sh⟩ := p
    simp only []
    split <;> omega

/-- what `advance_pos` does: one column on, or at the right edge to the start of the next row -/
def Adv (bw : Int) (p q : Pos) : Prop :=
  (q.x = p.x + 1 ∧ q.y = p.y ∧ p.x + 1 < bw) ∨ (q.x = 0 ∧ q.y = p.y + 1 ∧ bw ≤ p.x + 1)

theorem advance_ok {s : String} {bw : Int} {p q : Pos} (h : advance s bw p = .ok q) : Adv bw p q := by
  unfold advance at h
  obtain ⟨x, hx, h⟩ := bind_ok h
  have := chk32_ok hx; subst this
  split at h
  · rename_i hge
    obtain ⟨y, hy, h⟩ := bind_ok h
    have := chk32_ok hy; subst this
    cases h
    exact Or.inr ⟨rfl, rfl, hge⟩
  · rename_i hlt
    cases h
    exact Or.inl ⟨rfl, rfl, Int.not_le.mp hlt⟩

theorem advance_step {s : String} {bw : Int} {p : Pos} (hx : -2147483648 ≤ p.x + 1 ∧ p.x + 1 ≤ 2147483647)
    (hy : -2147483648 ≤ p.y + 1 ∧ p.y + 1 ≤ 2147483647) : (advance s bw p).Sat (Adv bw p) := by
  have hs : (advance s bw p).Sat (fun _ => True) := by
    unfold advance
    apply Sat.bind (chk32_sat hx); intro x _
    exact Sat.ite (fun _ => Sat.bind (chk32_sat hy) (fun _ _ => True.intro)) (fun _ => True.intro)
  cases h : advance s bw p with
  | ok q => exact advance_ok h
  | err => trivial
  | panic t => rw [h] at hs; exact hs

end IcyVerif.Loaders
