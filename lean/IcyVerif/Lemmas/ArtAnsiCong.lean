import IcyVerif.Lemmas.ArtAnsiRead
import IcyVerif.Lemmas.ArtScreen
/-! # The ANSI reader up to what is SHOWN (C04, output line length)

`push_result` may put `ESC [ s  CR LF  ESC [ u` in front of any piece of output.  On a file buffer the line feed makes
`Caret::lf` append empty rows, so the reader's `lines` differ from the run without the split — but only by rows that show
nothing.  `SimR` relates two reader states that agree on everything except `lines`, which agree in what they SHOW
(`shownAt`), and except the saved cursor position.  Every step of the ANSI parser preserves `SimR` (`step_cong`) — except
`CSI u` itself, which reads the saved position; the writer emits it only inside the split sequence.  -/
namespace IcyVerif.ArtIO
open IcyVerif.Gen.Art

/-- two row lists show the same cell at every position (they may differ in rows and cells that show nothing) -/
def LinesEq (a b : List (List Cell)) : Prop := ∀ x y, shownAt a x y = shownAt b x y

theorem LinesEq.refl (a : List (List Cell)) : LinesEq a a := fun _ _ => rfl

/-- same geometry and caret, lines that show the same; the caret is inside the row (one-sided, so there is no
    unconditional `refl`: `Screen.put` behaves alike on both sides only then) -/
structure ScrEq (s t : Screen) : Prop where
  w : s.w = t.w
  layerH : s.layerH = t.layerH
  cx : s.cx = t.cx
  cy : s.cy = t.cy
  lines : LinesEq s.lines t.lines
  inw : s.cx < s.w

theorem ScrEq.put {s t : Screen} (h : ScrEq s t) (c : Cell) : ScrEq (s.put c) (t.put c) := by
  obtain ⟨h1, h2, h3, h4, h5, h6⟩ := h
  have ht : t.cx < t.w := by omega
  rw [put_eq s c h6, put_eq t c ht]
  by_cases hw : s.cx + 1 < s.w
  · have hw' : t.cx + 1 < t.w := by omega
    rw [if_pos hw, if_pos hw']
    refine ⟨h1, by simp only; rw [h2, h4], by simp only; rw [h3], h4, ?_, hw⟩
    intro x y
    show shownAt (linesSetChar s.lines s.w s.cx s.cy c) x y = shownAt (linesSetChar t.lines t.w t.cx t.cy c) x y
    rw [shownAt_linesSetChar, shownAt_linesSetChar, h3, h4, h5 x y]
  · have hw' : ¬ t.cx + 1 < t.w := by omega
    rw [if_neg hw, if_neg hw']
    refine ⟨h1, by simp only; rw [h2, h4], rfl, by simp only; rw [h4], ?_, by show 0 < s.w; omega⟩
    intro x y
    show shownAt (linesExtend (linesSetChar s.lines s.w s.cx s.cy c) (s.cy + 1)) x y =
      shownAt (linesExtend (linesSetChar t.lines t.w t.cx t.cy c) (t.cy + 1)) x y
    rw [shownAt_linesExtend, shownAt_linesExtend, shownAt_linesSetChar, shownAt_linesSetChar, h3, h4, h5 x y]

theorem ScrEq.puts {s t : Screen} (h : ScrEq s t) (cells : List Cell) :
    ScrEq (cells.foldl Screen.put s) (cells.foldl Screen.put t) := by
  induction cells generalizing s t with
  | nil => exact h
  | cons c cs ih => exact ih (h.put c)

theorem ScrEq.lf {s t : Screen} (h : ScrEq s t) : ScrEq s.lf t.lf := by
  obtain ⟨h1, h2, h3, h4, h5, h6⟩ := h
  refine ⟨h1, h2, rfl, by show s.cy + 1 = t.cy + 1; rw [h4], ?_, by show 0 < s.w; omega⟩
  intro x y
  show shownAt (linesExtend s.lines (s.cy + 1)) x y = shownAt (linesExtend t.lines (t.cy + 1)) x y
  rw [shownAt_linesExtend, shownAt_linesExtend, h5 x y]

theorem ScrEq.cr {s t : Screen} (h : ScrEq s t) : ScrEq s.cr t.cr := by
  obtain ⟨h1, h2, h3, h4, h5, h6⟩ := h
  exact ⟨h1, h2, rfl, h4, h5, by show 0 < s.w; omega⟩

theorem ScrEq.clear {s t : Screen} (h : ScrEq s t) : ScrEq s.clear t.clear := by
  obtain ⟨h1, h2, h3, h4, h5, h6⟩ := h
  exact ⟨h1, h2, rfl, rfl, fun _ _ => rfl, by show 0 < s.w; omega⟩

theorem ScrEq.moveLimit {s t : Screen} (h : ScrEq s t) (x y : Nat) :
    ScrEq ({ s with cx := x, cy := y } : Screen).limit ({ t with cx := x, cy := y } : Screen).limit := by
  obtain ⟨h1, h2, h3, h4, h5, h6⟩ := h
  refine ⟨h1, h2, by show min x (s.w - 1) = min x (t.w - 1); rw [h1], rfl, h5, ?_⟩
  show min x (s.w - 1) < s.w
  omega

theorem ScrEq.right {s t : Screen} (h : ScrEq s t) (n : Nat) : ScrEq (s.right n) (t.right n) := by
  have := h.moveLimit (min (s.cx + n) 2147483647) s.cy
  unfold Screen.right
  rw [← h.cx]
  have e : ({ t with cx := min (s.cx + n) 2147483647 } : Screen) = { t with cx := min (s.cx + n) 2147483647, cy := s.cy } := by
    rw [h.cy]
  rw [e]; exact this

theorem lineShown_eraseIdx (l : List Cell) (k x : Nat) :
    lineShown (l.eraseIdx k) x = if x < k then lineShown l x else lineShown l (x + 1) := by
  unfold lineShown
  rw [List.getElem?_eraseIdx]
  by_cases hx : x < k <;> simp [hx]

theorem shownAt_del (lines : List (List Cell)) (cx cy x y : Nat) :
    shownAt (lines.modify cy (fun l => l.eraseIdx cx)) x y =
      if y = cy then (if x < cx then shownAt lines x y else shownAt lines (x + 1) y) else shownAt lines x y := by
  unfold shownAt
  rw [List.getElem?_modify]
  by_cases hy : y = cy
  · subst hy
    simp only [if_true]
    cases hl : lines[y]? with
    | none => simp [lineShown]
    | some l => simp [lineShown_eraseIdx]
  · have : ¬ cy = y := fun e => hy e.symm
    simp [hy, this]

theorem ScrEq.del {s t : Screen} (h : ScrEq s t) : ScrEq s.del t.del := by
  obtain ⟨h1, h2, h3, h4, h5, h6⟩ := h
  refine ⟨h1, h2, h3, h4, ?_, h6⟩
  intro x y
  show shownAt (s.lines.modify s.cy (fun l => l.eraseIdx s.cx)) x y = shownAt (t.lines.modify t.cy (fun l => l.eraseIdx t.cx)) x y
  rw [shownAt_del, shownAt_del, h3, h4, h5 x y, h5 (x + 1) y]

/-- two reader cores that agree on everything except the rows of the screen, which only show the same (`ScrEq`) -/
structure CoreEq (c d : Core) : Prop where
  scr : ScrEq c.scr d.scr
  attr : c.attr = d.attr
  caretIce : c.caretIce = d.caretIce
  bufIce : c.bufIce = d.bufIce
  pal : c.pal = d.pal
  termH : c.termH = d.termH
  stuck : c.stuck = d.stuck

/-- the split run `(p, c)` next to the plain run `(p0, c0)`: same parser state and last character, cores that show the
    same; the saved cursor position is NOT related -/
structure SimR (p : AnsiP) (c : Core) (p0 : AnsiP) (c0 : Core) : Prop where
  st : p.st = p0.st
  lastCh : p.lastCh = p0.lastCh
  core : CoreEq c c0

def isCsiSt : AState → Bool
  | .csi _ _ => true
  | _ => false

theorem CoreEq.printAttr {c d : Core} (h : CoreEq c d) : c.printAttr = d.printAttr := by
  unfold Core.printAttr; rw [h.caretIce, h.attr]

theorem CoreEq.withScr {c d : Core} (h : CoreEq c d) {s t : Screen} (hs : ScrEq s t) :
    CoreEq { c with scr := s } { d with scr := t } :=
  ⟨hs, h.attr, h.caretIce, h.bufIce, h.pal, h.termH, h.stuck⟩

theorem CoreEq.printAnsi {c d : Core} (h : CoreEq c d) (ch : Nat) : CoreEq (c.printAnsi ch) (d.printAnsi ch) := by
  unfold Core.printAnsi
  rw [h.printAttr]
  exact h.withScr (h.scr.put _)

theorem CoreEq.ff {c d : Core} (h : CoreEq c d) : CoreEq c.ff d.ff :=
  ⟨h.scr.clear, rfl, h.caretIce, h.bufIce, h.pal, h.termH, h.stuck⟩

theorem CoreEq.stick {c d : Core} (h : CoreEq c d) : CoreEq c.stick d.stick :=
  ⟨h.scr, h.attr, h.caretIce, h.bufIce, h.pal, h.termH, rfl⟩

theorem CoreEq.sgr {c d : Core} (h : CoreEq c d) (nums : List Nat) : CoreEq (sgr c nums) (sgr d nums) := by
  unfold ArtIO.sgr
  rw [h.attr, h.pal]
  exact ⟨h.scr, rfl, h.caretIce, h.bufIce, rfl, h.termH, h.stuck⟩

theorem CoreEq.rep {c d : Core} (h : CoreEq c d) (lastCh : Nat) (nums : List Nat) : CoreEq (rep c lastCh nums) (rep d lastCh nums) := by
  unfold ArtIO.rep
  simp only []
  rw [h.printAttr, h.scr.w, h.termH]
  exact ⟨h.scr.puts _, h.attr, h.caretIce, h.bufIce, h.pal, rfl, h.stuck⟩

theorem CoreEq.color24 {c d : Core} (h : CoreEq c d) (nums : List Nat) : CoreEq (color24 c nums) (color24 d nums) := by
  obtain ⟨h1, h2, h3, h4, h5, h6, h7⟩ := h
  unfold ArtIO.color24
  simp only []
  rw [h5]
  rcases insertColor d.pal (nums.getD 1 0 % 256, nums.getD 2 0 % 256, nums.getD 3 0 % 256) with ⟨pal', idx⟩
  simp only []
  split
  · exact ⟨h1, by simp only [h2], h3, h4, rfl, h6, h7⟩
  · exact ⟨h1, by simp only [h2], h3, h4, rfl, h6, h7⟩
  · exact ⟨h1, h2, h3, h4, rfl, h6, h7⟩

theorem ScrEq.cup {s t : Screen} (h : ScrEq s t) (nums : List Nat) : ScrEq (cup s nums) (cup t nums) := by
  unfold ArtIO.cup
  match nums with
  | [] => exact ⟨h.w, h.layerH, rfl, rfl, h.lines, by show 0 < s.w; have := h.inw; omega⟩
  | [r] => exact h.moveLimit 0 (r - 1)
  | r :: c :: _ => exact h.moveLimit (c - 1) (r - 1)

theorem SimR.ite {c : Prop} [Decidable c] {a b a0 b0 : AnsiP × Core} (ha : c → SimR a.1 a.2 a0.1 a0.2) (hb : ¬ c → SimR b.1 b.2 b0.1 b0.2) :
    SimR (if c then a else b).1 (if c then a else b).2 (if c then a0 else b0).1 (if c then a0 else b0).2 := by
  by_cases h : c
  · rw [if_pos h, if_pos h]; exact ha h
  · rw [if_neg h, if_neg h]; exact hb h

theorem step_cong {p p0 : AnsiP} {c c0 : Core} (h : SimR p c p0 c0) (ch : Nat) (hu : ch = 117 → isCsiSt p.st = false) :
    SimR (ansiStep p c ch).1 (ansiStep p c ch).2 (ansiStep p0 c0 ch).1 (ansiStep p0 c0 ch).2 := by
  obtain ⟨hst, hlc, hc⟩ := h
  unfold ansiStep
  by_cases hs : c.stuck = true
  · have hs0 : c0.stuck = true := by rw [← hc.stuck]; exact hs
    rw [if_pos hs, if_pos hs0]; exact ⟨hst, hlc, hc⟩
  · have hs0 : ¬ c0.stuck = true := by rw [← hc.stuck]; exact hs
    rw [if_neg hs, if_neg hs0, ← hst]
    cases hp : p.st with
    | ground =>
      simp only []
      refine SimR.ite (fun _ => ⟨rfl, hlc, hc⟩) (fun _ => ?_)
      refine SimR.ite (fun _ => ⟨hst, hlc, hc.withScr hc.scr.lf⟩) (fun _ => ?_)
      refine SimR.ite (fun _ => ⟨hst, hlc, hc.ff⟩) (fun _ => ?_)
      refine SimR.ite (fun _ => ⟨hst, hlc, hc.withScr hc.scr.cr⟩) (fun _ => ?_)
      refine SimR.ite (fun _ => ⟨hst, hlc, hc⟩) (fun _ => ?_)
      refine SimR.ite (fun _ => ⟨hst, hlc, hc.withScr hc.scr.del⟩) (fun _ => ?_)
      exact ⟨rfl, rfl, hc.printAnsi ch⟩
    | esc =>
      simp only []
      refine SimR.ite (fun _ => ⟨rfl, hlc, hc⟩) (fun _ => ?_)
      refine SimR.ite (fun _ => ⟨rfl, rfl, hc.printAnsi ch⟩) (fun _ => ?_)
      exact SimR.ite (fun _ => ⟨hst, hlc, hc.stick⟩) (fun _ => ⟨rfl, hlc, hc⟩)
    | csi nums start =>
      have hu' : ch ≠ 117 := by
        intro e; have := hu e; rw [hp] at this; cases this
      simp only []
      refine SimR.ite (fun _ => ⟨rfl, hlc, hc.sgr nums⟩) (fun _ => ?_)
      refine SimR.ite (fun _ => ⟨rfl, hlc, hc.withScr (hc.scr.cup nums)⟩) (fun _ => ?_)
      refine SimR.ite (fun _ => ⟨rfl, hlc, hc.withScr (hc.scr.right _)⟩) (fun _ => ?_)
      refine SimR.ite (fun _ => ⟨rfl, hlc, hc⟩) (fun _ => ?_)
      refine SimR.ite (fun h => absurd h hu') (fun _ => ?_)
      refine SimR.ite (fun _ => ?_) (fun _ => ?_)
      · split
        · exact ⟨rfl, hlc, hc.withScr hc.scr.clear⟩
        · exact ⟨rfl, hlc, hc.withScr hc.scr.clear⟩
        · exact ⟨hst, hlc, hc.stick⟩
      refine SimR.ite (fun _ => SimR.ite (fun _ => ⟨rfl, hlc, hc.color24 nums⟩)
        (fun _ => SimR.ite (fun _ => ⟨hst, hlc, hc.stick⟩) (fun _ => ⟨rfl, hlc, hc⟩))) (fun _ => ?_)
      refine SimR.ite (fun _ => by rw [hlc]; exact ⟨rfl, rfl, hc.rep _ nums⟩) (fun _ => ?_)
      refine SimR.ite (fun _ => SimR.ite (fun _ => ⟨rfl, hlc, hc⟩) (fun _ => ⟨hst, hlc, hc.stick⟩)) (fun _ => ?_)
      refine SimR.ite (fun _ => ⟨rfl, hlc, hc⟩) (fun _ => ?_)
      refine SimR.ite (fun _ => ⟨rfl, hlc, hc⟩) (fun _ => ?_)
      refine SimR.ite (fun _ => ⟨rfl, hlc, hc⟩) (fun _ => ?_)
      exact ⟨hst, hlc, hc.stick⟩
    | csiQ nums =>
      simp only []
      refine SimR.ite (fun _ => ⟨rfl, hlc, hc⟩) (fun _ => ?_)
      refine SimR.ite (fun _ => ⟨rfl, hlc, hc⟩) (fun _ => ?_)
      refine SimR.ite (fun _ => SimR.ite (fun _ => ⟨rfl, hlc, ⟨hc.scr, hc.attr, rfl, rfl, hc.pal, hc.termH, hc.stuck⟩⟩)
        (fun _ => ⟨hst, hlc, hc.stick⟩)) (fun _ => ?_)
      refine SimR.ite (fun _ => SimR.ite (fun _ => ⟨rfl, hlc, ⟨hc.scr, hc.attr, rfl, hc.bufIce, hc.pal, hc.termH, hc.stuck⟩⟩)
        (fun _ => ⟨hst, hlc, hc.stick⟩)) (fun _ => ?_)
      exact ⟨hst, hlc, hc.stick⟩
    | csiSp nums =>
      simp only []
      exact SimR.ite (fun _ => SimR.ite (fun _ => ⟨rfl, hlc, hc⟩) (fun _ => ⟨hst, hlc, hc.stick⟩)) (fun _ => ⟨hst, hlc, hc.stick⟩)

end IcyVerif.ArtIO
