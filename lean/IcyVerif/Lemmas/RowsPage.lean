import IcyVerif.Lemmas.RowsOther
/-! # Viewdata / Mode 7: the page keeps its shape
On the fixed 40x24 page every row that exists has exactly 40 cells and there are at most 24 rows: the two emulations
write cells with `Layer::set_char` only (which allocates full-width rows), clear with `Layer::clear`, and Mode 7
scrolls with `Buffer::scroll_up` (again `set_char`).  Consequence: `fill_to_eol` changes no row length after its
first cell, so the content-dependent number of cells it visits does not matter for the row table. -/
namespace IcyVerif.Rows
open IcyVerif.Term

def PageTab (t : Tab) : Prop := t.lw = 40 ∧ t.lh = 24 ∧ t.rows.length ≤ 24 ∧ ∀ n ∈ t.rows, n = 40

theorem pageTab_init : PageTab (initTab 40 24) :=
  ⟨rfl, rfl, by simp [initTab], fun n hn => (List.mem_replicate.mp hn).2⟩

theorem getElem_page (t : Tab) (h : PageTab t) (i : Nat) (hi : i < t.rows.length) : t.rows[i] = 40 :=
  h.2.2.2 _ (List.getElem_mem hi)

theorem lineSetChar_in (n : Nat) (x : Int) (h0 : 0 ≤ x) (h1 : x < n) : lineSetChar n x = .ok n := by
  unfold lineSetChar
  have hc : ¬ (x ≥ (n : Int)) := by omega
  have hx : ¬ (x < 0) := by omega
  simp only [hc, hx, if_false, or_self]

/-- `Layer::set_char` on a page only ever adds rows of 40 cells, up to the row written -/
theorem layerSetChar_page_eq (t : Tab) (x y : Int) (h : PageTab t) :
    layerSetChar t x y = .ok (if (0 ≤ x ∧ x < 40 ∧ 0 ≤ y ∧ y < 24) ∧ t.rows.length ≤ y then
      { t with rows := t.rows ++ List.replicate ((y + 1).toNat - t.rows.length) 40 } else t) := by
  obtain ⟨hw, hh, hlen, hall⟩ := h
  unfold layerSetChar
  by_cases hg : x < 0 ∨ y < 0 ∨ x ≥ t.lw ∨ y ≥ t.lh
  · rw [if_pos hg, if_neg (by rw [hw, hh] at hg; omega)]
  · rw [if_neg hg]
    -- whichever rows `set_char` works on, row `y` is there and has 40 cells, so the write changes no length
    have hwrite : ∀ rows : List Nat, (y : Int) < rows.length → (∀ n ∈ rows, n = 40) →
        (andThen (vecIndex rows y "Layer::set_char: lines[pos.y as usize]") fun n =>
          andThen (lineSetChar n x) fun n' =>
          .ok (if n' = n then { t with rows := rows } else { t with rows := rows.set y.toNat n' })) = .ok { t with rows := rows } := by
      intro rows hy h40
      obtain ⟨n, hn, hmem⟩ := Holds.isOk (vecIndex_ok rows y "Layer::set_char: lines[pos.y as usize]" (by omega) hy)
      rw [hn, h40 n hmem, andThen_ok, lineSetChar_in 40 x (by omega) (by omega), andThen_ok, if_pos rfl]
    by_cases hl : y ≥ (t.rows.length : Int)
    · rw [if_pos hl, if_pos ⟨⟨by omega, by omega, by omega, by omega⟩, hl⟩, lineCreate_ok t.lw (by omega), andThen_ok]
      unfold vecResize
      rw [if_neg (by omega), if_neg (by omega), andThen_ok, show t.lw.toNat = 40 by omega]
      refine hwrite (t.rows ++ List.replicate ((y + 1).toNat - t.rows.length) 40)
        (by rw [List.length_append, List.length_replicate]; omega) fun n hn => ?_
      rw [List.mem_append, List.mem_replicate] at hn
      exact hn.elim (hall n) fun h => h.2
    · rw [if_neg hl, if_neg (fun h => hl h.2), andThen_ok]
      exact hwrite t.rows (by omega) hall

theorem layerSetChar_page (t : Tab) (x y : Int) (h : PageTab t) : Holds NoErr (layerSetChar t x y) PageTab := by
  rw [layerSetChar_page_eq t x y h, Holds.ok]
  split
  · rename_i hc
    obtain ⟨hw, hh, hlen, hall⟩ := h
    refine ⟨hw, hh, by rw [List.length_append, List.length_replicate]; omega, fun n hn => ?_⟩
    rw [List.mem_append, List.mem_replicate] at hn
    exact hn.elim (hall n) fun h => h.2
  · exact h

theorem layerSetChar_fix (t : Tab) (x y : Int) (h : PageTab t) (hrow : y < 0 ∨ 24 ≤ y ∨ y < t.rows.length) :
    layerSetChar t x y = .ok t := by
  rw [layerSetChar_page_eq t x y h, if_neg (by omega)]

theorem setInv_page : SetInv PageTab :=
  ⟨layerSetChar_page, fun _ h => ⟨h.1, h.2.1, by simp [layerClear], by simp [layerClear]⟩⟩

theorem orunJ_page (e : Emu2) (he : e = .viewdata ∨ e = .mode7) (cs : List (Char × Nat)) (x x' : OJ)
    (h : PageTab x.2.2) (hr : orunJ e x cs = .ok x') : PageTab x'.2.2 := by
  refine (orunJ_holds (E := JE AnyErr NoErr) (P := fun x => PageTab x.2.2) e (fun x ch cnt h => ?_) cs x h).val hr
  -- whatever the geometry step does, the rows effect of the two page emulations keeps the page shape
  refine (ostepJ_holds (P := fun _ => True) (I := fun r => PageTab r.2) e x ch cnt ?_ ?_).mono fun _ h => h.2
  · cases ostep e x.1 ch <;> trivial
  · unfold orows
    rcases he with h1 | h1 <;> rw [h1]
    · exact setInv_page.viewdataRows x.1 x.2.1 ch cnt x.2.2 h
    · exact setInv_page.mode7Rows x.1 x.2.1 ch cnt x.2.2 h

theorem loop_fix (y : Int) : ∀ (n : Nat) (i : Int) (t : Tab), PageTab t → (y < 0 ∨ 24 ≤ y ∨ y < t.rows.length) →
    loopFrom (fun x t => layerSetChar t x y) n i t = .ok t := by
  intro n
  induction n with
  | zero => intro i t _ _; rfl
  | succ n ih =>
    intro i t h hrow
    unfold loopFrom
    rw [layerSetChar_fix t i y h hrow]
    exact ih (i + 1) t h hrow

theorem setChar_row_exists (t t' : Tab) (x y : Int) (h : PageTab t) (hx : 0 ≤ x ∧ x < 40)
    (hs : layerSetChar t x y = .ok t') : y < 0 ∨ 24 ≤ y ∨ y < t'.rows.length := by
  rw [layerSetChar_page_eq t x y h] at hs
  cases hs
  split
  · rw [List.length_append, List.length_replicate]; omega
  · omega

/-- count 1 is what the driver of the correspondence run passes -/
theorem fill_count_irrelevant (s : Scr) (c : Car) (cnt : Nat) (t : Tab) (h : PageTab t) (htw : s.tw = 40) (hc : 1 ≤ cnt) :
    fillToEol s c cnt t = fillToEol s c 1 t := by
  unfold fillToEol
  by_cases hx : c.x ≤ 0
  · rw [if_pos hx, if_pos hx]
  · rw [if_neg hx, if_neg hx]
    unfold forRange
    rw [htw]
    by_cases hin : c.x < 40
    · have e1 : (min 40 (c.x + ((1 : Nat) : Int)) - c.x).toNat = 1 := by omega
      obtain ⟨k, hk⟩ : ∃ k, (min 40 (c.x + (cnt : Int)) - c.x).toNat = k + 1 := ⟨(min 40 (c.x + (cnt : Int)) - c.x).toNat - 1, by omega⟩
      rw [e1, hk]
      unfold loopFrom
      cases hs : layerSetChar t c.x c.y with
      | error e => rfl
      | ok t1 =>
        simp only []
        have hp1 : PageTab t1 := by
          have := layerSetChar_page t c.x c.y h
          rw [hs] at this
          exact this
        rw [loop_fix c.y k (c.x + 1) t1 hp1 (setChar_row_exists t t1 c.x c.y h ⟨by omega, hin⟩ hs)]
        rfl
    · have e1 : (min 40 (c.x + ((1 : Nat) : Int)) - c.x).toNat = 0 := by omega
      have e2 : (min 40 (c.x + (cnt : Int)) - c.x).toNat = 0 := by omega
      rw [e1, e2]

end IcyVerif.Rows
