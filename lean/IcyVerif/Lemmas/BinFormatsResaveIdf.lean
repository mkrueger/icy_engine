import IcyVerif.Lemmas.BinFormatsRange
/-!
# C05, iCE Draw IDF: every file the loader accepts loads to a picture the writer reproduces (or refuses: more than 200 rows)
-/
namespace IcyVerif.BinFormats
open IcyVerif.XbCompress IcyVerif.Gen

theorem length_take_drop (l : List Nat) (n k : Nat) (h : n + k ≤ l.length) : ((l.drop n).take k).length = k := by
  rw [List.length_take, List.length_drop]; omega

theorem idf_screen_fits (data : List Nat) (n : Nat) (h1 : ¬ data.length < BinFmt.idfHeaderSize + BinFmt.idfFontSize + BinFmt.idfPaletteSize)
    (h2 : n ≤ ((data.take (data.length - BinFmt.idfFontSize - BinFmt.idfPaletteSize)).drop BinFmt.idfHeaderSize).length) :
    BinFmt.idfHeaderSize + n + BinFmt.idfFontSize + BinFmt.idfPaletteSize ≤ data.length := by
  simp only [BinFmt.idfHeaderSize, BinFmt.idfFontSize, BinFmt.idfPaletteSize, List.length_drop, List.length_take] at *
  omega

theorem idfScan_ok (fuel : Nat) (bs : List Nat) :
    (idfScan fuel bs).2 ≤ bs.length ∧ ∀ it ∈ (idfScan fuel bs).1, it.2.1 ∈ bs ∧ it.2.2 ∈ bs := by
  fun_induction idfScan fuel bs
  -- arms 2 and 4 consume an item (a repeat, a plain pair) and go on; the others stop
  case case2 ih | case4 ih =>
    refine ⟨by simp +zetaDelta only [List.length_cons]; omega, fun it hit => ?_⟩
    rcases List.mem_cons.mp hit with rfl | hit
    · simp
    · exact ⟨by simp [(ih.2 it hit).1], by simp [(ih.2 it hit).2]⟩
  all_goals simp

/-- what `IceDraw::load_buffer` can return: like ADF, but the buffer width comes from the header and the layer is 80 columns wide -/
structure IdfRange (s : Option Sauce.Sauce) (g : LBuf) : Prop where
  w1 : 1 ≤ g.bw
  lw : g.lw = 80
  ice : g.ice = .ice
  pal : pal16 g.pal = true
  font : ∃ fd, g.fonts = [(0, mkFont 16 fd)] ∧ fd.length = 4096
  lh : g.lh = g.bh
  sauce : g.sauce = s.map metaOf
  cells : CellsOK (fun c => attrCell true c = true ∧ c.attr.page = 0) g.lines

theorem IdfRange.of_placed (s : Option Sauce.Sauce) (b : LBuf) (fd pd : List Nat) (hw : 1 ≤ b.bw) (hlw : b.lw = 80) (hice : b.ice = .ice)
    (hfonts : b.fonts = [(0, defaultFont)]) (hsauce : b.sauce = s.map metaOf) (hlh : b.lh = b.bh)
    (hcells : CellsOK (fun c => attrCell true c = true ∧ c.attr.page = 0) b.lines) (hfd : fd.length = 4096) (hpd : pd.length = 48)
    (hpb : ∀ v ∈ pd, v < 256) :
    IdfRange s { b with fonts := (0, mkFont 16 fd) :: b.fonts.filter (fun e => e.1 != 0), pal := from63 pd } :=
  ⟨hw, hlw, hice, pal16_from63 pd hpd hpb, ⟨fd, by rw [hfonts]; rfl, hfd⟩, hlh, hsauce, hcells⟩

theorem idf_range (data : List Nat) (hb : ∀ b ∈ data, b < 256) (s : Option Sauce.Sauce) (g : LBuf) (h : idfLoad data s = .ok g) :
    IdfRange s g := by
  unfold idfLoad at h
  have hc : (BinFmt.idfClearsRows == 1) = true := by decide
  rw [hc] at h
  dsimp only at h
  obtain ⟨c1, h⟩ := ok_of_ite_err h
  obtain ⟨c2, h⟩ := ok_of_ite_err h
  obtain ⟨c3, h⟩ := ok_of_ite_err h
  generalize hx1 : data.getD 4 0 + data.getD 5 0 * 256 = x1 at h c3
  generalize hy1 : data.getD 6 0 + data.getD 7 0 * 256 = y1 at h
  generalize hx2 : data.getD 8 0 + data.getD 9 0 * 256 = x2 at h c3
  generalize hscreen : (data.take (data.length - BinFmt.idfFontSize - BinFmt.idfPaletteSize)).drop BinFmt.idfHeaderSize = screen at h
  obtain ⟨hsc1, hsc2⟩ := idfScan_ok (screen.length + 1) screen
  generalize hscan : idfScan (screen.length + 1) screen = scan at h hsc1 hsc2
  obtain ⟨c4, h⟩ := ok_of_ite_err h
  have hg := Out.ok.inj h
  have hfit := idf_screen_fits data scan.2 c1 (hscreen ▸ hsc1)
  have hscreen_mem : ∀ b ∈ screen, b ∈ data := by
    intro b hbm
    rw [← hscreen] at hbm
    exact List.mem_of_mem_take (List.mem_of_mem_drop hbm)
  generalize hcells : (scan.1.flatMap fun it => List.replicate it.1 (⟨it.2.1, fromU8 true it.2.2⟩ : Cell)) = cells at hg
  have hb1 : ((({ (LBuf.start BinFmt.idfStartW BinFmt.idfStartH true) with ice := IceMode.ice } : LBuf).setSauce false s)) =
      { (LBuf.start BinFmt.idfStartW BinFmt.idfStartH true) with ice := IceMode.ice, sauce := s.map metaOf } := by
    rw [setSauce_false _ s (by simp [LBuf.start])]
  rw [hb1] at hg
  generalize hb2 : ({ ({ (LBuf.start BinFmt.idfStartW BinFmt.idfStartH true) with ice := IceMode.ice, sauce := s.map metaOf } : LBuf) with bw := x2 - x1 + 1 } : LBuf) = b2 at hg
  have hp := placeAll_placed (fun c => attrCell true c = true ∧ c.attr.page = 0) true true x1 x2 cells b2 x1 y1
    (by
      intro c hc _
      rw [← hcells] at hc
      obtain ⟨it, hit, hcr⟩ := List.mem_flatMap.mp hc
      rw [List.eq_of_mem_replicate hcr]
      obtain ⟨m1, m2⟩ := hsc2 it hit
      exact attrCell_fromU8 true _ _ (hb _ (hscreen_mem _ m1)) (hb _ (hscreen_mem _ m2)))
  rw [← hg]
  have e : b2.bw = x2 - x1 + 1 ∧ b2.lw = 80 ∧ b2.ice = .ice ∧ b2.fonts = [(0, defaultFont)] ∧ b2.sauce = s.map metaOf := by
    rw [← hb2]; exact ⟨rfl, rfl, rfl, rfl, rfl⟩
  exact IdfRange.of_placed s _ _ _ (by rw [hp.bw, e.1]; exact Nat.le_add_left 1 _) (hp.lw.trans e.2.1) (hp.ice.trans e.2.2.1)
    (hp.fonts.trans e.2.2.2.1) (hp.sauce.trans e.2.2.2.2) (hp.eqh rfl (by rw [← hb2]; rfl)) (hp.cells (by rw [← hb2]; exact cellsOK_nil _))
    (length_take_drop _ _ _ (Nat.le_trans (Nat.le_add_right _ _) hfit))
    (length_take_drop _ _ _ hfit) (fun b hbm => hb b (List.mem_of_mem_drop (List.mem_of_mem_take hbm)))

theorem idf_loaded_representable (o : Opts) (s : Option Sauce.Sauce) (g : LBuf) (hr : IdfRange s g) (hm : metaOk g.sauce = true)
    (hh : 1 ≤ g.bh) (hh2 : g.bh ≤ 200) (hw : g.bw ≤ 80) : Representable .idf o g.toPic = true := by
  obtain ⟨hwf, hcells, hpg⟩ := attr_toPic g true hr.cells hh hr.w1
  obtain ⟨fd, hfd, hfl⟩ := hr.font
  exact (representable_idf o _).mpr ⟨hm, hr.w1, hw, by show g.bh.toNat ≤ 200; omega, mkFont 16 fd, hwf, hr.ice, hcells, hr.pal, hpg,
    by show lookupFont g.fonts 0 = _; rw [hfd]; exact lookupFont_single _, rfl, hfl⟩

theorem idf_loaded_refused (o : Opts) (date : List Nat) (s : Option Sauce.Sauce) (g : LBuf) (hr : IdfRange s g) (hh : g.bh > 200) :
    save .idf o date g.toPic = .err := by
  show idfSave o.compress o.sauce date g.toPic = .err
  unfold idfSave
  have h1 : (g.toPic.ice != IceMode.ice) = false := by show (g.ice != IceMode.ice) = false; rw [hr.ice]; rfl
  have h2 : g.toPic.h > BinFmt.idfMaxHeight := by
    show g.bh.toNat > 200; omega
  simp only [h1, Bool.false_eq_true, if_false, h2, if_true]

end IcyVerif.BinFormats
