import IcyVerif.Model.FontDcs
import IcyVerif.Lemmas.FontRaw
import IcyVerif.Lemmas.Base64
/-! # C17: the DCS framing of `CTerm:Font:` — lemmas over `Model/FontDcs.lean`

The framing is transparent (`dcs_frame`: `ESC P` + content + `ESC \` is `execute_dcs` on that content, for every content the
recorder takes as it is), a recorded string that holds an ESC never installs a font, and what one complete `encode_as_ansi`
stream does to a parser in the Default state (`stream_effect`). -/
namespace IcyVerif.FontDcs
open IcyVerif.Font

/-- `7` is `MAX_MACRO_DEPTH - 1`, `true` is `decide (8 = 8)`: at top level an invocation resets the expansion budget -/
theorem step_eq (p : P) (ch : Nat) : step p ch = stepCore (invoker (stepD 7) true) p ch := rfl

theorem step_dflt (p : P) (ch : Nat) (h : p.st = .dflt) :
    step p ch = if ch = ESC then ({ p with st := .esc }, .ok) else (p, .ok) := by
  rw [step_eq]; unfold stepCore; rw [h]

theorem step_esc_P (p : P) (h : p.st = .esc) : step p 80 = ({ p with st := .dcs, strRev := [], nums := [] }, .ok) := by
  rw [step_eq]; unfold stepCore; rw [h]; simp [escChar]

theorem step_dcs (p : P) (ch : Nat) (h : p.st = .dcs) :
    step p ch = if ch = ESC then ({ p with st := .dcsEsc }, .ok) else ({ p with strRev := ch :: p.strRev }, .ok) := by
  rw [step_eq]; unfold stepCore; rw [h]

theorem step_dcsEsc_st (p : P) (h : p.st = .dcsEsc) : step p 92 = executeDcs { p with st := .dflt } := by
  rw [step_eq]; unfold stepCore; rw [h]; simp

theorem step_dcsEsc_other (p : P) (x : Nat) (h : p.st = .dcsEsc) (h92 : x ≠ 92) (h91 : x ≠ 91) :
    step p x = ({ p with st := .dcs, strRev := x :: ESC :: p.strRev }, .ok) := by
  rw [step_eq]; unfold stepCore; rw [h]; simp [h92, h91]

theorem run_nil (p : P) : run p [] = p := rfl
theorem run_cons (p : P) (c : Nat) (s : List Nat) : run p (c :: s) = run (step p c).1 s := rfl
theorem run_append (p : P) (a b : List Nat) : run p (a ++ b) = run (run p a) b := by
  unfold run; rw [List.foldl_append]

theorem run_text (p : P) (t : List Nat) (h : p.st = .dflt) (ht : ESC ∉ t) : run p t = p := by
  induction t with
  | nil => rfl
  | cons c t ih =>
    have hc : c ≠ ESC := fun e => ht (by simp [e])
    rw [run_cons, step_dflt p c h, if_neg hc]
    exact ih (fun e => ht (List.mem_cons_of_mem _ e))

/-- content the recorder takes as it is: every ESC is followed by a character other than `\` (terminator) and `[` (macro) -/
def verbatim : List Nat → Bool
  | [] => true
  | [c] => c != ESC
  | c :: x :: s => if c = ESC then x != 92 && x != 91 && verbatim s else verbatim (x :: s)

theorem run_verbatim (s : List Nat) : ∀ (p : P), p.st = .dcs → verbatim s = true →
    run p s = { p with strRev := s.reverse ++ p.strRev } := by
  fun_induction verbatim s with
  | case1 => intro p _ _; simp [run_nil]
  | case2 c =>
    intro p h hc
    rw [run_cons, step_dcs p c h, if_neg (by simpa using hc)]; simp [run_nil]
  | case3 x s ih =>
    intro p h hv
    simp only [Bool.and_eq_true, bne_iff_ne, ne_eq] at hv
    rw [run_cons, step_dcs p _ h, if_pos rfl, run_cons]
    show run (step { p with st := .dcsEsc } x).1 s = _
    rw [step_dcsEsc_other _ x rfl hv.1.1 hv.1.2, ih _ rfl hv.2]
    simp [h]
  | case4 c x s hc ih =>
    intro p h hv
    rw [run_cons, step_dcs p c h, if_neg hc]
    show run { p with strRev := c :: p.strRev } (x :: s) = _
    rw [ih { p with strRev := c :: p.strRev } h hv]
    simp

theorem verbatim_noesc (s : List Nat) (h : ESC ∉ s) : verbatim s = true := by
  fun_induction verbatim s with
  | case1 => rfl
  | case2 c => exact bne_iff_ne.mpr fun e => h (by simp [e])
  | case3 x s ih => exact absurd (List.mem_cons_self ..) h
  | case4 c x s hc ih => exact ih fun e => h (List.mem_cons_of_mem _ e)

theorem verbatim_append (a t : List Nat) (h : ESC ∉ a) : verbatim (a ++ t) = verbatim t := by
  induction a with
  | nil => rfl
  | cons c a ih =>
    have hc : c ≠ ESC := fun e => h (by simp [e])
    have := ih (fun e => h (List.mem_cons_of_mem _ e))
    cases hat : a ++ t with
    | nil => simp_all [verbatim]
    | cons x s => rw [hat] at this; simp [hat, verbatim, hc, this]

theorem run_unterminated (p : P) (a : List Nat) (h : p.st = .dflt) (ha : verbatim a = true) :
    run p (ESC :: 80 :: a) = { p with st := .dcs, strRev := a.reverse, nums := [] } := by
  rw [run_cons, step_dflt p ESC h, if_pos rfl, run_cons]
  show run (step { p with st := .esc } 80).1 a = _
  rw [step_esc_P _ rfl, run_verbatim a _ rfl ha]
  simp

theorem dcs_frame (p : P) (s : List Nat) (h : p.st = .dflt) (hs : verbatim s = true) :
    run p (ESC :: 80 :: (s ++ [ESC, 92])) = (executeDcs { p with st := .dflt, strRev := s.reverse, nums := [] }).1 := by
  rw [show ESC :: 80 :: (s ++ [ESC, 92]) = (ESC :: 80 :: s) ++ [ESC, 92] from rfl, run_append, run_unterminated p s h hs, run_cons,
    step_dcs _ _ rfl, if_pos rfl, run_cons, step_dcsEsc_st _ rfl, run_nil]

theorem prefix_noesc : ESC ∉ prefixCTerm := by decide

theorem parseUsize_noesc (s : List Nat) (h : ESC ∈ s) : IcyVerif.B64.parseUsize s = none := by
  have key : ∀ ds : List Nat, ESC ∈ ds → ds.all (fun c => decide (48 ≤ c) && decide (c ≤ 57)) = false :=
    fun ds hds => List.all_eq_false.mpr ⟨ESC, hds, by decide⟩
  unfold IcyVerif.B64.parseUsize
  split
  · simp [key _ ((List.mem_cons.mp h).resolve_left (by decide))]
  · simp [key _ h]

theorem decChar_esc : IcyVerif.B64.decChar ESC = none := by decide

theorem decode_noesc (l : List Nat) (h : ESC ∈ l) : IcyVerif.B64.decode l = none := by
  cases hd : IcyVerif.B64.decode l with
  | none => rfl
  | some r => exact absurd (IcyVerif.B64.decode_chars l r hd ESC h) (by decide)

theorem loadCustomFont_noesc (s : List Nat) (hp : prefixCTerm.isPrefixOf s = true) (h : ESC ∈ s) :
    ∀ r, loadCustomFont IcyVerif.B64.stdCodec s ≠ .ok r := by
  intro r
  obtain ⟨t, rfl⟩ := List.isPrefixOf_iff_prefix.mp hp
  have ht : ESC ∈ t := by
    simp only [List.mem_append] at h
    rcases h with h | h
    · exact absurd h prefix_noesc
    · exact h
  unfold loadCustomFont
  rw [List.drop_left]
  cases hsp : splitColon t with
  | none => simp
  | some nr =>
    obtain ⟨num, payload⟩ := nr
    have := splitColon_spec t num payload hsp
    subst this
    simp only [List.mem_append, List.mem_cons] at ht
    rcases ht with ht | ht | ht
    · have : IcyVerif.B64.stdCodec.parse num = none := parseUsize_noesc num ht
      simp [this]
    · exact absurd ht (by decide)
    · have : IcyVerif.B64.stdCodec.b64d payload = none := decode_noesc payload ht
      cases hpn : IcyVerif.B64.stdCodec.parse num with
      | none => simp [hpn]
      | some v => simp [hpn, this]

theorem executeDcs_spec (p : P) :
    (executeDcs p).1.st = p.st ∧
    (executeDcs p).1.fonts = (if prefixCTerm.isPrefixOf p.str then
      (match loadCustomFont IcyVerif.B64.stdCodec p.str with | .ok (slot, f) => setFont p.fonts slot f | _ => p.fonts)
      else p.fonts) ∧
    (prefixCTerm.isPrefixOf p.str = true → (executeDcs p).1.macros = p.macros) := by
  unfold executeDcs
  by_cases hp : prefixCTerm.isPrefixOf p.str = true
  · simp only [hp, if_true]
    cases loadCustomFont IcyVerif.B64.stdCodec p.str with
    | ok r => obtain ⟨slot, f⟩ := r; exact ⟨rfl, rfl, fun _ => rfl⟩
    | err => exact ⟨rfl, rfl, fun _ => rfl⟩
    | panic => exact ⟨rfl, rfl, fun _ => rfl⟩
  · simp only [hp, if_false, Bool.false_eq_true]
    refine ⟨?_, ?_, fun h => nomatch h⟩ <;>
    · generalize IcyVerif.Term.takeNums (chars p.str) [] = tn
      obtain ⟨nums, rest⟩ := tn
      simp only
      split
      · -- `!z`, the macro arm: whatever the numbers say, only `macros` and `nums` change
        split
        · rfl
        · -- the third number: 0 a text macro, 1 a hex macro (accepted or not), anything else an error; the second number may
          -- have cleared `macros` before (the `if` left in every arm)
          split
          · split <;> rfl
          · split <;> split <;> rfl
          · split <;> rfl
      · rfl  -- `q`, sixel data: only `strRev` is taken
      · rfl

theorem executeDcs_esc_untouched (p : P) (h : ESC ∈ p.str) : (executeDcs p).1.fonts = p.fonts := by
  rw [(executeDcs_spec p).2.1]
  split
  · rename_i hp
    cases hl : loadCustomFont IcyVerif.B64.stdCodec p.str with
    | ok r => exact absurd hl (loadCustomFont_noesc p.str hp h r)
    | err => rfl
    | panic => rfl
  · rfl

theorem fontAt_setFont_self (fs : List (Nat × BitFont)) (slot : Nat) (f : BitFont) : fontAt (setFont fs slot f) slot = some f := by
  simp [setFont, fontAt]

theorem fontAt_filter_ne (fs : List (Nat × BitFont)) (slot k : Nat) (hk : k ≠ slot) :
    fontAt (fs.filter (fun e => e.1 ≠ slot)) k = fontAt fs k := by
  induction fs with
  | nil => rfl
  | cons e fs ih =>
    by_cases ha : e.1 = slot
    · have : e.1 ≠ k := fun h => hk (h ▸ ha)
      simp_all [List.filter, fontAt]
    · simp_all [List.filter, fontAt]

theorem fontAt_setFont_other (fs : List (Nat × BitFont)) (slot k : Nat) (f : BitFont) (hk : k ≠ slot) :
    fontAt (setFont fs slot f) k = fontAt fs k := by
  unfold setFont
  simp only [fontAt, if_neg (Ne.symm hk)]
  exact fontAt_filter_ne fs slot k hk

theorem payload_noesc (slot : Nat) (d : List Nat) :
    ESC ∉ prefixCTerm ++ IcyVerif.B64.stdCodec.fmt slot ++ [58] ++ IcyVerif.B64.stdCodec.b64e d := by
  simp only [List.mem_append, List.mem_cons, List.not_mem_nil, or_false, not_or]
  refine ⟨⟨⟨prefix_noesc, ?_⟩, by decide⟩, fun h => absurd (IcyVerif.B64.encode_chars d ESC h) (by decide)⟩
  intro h
  have := IcyVerif.B64.fmtNat_digits slot ESC h
  simp [ESC] at this

theorem encodeStream_eq (f : BitFont) (h : Nat) (wf : WfFont f h) (slot : Nat) :
    ∃ pay, encodeStream f slot = .ok (ESC :: 80 :: (pay ++ [ESC, 92])) ∧ ESC ∉ pay ∧ prefixCTerm.isPrefixOf pay = true ∧
      pay = prefixCTerm ++ IcyVerif.B64.stdCodec.fmt slot ++ [58] ++ IcyVerif.B64.stdCodec.b64e (flat f.glyphs) :=
  ⟨_, by unfold encodeStream; rw [encodeAnsi_eq _ f h wf], payload_noesc slot _,
    List.isPrefixOf_iff_prefix.mpr ⟨IcyVerif.B64.stdCodec.fmt slot ++ [58] ++ IcyVerif.B64.stdCodec.b64e (flat f.glyphs),
      by simp [List.append_assoc]⟩, rfl⟩

theorem stream_effect (f : BitFont) (h : Nat) (wf : WfFont f h) (hb : ∀ x ∈ flat f.glyphs, x < 256)
    (slot : Nat) (hs : slot < 18446744073709551616) (p : P) (hp : p.st = .dflt) (t : List Nat) (ht : ESC ∉ t) :
    ∃ s, encodeStream f slot = .ok s ∧
      (run p (t ++ s)).st = .dflt ∧ (run p (t ++ s)).macros = p.macros ∧
      (run p (t ++ s)).fonts = (match fromBytes (flat f.glyphs) with | .ok g => setFont p.fonts slot g | _ => p.fonts) := by
  obtain ⟨pay, henc, hno, hpre, hpay⟩ := encodeStream_eq f h wf slot
  have hload := IcyVerif.B64.std_load slot hs _ hb
  rw [← hpay] at hload
  refine ⟨_, henc, ?_⟩
  rw [run_append, run_text p t hp ht, dcs_frame p _ hp (verbatim_noesc _ hno)]
  have hstr : ({ p with st := .dflt, strRev := pay.reverse, nums := [] } : P).str = pay := by simp [P.str]
  obtain ⟨hst, hfonts, hmac⟩ := executeDcs_spec { p with st := .dflt, strRev := pay.reverse, nums := [] }
  refine ⟨hst, hmac (by rw [hstr]; exact hpre), ?_⟩
  rw [hfonts, hstr, hpre, if_pos rfl, hload]
  cases fromBytes (flat f.glyphs) <;> rfl

end IcyVerif.FontDcs
