import IcyVerif.Model.TermMacroDepth
/-! # The counter accounting of the code is the fuel accounting of the model (when the test sits in the callee) -/
namespace IcyVerif.Term

/-- at the limit the callee refuses every invocation -/
theorem invokerK_at_limit (stepf : St → Char → R) (k : Nat) (hk : MAX_MACRO_DEPTH ≤ k) :
    invokerK true stepf k = fun _ st => .ok st := by
  funext id st
  unfold invokerK
  cases macroGet st.p.macros id.toNat with
  | none => rfl
  | some body => simp [hk]

/-- below the limit it is the model's invoker; "top level" is `macro_depth == 0` -/
theorem invokerK_below (stepf : St → Char → R) (k n : Nat) (hk : k + n + 1 = MAX_MACRO_DEPTH) :
    invokerK true stepf k = invoker stepf (decide (n + 1 = MAX_MACRO_DEPTH)) := by
  funext id st
  unfold invokerK invoker
  cases macroGet st.p.macros id.toNat with
  | none => rfl
  | some body =>
    have h1 : ¬ MAX_MACRO_DEPTH ≤ k := by omega
    have h2 : (k = 0) ↔ (n + 1 = MAX_MACRO_DEPTH) := by omega
    by_cases h0 : k = 0
    · have h3 : n + 1 = MAX_MACRO_DEPTH := h2.mp h0
      subst h0
      have h1' : ¬ MAX_MACRO_DEPTH ≤ 0 := h1
      simp [h1', h3]
    · have h3 : ¬ n + 1 = MAX_MACRO_DEPTH := fun h => h0 (h2.mpr h)
      simp [h1, h0, h3]

/-- counter `k`, `n` levels left below the limit, at least `n` frames of fuel -/
theorem stepK_eq_stepD : ∀ (n f k : Nat), k + n = MAX_MACRO_DEPTH → n ≤ f →
    ∀ cfg o st ch, stepK true f k cfg o st ch = stepD n cfg o st ch := by
  intro n
  induction n with
  | zero =>
    intro f k hk _ cfg o st ch
    cases f with
    | zero => rfl
    | succ f =>
      show stepCore cfg (o st.p.tick) (invokerK true (stepK true f (k + 1) cfg o) k) (tickSt st) ch = _
      rw [invokerK_at_limit _ k (by omega)]
      rfl
  | succ n ih =>
    intro f k hk hf cfg o st ch
    cases f with
    | zero => omega
    | succ f =>
      show stepCore cfg (o st.p.tick) (invokerK true (stepK true f (k + 1) cfg o) k) (tickSt st) ch
        = stepCore cfg (o st.p.tick) (invoker (stepD n cfg o) (decide (n + 1 = MAX_MACRO_DEPTH))) (tickSt st) ch
      have hfun : stepK true f (k + 1) cfg o = stepD n cfg o := by
        funext st' ch'
        exact ih f (k + 1) (by omega) (by omega) cfg o st' ch'
      rw [hfun, invokerK_below _ k n (by omega)]

theorem stepK_eq_step (f : Nat) (hf : MAX_MACRO_DEPTH ≤ f) (cfg : Cfg) (o : Nat → Orc) (st : St) (ch : Char) :
    stepK true f 0 cfg o st ch = step cfg o st ch :=
  stepK_eq_stepD MAX_MACRO_DEPTH f 0 (by omega) hf cfg o st ch

theorem runK_eq_run (f : Nat) (hf : MAX_MACRO_DEPTH ≤ f) (cfg : Cfg) (o : Nat → Orc) :
    ∀ (cs : List Char) (st : St), runK true f cfg o st cs = run cfg o st cs := by
  intro cs
  induction cs with
  | nil => intro st; rfl
  | cons c rest ih =>
    intro st
    unfold runK run
    rw [stepK_eq_step f hf]
    cases step cfg o st c with
    | error e => rfl
    | ok r => exact ih r.1

end IcyVerif.Term
