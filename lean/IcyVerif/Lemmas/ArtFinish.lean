import IcyVerif.Lemmas.ArtSim
/-! # From the reader's final screen to the loaded picture (`crop_loaded_file`, bold folding, `Buffer::get_char`) -/
namespace IcyVerif.ArtIO

theorem crop_view : ∀ (fuel : Nat) (lines : List (List Cell)),
    (cropLines fuel lines).length ≤ lines.length ∧
    (∀ x y, y < (cropLines fuel lines).length → shownAt (cropLines fuel lines) x y = shownAt lines x y) ∧
    (∀ x y, (cropLines fuel lines).length ≤ y → shownAt lines x y = defaultCell) := by
  intro fuel
  induction fuel with
  | zero =>
    intro lines
    refine ⟨Nat.le_refl _, fun _ _ _ => rfl, ?_⟩
    intro x y hy
    have hy' : lines.length ≤ y := hy
    show lineShown ((lines[y]?).getD []) x = defaultCell
    rw [List.getElem?_eq_none hy']; exact lineShown_nil x
  | succ f ih =>
    intro lines
    unfold cropLines
    by_cases hc : 1 < lines.length ∧ lines.getLast? = some []
    · rw [if_pos hc]
      obtain ⟨i1, i2, i3⟩ := ih lines.dropLast
      have hdl : lines.dropLast.length = lines.length - 1 := List.length_dropLast
      have hsame : ∀ x y, y < lines.length - 1 → shownAt lines.dropLast x y = shownAt lines x y := by
        intro x y hy
        unfold shownAt
        rw [List.getElem?_dropLast, if_pos hy]
      have hlast : lines[lines.length - 1]? = some [] := by
        have := hc.2; rw [List.getLast?_eq_getElem?] at this; exact this
      refine ⟨by omega, ?_, ?_⟩
      · intro x y hy
        rw [i2 x y hy, hsame x y (by omega)]
      · intro x y hy
        by_cases h1 : y < lines.length - 1
        · rw [← hsame x y h1]; exact i3 x y hy
        · by_cases h2 : y = lines.length - 1
          · show lineShown ((lines[y]?).getD []) x = defaultCell
            rw [h2, hlast]; exact lineShown_nil x
          · show lineShown ((lines[y]?).getD []) x = defaultCell
            rw [List.getElem?_eq_none (by omega)]; exact lineShown_nil x
    · rw [if_neg hc]
      refine ⟨Nat.le_refl _, fun _ _ _ => rfl, ?_⟩
      intro x y hy
      show lineShown ((lines[y]?).getD []) x = defaultCell
      rw [List.getElem?_eq_none hy]; exact lineShown_nil x

theorem crop_exact (lines : List (List Cell)) (hr : RowNonEmpty lines (lines.length - 1)) (fuel : Nat) : cropLines fuel lines = lines := by
  cases fuel with
  | zero => rfl
  | succ n =>
    obtain ⟨l, e, hne⟩ := hr
    unfold cropLines
    exact if_neg fun ⟨_, hg⟩ => by rw [List.getLast?_eq_getElem?, e] at hg; cases hg; exact hne rfl

/-- exactly the one empty row after the wrap of a full-width last row is cropped -/
theorem crop_one (lines : List (List Cell)) (h1 : 1 < lines.length) (he : lines.getLast? = some [])
    (hr : RowNonEmpty lines (lines.length - 2)) (n : Nat) : cropLines (n + 1) lines = lines.dropLast := by
  unfold cropLines
  rw [if_pos ⟨h1, he⟩]
  obtain ⟨l, e, hne⟩ := hr
  have e2 : lines.dropLast.length - 1 = lines.length - 2 := by rw [List.length_dropLast]; omega
  exact crop_exact _ ⟨l, by rw [e2, List.getElem?_dropLast, if_pos (by omega)]; exact e, hne⟩ n

theorem crop_spec (lines : List (List Cell)) (h : Nat) (h0 : 0 < h) (hs : LenSpec lines h) :
    (cropLines lines.length lines).length = h ∧
    ∀ x y, y < h → shownAt (cropLines lines.length lines) x y = shownAt lines x y := by
  obtain ⟨_, C2, _⟩ := crop_view lines.length lines
  have hlen : (cropLines lines.length lines).length = h := by
    rcases hs with ⟨hl, hr⟩ | ⟨hl, he, hr⟩
    · rw [crop_exact lines (by rw [hl]; exact hr), hl]
    · rw [hl, crop_one lines (by omega) (by rw [List.getLast?_eq_getElem?, hl]; simpa using he)
        (by rw [show lines.length - 2 = h - 1 by omega]; exact hr) h, List.length_dropLast]
      omega
  exact ⟨hlen, fun x y hy => C2 x y (by omega)⟩

theorem foldBold_default : foldBold defaultCell = defaultCell := by decide

theorem shownAt_foldLines (lines : List (List Cell)) (x y : Nat) :
    shownAt (foldLines lines) x y = foldBold (shownAt lines x y) := by
  unfold shownAt foldLines lineShown
  rw [List.getElem?_map]
  cases hl : lines[y]? with
  | none => simp [foldBold_default]
  | some l =>
    simp only [Option.map_some, Option.getD_some, List.getElem?_map]
    cases hc : l[x]? with
    | none => simp [foldBold_default]
    | some c =>
      simp only [Option.map_some]
      by_cases hv : c.isVisible = true
      · have : (foldBold c).isVisible = true := by
          unfold foldBold; split <;> simp_all [Cell.isVisible]
        simp [hv, shown, this]
      · simp [hv, shown, foldBold_default]

theorem length_foldLines (lines : List (List Cell)) : (foldLines lines).length = lines.length := by
  simp [foldLines]

/-- the screen every `parse_with_parser` loader starts from (rows cleared, caret home) -/
def freshScreen (w h : Nat) : Screen := ⟨w, h, [], 0, 0⟩

theorem pic_shown (cut : List Cell → List Cell) (img : Cell → Cell) (rows : List (List Cell)) (s0 : Screen) (h0x : s0.cx = 0) (h0y : s0.cy = 0)
    (hblank : ∀ x y, shownAt s0.lines x y = defaultCell) (hw : 0 < s0.w) (hfit : ∀ r ∈ rows, (cut r).length ≤ s0.w)
    (x y : Nat) (hy : y < rows.length) :
    shownAt (s0.runOps (picOps cut img s0.w rows)).lines x y =
      if x < (cut (rows.getD y [])).length then shown (img ((cut (rows.getD y [])).getD x defaultCell)) else defaultCell := by
  rw [pic_view cut img rows s0 h0x hw hfit x y, h0y, hblank]
  simp only [Nat.zero_le, true_and, Nat.zero_add, Nat.sub_zero, hy]

/-- the loaders that crop the layer and fold bold into the colour -/
theorem finish_spec (cut : List Cell → List Cell) (f : Fmt) (hf : f ≠ .atascii) (rs : RS) (img : Cell → Cell) (w H : Nat) (rows : List (List Cell))
    (hw : 0 < w) (hfit : ∀ r ∈ rows, (cut r).length ≤ w) (hne : rows ≠ [])
    (hlast : ∀ r, rows.getLast? = some r → cut r ≠ [])
    (hscr : rs.core.scr = (freshScreen w H).runOps (picOps cut img w rows)) :
    (finish f rs).w = w ∧ (finish f rs).h = rows.length ∧ (finish f rs).stuck = rs.core.stuck ∧
    ∀ x y, x < w → y < rows.length → (finish f rs).cellAt x y =
      if x < (cut (rows.getD y [])).length then foldBold (shown (img ((cut (rows.getD y [])).getD x defaultCell)))
      else defaultCell := by
  have hsw : rs.core.scr.w = w := by rw [hscr, runOps_w]; rfl
  have hlen0 : 0 < rows.length := List.length_pos_iff.2 hne
  have V := pic_shown cut img rows (freshScreen w H) rfl rfl (fun x y => shownAt_nil x y) hw hfit
  have L := ((pic_spec cut img rows (freshScreen w H) rfl hw hfit).2 hne hlast).2 (Nat.zero_le _)
  rw [show (freshScreen w H).w = w from rfl, ← hscr] at V L
  rw [show (freshScreen w H).cy = 0 from rfl, Nat.zero_add] at L
  obtain ⟨C1, C2⟩ := crop_spec rs.core.scr.lines rows.length hlen0 L
  unfold finish
  rw [if_neg hf]
  refine ⟨hsw, C1, rfl, fun x y hx hy => ?_⟩
  show viewLines rs.core.scr.w (cropLines _ _).length (foldLines (cropLines _ _)) x y = _
  rw [viewLines_eq, C1, hsw, if_neg (by omega), shownAt_foldLines, C2 x y hy, V x y hy]
  split
  · rfl
  · exact foldBold_default

/-- the ATASCII loader: it starts from `s0` (24 rows of invisible cells), crops nothing and folds no bold -/
theorem finish_atascii (cut : List Cell → List Cell) (rs : RS) (img : Cell → Cell) (s0 : Screen) (rows : List (List Cell))
    (h0x : s0.cx = 0) (h0y : s0.cy = 0) (hblank : ∀ x y, shownAt s0.lines x y = defaultCell) (hw : 0 < s0.w)
    (hfit : ∀ r ∈ rows, (cut r).length ≤ s0.w) (hne : rows ≠ []) (hlast : ∀ r, rows.getLast? = some r → cut r ≠ [])
    (hscr : rs.core.scr = s0.runOps (picOps cut img s0.w rows)) :
    (finish .atascii rs).w = s0.w ∧ rows.length ≤ (finish .atascii rs).h ∧ (finish .atascii rs).stuck = rs.core.stuck ∧
    ∀ x y, x < s0.w → y < rows.length → (finish .atascii rs).cellAt x y =
      if x < (cut (rows.getD y [])).length then shown (img ((cut (rows.getD y [])).getD x defaultCell)) else defaultCell := by
  have hsw : rs.core.scr.w = s0.w := by rw [hscr, runOps_w]
  have LH := ((pic_spec cut img rows s0 h0x hw hfit).2 hne hlast).1
  rw [← hscr, h0y, Nat.zero_add] at LH
  unfold finish
  rw [if_pos rfl]
  refine ⟨hsw, LH, rfl, fun x y hx hy => ?_⟩
  show viewLines rs.core.scr.w rs.core.scr.layerH rs.core.scr.lines x y = _
  rw [viewLines_eq, hsw, if_neg (by omega), hscr]
  exact pic_shown cut img rows s0 h0x h0y hblank hw hfit x y hy

end IcyVerif.ArtIO
