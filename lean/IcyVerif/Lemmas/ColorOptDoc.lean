import IcyVerif.Lemmas.ColorOpt
import IcyVerif.Lemmas.Rel2
import IcyVerif.Lemmas.Comp
/-! C12: one step of the optimiser preserves what the cell renders to; both loops are the state-threading traversal `mapAccM`,
hence pointwise that step; `Buffer::get_char` of the flat clone is `flatView` of the stored cell. -/
namespace IcyVerif.ColorOpt
open IcyVerif.Comp IcyVerif.Gen.Fonts

def FontsOk (fonts : Nat → Option Font) : Prop := ∀ p f, fonts p = some f → FontOk f

theorem shape_ws {f : Font} {rows : List Nat} (h : shape f rows = .whitespace) : ones rows = 0 := by
  unfold shape at h
  by_cases h0 : ones rows = 0
  · exact h0
  · simp only [h0, if_false] at h
    split at h <;> cases h

theorem shape_block_ne {f : Font} {rows : List Nat} (h : shape f rows = .block) : ones rows ≠ 0 := by
  unfold shape at h
  intro h0
  simp [h0] at h

theorem shape_block {f : Font} {rows : List Nat} (h : shape f rows = .block) : ones rows = f.w * f.h := by
  unfold shape at h
  by_cases h0 : ones rows = 0
  · simp [h0] at h
  · simp only [h0, if_false] at h
    by_cases h1 : ones rows = f.w * f.h
    · exact h1
    · simp [h1] at h

theorem optCell_cases {fonts : Nat → Option Font} {norm : Bool} {k : Attr} {c c' : Cell}
    (h : optCell fonts norm k c = some c') :
    ∃ f rows, fonts c.attr.page = some f ∧ f.glyph c.ch = some rows ∧
      ((shape f rows = .whitespace ∧
          c' = ⟨if norm && (f.glyph spaceCh).isSome then spaceCh else c.ch, { c.attr with fg := k.fg }⟩) ∨
       (shape f rows = .block ∧ c' = { c with attr := { c.attr with bg := k.bg } }) ∨
       (shape f rows = .mixed ∧ c' = c)) := by
  unfold optCell at h
  split at h
  · cases h
  · rename_i f hf
    split at h
    · cases h
    · rename_i rows hg
      refine ⟨f, rows, hf, hg, ?_⟩
      cases hs : shape f rows with
      | whitespace => rw [hs] at h; simp only [Option.some.injEq] at h; exact Or.inl ⟨rfl, h.symm⟩
      | block => rw [hs] at h; simp only [Option.some.injEq] at h; exact Or.inr (Or.inl ⟨rfl, h.symm⟩)
      | mixed => rw [hs] at h; simp only [Option.some.injEq] at h; exact Or.inr (Or.inr ⟨rfl, h.symm⟩)

theorem render_ws {fonts : Nat → Option Font} (pal : Nat → Rgb) (w0 h0 : Nat) {c X : Cell} {f : Font} {rows : List Nat}
    (hok : FontOk f) (hfont : fonts c.attr.page = some f) (hg : f.glyph c.ch = some rows) (hb : ones rows = 0)
    (hp : X.attr.page = c.attr.page) (hbg : X.attr.bg = c.attr.bg)
    (hch : X.ch = c.ch ∨ (X.ch = spaceCh ∧ (f.glyph spaceCh).isSome = true)) :
    renderCell fonts pal w0 h0 X = renderCell fonts pal w0 h0 c := by
  rcases hch with hch | ⟨hch, hsome⟩
  · exact renderCell_blank fonts pal w0 h0 c X f rows rows hfont hg (by rw [hch]; exact hg) hb hb rfl hp hbg
  · cases hsp : f.glyph spaceCh with
    | none => rw [hsp] at hsome; cases hsome
    | some rows' =>
      exact renderCell_blank fonts pal w0 h0 c X f rows rows' hfont hg (by rw [hch]; exact hsp) hb
        (hok.space_blank _ _ rows' hg hb hsp) (by rw [hok.rows_len _ _ hsp, hok.rows_len _ _ hg]) hp hbg

theorem ite_space_cases (norm : Bool) (f : Font) (ch : Nat) :
    (if norm && (f.glyph spaceCh).isSome then spaceCh else ch) = ch ∨
    ((if norm && (f.glyph spaceCh).isSome then spaceCh else ch) = spaceCh ∧ (f.glyph spaceCh).isSome = true) := by
  by_cases h : (norm && (f.glyph spaceCh).isSome) = true
  · right
    simp only [h, if_true, true_and]
    simp only [Bool.and_eq_true] at h
    exact h.2
  · left; simp [h]

theorem optCell_render {fonts : Nat → Option Font} (pal : Nat → Rgb) (w0 h0 : Nat) {norm : Bool} {k : Attr} {c c' : Cell}
    (hok : FontsOk fonts) (h : optCell fonts norm k c = some c') :
    renderCell fonts pal w0 h0 c' = renderCell fonts pal w0 h0 c := by
  obtain ⟨f, rows, hfont, hg, hcase⟩ := optCell_cases h
  have hf := hok _ _ hfont
  rcases hcase with ⟨hs, rfl⟩ | ⟨hs, rfl⟩ | ⟨_, rfl⟩
  · exact render_ws pal w0 h0 hf hfont hg (shape_ws hs) rfl rfl (ite_space_cases norm f c.ch)
  · obtain ⟨hw8, hfull⟩ := hf.block_full _ _ hg (shape_block_ne hs) (shape_block hs)
    exact renderCell_full fonts pal w0 h0 c _ f rows hfont hg hw8 hfull rfl rfl rfl rfl
  · rfl

theorem optCell_flags {fonts : Nat → Option Font} {norm : Bool} {k : Attr} {c c' : Cell}
    (h : optCell fonts norm k c = some c') : c'.attr.flags = c.attr.flags := by
  obtain ⟨f, rows, _, _, hcase⟩ := optCell_cases h
  rcases hcase with ⟨_, rfl⟩ | ⟨_, rfl⟩ | ⟨_, rfl⟩ <;> rfl

theorem optCell_isVisible {fonts : Nat → Option Font} {norm : Bool} {k : Attr} {c c' : Cell}
    (h : optCell fonts norm k c = some c') : c'.isVisible = c.isVisible := by
  unfold Cell.isVisible; rw [optCell_flags h]

theorem optimizeRow_eq (fonts : Nat → Option Font) (norm : Bool) (k : Attr) (row : List Cell) :
    optimizeRow fonts norm k row = mapAccM (fun k c => (optCell fonts norm k c).map fun c' => (c', c'.attr)) k row := by
  induction row generalizing k with
  | nil => rfl
  | cons c cs ih =>
    unfold optimizeRow mapAccM
    cases optCell fonts norm k c with
    | none => rfl
    | some c' => simp only [Option.map_some, ih]; cases mapAccM _ c'.attr cs <;> rfl

theorem optimizeRows_eq (fonts : Nat → Option Font) (norm : Bool) (k : Attr) (rows : List (List Cell)) :
    optimizeRows fonts norm k rows = mapAccM (optimizeRow fonts norm) k rows := by
  induction rows generalizing k with
  | nil => rfl
  | cons r rs ih =>
    unfold optimizeRows mapAccM
    cases optimizeRow fonts norm k r with
    | none => rfl
    | some p => simp only [ih]; cases mapAccM _ p.2 rs <;> rfl

theorem rowStep {fonts : Nat → Option Font} {norm : Bool} {k k' : Attr} {c c' : Cell}
    (h : ((optCell fonts norm k c).map fun c' => (c', c'.attr)) = some (c', k')) :
    optCell fonts norm k c = some c' ∧ k' = c'.attr := by
  cases ho : optCell fonts norm k c with
  | none => rw [ho] at h; cases h
  | some x => rw [ho] at h; cases h; exact ⟨rfl, rfl⟩

theorem optimizeRow_rel {fonts : Nat → Option Font} {norm : Bool} {k k' : Attr} {row row' : List Cell}
    (h : optimizeRow fonts norm k row = some (row', k')) :
    Rel2 (fun c c' => ∃ k0, optCell fonts norm k0 c = some c') row row' :=
  (mapAccM_rel (I := fun _ => True) (P := fun _ => True)
    (fun s _ _ _ hf _ _ => ⟨⟨s, (rowStep hf).1⟩, trivial⟩) (optimizeRow_eq .. ▸ h) trivial fun _ _ => trivial).1

theorem optimizeRows_rel {fonts : Nat → Option Font} {norm : Bool} {k k' : Attr} {rows rows' : List (List Cell)}
    (h : optimizeRows fonts norm k rows = some (rows', k')) :
    Rel2 (Rel2 fun c c' => ∃ k0, optCell fonts norm k0 c = some c') rows rows' :=
  (mapAccM_rel (f := optimizeRow fonts norm) (I := fun _ => True) (P := fun _ => True)
    (fun _ _ _ _ hf _ _ => ⟨optimizeRow_rel hf, trivial⟩) (optimizeRows_eq .. ▸ h) trivial fun _ _ => trivial).1

/-- `optimizeRow_rel` without `Rel2`: length and index form (C12 goes through `Rel2.get` itself) -/
theorem optimizeRow_get {fonts : Nat → Option Font} {norm : Bool} {k k' : Attr} {row row' : List Cell}
    (h : optimizeRow fonts norm k row = some (row', k')) :
    row'.length = row.length ∧
    ∀ (j : Nat) (c c' : Cell), row[j]? = some c → row'[j]? = some c' → ∃ k0, optCell fonts norm k0 c = some c' :=
  ⟨(optimizeRow_rel h).length, fun _ _ _ hc hc' => (optimizeRow_rel h).get hc hc'⟩

/-! `FieldsOk F B c c'`: the rewritten cell keeps font page and flags, its character is the old one or `' '`, and its colours
satisfy `F` / `B` if every input cell and the initial carried attribute do — which makes a format's domain (per-field
conditions on every cell) closed under the optimiser. -/

def FieldsOk (F B : Nat → Prop) (c c' : Cell) : Prop :=
  c'.attr.page = c.attr.page ∧ c'.attr.flags = c.attr.flags ∧ (c'.ch = c.ch ∨ c'.ch = spaceCh) ∧ F c'.attr.fg ∧ B c'.attr.bg

theorem optCell_fields {fonts : Nat → Option Font} {norm : Bool} (F B : Nat → Prop) {k : Attr} {c c' : Cell}
    (h : optCell fonts norm k c = some c') (hk : F k.fg ∧ B k.bg) (hc : F c.attr.fg ∧ B c.attr.bg) : FieldsOk F B c c' := by
  obtain ⟨f, rows, _, _, hcase⟩ := optCell_cases h
  rcases hcase with ⟨_, rfl⟩ | ⟨_, rfl⟩ | ⟨_, rfl⟩
  · refine ⟨rfl, rfl, ?_, hk.1, hc.2⟩
    by_cases hn : (norm && (f.glyph spaceCh).isSome) = true
    · right; simp [hn]
    · left; simp [hn]
  · exact ⟨rfl, rfl, Or.inl rfl, hc.1, hk.2⟩
  · exact ⟨rfl, rfl, Or.inl rfl, hc.1, hc.2⟩

theorem optimizeRow_fields {fonts : Nat → Option Font} {norm : Bool} (F B : Nat → Prop) {row row' : List Cell} {k k' : Attr}
    (h : optimizeRow fonts norm k row = some (row', k')) (hk : F k.fg ∧ B k.bg) (hrow : ∀ c ∈ row, F c.attr.fg ∧ B c.attr.bg) :
    Rel2 (FieldsOk F B) row row' ∧ F k'.fg ∧ B k'.bg :=
  mapAccM_rel (I := fun k => F k.fg ∧ B k.bg)
    (fun _ _ _ _ hf hs hc => by
      obtain ⟨ho, rfl⟩ := rowStep hf
      have := optCell_fields F B ho hs hc
      exact ⟨this, this.2.2.2⟩) (optimizeRow_eq .. ▸ h) hk hrow

theorem optimizeRows_fields {fonts : Nat → Option Font} {norm : Bool} (F B : Nat → Prop) {rows rows' : List (List Cell)}
    {k k' : Attr} (h : optimizeRows fonts norm k rows = some (rows', k')) (hk : F k.fg ∧ B k.bg)
    (hrows : ∀ r ∈ rows, ∀ c ∈ r, F c.attr.fg ∧ B c.attr.bg) : Rel2 (Rel2 (FieldsOk F B)) rows rows' :=
  (mapAccM_rel (f := optimizeRow fonts norm) (I := fun k => F k.fg ∧ B k.bg)
    (fun _ _ _ _ hf hs hr => optimizeRow_fields F B hf hs hr) (optimizeRows_eq .. ▸ h) hk hrows).1

/-- the font page and the code point of a cell are in the font table -/
def HasGlyph (fonts : Nat → Option Font) (c : Cell) : Prop := ∃ f rows, fonts c.attr.page = some f ∧ f.glyph c.ch = some rows

theorem optCell_defined {fonts : Nat → Option Font} {norm : Bool} {k : Attr} {c : Cell} :
    (∃ c', optCell fonts norm k c = some c') ↔ HasGlyph fonts c := by
  constructor
  · rintro ⟨c', h⟩
    obtain ⟨f, rows, hf, hg, _⟩ := optCell_cases h
    exact ⟨f, rows, hf, hg⟩
  · rintro ⟨f, rows, hf, hg⟩
    unfold optCell
    rw [hf]; simp only [hg]
    cases shape f rows <;> exact ⟨_, rfl⟩

theorem optimizeRow_defined_iff {fonts : Nat → Option Font} {norm : Bool} (k : Attr) (row : List Cell) :
    (∃ p, optimizeRow fonts norm k row = some p) ↔ ∀ c ∈ row, HasGlyph fonts c := by
  rw [optimizeRow_eq]
  refine mapAccM_defined_iff (fun s a => ?_) k row
  rw [← optCell_defined (norm := norm) (k := s)]
  cases optCell fonts norm s a <;> simp

theorem optimizeRows_defined_iff {fonts : Nat → Option Font} {norm : Bool} (k : Attr) (rows : List (List Cell)) :
    (∃ p, optimizeRows fonts norm k rows = some p) ↔ ∀ r ∈ rows, ∀ c ∈ r, HasGlyph fonts c := by
  rw [optimizeRows_eq]
  exact mapAccM_defined_iff (fun s r => optimizeRow_defined_iff s r) k rows

theorem flatCells_row (hb : Cell → Nat × Nat) (t : Bool) (S : List Layer) (W H y : Nat) (hy : y < H) :
    (flatCells hb t S W H)[y]? = some ((List.range W).map fun (x : Nat) => flatStore (getChar hb t S (x : Int) (y : Int))) := by
  unfold flatCells
  rw [List.getElem?_map, List.getElem?_range hy]; rfl

theorem optimizeDoc_some {fonts : Nat → Option Font} {norm : Bool} {hb : Cell → Nat × Nat} {t : Bool} {S : List Layer}
    {W H : Nat} {cells' : List (List Cell)} :
    optimizeDoc fonts norm hb t S W H = some cells' ↔
      ∃ k', optimizeRows fonts norm defaultCell.attr (flatCells hb t S W H) = some (cells', k') := by
  unfold optimizeDoc
  cases optimizeRows fonts norm defaultCell.attr (flatCells hb t S W H) with
  | none => simp
  | some p => obtain ⟨c, k⟩ := p; simp

theorem renderDoc_congr {fonts : Nat → Option Font} {pal : Nat → Rgb} {w0 h0 W H : Nat} {a b : Int → Int → Cell}
    (h : ∀ x y : Nat, x < W → y < H → renderCell fonts pal w0 h0 (a x y) = renderCell fonts pal w0 h0 (b x y)) :
    renderDoc fonts pal w0 h0 a W H = renderDoc fonts pal w0 h0 b W H :=
  List.map_congr_left fun y hy => List.map_congr_left fun x hx => h x y (List.mem_range.mp hx) (List.mem_range.mp hy)

theorem flatCells_get (hb : Cell → Nat × Nat) (t : Bool) (S : List Layer) (W H x y : Nat) (hx : x < W) (hy : y < H) :
    ∃ row, (flatCells hb t S W H)[y]? = some row ∧ row.length = W ∧ row[x]? = some (flatStore (getChar hb t S x y)) :=
  ⟨_, flatCells_row hb t S W H y hy, by simp, by rw [List.getElem?_map, List.getElem?_range hx]; rfl⟩

theorem flatCells_length (hb : Cell → Nat × Nat) (t : Bool) (S : List Layer) (W H : Nat) :
    (flatCells hb t S W H).length = H := by
  unfold flatCells; simp

theorem flatLayer_getChar (W H : Nat) (cells : List (List Cell)) (x y : Nat) (hx : x < W) (hy : y < H)
    (row : List Cell) (c : Cell) (hr : cells[y]? = some row) (hc : row[x]? = some c) :
    (flatLayer W H cells).getChar (x : Int) (y : Int) = c := by
  unfold Layer.getChar flatLayer
  have h1 : ((x : Int) < 0 || (y : Int) < 0 || (x : Int) ≥ (W : Int) || (y : Int) ≥ (H : Int)) = false := by
    simp only [Bool.or_eq_false_iff, decide_eq_false_iff_not]
    omega
  simp only [h1, Bool.false_eq_true, if_false, Int.toNat_natCast, hr, hc]

/-- `Buffer::get_char` of the flat clone at a stored cell: the layer has an alpha channel and nothing lies beneath it -/
theorem getChar_flatLayer (hb : Cell → Nat × Nat) (t : Bool) (W H : Nat) (cells : List (List Cell)) (x y : Nat)
    (hx : x < W) (hy : y < H) (row : List Cell) (c : Cell) (hr : cells[y]? = some row) (hc : row[x]? = some c) :
    getChar hb t [flatLayer W H cells] (x : Int) (y : Int) = flatView t c := by
  have hcov : (flatLayer W H cells).covers (x : Int) (y : Int) = true := by
    simp only [Layer.covers, flatLayer, Int.sub_zero, Bool.not_eq_true', Bool.or_eq_false_iff, decide_eq_false_iff_not]
    omega
  have hcell : (flatLayer W H cells).getChar ((x : Int) - (flatLayer W H cells).offX) ((y : Int) - (flatLayer W H cells).offY) = c := by
    rw [show (flatLayer W H cells).offX = 0 from rfl, show (flatLayer W H cells).offY = 0 from rfl, Int.sub_zero, Int.sub_zero]
    exact flatLayer_getChar W H cells x y hx hy row c hr hc
  unfold getChar
  simp only [List.reverse_cons, List.reverse_nil, List.nil_append, go_cons]
  rw [layerStep_covered hb _ _ _ _ rfl hcov]
  unfold coveredStep
  rw [hcell]
  have hm : (flatLayer W H cells).mode = .normal := rfl
  have ha : (flatLayer W H cells).alpha = true := rfl
  have hd : (flatLayer W H cells).dfltPage = 0 := rfl
  simp only [hm, ha, hd, Bool.not_true, Bool.false_eq_true, if_false]
  unfold flatView
  have hinit : St.init = ⟨none, none, 0, none⟩ := rfl
  cases hv : c.isVisible with
  | false =>
    simp only [Bool.false_eq_true, if_false, hinit, go, finish]
    cases t <;> simp [merge_none]
  | true =>
    simp only [if_true, hinit, merge_none]
    cases htr : c.hasTransparentColor with
    | false => simp only [Bool.false_eq_true, if_false]
    | true => simp only [if_true, Option.isNone_none, go, finish]

end IcyVerif.ColorOpt
