import IcyVerif.Model.PalLoad
import IcyVerif.Lemmas.LoadersBase
/-! The palette importers never panic (C02): every step of the model is an `ok`/`Err` step.  For the JASC and GIMP line
    loops the same lemmas also bound the number of colours by the characters read (used by `Lemmas/PalCost`). -/
namespace IcyVerif.PalLoad
open IcyVerif.Bytes IcyVerif.Bytes.Res IcyVerif.Palette IcyVerif.Gen.FontPal IcyVerif.Gen.Palette

/-- the ASCII instance of the digit-class matcher is C16's matcher -/
theorem digits1With_ascii (s : List Nat) : digits1With Palette.isDigit s = digits1 s := rfl
theorem rgbAtWith_ascii (s : List Nat) : rgbAtWith Palette.isDigit s = rgbAt s := rfl

theorem parseU32_sat (ds : List Nat) : (parseU32 ds).Sat (fun v => v < 4294967296) := by
  unfold parseU32
  split
  · rename_i h; exact h.2
  · trivial

theorem rgbOfDec_sat (t : List Nat × List Nat × List Nat) : (rgbOfDec t).Sat Rgb.Valid := by
  unfold rgbOfDec
  apply Sat.bind (parseU32_sat _); intro r _
  apply Sat.bind (parseU32_sat _); intro g _
  apply Sat.bind (parseU32_sat _); intro b _
  simp only [sat_pure, Rgb.Valid]
  omega

def AllValid (cs : List Rgb) : Prop := ∀ c ∈ cs, c.Valid

theorem allValid_append {a b : List Rgb} (ha : AllValid a) (hb : AllValid b) : AllValid (a ++ b) := by
  intro c hc
  rcases List.mem_append.mp hc with h | h
  · exact ha c h
  · exact hb c h

theorem mapRes_spec {α β : Type} (f : α → Res β) (P : β → Prop) (hf : ∀ a, (f a).Sat P) :
    ∀ l : List α, (mapRes f l).Sat (fun bs => bs.length = l.length ∧ ∀ b ∈ bs, P b) := by
  intro l
  induction l with
  | nil => exact ⟨rfl, fun b hb => by cases hb⟩
  | cons a as ih =>
    unfold mapRes
    apply Sat.bind (hf a); intro b hb
    apply Sat.bind ih; intro bs hbs
    refine ⟨congrArg (· + 1) hbs.1, fun x hx => ?_⟩
    cases hx with
    | head => exact hb
    | tail _ h => exact hbs.2 x h

/-- total number of characters in a list of lines -/
def tot : List (List Nat) → Nat
  | [] => 0
  | l :: ls => l.length + tot ls

theorem scanWith_length {α : Type} (m : List Nat → Option (α × List Nat)) :
    ∀ (s : List Nat) (k : Nat), (scanWith m s k).length ≤ s.length := by
  intro s
  induction s with
  | nil => intro k; simp [scanWith]
  | cons c cs ih =>
    intro k
    cases k with
    | succ k => simp only [scanWith, List.length_cons]; have := ih k; omega
    | zero =>
      simp only [scanWith]
      split
      · rename_i rest _
        simp only [List.length_cons]; have := ih (cs.length - rest.length); omega
      · simp only [List.length_cons]; have := ih 0; omega

theorem findFirst_some_nonempty {α : Type} (m : List Nat → Option (α × List Nat)) (s : List Nat) (r : α × List Nat)
    (h : findFirst m s = some r) : 1 ≤ s.length := by
  cases s with
  | nil => simp [findFirst] at h
  | cons c cs => simp

/-! The line loops of the JASC and the GIMP importer.  One walk gives both facts about what they return: the channels are
    bytes (given that those collected before were), and there is at most one colour per character read (each colour is a
    regex match, a match consumes at least one character; the count line of the file plays no part). -/

theorem palLineColors_spec (line : List Nat) : (palLineColors line).Sat (fun cs => AllValid cs ∧ cs.length ≤ line.length) :=
  Sat.mono (mapRes_spec rgbOfDec Rgb.Valid rgbOfDec_sat _) (fun _ h => ⟨h.2, h.1 ▸ scanWith_length _ _ _⟩)

theorem palLoop_spec : ∀ (ls : List (List Nat)) (i : Nat) (acc : List Rgb),
    (palLoop ls i acc).Sat (fun r => (AllValid acc → AllValid r) ∧ r.length ≤ acc.length + tot ls) := by
  intro ls
  induction ls with
  | nil => intro i acc; exact ⟨id, Nat.le_refl _⟩
  | cons l ls ih =>
    intro i acc
    unfold palLoop
    have skip : ∀ j, (palLoop ls j acc).Sat (fun r => (AllValid acc → AllValid r) ∧ r.length ≤ acc.length + tot (l :: ls)) :=
      fun j => Sat.mono (ih j acc) (fun r hr => ⟨hr.1, by have := hr.2; simp only [tot]; omega⟩)
    refine Sat.ite (fun _ => Sat.ite (fun _ => skip 1) (fun _ => True.intro)) (fun _ => Sat.ite (fun _ => skip _) (fun _ => ?_))
    apply Sat.bind (palLineColors_spec l); intro cs hcs
    apply Sat.mono (ih _ _); intro r hr
    refine ⟨fun h => hr.1 (allValid_append h hcs.1), ?_⟩
    have h1 := hr.2; have h2 := hcs.2
    simp only [tot, List.length_append] at h1 ⊢; omega

theorem gplLine_spec (acc : List Rgb) (line : List Nat) :
    (gplLine acc line).Sat (fun r => (AllValid acc → AllValid r) ∧ r.length ≤ acc.length + line.length) := by
  unfold gplLine
  refine Sat.ite (fun _ => ⟨id, Nat.le_add_right _ _⟩) (fun _ => ?_)
  split
  · exact ⟨id, Nat.le_add_right _ _⟩
  · rename_i t rest hff
    have hne := findFirst_some_nonempty _ _ _ hff
    apply Sat.bind (rgbOfDec_sat _); intro c hc
    refine ⟨fun h => allValid_append h (by intro x hx; cases hx with | head => exact hc | tail _ h => cases h), ?_⟩
    simp only [List.length_append, List.length_cons, List.length_nil]
    omega

/-- the invariant rule of `foldRes`: an invariant that may depend on the elements still to come -/
theorem foldRes_inv {σ α : Type} (f : σ → α → Res σ) (P : List α → σ → Prop)
    (hf : ∀ s a l, P (a :: l) s → (f s a).Sat (P l)) : ∀ (l : List α) (s : σ), P l s → (foldRes f s l).Sat (P []) := by
  intro l
  induction l with
  | nil => intro s h; exact h
  | cons a l ih =>
    intro s h
    unfold foldRes
    exact Sat.bind (hf s a l h) (fun s' hs' => ih s' hs')

/-- the form for an invariant that does not look ahead -/
theorem foldRes_sat {σ α : Type} (f : σ → α → Res σ) (P : σ → Prop) (hf : ∀ s a, P s → (f s a).Sat P) :
    ∀ (l : List α) (s : σ), P s → (foldRes f s l).Sat P :=
  foldRes_inv f (fun _ => P) (fun s a _ h => hf s a h)

theorem foldRes_lines {σ : Type} (f : σ → List Nat → Res σ) (V : σ → Prop) (m : σ → Nat)
    (hf : ∀ s line, (f s line).Sat (fun s' => (V s → V s') ∧ m s' ≤ m s + line.length))
    (ls : List (List Nat)) (s : σ) : (foldRes f s ls).Sat (fun r => (V s → V r) ∧ m r ≤ m s + tot ls) := by
  refine (foldRes_inv f (fun l s' => (V s → V s') ∧ m s' + tot l ≤ m s + tot ls) (fun s' line l h => ?_) ls s ⟨id, Nat.le_refl _⟩).mono
    (fun r hr => ⟨hr.1, hr.2⟩)
  exact (hf s' line).mono (fun s'' h' => ⟨fun hv => h'.1 (h.1 hv), by have := h.2; have := h'.2; simp only [tot] at *; omega⟩)

theorem stripCrRev_length (l : List Nat) : (stripCrRev l).length ≤ l.length := by
  unfold stripCrRev
  split <;> simp

theorem linesGo_tot : ∀ (s cur : List Nat), tot (linesGo s cur) ≤ s.length + cur.length := by
  intro s
  induction s with
  | nil =>
    intro cur
    unfold linesGo
    split
    · simp [tot]
    · simp [tot]
  | cons c rest ih =>
    intro cur
    unfold linesGo
    split
    · simp only [tot, List.length_cons]
      have h1 := stripCrRev_length cur
      have h2 := ih []
      simp only [List.length_nil] at h2
      omega
    · have h2 := ih (c :: cur)
      simp only [List.length_cons] at h2 ⊢
      omega

theorem splitLines_tot (s : List Nat) : tot (splitLines s) ≤ s.length := by
  have := linesGo_tot s []
  simpa [splitLines] using this

theorem nil_valid : AllValid [] := fun c hc => by cases hc

theorem palText_spec (s : List Nat) : (loadText .pal s).Sat (fun r => AllValid r ∧ r.length ≤ s.length) :=
  Sat.mono (palLoop_spec (splitLines s) 0 []) (fun r hr => ⟨hr.1 nil_valid, Nat.le_trans hr.2 (by have := splitLines_tot s; simp only [List.length_nil]; omega)⟩)

theorem gplLoad_spec (s : List Nat) : (gplLoad s).Sat (fun r => AllValid r ∧ r.length ≤ s.length) := by
  unfold gplLoad
  have ht := splitLines_tot s
  split
  · exact ⟨nil_valid, Nat.zero_le _⟩
  · rename_i l0 rest heq
    rw [heq] at ht
    refine Sat.ite (fun _ => ?_) (fun _ => True.intro)
    apply Sat.mono (foldRes_lines gplLine AllValid List.length gplLine_spec rest []); intro r hr
    refine ⟨hr.1 nil_valid, ?_⟩
    have := hr.2
    simp only [tot, List.length_nil] at ht this; omega

theorem ofOption_noPanic (o : Option Pal) : (ofOption o).Sat (fun _ => True) := by
  unfold ofOption; split <;> trivial

theorem loadText_sat (f : Fmt) (s : List Nat) : (loadText f s).Sat (fun _ => True) := by
  cases f
  · exact ofOption_noPanic (importHex s)
  · exact Sat.mono (palText_spec s) (fun _ _ => trivial)
  · exact Sat.mono (gplLoad_spec s) (fun _ _ => trivial)
  · exact ofOption_noPanic (importIce s)
  · exact ofOption_noPanic (importTxt s)

/-- decimal channels are stored as bytes: `as u8` of a value that passed `parse::<u32>` -/
theorem loadText_dec_valid (s : List Nat) : (loadText .pal s).Sat AllValid ∧ (loadText .gpl s).Sat AllValid :=
  ⟨Sat.mono (palText_spec s) (fun _ h => h.1), Sat.mono (gplLoad_spec s) (fun _ h => h.1)⟩

theorem palLoad_sat (f : Fmt) (bytes : List Nat) : (palLoad f bytes).Sat (fun _ => True) := by
  unfold palLoad
  split
  · exact loadText_sat f _
  · trivial

theorem palImport_sat (ext : Option String) (bytes : List Nat) : (palImport ext bytes).Sat (fun _ => True) := by
  unfold palImport
  split
  · trivial
  · split
    · exact palLoad_sat _ _
    · trivial

end IcyVerif.PalLoad
