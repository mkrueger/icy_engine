import IcyVerif.Lemmas.RowsStep
/-! # No content operation panics: the four wrappers of the ANSI parser and the five byte-oriented emulations
A joint step is the terminal step beside the row operations of the same arm, so its invariant has two halves proved apart
and put together by `geoW_good` / `ostepJ_holds`: the terminal half is what the effect relation of the arm gives (`WEff`,
`OEff`: invariant and buffer width), the row half is one walk of the row operations per emulation (`…Rows_ok`).  A
character the wrapper hands on is a joint ANSI step (`stepJ_good`). -/
namespace IcyVerif.Rows
open IcyVerif.Term

def WGood (w : Int) (x : WJ) : Prop := GoodSt x.1.inner ∧ BwOk x.1.inner.s ∧ W w x.2
abbrev WGoodR (w : Int) (r : WJ × Out) : Prop := WGood w r.1

theorem geoW_good (w : Int) {r : WR} {t : RRes Tab} (hg : Holds IsOv r (fun r => GoodSt r.1.inner ∧ BwOk r.1.inner.s))
    (ht : Holds NoErr t (W w)) : JOk (geoW r t) (WGoodR w) := by
  unfold geoW
  rcases r with e | ⟨w', out⟩
  · obtain ⟨site, he⟩ := hg
    exact ⟨site, by rw [he]⟩
  · rcases t with e | t'
    · exact ht.elim
    · exact ⟨hg.1, hg.2, ht⟩

theorem innerJ_good (w : Int) (hw : 0 ≤ w) (x : WJ) (o : Nat → Orc) (ch : Char) (h : WGood w x) :
    JOk (innerJ x o ch) (WGoodR w) := by
  unfold innerJ
  have hs := stepJ_good w hw wcfg o (x.1.inner, x.2) ch h
  generalize stepJ wcfg o (x.1.inner, x.2) ch = y at hs ⊢
  rcases y with e | ⟨⟨st, t⟩, out⟩ <;> exact hs

theorem avtRepeatJ_good (w : Int) (hw : 0 ≤ w) (o : Nat → Orc) (ch : Char) : ∀ (n : Nat) (x : WJ), WGood w x →
    JOk (avtRepeatJ o ch n x) (WGoodR w) := by
  intro n
  induction n with
  | zero => intro x h; exact h
  | succ n ih =>
    intro x h
    unfold avtRepeatJ
    have hs := stepJ_good w hw wcfg o (x.1.inner, x.2) ch h
    generalize stepJ wcfg o (x.1.inner, x.2) ch = y at hs ⊢
    rcases y with e | ⟨⟨st, t⟩, _ | _ | _⟩
    · exact hs
    · exact ih _ hs
    · exact hs
    · exact ih _ hs

theorem avatarJ_good (w : Int) (hw : 0 ≤ w) (x : WJ) (o : Nat → Orc) (ch : Char) (h : WGood w x)
    (hr : RangeOk x.1.inner.s x.1.inner.c) : JOk (avatarJ x o ch) (WGoodR w) := by
  have hgeo {t : RRes Tab} : Holds NoErr t (W w) → JOk (geoW (avatarStep x.1 o ch) t) (WGoodR w) :=
    geoW_good w ((avatarStep_eff x.1 o ch).goodBw h.1 h.2.1 hr)
  unfold avatarJ
  simp only []
  split
  · exact Holds.ite (fun _ => hgeo h.2.2) fun _ => Holds.ite (fun _ => hgeo h.2.2) fun _ => innerJ_good w hw x o ch h
  · refine Holds.ite (fun _ => ?_) fun _ => hgeo h.2.2
    have hrep := avtRepeatJ_good w hw o x.1.avtChar (min ch.toNat 255) ({ x.1 with avt := .repeatChars 3 }, x.2) h
    generalize avtRepeatJ o x.1.avtChar (min ch.toNat 255) ({ x.1 with avt := .repeatChars 3 }, x.2) = y at hrep ⊢
    rcases y with e | ⟨⟨w', t'⟩, _ | _ | _⟩ <;> exact hrep
  · exact hgeo h.2.2

theorem pcboardJ_good (w : Int) (hw : 0 ≤ w) (x : WJ) (o : Nat → Orc) (ch : Char) (h : WGood w x)
    (hr : RangeOk x.1.inner.s x.1.inner.c) : JOk (pcboardJ x o ch) (WGoodR w) := by
  unfold pcboardJ
  exact Holds.ite (fun _ => geoW_good w ((pcboardStep_eff x.1 o ch).goodBw h.1 h.2.1 hr) h.2.2) fun _ => innerJ_good w hw x o ch h

theorem renegadeJ_good (w : Int) (hw : 0 ≤ w) (x : WJ) (o : Nat → Orc) (ch : Char) (h : WGood w x)
    (hr : RangeOk x.1.inner.s x.1.inner.c) : JOk (renegadeJ x o ch) (WGoodR w) := by
  unfold renegadeJ
  exact Holds.ite (fun _ => innerJ_good w hw x o ch h) fun _ =>
    geoW_good w ((renegadeStep_eff x.1 o ch).goodBw h.1 h.2.1 hr) h.2.2

theorem ctrlaJ_good (w : Int) (hw : 0 ≤ w) (x : WJ) (o : Nat → Orc) (ch : Char) (h : WGood w x)
    (hr : RangeOk x.1.inner.s x.1.inner.c) : JOk (ctrlaJ x o ch) (WGoodR w) := by
  have hgeo {t : RRes Tab} : Holds NoErr t (W w) → JOk (geoW (ctrlaStep x.1 o ch) t) (WGoodR w) :=
    geoW_good w ((ctrlaStep_eff x.1 o ch).goodBw h.1 h.2.1 hr)
  have ht := h.2.2
  have hI := setInv_w hw
  unfold ctrlaJ
  simp only []
  refine Holds.ite (fun _ => Holds.ite (fun _ => ?_) fun _ => hgeo ?_) fun _ =>
    Holds.ite (fun _ => hgeo ht) fun _ => innerJ_good w hw x o ch h
  · have hs := stepJ_good w hw wcfg o (x.1.inner, x.2) '\x01' h
    generalize stepJ wcfg o (x.1.inner, x.2) '\x01' = y at hs ⊢
    rcases y with e | ⟨⟨st, t⟩, out⟩ <;> exact hs
  · -- the rows effects of `L`, `J`, `>`, `]`
    refine Holds.ite (fun _ => ht) fun _ => Holds.ite (fun _ => hI.clearBufferDown ht) fun _ => ?_
    exact Holds.ite (fun _ => hI.clearLineEnd ht) fun _ => Holds.ite (fun _ => hI.checkScrollDownT ht) fun _ => ht

theorem wstepJ_good (w : Int) (hw : 0 ≤ w) (e : Emu) (o : Nat → Orc) (x : WJ) (ch : Char) (h : WGood w x) :
    JOk (wstepJ e o x ch) (WGoodR w) := by
  unfold wstepJ
  refine Holds.ite (fun _ => ⟨_, rfl⟩) fun hr => ?_
  have hr := Classical.not_not.mp hr
  cases e with
  | avatar => exact avatarJ_good w hw x o ch h hr
  | pcboard => exact pcboardJ_good w hw x o ch h hr
  | ctrla => exact ctrlaJ_good w hw x o ch h hr
  | renegade => exact renegadeJ_good w hw x o ch h hr

theorem wrunJ_good (w : Int) (hw : 0 ≤ w) (e : Emu) (o : Nat → Orc) : ∀ (cs : List Char) (x : WJ), WGood w x →
    JOk (wrunJ e o x cs) (WGood w) := by
  intro cs
  induction cs with
  | nil => intro x h; exact h
  | cons ch rest ih =>
    intro x h
    unfold wrunJ
    have h2 := wstepJ_good w hw e o x ch h
    generalize wstepJ e o x ch = y at h2 ⊢
    rcases y with e | ⟨x', out⟩
    · exact h2
    · exact ih x' h2

theorem printValueT_ok {w : Int} {s : Scr} {c : Car} (v : Nat) {t : Tab} (hp : Pre w s c) (ht : W w t) :
    Holds NoErr (printValueT s c v t) (W w) := .ite (fun _ => ht) fun _ => hp.print ht

/- arm by arm, in the order of the definitions; an arm that leaves the table alone is `ht` -/
theorem asciiRows_ok (w : Int) (st : OSt) (ch : Char) (t : Tab) (hp : Pre w st.s st.c) (ht : W w t) :
    Holds NoErr (asciiRows st ch t) (W w) := by
  unfold asciiRows
  simp only []
  refine .ite (fun _ => ht) fun _ => .ite (fun _ => ht) fun _ => .ite (fun _ => (lfT_ok hp.hw ht hp.htw).left) fun _ => ?_
  refine .ite (fun _ => ht) fun _ => .ite (fun _ => ht) fun _ => .ite (fun _ => hp.set.bsT ht) fun _ => ?_
  exact .ite (fun _ => (delT_ok ht).left) fun _ => printValueT_ok _ hp ht

theorem atasciiRows_ok (w : Int) (st : OSt) (ch : Char) (t : Tab) (hp : Pre w st.s st.c) (ht : W w t) :
    Holds NoErr (atasciiRows st ch t) (W w) := by
  unfold atasciiRows
  simp only []
  refine .ite (fun _ => printValueT_ok _ hp ht) fun _ => .ite (fun _ => ht) fun _ => ?_
  -- cursor up / down: the scroll checks
  refine .ite (fun _ => hp.set.checkScrollUpT ht) fun _ => .ite (fun _ => hp.set.checkScrollDownT ht) fun _ => ?_
  refine .ite (fun _ => ht) fun _ => .ite (fun _ => ht) fun _ => .ite (fun _ => hp.set.bsT ht) fun _ => ?_
  refine .ite (fun _ => ht) fun _ => .ite (fun _ => (lfT_ok hp.hw ht hp.htw).left) fun _ => ?_
  -- delete / insert line, delete / insert character
  refine .ite (fun _ => hp.removeLine ht) fun _ => .ite (fun _ => hp.insertLine ht) fun _ => .ite (fun _ => ht) fun _ => ?_
  exact .ite (fun _ => (delT_ok ht).left) fun _ => .ite (fun _ => (insT_ok ht).left) fun _ => printValueT_ok _ hp ht

/-- the flags are irrelevant for the row table -/
theorem keep_ok {I : Tab → Prop} {x : OX} {r : RRes Tab} (h : Holds NoErr r I) :
    Holds NoErr (andThen r fun t => .ok (x, t)) (fun r => I r.2) :=
  h.andThen (fun _ ha => ha)

theorem petsciiRows_ok (w : Int) (st : OSt) (x : OX) (ch : Char) (t : Tab) (hp : Pre w st.s st.c) (ht : W w t) :
    Holds NoErr (petsciiRows st x ch t) (fun r => W w r.2) := by
  unfold petsciiRows
  simp only []
  refine .ite (fun _ => ?_) fun _ => ?_
  · -- after ESC: `Q`, `P`, `@` clear, `D` / `I` delete / insert line
    refine .ite (fun _ => keep_ok (hp.set.clearLineEnd ht)) fun _ => .ite (fun _ => keep_ok (hp.set.clearLineStart ht)) fun _ => ?_
    refine .ite (fun _ => keep_ok (hp.set.clearBufferDown ht)) fun _ => .ite (fun _ => keep_ok (hp.removeLine ht)) fun _ => ?_
    exact .ite (fun _ => keep_ok (hp.insertLine ht)) fun _ => ht
  refine .ite (fun _ => keep_ok (lfT_ok hp.hw ht hp.htw).left) fun _ => ?_
  -- a change of the shift mode repaints the whole buffer
  refine .ite (fun _ => .ite (fun _ => ht) fun _ => keep_ok (hp.set.repaintAll ht)) fun _ => ?_
  refine .ite (fun _ => .ite (fun _ => ht) fun _ => keep_ok (hp.set.repaintAll ht)) fun _ => ?_
  refine .ite (fun _ => keep_ok (hp.set.checkScrollDownT ht)) fun _ => .ite (fun _ => keep_ok (hp.set.bsT ht)) fun _ => ?_
  refine .ite (fun _ => keep_ok (hp.set.checkScrollUpT ht)) fun _ => .ite (fun _ => ht) fun _ => .ite (fun _ => ht) fun _ => ?_
  refine .ite (fun _ => keep_ok (hp.print ht)) fun _ => .ite (fun _ => ht) fun _ => ?_
  -- an assigned code prints
  split
  · exact keep_ok (hp.print ht)
  · exact ht

/-! Viewdata and Mode 7 write cells with `Layer::set_char` and clear with `Layer::clear` only.  `cnt` is the number of
cells a `fill_to_eol` of this character visits (it depends on cell contents; the stream carries it, see `Rows.fillToEol`). -/
theorem SetInv.m7PrintT {I : Tab → Prop} (hI : SetInv I) {s : Scr} {c : Car} {t : Tab} (ht : I t) : Holds NoErr (m7PrintT s c t) I := by
  unfold Rows.m7PrintT
  exact (hI.set t _ _ ht).andThen (fun _ ht1 => Holds.ite (fun _ => hI.checkScrollDownT ht1) (fun _ => ht1))

theorem SetInv.viewdataRows {I : Tab → Prop} (hI : SetInv I) (st : OSt) (x : OX) (ch : Char) (cnt : Nat) (t : Tab) (ht : I t) :
    Holds NoErr (viewdataRows st x ch cnt t) (fun r => I r.2) := by
  have hfill {x : OX} {c : Car} {t : Tab} (ht : I t) :
      Holds NoErr (andThen (Rows.fillToEol st.s c cnt t) fun t => .ok (x, t)) (fun r => I r.2) := keep_ok (hI.fillToEol ht)
  unfold Rows.viewdataRows
  simp only []
  -- the controls: only form feed (12) touches the table
  refine .ite (fun _ => ht) fun _ => .ite (fun _ => ht) fun _ => .ite (fun _ => ht) fun _ => ?_
  refine .ite (fun _ => hI.clear t ht) fun _ => .ite (fun _ => ht) fun _ => .ite (fun _ => ht) fun _ => .ite (fun _ => ht) fun _ => ?_
  -- `interpret_char`: `fill_to_eol` before the cell is written (after ESC), the write, `fill_to_eol` after it
  refine Holds.andThen (P := fun r => I r.2) ?_ fun r ht1 => (hI.set r.2 _ _ ht1).andThen fun t2 ht2 => ?_
  · refine .ite (fun _ => .ite (fun _ => hfill ht) fun _ => .ite (fun _ => .ite (fun _ => ht) fun _ => hfill ht) fun _ => ?_) fun _ => ht
    exact .ite (fun _ => ht) fun _ => ht
  · refine .ite (fun _ => .ite (fun _ => hfill ht2) fun _ => .ite (fun _ => hfill ht2) fun _ => ?_) fun _ => ht2
    exact .ite (fun _ => hfill ht2) fun _ => ht2

theorem SetInv.mode7Rows {I : Tab → Prop} (hI : SetInv I) (st : OSt) (x : OX) (ch : Char) (cnt : Nat) (t : Tab) (ht : I t) :
    Holds NoErr (mode7Rows st x ch cnt t) (fun r => I r.2) := by
  have hpr {x : OX} : Holds NoErr (andThen (Rows.m7PrintT st.s st.c t) fun t => .ok (x, t)) (fun r => I r.2) :=
    keep_ok (hI.m7PrintT ht)
  have hfp {x : OX} : Holds NoErr (andThen (andThen (Rows.fillToEol st.s st.c cnt t) fun t => Rows.m7PrintT st.s st.c t)
      fun t => .ok (x, t)) (fun r => I r.2) :=
    keep_ok ((hI.fillToEol ht).andThen (fun _ ht1 => hI.m7PrintT ht1))
  unfold Rows.mode7Rows
  simp only []
  -- cursor right / line feed: the scroll check of `Caret::index`; form feed clears; backspace
  refine .ite (fun _ => keep_ok (.ite (fun _ => hI.checkScrollDownT ht) fun _ => ht)) fun _ => ?_
  refine .ite (fun _ => keep_ok (hI.checkScrollDownT ht)) fun _ => .ite (fun _ => hI.clear t ht) fun _ => ?_
  refine .ite (fun _ => ht) fun _ => .ite (fun _ => keep_ok (hI.bsT ht)) fun _ => ?_
  -- the attribute codes: `fill_to_eol`, then the blank
  refine .ite (fun _ => hfp) fun _ => .ite (fun _ => hfp) fun _ => .ite (fun _ => hfp) fun _ => ?_
  refine .ite (fun _ => .ite (fun _ => hpr) fun _ => hfp) fun _ => .ite (fun _ => hpr) fun _ => ?_
  exact .ite (fun _ => ht) fun _ => .ite (fun _ => ht) fun _ => hpr

theorem orows_ok (w : Int) (e : Emu2) (st : OSt) (x : OX) (ch : Char) (cnt : Nat) (t : Tab) (hp : Pre w st.s st.c)
    (ht : W w t) : Holds NoErr (orows e st x ch cnt t) (fun r => W w r.2) := by
  unfold orows
  cases e with
  | ascii => exact keep_ok (asciiRows_ok w st ch t hp ht)
  | atascii => exact keep_ok (atasciiRows_ok w st ch t hp ht)
  | petscii => exact petsciiRows_ok w st x ch t hp ht
  | viewdata => exact hp.set.viewdataRows st x ch cnt t ht
  | mode7 => exact hp.set.mode7Rows st x ch cnt t ht

/-- the joint invariant of the byte-oriented emulations; Viewdata and Mode 7 run on the fixed 40x24 screen (`Fixed`) -/
def OGood (w : Int) (e : Emu2) (x : OJ) : Prop :=
  GoodO x.1 ∧ (e = .viewdata ∨ e = .mode7 → Fixed x.1) ∧ BwOk x.1.s ∧ W w x.2.2

theorem ostepJ_holds {EG : Panic → Prop} {ER : String → Prop} {P : OSt → Prop} {I : OX × Tab → Prop} (e : Emu2) (x : OJ)
    (ch : Char) (cnt : Nat) (hg : Holds EG (ostep e x.1 ch) (fun r => P r.1))
    (hr : Holds ER (orows e x.1 x.2.1 ch cnt x.2.2) I) :
    Holds (JE EG ER) (ostepJ e x ch cnt) (fun r => P r.1.1 ∧ I r.1.2) := by
  unfold ostepJ
  generalize ostep e x.1 ch = a at hg ⊢
  generalize orows e x.1 x.2.1 ch cnt x.2.2 = b at hr ⊢
  rcases a with p | ⟨st', out⟩
  · exact hg
  · rcases b with s | ⟨ox', t'⟩
    · exact hr
    · exact ⟨hg, hr⟩

theorem orunJ_holds {E : JErr → Prop} {P : OJ → Prop} (e : Emu2)
    (hstep : ∀ x ch cnt, P x → Holds E (ostepJ e x ch cnt) (fun r => P r.1)) :
    ∀ (cs : List (Char × Nat)) (x : OJ), P x → Holds E (orunJ e x cs) P := by
  intro cs
  induction cs with
  | nil => intro x h; exact h
  | cons p rest ih =>
    intro x h
    obtain ⟨ch, cnt⟩ := p
    unfold orunJ
    have h2 := hstep x ch cnt h
    generalize ostepJ e x ch cnt = y at h2 ⊢
    rcases y with e | ⟨x', out⟩
    · exact h2
    · exact ih x' h2

theorem ostepJ_good (w : Int) (hw : 0 ≤ w) (e : Emu2) (x : OJ) (ch : Char) (cnt : Nat) (h : OGood w e x) :
    JOk (ostepJ e x ch cnt) (fun r => OGood w e r.1) := by
  obtain ⟨hg, hf, hb, ht⟩ := h
  have hgd := ostep_good e x.1 ch hg hf
  have hbw := ostep_bw e x.1 ch hg.1
  have hgeo : Holds IsOv (ostep e x.1 ch) fun r => (GoodO r.1 ∧ (e = .viewdata ∨ e = .mode7 → Fixed r.1)) ∧ BwOk r.1.s := by
    generalize ostep e x.1 ch = r at hgd hbw ⊢
    rcases r with p | r
    · exact hgd
    · exact ⟨hgd, hbw.elim (fun g => by unfold BwOk at *; rw [g]; exact hb) id⟩
  have hr := orows_ok w e x.1 x.2.1 ch cnt x.2.2 (pre_of_good w hw ⟨x.1.s, x.1.c, {}⟩ (goodO_toSt x.1 hg) hb) ht
  exact ((ostepJ_holds (P := fun st => (GoodO st ∧ (e = .viewdata ∨ e = .mode7 → Fixed st)) ∧ BwOk st.s) e x ch cnt
    hgeo hr).mono fun r h => ⟨h.1.1.1, h.1.1.2, h.1.2, h.2⟩)

theorem orunJ_good (w : Int) (hw : 0 ≤ w) (e : Emu2) (cs : List (Char × Nat)) (x : OJ) (h : OGood w e x) :
    JOk (orunJ e x cs) (OGood w e) :=
  orunJ_holds e (fun x ch cnt h => ostepJ_good w hw e x ch cnt h) cs x h

end IcyVerif.Rows
