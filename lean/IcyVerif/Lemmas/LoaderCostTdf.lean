import IcyVerif.Lemmas.LoaderCostBase
/-! TheDraw font bundles: `_res`, and one walk per loop: never a panic (C02, through `_res`), work within the budget (C03). -/
namespace IcyVerif.LoaderCost
open IcyVerif.Bytes IcyVerif.Bytes.Res IcyVerif.Loaders IcyVerif.Gen IcyVerif.Gen.Loaders RC

theorem tdfNameC_res (d : Bytes) (o : Nat) : ∀ k i, (tdfNameC d o k i).res = tdfName d o k i
  | 0, _ => rfl
  | k + 1, i => by
    simp only [tdfNameC, tdfName, res_bind, res_tick, ok_bind, apply_ite RC.res, res_pure, res_lift, tdfNameC_res d o k]
    rfl

theorem tdfGlyphDataC_res (d : Bytes) (color : Bool) : ∀ fuel off, (tdfGlyphDataC d color fuel off).res = tdfGlyphData d color fuel off
  | 0, _ => by unfold tdfGlyphDataC tdfGlyphData; exact res_ite (fun _ => rfl) (fun _ => rfl)
  | fuel + 1, _ => by
    unfold tdfGlyphDataC tdfGlyphData
    simp only [res_bind, res_tick, res_fail, ok_bind, apply_ite RC.res, res_pure, res_lift, tdfGlyphDataC_res d color fuel]
    rfl

theorem tdfGlyphsC_res (d : Bytes) (o bs : Nat) (color : Bool) : ∀ t n fh, (tdfGlyphsC d o bs color t n fh).res = tdfGlyphs d o bs color t n fh
  | [], _, _ => rfl
  | co :: rest, n, fh => by
    simp only [tdfGlyphsC, tdfGlyphs, res_bind, res_tick, res_fail, ok_bind, apply_ite RC.res, res_lift, tdfGlyphDataC_res, tdfGlyphsC_res d o bs color rest]
    rfl

theorem tdfTableC_res (d : Bytes) : ∀ k o acc, (tdfTableC d k o acc).res = tdfTable d k o acc
  | 0, _, _ => rfl
  | k + 1, o, acc => by simp only [tdfTableC, tdfTable, res_bind, res_tick, ok_bind, res_lift, tdfTableC_res d k]

theorem tdfFontsC_res (d : Bytes) : ∀ fuel o acc, (tdfFontsC d fuel o acc).res = tdfFonts d fuel o acc
  | 0, _, _ => by unfold tdfFontsC tdfFonts; exact res_ite (fun _ => rfl) (fun _ => rfl)
  | fuel + 1, _, _ => by
    unfold tdfFontsC tdfFonts
    simp only [res_bind, res_tick, res_fail, ok_bind, apply_ite RC.res, res_pure, res_lift, tdfNameC_res, tdfTableC_res, tdfGlyphsC_res, tdfFontsC_res d fuel]
    rfl

theorem loadTdfC_res (d : Bytes) : (loadTdfC d).res = loadTdf d := by
  unfold loadTdfC loadTdf
  simp only [res_bind, res_fail, apply_ite RC.res, res_lift, tdfFontsC_res]

theorem tdfNameC_pot (d : Bytes) (o : Nat) : ∀ k i, o + i + k ≤ d.size →
    (tdfNameC d o k i).Pot (fun _ => False) k 0 0 (fun r => r ≤ i + k) (fun _ => 0) (fun _ => 0) (fun _ => 0) := by
  intro k
  induction k with
  | zero => intro i _; exact Pot.pure (Nat.le_refl _)
  | succ k ih =>
    intro i h
    unfold tdfNameC
    refine Pot.tick_bind (Nat.succ_pos k) (Pot.sat_bind (rd_sat (by omega)) (fun b _ => Pot.ite (fun _ => ?_) (fun _ => ?_)))
    · exact Pot.pure (Nat.le_add_right i (k + 1)) (Nat.zero_le _)
    · exact (ih (i + 1) (by omega)).imp (fun r hr => by omega)

theorem tdfGlyphDataC_pot (d : Bytes) (color : Bool) : ∀ fuel off, d.size < fuel + off →
    (tdfGlyphDataC d color fuel off).Spends (fun _ => False) (d.size - off) 0 0 := by
  intro fuel
  induction fuel with
  | zero =>
    intro off hf
    unfold tdfGlyphDataC
    exact Pot.guard (fun _ => by omega)
  | succ fuel ih =>
    intro off hf
    unfold tdfGlyphDataC
    refine Pot.guard (fun hoff => Pot.tick_bind (by omega) (Pot.sat_bind (rd_sat (by omega)) (fun ch _ => ?_)))
    have next : ∀ k, (tdfGlyphDataC d color fuel (off + 1 + k)).Spends (fun _ => False) (d.size - off - 1) 0 0 :=
      fun k => Pot.weaken (ih (off + 1 + k) (by omega)) (by omega)
    exact Pot.ite (fun _ => pot_done _) (fun _ => Pot.ite (fun _ => Pot.ite (fun _ => next 0)
      (fun _ => Pot.guard (fun _ => Pot.sat_bind (rd_sat (by omega)) (fun _ _ => next 1)))) (fun _ => next 0))

/-- the glyphs of one font: every table entry may point at data that runs to the end of the file (glyphs may overlap) -/
theorem tdfGlyphsC_pot (d : Bytes) (o bs : Nat) (color : Bool) : ∀ (t : List Nat) n fh,
    (tdfGlyphsC d o bs color t n fh).Spends (fun _ => False) (t.length * (d.size + 1)) 0 0 := by
  intro t
  induction t with
  | nil => intro n fh; exact pot_done _
  | cons co rest ih =>
    intro n fh
    have hlen : (co :: rest).length * (d.size + 1) = rest.length * (d.size + 1) + (d.size + 1) := by
      simp only [List.length_cons, Nat.succ_mul]
    rw [hlen]
    generalize hR : rest.length * (d.size + 1) = R at ih ⊢
    unfold tdfGlyphsC
    have next : ∀ n fh, (tdfGlyphsC d o bs color rest n fh).Spends (fun _ => False) (R + (d.size + 1) - 1) 0 0 :=
      fun n fh => Pot.weaken (ih n fh) (by omega)
    refine Pot.tick_bind (Nat.succ_pos _) (Pot.ite (fun _ => next n fh) (fun _ => Pot.guard (fun _ => Pot.guard (fun _ => ?_))))
    refine Pot.sat_bind (rd_sat (by omega)) (fun _ _ => Pot.sat_bind (rd_sat (by omega)) (fun h _ => ?_))
    exact Pot.call (tdfGlyphDataC_pot d color (d.size + 1) (co + o + 2) (by omega)) (by omega) (fun _ _ => Pot.weaken (ih _ _) (by omega))

theorem tdfTableC_pot (d : Bytes) : ∀ k o acc, o + 2 * k ≤ d.size →
    (tdfTableC d k o acc).Pot (fun _ => False) k 0 0 (fun r => r.length = acc.length + k) (fun _ => 0) (fun _ => 0) (fun _ => 0) := by
  intro k
  induction k with
  | zero => intro o acc _; exact Pot.pure (List.length_reverse ..)
  | succ k ih =>
    intro o acc h
    unfold tdfTableC
    refine Pot.tick_bind (Nat.succ_pos k) (Pot.sat_bind (rdU16_sat (by omega)) (fun v _ => (ih (o + 2) (v :: acc) (by omega)).imp ?_))
    intro r hr
    rw [hr, List.length_cons, Nat.add_right_comm, Nat.add_assoc]

/-- cost of one font record: name (<= 12), character table (94), 94 glyphs of at most `|d| + 1` iterations each -/
def tdfFontBudget (n : Nat) : Nat := 94 * n + 202

/-- every record consumes at least one byte and pays for its name, table and glyphs -/
theorem tdfFontsC_pot (d : Bytes) : ∀ fuel o m acc, m < fuel → d.size ≤ o + m →
    (tdfFontsC d fuel o acc).Spends (fun _ => False) (tdfFontBudget d.size * m + 1) 0 0 := by
  have e0 : tdfRecordLen = 213 := rfl
  have e1 : tdfFontNameLen = 12 := rfl
  have hT : tdfCharTableSize = 94 := rfl
  intro fuel
  induction fuel with
  | zero => intro o m acc hf; omega
  | succ fuel ih =>
    intro o m acc hf hm
    unfold tdfFontsC
    refine Pot.ite (fun _ => pot_done _) (fun hc => ?_)
    have ho : o < d.size := Decidable.not_not.mp hc
    obtain ⟨m, rfl⟩ : ∃ k, m = k + 1 := ⟨m - 1, by omega⟩
    rw [Nat.mul_succ]
    have hF : tdfFontBudget d.size = 94 * d.size + 202 := rfl
    generalize hX : tdfFontBudget d.size * m = X
    refine Pot.tick_bind (Nat.succ_pos _) (Pot.sat_bind (rd_sat ho) (fun b _ => Pot.ite (fun _ => pot_done _) (fun _ => Pot.guard (fun hrec => ?_))))
    refine Pot.sat_bind (rdU32_sat (by omega)) (fun ind _ => Pot.guard (fun _ => Pot.sat_bind (rd_sat (by omega)) (fun nameLen _ => Pot.guard (fun hname => ?_))))
    refine Pot.call (tdfNameC_pot d (o + 4 + 1) nameLen 0 (by omega)) (by omega) (fun nl hnl => ?_)
    refine Pot.sat_bind (slice_sat (by omega)) (fun _ _ => Pot.sat_bind (rd_sat (by omega)) (fun ty _ => Pot.guard (fun _ => ?_)))
    refine Pot.sat_bind (rd_sat (by omega)) (fun spaces _ => Pot.guard (fun _ => Pot.sat_bind (rdU16_sat (by omega)) (fun blockSize _ => ?_)))
    refine Pot.call (tdfTableC_pot d tdfCharTableSize _ [] (by omega)) (by omega) (fun table htab => ?_)
    have htl : table.length = 94 := by simpa [hT] using htab
    have hgl := tdfGlyphsC_pot d (o + 4 + 1 + tdfFontNameLen + 4 + 1 + 1 + 2 + 2 * tdfCharTableSize) blockSize (ty == 2) table 0 none
    rw [htl] at hgl
    refine Pot.call hgl (by omega) (fun r _ => ?_)
    exact Pot.weaken (ih _ m _ (by omega) (by omega)) (by omega)

theorem loadTdfC_pot (d : Bytes) : (loadTdfC d).Spends (fun _ => False) (tdfFontBudget d.size * d.size + 1) 0 0 := by
  unfold loadTdfC
  have e0 : tdfHeaderSize = 233 := rfl
  have e1 : tdfId.length = 18 := rfl
  refine Pot.guard (fun _ => Pot.sat_bind (rd_sat (by omega)) (fun b _ => Pot.guard (fun _ => ?_)))
  refine Pot.sat_bind (slice_sat (by omega)) (fun _ _ => Pot.guard (fun _ => Pot.sat_bind (rd_sat (by omega)) (fun m _ => Pot.guard (fun _ => ?_))))
  exact tdfFontsC_pot d _ _ d.size _ (Nat.lt_succ_self _) (Nat.le_add_left _ _)

end IcyVerif.LoaderCost

namespace IcyVerif.Loaders
open IcyVerif.Bytes IcyVerif.Bytes.Res IcyVerif.LoaderCost

theorem loadTdf_sat (d : Bytes) : (loadTdf d).Sat (fun _ => True) :=
  loadTdfC_res d ▸ (loadTdfC_pot d).sat.toSat (fun _ h => h)

end IcyVerif.Loaders
