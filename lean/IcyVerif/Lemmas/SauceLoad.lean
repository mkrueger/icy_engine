import IcyVerif.Model.SauceLoad
import IcyVerif.Lemmas.BinFormatsTnd
import IcyVerif.Lemmas.BinFormatsSauce
/-! C11Load: what the SAUCE record handed over by `Buffer::from_bytes` does to the binary format loaders.  `set_sauce(.., true)`
    changes width, height, ice mode and font slot 0 of the start buffer and KEEPS the record's texts and flags (`keep`); every
    loader overrides some of these.  `Rides f`: a change of the buffer that placing cells and the Tundra loop neither read nor
    overwrite commutes with them; the kept record and the buffer height are such changes. -/
namespace IcyVerif.SauceLoad
open IcyVerif.BinFormats IcyVerif.Gen IcyVerif.XbCompress
open IcyVerif.Sauce (Sauce)

/-- the width `Buffer::set_sauce(.., true)` gives the buffer -/
def ruleW (w : Nat) : Nat := if w = 0 ∨ w > BinFmt.sauceMaxWidth then BinFmt.sauceFallbackWidth else w

/-- the width rule of C05's description of the start buffer (`BinFormats.start_setSauce'`) is this one -/
theorem sauceW_eq_ruleW (s : Sauce) : sauceW s = ruleW s.width := rfl

/-- buffer and layer height replaced (what a record does to a start buffer whose width/ice it leaves alone) -/
def setH (b : LBuf) (h1 h2 : Int) : LBuf := { b with bh := h1, lh := h2 }

/-- the buffer with the record's texts and flags kept for the next save (`Buffer::set_sauce` stores them) -/
def keep (m : Option Sauce.Meta) (b : LBuf) : LBuf := { b with sauce := m }

/-- "the record's font setting equals the loader's default": it names no font of `SAUCE_FONT_NAMES` (or one that is the
    loader's default font), so `set_sauce` leaves font slot 0 alone -/
def fontAtDefault (s : Sauce) : Bool :=
  match s.font.bind sauceFontByName with
  | none => true
  | some f => f == defaultFont

theorem fontAtDefault_fonts (s : Sauce) (hf : fontAtDefault s = true) (f : Font) (h : s.font.bind sauceFontByName = some f) :
    setFont [(0, defaultFont)] 0 f = [(0, defaultFont)] := by
  unfold fontAtDefault at hf
  rw [h] at hf
  have : f = defaultFont := by simpa using hf
  subst this
  simp [setFont]

theorem setSauce_eq (b : LBuf) (s : Sauce) (hw : ruleW s.width = b.bw) (hl : b.lw = b.bw) (hi : s.ice = false)
    (hfonts : b.fonts = [(0, defaultFont)]) (hf : fontAtDefault s = true) :
    b.setSauce true (some s) = keep (some (metaOf s)) (setH b s.height s.height) := by
  simp only [LBuf.setSauce, setH, keep, if_true]
  simp only [ruleW] at hw
  rw [hw, hi, hfonts]
  cases h : s.font.bind sauceFontByName with
  | none => simp [hl, ← hfonts]
  | some f => simp [hl, fontAtDefault_fonts s hf f h]

/-- the buffer height replaced -/
def setBh (h1 : Int) (b : LBuf) : LBuf := { b with bh := h1 }

/-- a change of the buffer that neither the cell-placing code (`Outside`) nor the Tundra command decoder reads or
    overwrites: beyond `Outside` it leaves buffer width and palette alone and commutes with setting the palette.  The kept
    record and the buffer height are such changes. -/
structure Rides (f : LBuf → LBuf) : Prop extends Outside f where
  bw : ∀ b, (f b).bw = b.bw
  pal : ∀ b, (f b).pal = b.pal
  setPal : ∀ b p, f { b with pal := p } = { f b with pal := p }

theorem rides_keep (m : Option Sauce.Meta) : Rides (keep m) :=
  ⟨⟨fun _ => rfl, fun _ => rfl, fun _ => rfl, fun _ _ => rfl, fun _ _ => rfl⟩, fun _ => rfl, fun _ => rfl, fun _ _ => rfl⟩
theorem rides_setBh (h1 : Int) : Rides (setBh h1) :=
  ⟨⟨fun _ => rfl, fun _ => rfl, fun _ => rfl, fun _ _ => rfl, fun _ _ => rfl⟩, fun _ => rfl, fun _ => rfl, fun _ _ => rfl⟩

theorem placeAll_keep (gl gb : Bool) (x0 xl : Nat) (m : Option Sauce.Meta) (cells : List Cell) (b : LBuf) (x y : Nat) :
    placeAll gl gb x0 xl (keep m b) x y cells =
      (keep m (placeAll gl gb x0 xl b x y cells).1, (placeAll gl gb x0 xl b x y cells).2) :=
  (rides_keep m).toOutside.placeAll gl gb (fun _ _ _ => rfl) x0 xl cells b x y

theorem crop_keep (m : Option Sauce.Meta) (b : LBuf) : (keep m b).crop = keep m b.crop := rfl

/-- once a cell has been placed the heights the record gave the start buffer are gone (the layer height is set before
    every `set_char`); the buffer height is carried along untouched -/
theorem placeAll_setH (x0 xl : Nat) (cells : List Cell) (hne : cells ≠ []) (b : LBuf) (h1 h2 : Int) (x y : Nat) :
    (placeAll true false x0 xl (setH b h1 h2) x y cells).1 = { (placeAll true false x0 xl b x y cells).1 with bh := h1 } := by
  cases cells with
  | nil => exact absurd rfl hne
  | cons c cs =>
    have e : placeAll true false x0 xl (setH b h1 h2) x y (c :: cs) = placeAll true false x0 xl (setBh h1 b) x y (c :: cs) := rfl
    rw [e, (rides_setBh h1).toOutside.placeAll true false nofun]
    rfl

theorem crop_setH (b : LBuf) (h1 h2 : Int) : (setH b h1 h2).crop = b.crop := rfl
theorem crop_bh (b : LBuf) (h1 : Int) : ({ b with bh := h1 } : LBuf).crop = b.crop := rfl

theorem placeAll_crop (x0 xl : Nat) (cells : List Cell) (b : LBuf) (h1 h2 : Int) (x y : Nat) :
    (placeAll true false x0 xl (setH b h1 h2) x y cells).1.crop = (placeAll true false x0 xl b x y cells).1.crop := by
  by_cases hne : cells = []
  · subst hne; rfl
  · rw [placeAll_setH x0 xl cells hne]; rfl

/-- equal up to buffer height and layer height -/
def SameButH (a b : LBuf) : Prop :=
  a.bw = b.bw ∧ a.lw = b.lw ∧ a.lines = b.lines ∧ a.ice = b.ice ∧ a.pal = b.pal ∧ a.fonts = b.fonts ∧ a.sauce = b.sauce

theorem SameButH.eq_setH {a b : LBuf} (h : SameButH a b) : b = setH a b.bh b.lh := by
  obtain ⟨h1, h2, h3, h4, h5, h6, h7⟩ := h
  cases a; cases b
  simp only [setH] at *
  simp [h1, h2, h3, h4, h5, h6, h7]

theorem placeAll_crop' (x0 xl : Nat) (cells : List Cell) (a b : LBuf) (h : SameButH a b) (x y : Nat) :
    (placeAll true false x0 xl a x y cells).1.crop = (placeAll true false x0 xl b x y cells).1.crop := by
  rw [h.eq_setH, placeAll_crop]

theorem placeAll_crop_keep (x0 xl : Nat) (cells : List Cell) (m : Option Sauce.Meta) (a : LBuf) (h1 h2 : Int) (x y : Nat) :
    keep m (placeAll true false x0 xl a x y cells).1.crop =
      (placeAll true false x0 xl (keep m (setH a h1 h2)) x y cells).1.crop := by
  rw [placeAll_keep, crop_keep, placeAll_crop]

/-- `f` applied to a successful outcome; `Err` and panic stay -/
def outMap {α β : Type} (f : α → β) : Out α → Out β
  | .ok a => .ok (f a)
  | .err => .err
  | .panic => .panic

/-- an error guard both loads share -/
theorem outMap_ite_err {α β : Type} {f : α → β} {c : Prop} [Decidable c] {a : Out β} {b : Out α} (h : a = outMap f b) :
    (if c then .err else a) = outMap f (if c then .err else b) := by
  split
  · rfl
  · exact h

/-! ## the parts of the XBin loader and the Tundra loop.  Shape of every statement: the buffer loaded WITH the record is
    the buffer loaded from the content alone plus the kept record -/

theorem start_setSauce_rest (w h : Nat) (c : Bool) (s : Sauce) :
    ((LBuf.start w h c).setSauce true (some s)).lines = (LBuf.start w h c).lines ∧
    ((LBuf.start w h c).setSauce true (some s)).pal = (LBuf.start w h c).pal ∧
    ((LBuf.start w h c).setSauce true (some s)).sauce = some (metaOf s) := ⟨rfl, rfl, rfl⟩

theorem start_setSauce_fonts (w h : Nat) (c : Bool) (s : Sauce) (hf : fontAtDefault s = true) :
    ((LBuf.start w h c).setSauce true (some s)).fonts = [(0, defaultFont)] := by
  simp only [LBuf.setSauce, LBuf.start, if_true]
  cases h : s.font.bind sauceFontByName with
  | none => rfl
  | some f => exact fontAtDefault_fonts s hf f h

theorem xbBlocks_keep (m : Option Sauce.Meta) (b1 : LBuf) (hasPal hasFont ext : Bool) (fs : Nat) (rest : List Nat) :
    xbBlocks (keep m b1) hasPal hasFont ext fs rest =
      outMap (fun r => (keep m r.1, r.2)) (xbBlocks b1 hasPal hasFont ext fs rest) := by
  unfold xbBlocks
  -- the four error guards are shared; what is left differs in `b1` only, by the three flags
  refine outMap_ite_err (outMap_ite_err ?_)
  simp only []
  refine outMap_ite_err (outMap_ite_err ?_)
  cases hasPal <;> cases hasFont <;> cases ext <;> rfl

theorem xbImage_keep (m : Option Sauce.Meta) (b3 : LBuf) (w : Nat) (comp ice ext : Bool) (rest3 : List Nat) :
    xbImage (keep m b3) w comp ice ext rest3 = outMap (keep m) (xbImage b3 w comp ice ext rest3) := by
  unfold xbImage
  cases (if comp = true then readCompressed rest3 else some (readUncompressed rest3)) with
  | none => rfl
  | some ps => simp only [placeAll_keep, crop_keep, outMap]

theorem pairsOf_ne_nil (d : List Nat) (h : 2 ≤ d.length) : pairsOf d ≠ [] := by
  match d, h with
  | a :: b :: rest, _ => simp [pairsOf]

def mapBuf (f : LBuf → LBuf) (s : TL) : TL := { s with buf := f s.buf }

theorem recolour_map {f : LBuf → LBuf} (hf : Rides f) (s : TL) (pal : List Rgb) (fg bg : Nat) :
    recolour (mapBuf f s) pal fg bg = mapBuf f (recolour s pal fg bg) := by
  show ({ buf := { f s.buf with pal := pal }, fg := fg, bg := bg, x := s.x, y := s.y } : TL) =
    { buf := f { s.buf with pal := pal }, fg := fg, bg := bg, x := s.x, y := s.y }
  rw [hf.setPal s.buf pal]

/-! ### `set_height(pos.y + 1); set_char; advance_pos` forgets the layer height, never looks at the buffer height -/

theorem tndPut_rides {f : LBuf → LBuf} (hf : Rides f) (s : TL) (ch : Nat) :
    tndPut (mapBuf f s) ch = mapBuf f (tndPut s ch) := by
  have e : ({ f s.buf with lh := s.y + 1 } : LBuf).setCharI s.x s.y ⟨ch, ⟨s.fg, s.bg, 0, Xb.defaultPage⟩⟩ =
      f (({ s.buf with lh := s.y + 1 } : LBuf).setCharI s.x s.y ⟨ch, ⟨s.fg, s.bg, 0, Xb.defaultPage⟩⟩) := by
    rw [← hf.setLh]
    unfold LBuf.setCharI
    split
    · rfl
    · exact hf.toOutside.setChar _ _ _ _
  generalize hB : ({ s.buf with lh := s.y + 1 } : LBuf).setCharI s.x s.y ⟨ch, ⟨s.fg, s.bg, 0, Xb.defaultPage⟩⟩ = b2 at e
  have l : tndPut (mapBuf f s) ch =
      if s.x + 1 ≥ ((f b2).bw : Int) then { s with buf := f b2, x := 0, y := s.y + 1 } else { s with buf := f b2, x := s.x + 1 } := by
    rw [← e]; rfl
  have r : tndPut s ch =
      if s.x + 1 ≥ (b2.bw : Int) then { s with buf := b2, x := 0, y := s.y + 1 } else { s with buf := b2, x := s.x + 1 } := by
    rw [← hB]; rfl
  rw [l, r, hf.bw]
  split <;> rfl

theorem tndLoop_rides {f : LBuf → LBuf} (hf : Rides f) (fuel : Nat) (rest : List Nat) (s : TL) :
    tndLoop fuel rest (mapBuf f s) = outMap (mapBuf f) (tndLoop fuel rest s) := by
  induction fuel generalizing rest s with
  | zero => simp only [tndLoop.eq_1, outMap]
  | succ fuel ih =>
    cases rest with
    | nil => simp only [tndLoop_nil, outMap]
    | cons cmd rest =>
      rw [tndLoop_succ, tndLoop_succ]
      show (tndStep cmd rest (f s.buf).bw (f s.buf).pal s.fg s.bg).run fuel (mapBuf f s) = _
      rw [hf.bw, hf.pal]
      cases tndStep cmd rest s.buf.bw s.buf.pal s.fg s.bg with
      | err => rfl
      | panic => rfl
      | move r x y => exact ih r { s with x := x, y := y }
      | put r pal fg bg ch =>
        show tndLoop fuel r (tndPut (recolour (mapBuf f s) pal fg bg) ch) = _
        rw [recolour_map hf, tndPut_rides hf]
        exact ih r _

/-- the record's heights on the way through the loop: gone after the first cell; kept — together with the untouched rows
    — when the file places no cell at all -/
theorem tndLoop_setH (fuel : Nat) (rest : List Nat) (s : TL) (h1 h2 : Int) :
    tndLoop fuel rest (mapBuf (fun b => setH b h1 h2) s) = outMap (mapBuf (setBh h1)) (tndLoop fuel rest s) ∨
    ∃ t, tndLoop fuel rest s = .ok t ∧ t.buf.lines = s.buf.lines ∧ t.buf.lh = s.buf.lh ∧
      tndLoop fuel rest (mapBuf (fun b => setH b h1 h2) s) = .ok (mapBuf (fun b => setH b h1 h2) t) := by
  induction fuel generalizing rest s with
  | zero => right; exact ⟨s, tndLoop.eq_1 _ _, rfl, rfl, tndLoop.eq_1 _ _⟩
  | succ fuel ih =>
    cases rest with
    | nil => right; exact ⟨s, tndLoop_nil _ _, rfl, rfl, tndLoop_nil _ _⟩
    | cons cmd rest =>
      have e : tndStep cmd rest (mapBuf (fun b => setH b h1 h2) s).buf.bw (mapBuf (fun b => setH b h1 h2) s).buf.pal
          (mapBuf (fun b => setH b h1 h2) s).fg (mapBuf (fun b => setH b h1 h2) s).bg =
          tndStep cmd rest s.buf.bw s.buf.pal s.fg s.bg := rfl
      rw [tndLoop_succ, tndLoop_succ, e]
      cases tndStep cmd rest s.buf.bw s.buf.pal s.fg s.bg with
      | err => left; rfl
      | panic => left; rfl
      | move r x y =>
        rcases ih r { s with x := x, y := y } with h | ⟨u, hu1, hu2, hu3, hu4⟩
        · left; exact h
        · right; exact ⟨u, hu1, hu2, hu3, hu4⟩
      | put r pal fg bg ch =>
        left
        -- `tndPut` sets the layer height before it looks at it: of `setH` only the buffer height is left
        show tndLoop fuel r (tndPut (mapBuf (setBh h1) (recolour s pal fg bg)) ch) = _
        rw [tndPut_rides (rides_setBh h1)]
        exact tndLoop_rides (rides_setBh h1) fuel r _

/-- the width the Tundra loader gives its start buffer (`set_sauce`'s rule, but a SAUCE width above
    the sanity limit is taken as it is — the format stores its width nowhere else) -/
def tndRuleW (w : Nat) : Nat := if w > BinFmt.tndWideAbove then w else ruleW w

/-- Tundra: ice mode and palette are fixed by the format, the final size is the LAYER's; the record's width is the layer
    width, its height is gone after the first cell — and is the height of the loaded buffer when the file places no cell -/
theorem tndLoad_record (d : List Nat) (s : Sauce) (hw : tndRuleW s.width = BinFmt.tndStartW) (hf : fontAtDefault s = true) :
    tndLoad d (some s) = outMap (keep (some (metaOf s))) (tndLoad d none) ∨
    ∃ g, tndLoad d none = .ok g ∧ g.lines = [] ∧ g.lh = BinFmt.tndStartH ∧ g.bh = BinFmt.tndStartH ∧
      tndLoad d (some s) = .ok { g with bh := s.height, lh := s.height, sauce := some (metaOf s) } := by
  have hnw : ¬ s.width > BinFmt.tndWideAbove := by
    intro h
    simp only [tndRuleW, h, if_true] at hw
    rw [hw] at h
    exact absurd h (by decide)
  have hw' : ruleW s.width = BinFmt.tndStartW := by simpa only [tndRuleW, hnw, if_false] using hw
  -- the loop's start buffer with the record: the one without, the record kept and its height put on
  have hb1 : ({ tndStart (some s) with pal := [(0, 0, 0)], ice := IceMode.ice } : LBuf) =
      keep (some (metaOf s)) (setH { tndStart none with pal := [(0, 0, 0)], ice := .ice } s.height s.height) := by
    have hfn := start_setSauce_fonts BinFmt.tndStartW BinFmt.tndStartH (BinFmt.tndClearsRows == 1) s hf
    simp only [ruleW] at hw'
    have hbw : ((LBuf.start BinFmt.tndStartW BinFmt.tndStartH (BinFmt.tndClearsRows == 1)).setSauce true (some s)).bw =
        BinFmt.tndStartW := by simp only [LBuf.setSauce, if_true, hw']
    have hlw : ((LBuf.start BinFmt.tndStartW BinFmt.tndStartH (BinFmt.tndClearsRows == 1)).setSauce true (some s)).lw =
        BinFmt.tndStartW := by simp only [LBuf.setSauce, if_true, hw']
    have hst : tndStart (some s) = (LBuf.start BinFmt.tndStartW BinFmt.tndStartH (BinFmt.tndClearsRows == 1)).setSauce true (some s) := by
      unfold tndStart
      simp only [hnw, if_false]
    have hn : tndStart none = LBuf.start BinFmt.tndStartW BinFmt.tndStartH (BinFmt.tndClearsRows == 1) := rfl
    rw [hst, hn]
    simp only [keep, setH, hbw, hlw, hfn]
    rfl
  unfold tndLoad
  dsimp only
  split
  · left; rfl
  split
  · left; rfl
  have e0 : ∀ B : LBuf, (⟨keep (some (metaOf s)) (setH B s.height s.height), Xb.defaultFg, Xb.defaultBg, 0, 0⟩ : TL) =
      mapBuf (keep (some (metaOf s))) (mapBuf (fun b => setH b s.height s.height) ⟨B, Xb.defaultFg, Xb.defaultBg, 0, 0⟩) :=
    fun _ => rfl
  rw [hb1, e0, tndLoop_rides (rides_keep _)]
  generalize hst : (⟨{ tndStart none with pal := [(0, 0, 0)], ice := .ice }, Xb.defaultFg, Xb.defaultBg, 0, 0⟩ : TL) = st0
  generalize d.drop (1 + BinFmt.tndHeader.length) = rest
  rcases tndLoop_setH (rest.length + 1) rest st0 s.height s.height with key | ⟨t, ht, hl, hh, ht'⟩
  · left
    rw [key]
    cases tndLoop (rest.length + 1) rest st0 <;> rfl
  · right
    refine ⟨{ t.buf with bw := t.buf.lw, bh := t.buf.lh }, by rw [ht], by rw [hl, ← hst]; rfl, by rw [hh, ← hst]; rfl,
      by rw [hh, ← hst]; rfl, ?_⟩
    rw [ht']
    rfl

end IcyVerif.SauceLoad
