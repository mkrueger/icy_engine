import IcyVerif.Model.Palette
import IcyVerif.Lemmas.Basics
/-! 6-bit VGA codec (C16): `from_63` / `as_vec_63` and the EGA slot variant of ADF files; for both, save → load is the
    quantisation `q6` of the colours, which is the identity on what a load produces. -/
namespace IcyVerif.Palette
open IcyVerif.Gen.Palette

def chanUp (k v : Nat) : Nat := upWith (sixUp.getD k (0, 0)) v
def chanDown (k v : Nat) : Nat := v >>> sixDown.getD k 0

theorem six_chan : ∀ k, k < 3 → ∀ v, v < 64 → chanDown k (chanUp k v) = v := by decide

theorem down6_up6 (c : Rgb) (h : c.r < 64 ∧ c.g < 64 ∧ c.b < 64) : down6 (up6 c) = c := by
  have hr := six_chan 0 (by decide) c.r h.1
  have hg := six_chan 1 (by decide) c.g h.2.1
  have hb := six_chan 2 (by decide) c.b h.2.2
  cases c
  simp only [chanUp, chanDown] at hr hg hb
  simp only [down6, up6, Rgb.mk.injEq]
  exact ⟨hr, hg, hb⟩

/-- the EGA slots of an ADF file use the same shifts as the 6-bit palettes -/
theorem upEga_eq_up6 : upEga = up6 := rfl
theorem downEga_eq_down6 : downEga = down6 := rfl

theorem down6_lt (c : Rgb) (h : c.Valid) : (down6 c).r < 64 ∧ (down6 c).g < 64 ∧ (down6 c).b < 64 := by
  obtain ⟨h1, h2, h3⟩ := h
  simp only [down6, show sixDown = [2, 2, 2] from rfl, List.getD_cons_zero, List.getD_cons_succ, Nat.shiftRight_eq_div_pow]
  omega

/-- the quantisation a 6-bit store performs on an 8-bit colour -/
def q6 (c : Rgb) : Rgb := up6 (down6 c)

theorem q6_up6 (c : Rgb) (h : c.r < 64 ∧ c.g < 64 ∧ c.b < 64) : q6 (up6 c) = up6 c := by rw [q6, down6_up6 c h]
theorem down6_q6 (c : Rgb) (h : c.Valid) : down6 (q6 c) = down6 c := down6_up6 _ (down6_lt c h)

theorem upWith_lt (sh : Nat × Nat) (v : Nat) (h : v < 256) : upWith sh v < 256 :=
  Nat.or_lt_two_pow (n := 8) (Nat.mod_lt _ (by decide)) (Nat.lt_of_le_of_lt (Nat.shiftRight_le _ _) h)

theorem up6_valid (c : Rgb) (h : c.r < 64 ∧ c.g < 64 ∧ c.b < 64) : (up6 c).Valid :=
  ⟨upWith_lt _ _ (by omega), upWith_lt _ _ (by omega), upWith_lt _ _ (by omega)⟩

theorem upEga_valid (c : Rgb) (h : c.r < 64 ∧ c.g < 64 ∧ c.b < 64) : (upEga c).Valid :=
  upEga_eq_up6 ▸ up6_valid c h

theorem from63_ok_cons (r g b : Nat) (rest : List Nat) (cs : List Rgb) (h : from63 rest = .ok cs) :
    from63 (r :: g :: b :: rest) = .ok (up6 ⟨r, g, b⟩ :: cs) := by
  simp only [from63, h]

theorem from63_asVec63 (p : List Rgb) : from63 (asVec63 p) = .ok (p.map q6) := by
  induction p with
  | nil => rfl
  | cons c cs ih =>
    simp only [asVec63, List.flatMap_cons, flat, List.cons_append, List.nil_append, List.map_cons] at ih ⊢
    exact from63_ok_cons _ _ _ _ _ ih

/-- colour read from slot `i` of a flat 6-bit table -/
def slot (d : List Nat) (i : Nat) : Rgb := upEga ⟨d.getD (3 * i) 0, d.getD (3 * i + 1) 0, d.getD (3 * i + 2) 0⟩

theorem fromEgaGo_iff (d is : List Nat) (p : List Rgb) :
    fromEgaGo d is = .ok p ↔ (∀ i ∈ is, 3 * i + 2 < d.length) ∧ p = is.map (slot d) := by
  induction is generalizing p with
  | nil => simp [fromEgaGo, eq_comm]
  | cons i is ih =>
    by_cases hi : 3 * i + 2 < d.length
    · have get : ∀ k, k < d.length → d[k]? = some (d.getD k 0) := fun k hk => by
        rw [List.getD_eq_getElem?_getD, List.getElem?_eq_getElem hk]; rfl
      simp only [fromEgaGo, get (3 * i) (by omega), get (3 * i + 1) (by omega), get (3 * i + 2) hi, List.forall_mem_cons, hi,
        true_and, List.map_cons]
      cases hr : fromEgaGo d is with
      | ok cs =>
        obtain ⟨hb, rfl⟩ := (ih cs).mp hr
        exact ⟨fun h => ⟨hb, (Except.ok.inj h).symm⟩, fun h => h.2 ▸ rfl⟩
      | error e => exact ⟨nofun, fun h => by simpa [hr] using (ih _).mpr ⟨h.1, rfl⟩⟩
    · have : d[3 * i + 2]? = none := List.getElem?_eq_none (by omega)
      simp only [fromEgaGo, this, List.forall_mem_cons, hi, false_and, iff_false]
      split <;> simp_all

theorem fromEgaGo_ok (d : List Nat) (is : List Nat) (h : ∀ i ∈ is, 3 * i + 2 < d.length) :
    fromEgaGo d is = .ok (is.map (slot d)) := (fromEgaGo_iff d is _).mpr ⟨h, rfl⟩

theorem egaFill_length (p : List Rgb) (os : List Nat) (i : Nat) (acc : List Rgb) : (egaFill p os i acc).length = acc.length := by
  induction os generalizing i acc with
  | nil => rfl
  | cons o os ih => simp only [egaFill]; split; rfl; rw [ih]; simp

theorem egaFill_untouched (p : List Rgb) (os : List Nat) (i : Nat) (acc : List Rgb) (s : Nat) (h : s ∉ os) :
    (egaFill p os i acc)[s]? = acc[s]? := by
  induction os generalizing i acc with
  | nil => rfl
  | cons o os ih =>
    simp only [egaFill]
    split
    · rfl
    · rw [ih _ _ (fun hh => h (by simp [hh])), List.getElem?_set_ne (fun e => h (by simp [e]))]

theorem egaFill_touched (p : List Rgb) (os : List Nat) (i : Nat) (acc : List Rgb) (j : Nat) (hn : os.Nodup)
    (hj : j < os.length) (hp : i + j < p.length) (hs : os.getD j 0 < acc.length) :
    (egaFill p os i acc)[os.getD j 0]? = some (p.getD (i + j) black) := by
  induction os generalizing i acc j with
  | nil => simp at hj
  | cons o os ih =>
    simp only [egaFill]
    rw [if_neg (by omega)]
    cases j with
    | zero =>
      simp only [List.getD_cons_zero, Nat.add_zero] at hs ⊢
      rw [egaFill_untouched _ _ _ _ _ (List.nodup_cons.mp hn).1, List.getElem?_set_self hs]
    | succ j =>
      simp only [List.getD_cons_succ] at hs ⊢
      have := ih (i + 1) (acc.set o (p.getD i black)) j (List.nodup_cons.mp hn).2 (by simpa using hj) (by omega)
        (by simpa using hs)
      rw [this]; congr 2; omega

theorem getD_flatMap3 (g : Rgb → Rgb) (l : List Rgb) (s j : Nat) (hj : j < 3) :
    (l.flatMap fun c => flat (g c)).getD (3 * s + j) 0 = (flat (g (l.getD s black))).getD j 0 ∨ l.length ≤ s := by
  induction l generalizing s with
  | nil => right; simp
  | cons c cs ih =>
    cases s with
    | zero =>
      left
      simp only [List.flatMap_cons, flat, Nat.mul_zero, Nat.zero_add, List.getD_cons_zero]
      match j, hj with
      | 0, _ => rfl
      | 1, _ => rfl
      | 2, _ => rfl
    | succ s =>
      rcases ih s with h | h
      · left
        have e : 3 * (s + 1) + j = (3 * s + j) + 3 := by omega
        simp only [List.flatMap_cons, flat, e, List.cons_append, List.nil_append, List.getD_cons_succ]
        exact h
      · right; simp; omega

theorem ega_consts : egaOffsets.Nodup ∧ egaOffsets.length = 16 ∧ egaCount = 16 ∧ egaBase.length = 64 ∧
    (∀ o ∈ egaOffsets, o < 64) := by decide

theorem fromEgaGo_bound (d : List Nat) (is : List Nat) (p : List Rgb) (h : fromEgaGo d is = .ok p) :
    ∀ i ∈ is, 3 * i + 2 < d.length := ((fromEgaGo_iff d is p).mp h).1

theorem slot_toEga (p : List Rgb) (j : Nat) (hj : j < 16) (hp : j < p.length) :
    slot (toEga p) (egaOffsets.getD j 0) = upEga (downEga (p.getD j black)) := by
  obtain ⟨hnd, hlen, hcnt, hbase, hlt⟩ := ega_consts
  have htake : egaOffsets.take egaCount = egaOffsets := by rw [hcnt, ← hlen]; exact List.take_length
  have hmem : egaOffsets.getD j 0 ∈ egaOffsets := Basics.getD_mem (by omega)
  have hi : egaOffsets.getD j 0 < 64 := hlt _ hmem
  have hF := egaFill_touched p egaOffsets 0 egaBase j hnd (by omega) (by omega) (by rw [hbase]; exact hi)
  have hFl : (egaFill p egaOffsets 0 egaBase).length = 64 := by rw [egaFill_length, hbase]
  have hget : (egaFill p egaOffsets 0 egaBase).getD (egaOffsets.getD j 0) black = p.getD j black := by
    rw [List.getD_eq_getElem?_getD, hF]; simp
  have key : ∀ c, c < 3 → (toEga p).getD (3 * egaOffsets.getD j 0 + c) 0 = (flat (downEga (p.getD j black))).getD c 0 := by
    intro c hc
    unfold toEga
    rw [htake]
    rcases getD_flatMap3 downEga (egaFill p egaOffsets 0 egaBase) (egaOffsets.getD j 0) c hc with h | h
    · rw [h, hget]
    · omega
  have k0 := key 0 (by decide)
  have k1 := key 1 (by decide)
  have k2 := key 2 (by decide)
  simp only [Nat.add_zero, flat, List.getD_cons_zero, List.getD_cons_succ] at k0 k1 k2
  unfold slot
  rw [k0, k1, k2]

theorem length_flatMap3 (g : Rgb → Rgb) (l : List Rgb) : (l.flatMap fun c => flat (g c)).length = 3 * l.length := by
  induction l <;> simp_all [flat] <;> omega

theorem toEga_length (p : List Rgb) : (toEga p).length = 192 := by
  unfold toEga; rw [length_flatMap3, egaFill_length, ega_consts.2.2.2.1]

theorem gather_toEga (p : List Rgb) (h : 16 ≤ p.length) : egaOffsets.map (slot (toEga p)) = (p.take 16).map q6 := by
  have hlen := ega_consts.2.1
  apply List.ext_getElem (by simp [hlen]; omega)
  intro j h1 h2
  have hj : j < 16 := by simpa [hlen] using h1
  have := slot_toEga p j hj (by omega)
  rw [List.getD_eq_getElem?_getD, List.getElem?_eq_getElem (by omega), Option.getD_some,
    List.getD_eq_getElem?_getD, List.getElem?_eq_getElem (by omega), Option.getD_some] at this
  simp only [List.getElem_map, List.getElem_take, this]; rfl

theorem fromEga_toEga (p : List Rgb) (h : 16 ≤ p.length) : fromEga (toEga p) = .ok ((p.take 16).map q6) := by
  unfold fromEga
  rw [fromEgaGo_ok (toEga p) egaOffsets fun i hi => by have := ega_consts.2.2.2.2 i hi; have := toEga_length p; omega,
    gather_toEga p h]

theorem toEga_eq (p : List Rgb) : toEga p = ((egaFill p egaOffsets 0 egaBase).map downEga).flatMap flat := by
  have htake : egaOffsets.take egaCount = egaOffsets := by
    rw [ega_consts.2.2.1, ← ega_consts.2.1]; exact List.take_length
  unfold toEga
  rw [htake]
  rw [List.flatMap_map]

theorem toEga_congr (p q : List Rgb) (hp : 16 ≤ p.length) (hq : 16 ≤ q.length)
    (h : (q.take 16).map downEga = (p.take 16).map downEga) : toEga q = toEga p := by
  obtain ⟨hnd, hlen, hcnt, hbase, hlt⟩ := ega_consts
  rw [toEga_eq, toEga_eq]
  refine congrArg (List.flatMap flat) (List.ext_getElem? fun s => ?_)
  rw [List.getElem?_map, List.getElem?_map]
  by_cases hs : s ∈ egaOffsets
  · obtain ⟨j, hj, hij⟩ := List.getElem_of_mem hs
    have hj16 : j < 16 := by omega
    have e : s = egaOffsets.getD j 0 := by
      rw [← hij, List.getD_eq_getElem?_getD, List.getElem?_eq_getElem hj]; rfl
    have hs64 : egaOffsets.getD j 0 < egaBase.length := by rw [← e, hbase]; exact hlt _ hs
    rw [e, egaFill_touched q egaOffsets 0 egaBase j hnd hj (by omega) hs64,
      egaFill_touched p egaOffsets 0 egaBase j hnd hj (by omega) hs64]
    have := congrArg (fun l => l[j]?) h
    simp only [List.getElem?_map, List.getElem?_take_of_lt hj16] at this
    simpa [List.getD_eq_getElem?_getD, List.getElem?_eq_getElem (show j < p.length by omega),
      List.getElem?_eq_getElem (show j < q.length by omega)] using this
  · rw [egaFill_untouched _ _ _ _ _ hs, egaFill_untouched _ _ _ _ _ hs]

end IcyVerif.Palette
