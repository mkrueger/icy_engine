import IcyVerif.Lemmas.ArtAnsiComp
/-! # End-of-line trimming of the compressing ANSI writer (C04, `trim_sound`, `trim_sound_all`)

`ansiRowLen_spec`: what `generate_cells` drops at the end of a row are blanks on colour 0 that do not blink, and colour 0 is
black then; `ansiRowLen_specX` says the same in colours (`TrimCellX`). -/
namespace IcyVerif.ArtIO
open IcyVerif.Gen.Art

/-- NUL, space and 0xFF: the characters `generate_cells` treats as blank (the same empty glyph in the CP437 font) -/
def Blank (ch : Nat) : Prop := ch = 32 ∨ ch = 0 ∨ ch = 255

/-- a cell that reads back as a default blank without changing what is displayed: blank on colour 0, not blinking -/
def TrimCell (c : Cell) : Prop := Blank c.ch ∧ c.attr.bg = 0 ∧ c.attr.fl.blink = false

theorem skip_trim {c : Cell} (h : SkipCell c) : TrimCell c := by
  obtain ⟨h1, h2, h3⟩ := h
  exact ⟨Or.inl h1, h2, h3⟩

theorem trimScan_spec (row : List Cell) (la : Attr) : ∀ (fuel last : Nat),
    trimScan row la fuel last ≤ last ∧
    ∀ i, trimScan row la fuel last < i → i ≤ last → Blank (row.getD i defaultCell).ch ∧ (row.getD i defaultCell).attr = la := by
  intro fuel
  induction fuel with
  | zero => intro last; exact ⟨Nat.le_refl _, fun i h1 h2 => by simp [trimScan] at h1; omega⟩
  | succ f ih =>
    intro last
    unfold trimScan
    by_cases h0 : 0 < last
    · rw [if_pos h0]
      simp only []
      by_cases hb : (row.getD last defaultCell).ch ≠ 32 ∧ (row.getD last defaultCell).ch ≠ 255 ∧ (row.getD last defaultCell).ch ≠ 0
      · rw [if_pos hb]; exact ⟨Nat.le_refl _, fun i h1 h2 => by omega⟩
      · rw [if_neg hb]
        by_cases hs : (!((row.getD last defaultCell).attr.same la)) = true
        · rw [if_pos hs]; exact ⟨Nat.le_refl _, fun i h1 h2 => by omega⟩
        · rw [if_neg hs]
          obtain ⟨i1, i2⟩ := ih (last - 1)
          refine ⟨by omega, ?_⟩
          intro i h1 h2
          by_cases hi : i = last
          · subst hi
            refine ⟨?_, ?_⟩
            · unfold Blank; omega
            · have : (row.getD i defaultCell).attr.same la = true := by
                cases hq : (row.getD i defaultCell).attr.same la with
                | true => rfl
                | false => exact absurd (by rw [hq]; rfl) hs
              exact (same_iff _ _).1 this
          · exact i2 i h1 (by omega)
    · rw [if_neg h0]; exact ⟨Nat.le_refl _, fun i h1 h2 => by omega⟩

theorem ansiRowLen_spec (o : AnsiOpts) (pal : List Rgb) (w : Nat) (hw : 0 < w) (row : List Cell) :
    1 ≤ ansiRowLen o pal w row ∧ ansiRowLen o pal w row ≤ w ∧
    (ansiRowLen o pal w row = w ∨
      (ansiRowLen o pal w row + 2 ≤ w ∧ getRgb pal 0 = black ∧
        ∀ i, ansiRowLen o pal w row ≤ i → i < w → TrimCell (row.getD i defaultCell))) := by
  unfold ansiRowLen
  by_cases hc : (o.compress && !o.preserveLineLength) = true
  · rw [if_pos hc]
    simp only []
    by_cases hb : (row.getD (w - 1) defaultCell).attr.bg = 0 ∧ getRgb pal 0 = (0, 0, 0) ∧ (!(row.getD (w - 1) defaultCell).attr.fl.blink) = true
    · rw [if_pos hb]
      obtain ⟨t1, t2⟩ := trimScan_spec row (row.getD (w - 1) defaultCell).attr w (w - 1)
      by_cases hl : w ≤ trimScan row (row.getD (w - 1) defaultCell).attr w (w - 1) + 1 + 1
      · rw [if_pos hl]; exact ⟨hw, Nat.le_refl _, Or.inl rfl⟩
      · rw [if_neg hl]
        refine ⟨by omega, by omega, Or.inr ⟨by omega, hb.2.1, ?_⟩⟩
        intro i h1 h2
        obtain ⟨b1, b2⟩ := t2 i (by omega) (by omega)
        refine ⟨b1, by rw [b2]; exact hb.1, ?_⟩
        rw [b2]
        cases hq : (row.getD (w - 1) defaultCell).attr.fl.blink with
        | false => rfl
        | true => have := hb.2.2; rw [hq] at this; exact absurd this (by decide)
    · rw [if_neg hb]
      have : w ≤ w - 1 + 1 + 1 := by omega
      rw [if_pos this]; exact ⟨hw, Nat.le_refl _, Or.inl rfl⟩
  · rw [if_neg hc]; exact ⟨hw, Nat.le_refl _, Or.inl rfl⟩

/-- `TrimCell` in colours: blank on black, not blinking -/
def TrimCellX (pal : List Rgb) (c : Cell) : Prop := Blank c.ch ∧ getRgb pal c.attr.bg = black ∧ c.attr.fl.blink = false

theorem ansiRowLen_specX (o : AnsiOpts) (pal : List Rgb) (w : Nat) (hw : 0 < w) (row : List Cell) :
    1 ≤ ansiRowLen o pal w row ∧ ansiRowLen o pal w row ≤ w ∧
    (ansiRowLen o pal w row = w ∨
      (ansiRowLen o pal w row + 2 ≤ w ∧ ∀ i, ansiRowLen o pal w row ≤ i → i < w → TrimCellX pal (row.getD i defaultCell))) := by
  obtain ⟨h1, h2, h3⟩ := ansiRowLen_spec o pal w hw row
  refine ⟨h1, h2, h3.elim Or.inl (fun h => Or.inr ⟨h.1, ?_⟩)⟩
  intro i hi1 hi2
  obtain ⟨t1, t2, t3⟩ := h.2.2 i hi1 hi2
  exact ⟨t1, by rw [t2]; exact h.2.1, t3⟩

end IcyVerif.ArtIO
