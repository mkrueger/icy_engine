import IcyVerif.Lemmas.TermStep
/-! # Macro replay is bounded: one input character triggers at most `MAX_MACRO_EXPANSION` inner steps
`tick` counts every executed `stepD` (outer and replayed characters); a potential `tick + budget` that a replay cannot
raise gives `macro_steps_bounded` (C03).  This is not an instance of `StepInv`: the potential speaks of exactly the two
counters a `StepInv` must ignore, and the top-level invoker (which resets the budget) has another conclusion than the nested
ones; so `replay`, `invoker`, `stepD` are gone through here with their own statements. -/
namespace IcyVerif.Term

/-- steps executed so far + steps the budget still allows -/
def pot (st : St) : Nat := st.p.tick + st.p.budget

def Paid (k : Nat) (st st' : St) : Prop := pot st' ≤ pot st + k

/-- every replayed character first pays one budget unit, so a replay cannot raise the potential -/
theorem replay_pot (stepf : St → Char → R)
    (hstep : ∀ st ch, Holds AnyErr (stepf st ch) (fun r => Paid 1 st r.1)) :
    ∀ (body : List Char) (st : St), Holds AnyErr (replay stepf body st) (Paid 0 st) := by
  intro body
  induction body with
  | nil => intro st; exact Nat.le_refl _
  | cons ch rest ih =>
    intro st
    unfold replay
    refine Holds.ite (fun _ => Nat.le_refl _) fun hb => ?_
    have h2 := hstep { st with p := { st.p with budget := st.p.budget - 1 } } ch
    simp only []
    generalize stepf { st with p := { st.p with budget := st.p.budget - 1 } } ch = x at h2 ⊢
    rcases x with e | ⟨st', out⟩
    · trivial
    · have a1 : Paid 1 _ st' := h2
      refine Holds.mono (ih st') fun r b1 => ?_
      simp only [Paid, pot] at *
      omega

theorem invoker_pot (stepf : St → Char → R)
    (hstep : ∀ st ch, Holds AnyErr (stepf st ch) (fun r => Paid 1 st r.1))
    (id : Int) (st : St) :
    Holds AnyErr (invoker stepf false id st) (Paid 0 st) := by
  unfold invoker
  split
  · exact Nat.le_refl _
  · exact replay_pot stepf hstep _ st

theorem invoker_top (stepf : St → Char → R)
    (hstep : ∀ st ch, Holds AnyErr (stepf st ch) (fun r => Paid 1 st r.1))
    (id : Int) (st : St) :
    Holds AnyErr (invoker stepf true id st) (fun st' => st'.p.tick ≤ st.p.tick + MAX_MACRO_EXPANSION) := by
  unfold invoker
  split
  · show st.p.tick ≤ st.p.tick + MAX_MACRO_EXPANSION
    omega
  · simp only [if_true]
    refine Holds.mono (replay_pot stepf hstep _ _) fun st' h => ?_
    have h1 : st'.p.tick + st'.p.budget ≤ st.p.tick + MAX_MACRO_EXPANSION + 0 := h
    omega

theorem stepCore_tick (cfg : Cfg) (o : Orc) (inv : Int → St → Res St) (st : St) (ch : Char) {Q : St → St → Prop}
    (hinv : ∀ id d, Holds AnyErr (inv id d) (Q d)) :
    Holds AnyErr (stepCore cfg o inv (tickSt st) ch) (fun r =>
      (r.1.p.tick = st.p.tick + 1 ∧ r.1.p.budget = st.p.budget) ∨
      ∃ d : St, d.p.tick = st.p.tick + 1 ∧ d.p.budget = st.p.budget ∧ Q d r.1) :=
  Holds.mono (stepCore_eff cfg o inv (tickSt st) ch).frame fun r h => by
    rcases h with f | ⟨id, p', hp, hi⟩
    · exact .inl ⟨f.tick, f.budget⟩
    · exact .inr ⟨_, hp.tick, hp.budget, Holds.val (hinv id _) hi⟩

/-- below the top level, where the budget is not reset -/
theorem stepD_pot : ∀ (d : Nat), d < MAX_MACRO_DEPTH → ∀ (cfg : Cfg) (o : Nat → Orc) (st : St) (ch : Char),
    Holds AnyErr (stepD d cfg o st ch) (fun r => Paid 1 st r.1) := by
  intro d
  induction d with
  | zero =>
    intro _ cfg o st ch
    unfold stepD
    refine Holds.mono (stepCore_tick cfg _ _ st ch (Q := fun d x => x = d) fun _ _ => rfl) fun r h => ?_
    simp only [Paid, pot]
    rcases h with ⟨t, b⟩ | ⟨d, t, b, rfl⟩ <;> omega
  | succ d ih =>
    intro hd cfg o st ch
    have hne : decide (d + 1 = MAX_MACRO_DEPTH) = false := by
      simp only [decide_eq_false_iff_not]; exact Nat.ne_of_lt hd
    unfold stepD
    rw [hne]
    refine Holds.mono (stepCore_tick cfg _ _ st ch
      (invoker_pot _ fun st ch => ih (Nat.lt_of_succ_lt hd) cfg o st ch)) fun r h => ?_
    simp only [Paid, pot] at h ⊢
    rcases h with ⟨t, b⟩ | ⟨d, t, b, q⟩ <;> omega

/-- C03, macro clause: one input character executes at most `1 + MAX_MACRO_EXPANSION` steps of the parser, however the
    macros are defined (self-invoking, mutually recursive, fan-out) -/
theorem macro_steps_bounded (cfg : Cfg) (o : Nat → Orc) (st st' : St) (ch : Char) (out : Out)
    (h : step cfg o st ch = .ok (st', out)) : st'.p.tick ≤ st.p.tick + 1 + MAX_MACRO_EXPANSION := by
  -- `step` is `stepD MAX_MACRO_DEPTH`; one level is peeled to reach the top-level invoker, which resets the budget
  have hM : MAX_MACRO_DEPTH = 7 + 1 := rfl
  unfold step at h
  rw [hM] at h
  unfold stepD at h
  rw [show decide (7 + 1 = MAX_MACRO_DEPTH) = true from by decide] at h
  have hf := Holds.val (stepCore_tick cfg _ _ st ch
    (invoker_top _ fun st ch => stepD_pot 7 (by decide) cfg o st ch)) h
  rcases hf with ⟨t, _⟩ | ⟨d, t, _, q⟩
  · have t' : st'.p.tick = st.p.tick + 1 := t
    omega
  · have q' : st'.p.tick ≤ d.p.tick + MAX_MACRO_EXPANSION := q
    omega

/-- the parameter-driven loops of C03 all run `(min Pn bound).toNat` times -/
theorem count_le (p b : Int) (B : Nat) (h : b ≤ B) : (min p b).toNat ≤ B := by omega

theorem count_le_max (p b : Int) : ((min p b).toNat : Int) ≤ max b 0 := by omega

theorem strLen_append (a b : List Char) : strLen (a ++ b) = strLen a + strLen b := by
  simp [strLen]
theorem strLen_replicate (k : Nat) (r : List Char) : strLen (List.replicate k r).flatten = k * strLen r := by
  induction k with
  | zero => simp [strLen]
  | succ k ih => rw [List.replicate_succ, List.flatten_cons, strLen_append, ih, Nat.succ_mul]; omega
theorem length_le_strLen (l : List Char) : l.length ≤ strLen l := by
  induction l with
  | nil => simp [strLen]
  | cons c t ih =>
    have : 0 < c.utf8Size := Char.utf8Size_pos c
    simp only [strLen, List.map_cons, List.sum_cons, List.length_cons] at ih ⊢
    omega

end IcyVerif.Term
