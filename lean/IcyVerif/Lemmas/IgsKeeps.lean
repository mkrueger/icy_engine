import IcyVerif.Lemmas.IgsPaint
/-! The IGS `DrawExecutor` model: the first half of the contract (`Step` whenever it returns) for the primitives whose second half is an
argument of its own (`draw_line`, polygons, markers, `flood_fill`) or is not proved (`fill_poly`, `round_rect`, ellipses, circles). -/
namespace IcyVerif.IgsPaint

theorem lineLoop_step (x1 y1 dx dy sx sy : Int) (color : Nat) : ∀ (f : Nat) (p : Paint) (x y err : Int) (mask : Nat),
    (lineLoop x1 y1 dx dy sx sy color f p x y err mask).Sat (StepIf (color < 16) p)
  | 0, _, _, _, _, _ => .stall
  | f + 1, p, x, y, err, mask => by
    unfold lineLoop
    refine (Res.Sat.ite (fun _ => setPixel_step) fun _ => .ok (.refl _ p)).bind fun p1 s1 => ?_
    refine .ite (fun _ => .ok s1) fun _ => .chk <| .skip fun ⟨err1, xn⟩ => .skip fun ⟨err2, yn⟩ => ?_
    exact (lineLoop_step x1 y1 dx dy sx sy color f p1 _ _ _ _).mono fun _ s2 => s1.trans s2

theorem drawLine_step {p : Paint} {x0 y0 x1 y1 : Int} {color mask : Nat} : (drawLine p x0 y0 x1 y1 color mask).Sat (StepIf (color < 16) p) := by
  unfold drawLine
  exact .chk <| .chk <| .chk <| .chk <| .chk <| lineLoop_step _ _ _ _ _ _ _ _ _ _ _ _ _

theorem polySegs_step (color mask : Nat) : ∀ (l : List Int) (p : Paint) (x y : Int),
    (polySegs color mask l p x y).Sat fun r => StepIf (color < 16) p r.1
  | [], p, _, _ => .ok (.refl _ p)
  | [_], _, _, _ => .panic
  | nx :: ny :: rest, p, x, y => by
    unfold polySegs
    exact drawLine_step.bind fun p1 s1 => (polySegs_step color mask rest p1 nx ny).mono fun _ s2 => s1.trans s2

theorem drawPolyline_step {p : Paint} {ps : List Int} : (drawPolyline p ps).Sat (Step p) := by
  unfold drawPolyline
  split
  · exact (polySegs_step _ _ _ p _ _).bind fun r s => .ok (s.imp fun h _ => h.fill)
  · exact .panic

theorem drawPoly_step {p : Paint} {ps : List Int} : (drawPoly p ps).Sat (Step p) := by
  unfold drawPoly
  split
  · refine (polySegs_step _ _ _ p _ _).bind fun r s => drawLine_step.mono fun _ s2 => ?_
    exact (s.trans (s.1.fillColor ▸ s2)).imp fun h _ => h.fill
  · exact .panic

theorem fillPairs_step (y : Int) : ∀ (n : Nat) (l : List Int) (p : Paint), (fillPairs y n l p).Sat (Step p)
  | 0, _, p => .ok (.refl p)
  | _ + 1, [], _ => .panic
  | _ + 1, [_], _ => .panic
  | n + 1, _ :: _ :: rest, _ => Step.seq (fillRow_paints ..).sat fun p1 _ => fillPairs_step y n rest p1

theorem scanLines_step (pts : Array Int) (cnt : Nat) : ∀ (n : Nat) (y : Int) (p : Paint), (scanLines pts cnt n y p).Sat (Step p)
  | 0, _, p => .ok (.refl p)
  | n + 1, y, p => by
    unfold scanLines
    refine .skip fun ⟨inter, eb⟩ => .ite (fun _ => scanLines_step pts cnt n _ p) fun _ => ?_
    exact Step.seq (fillPairs_step _ _ _ _) fun p1 _ => scanLines_step pts cnt n _ p1

theorem fillPoly_step {p : Paint} {pts : List Int} : (fillPoly p pts).Sat (Step p) := by
  unfold fillPoly
  split
  · exact scanLines_step _ _ _ _ _
  · exact .panic

theorem roundRect_step {p : Paint} {x1 y1 x2 y2 par : Int} : (roundRect p x1 y1 x2 y2 par).Sat (Step p) := by
  unfold roundRect
  -- the corner points are values; only the last line paints
  iterate 17 refine .skip fun _ => ?_
  exact .ite (fun _ => fillPoly_step) fun _ => drawPoly_step

theorem markerLines_step (tab : Array Int) (x0 y0 : Int) : ∀ (n i : Nat) (p : Paint), (markerLines tab x0 y0 n i p).Sat (Step p)
  | 0, _, p => .ok (.refl p)
  | n + 1, i, p => by
    unfold markerLines
    exact .skip fun _ => .skip fun _ => Step.seq drawPolyline_step fun p1 _ => markerLines_step tab x0 y0 n _ p1

/-- `draw_poly_maker` borrows the fill colour and the line type and puts them back -/
theorem drawPolyMarker_step {p : Paint} {x0 y0 : Int} : (drawPolyMarker p x0 y0).Sat (Step p) := by
  unfold drawPolyMarker
  refine .skip fun _ => (markerLines_step _ _ _ _ _ _).bind fun p2 s2 => .ok ?_
  obtain ⟨⟨e, sz⟩, px⟩ := s2
  exact ⟨⟨by rw [e], sz⟩, fun hp => px ⟨hp.line, hp.line, hp.mem⟩⟩

theorem ellipseLoop_step (xm ym a2 b2 : Int) (fill : Bool) : ∀ (f : Nat) (p : Paint) (x y err : Int),
    (ellipseLoop xm ym a2 b2 fill f p x y err).Sat fun r => Step p r.1
  | 0, p, _, _, _ => by unfold ellipseLoop; exact .ite (fun _ => .stall) fun _ => .ok (.refl p)
  | f + 1, p, x, y, err => by
    unfold ellipseLoop
    refine .ite (fun _ => .ok (.refl p)) fun _ => .chk <| .chk <| .chk <| Res.Sat.bind (P := Step p) ?_ fun p2 s2 => ?_
    · have px {q : Paint} {a b : Int} (k : Kept p q) : (setPixel q a b p.lineColor).Sat (Step q) :=
        setPixel_reg fun h => k.lineColor ▸ h.line
      refine .ite (fun _ => Step.seq (fillRect_paints ..).sat fun p1 _ => .chk (fillRect_paints ..).sat) fun _ => ?_
      exact Step.seq (px (.refl p)) fun _ k1 => Step.seq (px k1) fun _ k2 => .chk <|
        Step.seq (px (k1.trans k2)) fun _ k3 => px ((k1.trans k2).trans k3)
    · refine .skip fun _ => .skip fun _ => .skip fun ⟨x1, e1⟩ => .skip fun _ => .skip fun ⟨y1, e2⟩ => ?_
      exact (ellipseLoop_step xm ym a2 b2 fill f p2 _ _ _).mono fun _ s => s2.trans s

theorem tipLoop_step (xm ym b : Int) : ∀ (n : Nat) (p : Paint) (y : Int), (tipLoop xm ym b n p y).Sat (Step p)
  | 0, p, _ => .ok (.refl p)
  | n + 1, p, y => by
    unfold tipLoop
    refine .ite (fun _ => .ok (.refl p)) fun _ => .chk <| .chk <| Step.seq (setPixel_reg fun h => h.line) fun p1 k1 => ?_
    exact .chk <| Step.seq (setPixel_reg fun h => k1.lineColor ▸ h.line) fun p2 _ => tipLoop_step xm ym b n p2 _

theorem ellipse_step {p : Paint} {xm ym a b : Int} {fill : Bool} : (ellipse p xm ym a b fill).Sat (Step p) := by
  unfold ellipse
  refine .chk <| .skip fun _ => .skip fun _ => .skip fun _ => .skip fun _ => ?_
  exact (ellipseLoop_step _ _ _ _ _ _ _ _ _ _).bind fun r s => (tipLoop_step _ _ _ _ _ _).mono fun _ s2 => s.trans s2

theorem circleLoop_step (xm ym : Int) : ∀ (f : Nat) (p : Paint) (x y err : Int), (circleLoop xm ym f p x y err).Sat (Step p)
  | 0, p, _, _, _ => by unfold circleLoop; exact .ite (fun _ => .stall) fun _ => .ok (.refl p)
  | f + 1, p, x, y, err => by
    unfold circleLoop
    have px {q : Paint} {a b : Int} (k : Kept p q) : (setPixel q a b p.lineColor).Sat (Step q) :=
      setPixel_reg fun h => k.lineColor ▸ h.line
    refine .ite (fun _ => .ok (.refl p)) fun _ => .chk <| .chk <| Step.seq (px (.refl p)) fun p1 k1 => ?_
    refine .chk <| .chk <| Step.seq (px k1) fun p2 k2 => .chk <| .chk <| Step.seq (px (k1.trans k2)) fun p3 k3 => ?_
    refine .chk <| .chk <| Step.seq (px ((k1.trans k2).trans k3)) fun p4 _ => ?_
    exact .skip fun ⟨y1, e1⟩ => .skip fun ⟨x1, e2⟩ => circleLoop_step xm ym f p4 _ _ _

theorem drawCircle_step {p : Paint} {xm ym r : Int} : (drawCircle p xm ym r).Sat (Step p) := by
  unfold drawCircle
  exact .chk <| .chk <| .chk <| circleLoop_step _ _ _ _ _ _ _

theorem floodLoop_step (old col : Nat) : ∀ (f : Nat) (st : List (Int × Int)) (p : Paint), (floodLoop old col f st p).Sat (StepIf (col < 16) p)
  | _, [], p => by unfold floodLoop; exact .ok (.refl _ p)
  | 0, _ :: _, _ => .stall
  | f + 1, (x, y) :: st, p => by
    unfold floodLoop
    refine .ite (fun _ => floodLoop_step old col f st p) fun _ => .skip fun _ => .ite (fun _ => floodLoop_step old col f st p) fun _ => ?_
    refine setPixel_step.bind fun p1 s1 => .chk <| .chk <| .chk <| .chk <| ?_
    exact (floodLoop_step old col f _ p1).mono fun _ s2 => s1.trans s2

theorem floodFill_step {p : Paint} {x0 y0 : Int} : (floodFill p x0 y0).Sat (Step p) := by
  unfold floodFill
  refine .ite (fun _ => .ok (.refl p)) fun _ => .skip fun _ => .ite (fun _ => .ok (.refl p)) fun _ => ?_
  exact (floodLoop_step _ _ _ _ _).mono fun _ s => s.imp fun h _ => h.fill

end IcyVerif.IgsPaint
