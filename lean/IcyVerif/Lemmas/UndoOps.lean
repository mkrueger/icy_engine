import IcyVerif.Lemmas.UndoLayer
import IcyVerif.Lemmas.UndoList
/-! # C08: the schemes the per-record inverse laws (`Props/C08Laws`) are instances of
A record acts on the OBSERVATION of the document as a function in either direction, and `undo`'s undoes `redo`'s at the
document of the edit (`undoable_obs`); the other schemes are its forms for a record that never changes itself, works on one
layer, or rearranges the layer stack. -/
namespace IcyVerif.Undo

/-- `onLayer`, `onLayerIdx` (`miss = some e`: the call fails without the layer) and `onLayerOpt` (`miss = none`: nothing
    happens) in one: the three of `Model/Undo` unfold to it, so `fun _ => rfl` proves a law's `hredo` / `hundo` -/
def onLayerN (miss : Option Err) (d : Doc) (i : Nat) (op : UndoOp) (f : LayerM → LayerM) : Res :=
  match d.layers[i]? with
  | some l => .ok (op, d.setLayer i (f l))
  | none => match miss with
    | some e => .error e
    | none => .ok (op, d)

/-- `onLayerN (some er)` (`onLayerE_eq`); no law goes through it -/
def onLayerE (er : Err) (d : Doc) (i : Nat) (op : UndoOp) (f : LayerM → LayerM) : Res :=
  match d.layers[i]? with
  | some l => .ok (op, d.setLayer i (f l))
  | none => .error er

theorem onLayerE_eq (er : Err) (d : Doc) (i : Nat) (op : UndoOp) (f : LayerM → LayerM) :
    onLayerE er d i op f = onLayerN (some er) d i op f := by
  unfold onLayerE onLayerN
  cases d.layers[i]? <;> rfl

theorem onLayer_eq (d : Doc) (i : Nat) (op : UndoOp) (f : LayerM → LayerM) : onLayer d i op f = onLayerE .err d i op f :=
  (onLayerE_eq ..).symm ▸ rfl
theorem onLayerIdx_eq (d : Doc) (i : Nat) (op : UndoOp) (f : LayerM → LayerM) : onLayerIdx d i op f = onLayerE .panic d i op f :=
  (onLayerE_eq ..).symm ▸ rfl

theorem getElem?_setLayer_self (d : Doc) (i : Nat) (l l0 : LayerM) (h : d.layers[i]? = some l0) : (d.setLayer i l).layers[i]? = some l := by
  have : i < d.layers.length := (List.getElem?_eq_some_iff.mp h).1
  simp [Doc.setLayer, this]

theorem LayerM.obs_eq {m l : LayerM} :
    m.obs = l.obs ↔ m.w = l.w ∧ m.h = l.h ∧ m.props = l.props ∧ rowsGet m.lines = rowsGet l.lines := by
  simp [LayerM.obs]

/-- A record may rewrite itself in `undo` / `redo` (it captures what it overwrites), so a law speaks of two sets of records:
    `U`, the shapes it takes on the undo stack, `R`, those on the redo stack, each closed under the other direction
    (`Link`).  `GU` / `GR`: what a record of `U` / `R` does to the observation. -/
theorem undoable_obs (U R : UndoOp → Prop) (GU GR : DObs → DObs) {op : UndoOp} (hU : U op) {a a' : DObs} (ha' : GR a = a')
    (hu : ∀ o, U o → ∀ e', e'.obs = a' → ∃ o2 e, o.undo e' = .ok (o2, e) ∧ e.obs = GU e'.obs ∧ R o2)
    (hr : ∀ o, R o → ∀ e, e.obs = a → ∃ o2 e', o.redo e = .ok (o2, e') ∧ e'.obs = GR e.obs ∧ U o2)
    (hrt : GU a' = a) : Undoable op a a' := by
  refine ⟨U, R, hU, ?_, ?_⟩
  · intro o ho e' he'
    obtain ⟨o2, e, h1, h2, h3⟩ := hu o ho e' he'
    exact ⟨o2, e, h1, by rw [h2, he', hrt], h3⟩
  · intro o ho e he
    obtain ⟨o2, e', h1, h2, h3⟩ := hr o ho e he
    exact ⟨o2, e', h1, by rw [h2, he, ha'], h3⟩

/-- `undoable_obs` with constant GU / GR -/
theorem undoable_const (o : UndoOp) (d d' : Doc)
    (hr : o.redo d = .ok (o, d'))
    (hu : ∃ d₂, o.undo d' = .ok (o, d₂) ∧ d₂.obs = d.obs)
    (cu : ∀ e x x₂, e.obs = x.obs → o.undo x = .ok (o, x₂) → ∃ e₂, o.undo e = .ok (o, e₂) ∧ e₂.obs = x₂.obs)
    (cr : ∀ e x x₂, e.obs = x.obs → o.redo x = .ok (o, x₂) → ∃ e₂, o.redo e = .ok (o, e₂) ∧ e₂.obs = x₂.obs) :
    Undoable o d.obs d'.obs :=
  undoable_obs (· = o) (· = o) (fun _ => d.obs) (fun _ => d'.obs) rfl rfl
    (fun _ ho e' he' => let ⟨d₂, hu1, hu2⟩ := hu; let ⟨e₂, h1, h2⟩ := cu e' d' d₂ he' hu1; ⟨o, e₂, ho ▸ h1, h2.trans hu2, rfl⟩)
    (fun _ ho e he => let ⟨e₂, h1, h2⟩ := cr e d d' he hr; ⟨o, e₂, ho ▸ h1, h2, rfl⟩) rfl

/-- the result of `undo` / `redo` with the document observed -/
def Res.obs (r : Res) : Except Err (UndoOp × DObs) := r.map fun p => (p.1, p.2.obs)

theorem Res.obs_ok {r : Res} {o : UndoOp} {a : DObs} (h : r.obs = .ok (o, a)) : ∃ e, r = .ok (o, e) ∧ e.obs = a := by
  cases r with
  | error e => cases h
  | ok p => cases h; exact ⟨p.2, rfl, rfl⟩

/-- a record that never changes itself and acts on the observation by `GU` / `GR` -/
theorem undoable_fun (o : UndoOp) (GU GR : DObs → DObs)
    (hu : ∀ e, (o.undo e).obs = .ok (o, GU e.obs)) (hr : ∀ e, (o.redo e).obs = .ok (o, GR e.obs))
    {a : DObs} (hrt : GU (GR a) = a) : Undoable o a (GR a) :=
  undoable_obs (· = o) (· = o) GU GR rfl rfl
    (fun _ ho e' _ => let ⟨e2, h1, h2⟩ := Res.obs_ok (hu e'); ⟨o, e2, ho ▸ h1, h2, rfl⟩)
    (fun _ ho e _ => let ⟨e2, h1, h2⟩ := Res.obs_ok (hr e); ⟨o, e2, ho ▸ h1, h2, rfl⟩) hrt

theorem inverseAt_fun (o : UndoOp) (GU GR : DObs → DObs)
    (hu : ∀ e, (o.undo e).obs = .ok (o, GU e.obs)) (hr : ∀ e, (o.redo e).obs = .ok (o, GR e.obs))
    {d : Doc} (hrt : GU (GR d.obs) = d.obs) : InverseAt o d := by
  intro op' d' h
  obtain ⟨e2, h1, h2⟩ := Res.obs_ok (hr d)
  rw [h1] at h
  cases h
  rw [h2]
  exact undoable_fun o GU GR hu hr hrt

/-- a record on layer `i`: obligations on that layer only (undo from any layer observed like `l1` to one observed like `l`, redo back) -/
theorem undoable_layer {d : Doc} {i : Nat} {l l1 : LayerM} (hl : d.layers[i]? = some l) (U R : UndoOp → Prop) {op : UndoOp} (hU : U op)
    (hu : ∀ o, U o → ∀ (e' : Doc) (m : LayerM), e'.layers[i]? = some m → m.obs = l1.obs →
      ∃ o2 m2, o.undo e' = .ok (o2, e'.setLayer i m2) ∧ m2.obs = l.obs ∧ R o2)
    (hr : ∀ o, R o → ∀ (e : Doc) (m : LayerM), e.layers[i]? = some m → m.obs = l.obs →
      ∃ o2 m2, o.redo e = .ok (o2, e.setLayer i m2) ∧ m2.obs = l1.obs ∧ U o2) :
    Undoable op d.obs (d.setLayer i l1).obs := by
  refine undoable_obs U R (fun A => { A with layers := A.layers.set i l.obs }) (fun A => { A with layers := A.layers.set i l1.obs }) hU
    (obs_setLayer d i l1).symm ?_ ?_ ?_
  · intro o ho e' he'
    obtain ⟨m, hm1, hm2⟩ := obs_some he'.symm (getElem?_setLayer_self d i l1 l hl)
    obtain ⟨o2, m2, h1, h2, h3⟩ := hu o ho e' m hm1 hm2
    exact ⟨o2, _, h1, by rw [obs_setLayer, h2]; rfl, h3⟩
  · intro o ho e he
    obtain ⟨m, hm1, hm2⟩ := obs_some he.symm hl
    obtain ⟨o2, m2, h1, h2, h3⟩ := hr o ho e m hm1 hm2
    exact ⟨o2, _, h1, by rw [obs_setLayer, h2]; rfl, h3⟩
  · rw [obs_setLayer]
    show (⟨d.w, d.h, ((d.layers.map LayerM.obs).set i l1.obs).set i l.obs, d.x.obs⟩ : DObs) = d.obs
    rw [List.set_set, map_set_self _ _ _ _ hl]
    rfl

theorem undoable_layer_fun (o : UndoOp) (i : Nat) (fr fu : LayerM → LayerM) (FR FU : LObs → LObs)
    (hfr : ∀ l, (fr l).obs = FR l.obs) (hfu : ∀ l, (fu l).obs = FU l.obs)
    (hredo : ∀ (e : Doc) m, e.layers[i]? = some m → o.redo e = .ok (o, e.setLayer i (fr m)))
    (hundo : ∀ (e : Doc) m, e.layers[i]? = some m → o.undo e = .ok (o, e.setLayer i (fu m)))
    {d : Doc} {l : LayerM} (hl : d.layers[i]? = some l) (hrt : FU (FR l.obs) = l.obs) :
    Undoable o d.obs (d.setLayer i (fr l)).obs := by
  refine undoable_layer hl (· = o) (· = o) rfl ?_ ?_
  · rintro _ rfl e' m hm hmo
    exact ⟨_, fu m, hundo e' m hm, by rw [hfu, hmo, hfr, hrt], rfl⟩
  · rintro _ rfl e m hm hmo
    exact ⟨_, fr m, hredo e m hm, by rw [hfr, hfr, hmo], rfl⟩

/-- a record on layer `i` that never changes itself -/
theorem inverseAt_onLayer (o : UndoOp) (i : Nat) (miss : Option Err) (fr fu : LayerM → LayerM) (FR FU : LObs → LObs)
    (hfr : ∀ l, (fr l).obs = FR l.obs) (hfu : ∀ l, (fu l).obs = FU l.obs)
    (hredo : ∀ e, o.redo e = onLayerN miss e i o fr) (hundo : ∀ e, o.undo e = onLayerN miss e i o fu)
    {d : Doc} (hrt : ∀ l, d.layers[i]? = some l → FU (FR l.obs) = l.obs) : InverseAt o d := by
  refine inverseAt_of_redone ?_
  rw [hredo d]
  unfold onLayerN
  cases hl : d.layers[i]? with
  | some l =>
    exact undoable_layer_fun _ i fr fu FR FU hfr hfu (fun e m hm => by rw [hredo]; simp [onLayerN, hm])
      (fun e m hm => by rw [hundo]; simp [onLayerN, hm]) hl (hrt l hl)
  | none =>
    cases miss with
    | some er => trivial
    | none =>
      refine undoable_obs (· = o) (· = o) id id rfl rfl ?_ ?_ rfl
      · rintro _ rfl e' he'
        exact ⟨_, e', by rw [hundo]; simp [onLayerN, obs_none he'.symm hl], rfl, rfl⟩
      · rintro _ rfl e he
        exact ⟨_, e, by rw [hredo]; simp [onLayerN, obs_none he.symm hl], rfl, rfl⟩

/-- a record that inserts the layer it holds at position `k` (redo), and takes the layer at `k` out and keeps it (undo) -/
theorem undoable_insert (mk : Option LayerM → UndoOp) (k : Nat)
    (hundo : ∀ p (e : Doc) m, e.layers[k]? = some m →
      ∃ c, (mk p).undo e = .ok (mk (some m), { e with layers := e.layers.eraseIdx k, cur := c }))
    (hredo : ∀ l' (e : Doc), k ≤ e.layers.length → (mk (some l')).redo e = .ok (mk none, { e with layers := e.layers.insertIdx k l' }))
    (d : Doc) (hk : k ≤ d.layers.length) (l : LayerM) :
    Undoable (mk none) d.obs ({ d with layers := d.layers.insertIdx k l } : Doc).obs := by
  refine undoable_obs (fun o => ∃ p, o = mk p) (fun o => ∃ l', o = mk (some l') ∧ l'.obs = l.obs)
    (fun a => { a with layers := a.layers.eraseIdx k }) (fun a => { a with layers := a.layers.insertIdx k l.obs }) ⟨none, rfl⟩
    (by simp [Doc.obs, map_insertIdx]) ?_ ?_ (by simp [Doc.obs, map_insertIdx, List.eraseIdx_insertIdx_self])
  · rintro _ ⟨p, rfl⟩ e' he'
    obtain ⟨m, hm1, hm2⟩ := obs_some he'.symm (show (d.layers.insertIdx k l)[k]? = some l by rw [List.getElem?_insertIdx_self, if_pos hk])
    obtain ⟨c, hc⟩ := hundo p e' m hm1
    exact ⟨_, _, hc, by simp [Doc.obs, map_eraseIdx], m, rfl, hm2⟩
  · rintro _ ⟨l', rfl, hl'⟩ e he
    exact ⟨_, _, hredo l' e (obs_length he ▸ hk), by simp [Doc.obs, map_insertIdx, hl'], none, rfl⟩

/-- the converse -/
theorem undoable_remove (mk : Option LayerM → UndoOp) (k : Nat)
    (hundo : ∀ l' (e : Doc), k ≤ e.layers.length → (mk (some l')).undo e = .ok (mk none, { e with layers := e.layers.insertIdx k l' }))
    (hredo : ∀ p (e : Doc) m, e.layers[k]? = some m →
      ∃ c, (mk p).redo e = .ok (mk (some m), { e with layers := e.layers.eraseIdx k, cur := c }))
    (d : Doc) (l : LayerM) (hl : d.layers[k]? = some l) (c : Nat) :
    Undoable (mk (some l)) d.obs ({ d with layers := d.layers.eraseIdx k, cur := c } : Doc).obs := by
  have hlt : k < d.layers.length := (List.getElem?_eq_some_iff.mp hl).1
  refine undoable_obs (fun o => ∃ l', o = mk (some l') ∧ l'.obs = l.obs) (fun o => ∃ q, o = mk q)
    (fun a => { a with layers := a.layers.insertIdx k l.obs }) (fun a => { a with layers := a.layers.eraseIdx k }) ⟨l, rfl, rfl⟩
    (by simp [Doc.obs, map_eraseIdx]) ?_ ?_
    (by simp [Doc.obs, map_eraseIdx, insertIdx_eraseIdx_self _ _ _ (show (d.layers.map LayerM.obs)[k]? = some l.obs by simp [hl])])
  · rintro _ ⟨l', rfl, hl'⟩ e' he'
    have hlen : k ≤ e'.layers.length := by
      have := obs_length he'
      simp [List.length_eraseIdx, hlt] at this
      omega
    exact ⟨_, _, hundo l' e' hlen, by simp [Doc.obs, map_insertIdx, hl'], none, rfl⟩
  · rintro _ ⟨q, rfl⟩ e he
    obtain ⟨m, hm1, hm2⟩ := obs_some he.symm hl
    obtain ⟨c', hc⟩ := hredo q e m hm1
    exact ⟨_, _, hc, by simp [Doc.obs, map_eraseIdx], m, rfl, hm2⟩

/-- `MergeLayerDown`: the layers at `k`, `k + 1` are replaced by `m` and the record keeps them -/
theorem undoable_merge (d : Doc) (k : Nat) (m : LayerM) (hk : k + 1 < d.layers.length) (c : Nat) :
    Undoable (.mergeLayerDown (k + 1) none (some ((d.layers.drop k).take 2))) d.obs
      ({ d with layers := d.layers.take k ++ m :: d.layers.drop (k + 2), cur := c } : Doc).obs := by
  -- `O`: the two layers the record keeps, observed
  generalize hO : ((d.layers.map LayerM.obs).drop k).take 2 = O
  have hO2 : O.length = 2 := by rw [← hO]; simp; omega
  refine undoable_obs
    (fun o => ∃ os, o = .mergeLayerDown (k + 1) none (some os) ∧ os.map LayerM.obs = O)
    (fun o => ∃ m' r, o = .mergeLayerDown (k + 1) (some m') r ∧ m'.obs = m.obs)
    (fun A => { A with layers := A.layers.take k ++ O ++ A.layers.drop (k + 1) })
    (fun A => { A with layers := A.layers.take k ++ [m.obs] ++ A.layers.drop (k + 2) })
    ⟨_, rfl, by rw [List.map_take, List.map_drop, hO]⟩ ?_ ?_ ?_ ?_
  · simp [Doc.obs, List.map_take, List.map_drop]
  · rintro _ ⟨os, rfl, hos⟩ e' he'
    obtain ⟨x, hx, hx2⟩ := obs_some he'.symm
      (show (d.layers.take k ++ m :: d.layers.drop (k + 2))[k]? = some m by
        rw [List.getElem?_append_right (by simp; omega)]
        simp [Nat.min_eq_left (by omega : k ≤ d.layers.length)])
    have hk := (List.getElem?_eq_some_iff.mp hx).1
    obtain ⟨hat, herase⟩ := splice_at e'.layers os k (by omega)
    rw [show os.length = 2 by rw [← hO2, ← hos, List.length_map]] at hat herase
    -- `?e`, the document after `undo`, is filled in when `rfl` closes `h1`
    refine ⟨.mergeLayerDown (k + 1) (some x) none, ?e, ?h1, ?h2, x, none, rfl, hx2⟩
    case h1 =>
      simp only [UndoOp.undo, Nat.add_sub_cancel, if_neg (show ¬ (os ≠ [] ∧ (k + 1 = 0 ∨ k > e'.layers.length)) by omega), hat, hx, herase]
      rfl
    case h2 => simp [Doc.obs, List.map_take, List.map_drop, hos]
  · rintro _ ⟨m', r, rfl, hm'⟩ e he
    have hlen := obs_length he
    -- likewise `?f`, the document after `redo`
    refine ⟨.mergeLayerDown (k + 1) none (some ((e.layers.drop k).take 2)), ?f, ?g1, ?g2, _, rfl,
      by rw [List.map_take, List.map_drop, obs_layers he, hO]⟩
    case g1 =>
      simp only [UndoOp.redo, Nat.add_sub_cancel, if_neg (show ¬ (k + 1 = 0 ∨ k + 1 ≥ e.layers.length) by omega)]
      rfl
    case g2 => simp [Doc.obs, List.map_take, List.map_drop, hm']
  · subst hO
    have h := splice_back (d.layers.map LayerM.obs) [m.obs] k 2 (by simp; omega)
    simp only [Doc.obs, List.map_append, List.map_cons, List.map_take, List.map_drop]
    simp only [List.append_assoc, List.cons_append, List.nil_append, List.length_cons, List.length_nil, Nat.zero_add] at h ⊢
    rw [h]

theorem listSwap_map {α β : Type} (f : α → β) (l : List α) (i j : Nat) :
    listSwap (l.map f) i j = (listSwap l i j).map (List.map f) := by
  unfold listSwap
  simp only [List.getElem?_map]
  cases l[i]? <;> cases l[j]? <;> simp [List.map_set]

theorem listSwap_getElem? {α : Type} {l l' : List α} {i j : Nat} (h : listSwap l i j = some l') (k : Nat) :
    l'[k]? = l[swapAt i j k]? := by
  unfold listSwap at h
  cases hi : l[i]? with
  | none => simp [hi] at h
  | some a =>
    cases hj : l[j]? with
    | none => simp [hi, hj] at h
    | some b =>
      simp only [hi, hj, Option.some.injEq] at h
      subst h
      have hil := (List.getElem?_eq_some_iff.mp hi).1
      have hjl := (List.getElem?_eq_some_iff.mp hj).1
      simp only [List.getElem?_set, List.length_set, swapAt]
      by_cases h1 : k = i
      · subst h1
        by_cases h2 : j = k
        · subst h2; simp [hil, (List.getElem?_eq_some_iff.mp hi).2]
        · simp [h2, hil, hj]
      · by_cases h2 : k = j
        · subst h2; simp [hjl, hi, h1]
        · simp [h1, h2, Ne.symm h1, Ne.symm h2]

theorem listSwap_invol {α : Type} (l l' : List α) (i j : Nat) (h : listSwap l i j = some l') : listSwap l' i j = some l := by
  cases h2 : listSwap l' i j with
  | none =>
    -- impossible: `l'` has entries at `i` and `j`, those of `l` at `j` and `i`
    have hi := listSwap_getElem? h i
    have hj := listSwap_getElem? h j
    unfold listSwap at h h2
    cases hi' : l[i]? <;> cases hj' : l[j]? <;> simp_all [swapAt]
  | some l'' =>
    congr 1
    exact List.ext_getElem? fun k => by rw [listSwap_getElem? h2, listSwap_getElem? h, swapAt_swapAt]
/-- a record whose undo and redo are the same involutive rearrangement of the layer stack -/
theorem inverseAt_swap (o : UndoOp) (i j : Nat)
    (hredo : ∀ e, o.redo e = match listSwap e.layers i j with | some ls => .ok (o, { e with layers := ls }) | none => .error .panic)
    (hundo : ∀ e, o.undo e = match listSwap e.layers i j with | some ls => .ok (o, { e with layers := ls }) | none => .error .panic)
    (d : Doc) : InverseAt o d := by
  refine inverseAt_of_redone ?_
  rw [hredo d]
  cases hs : listSwap d.layers i j with
  | none => trivial
  | some ls =>
    -- the swap seen on observations; a document observed like one that can be swapped can be swapped
    let G : DObs → DObs := fun A => { A with layers := (listSwap A.layers i j).getD A.layers }
    have hG : ∀ (e : Doc) es, listSwap e.layers i j = some es → ({ e with layers := es } : Doc).obs = G e.obs := by
      intro e es h
      simp [G, Doc.obs, listSwap_map, h]
    have hex : ∀ (x e : Doc) xs, e.obs = x.obs → listSwap x.layers i j = some xs → ∃ es, listSwap e.layers i j = some es := by
      intro x e xs he hx
      have := listSwap_map LayerM.obs e.layers i j
      rw [obs_layers he, listSwap_map, hx] at this
      cases hes : listSwap e.layers i j with
      | none => rw [hes] at this; simp at this
      | some es => exact ⟨es, rfl⟩
    have hback := listSwap_invol _ _ _ _ hs
    refine undoable_obs (· = o) (· = o) G G rfl (hG d ls hs).symm ?_ ?_ (hG { d with layers := ls } d.layers hback).symm
    · rintro _ rfl e' he'
      obtain ⟨es, h1⟩ := hex { d with layers := ls } e' d.layers he' hback
      exact ⟨_, { e' with layers := es }, by rw [hundo, h1], hG e' es h1, rfl⟩
    · rintro _ rfl e he
      obtain ⟨es, h1⟩ := hex d e ls he hs
      exact ⟨_, { e with layers := es }, by rw [hredo, h1], hG e es h1, rfl⟩

end IcyVerif.Undo
