import IcyVerif.Lemmas.LoaderCostBase
/-! IcyDraw chunks and clipboard layers, the engine's own formats.  IcyDraw: the sites at which chunk decoding may panic, the cell and string
    readers, `_res` for the LAYER chunk decoders, one walk per loop (the only panic is the abort of the unchecked cell conversion, C02; work
    bounded by the chunk, C03), the chunk dispatch.  The regenerated flag `icyNoColumnsGuard` enters the budget only (`idleRows`): what is said
    about panics does not depend on it.  Clipboard layers have no counted model. -/
namespace IcyVerif.Loaders
open IcyVerif.Bytes IcyVerif.Bytes.Res IcyVerif.Gen IcyVerif.Gen.Loaders

/-- the only panic-like outcome of the IcyDraw model itself: the abort of `char::from_u32_unchecked` on an
    invalid scalar value, present only while the source still has the unchecked conversion (owned by C10) -/
def IcyOwn (s : String) : Prop := icyCharUnchecked = true ∧ s = sIcyAbort

/-- ... plus a panic inside the font / palette / SAUCE loader a chunk payload is handed to (owned by the
    C10/C17, C16, C11 models; the harness passes what those loaders answered) -/
def IcySite (s : String) : Prop := IcyOwn s ∨ s = sForeign

theorem icyCell_sat (d : Bytes) (o : Nat) (short : Bool) : (icyCell d o short).SatS IcyOwn (fun o' => o ≤ o' ∧ o' ≤ d.size) := by
  unfold icyCell
  refine SatS.ite (fun _ => SatS.guard (fun h => ?_)) (fun _ => SatS.guard (fun h => ?_))
  · apply SatS.bind_sat (rd_sat (by omega)); intro _ _
    apply SatS.bind_sat (rd_sat (by omega)); intro _ _
    apply SatS.bind_sat (rd_sat (by omega)); intro _ _
    apply SatS.bind_sat (rd_sat (by omega)); intro _ _
    exact ⟨by omega, by omega⟩
  · apply SatS.bind_sat (rdU32_sat (by omega)); intro ch _
    apply SatS.bind_sat (rdU32_sat (by omega)); intro _ _
    apply SatS.bind_sat (rdU32_sat (by omega)); intro _ _
    apply SatS.bind_sat (rdU16s_sat (by omega)); intro _ _
    exact SatS.ite (fun hs => ⟨by simpa using hs.1, rfl⟩) (fun _ => SatS.guard (fun _ => ⟨by omega, by omega⟩))

theorem icyString_sat (d : Bytes) (o : Nat) (ho : o ≤ d.size) : (icyString d o).Sat (fun sz => o + sz ≤ d.size) := by
  unfold icyString
  apply Sat.bind (slice_sat (by omega)); intro _ _
  refine Sat.guard (fun h => ?_)
  apply Sat.bind (rdU32_sat (by omega)); intro size _
  apply Sat.bind (usub_sat (by omega)); intro r4 hr4
  refine Sat.guard (fun h2 => ?_)
  apply Sat.bind (slice_sat (by omega)); intro _ _
  show o + (size + 4) ≤ d.size
  omega

end IcyVerif.Loaders

namespace IcyVerif.LoaderCost
open IcyVerif.Bytes IcyVerif.Bytes.Res IcyVerif.Loaders IcyVerif.Gen IcyVerif.Gen.Loaders RC

@[simp] theorem res_laySetCharC (l : Lay) (x y : Int) : (laySetCharC l x y).res = .ok (l.setChar x y) := rfl

theorem icyRowC_res (d : Bytes) (y : Int) : ∀ n x o l, (icyRowC d y n x o l).res = icyRow d y n x o l
  | 0, _, _, _ => rfl
  | n + 1, x, o, l => by
    simp only [icyRowC, icyRow, res_bind, res_tick, res_fail, ok_bind, apply_ite RC.res, res_pure, res_lift, res_laySetCharC, icyRowC_res d y n]
    rfl

/-- rows of a layer without columns read nothing and change nothing: the loop the repair cut short only counted -/
theorem icyRows_no_columns (d : Bytes) (l : Lay) (hw : l.w ≤ 0) : ∀ n y o, icyRows d n y o l = .ok l := by
  intro n
  induction n with
  | zero => intro y o; rfl
  | succ n ih =>
    intro y o
    unfold icyRows
    split
    · rfl
    · have h0 : l.w.toNat = 0 := by omega
      rw [h0]
      simp only [icyRow, ok_bind]
      exact ih _ _

theorem icyRows_succ (d : Bytes) (n : Nat) (y : Int) (o : Nat) (l : Lay) :
    icyRows d (n + 1) y o l = if o ≥ d.size then .ok l else (icyRow d y l.w.toNat 0 o l >>= fun r => icyRows d n (y + 1) r.1 r.2) := rfl

theorem icyRowsC_res (d : Bytes) : ∀ n y o l, (icyRowsC d n y o l).res = icyRows d n y o l := by
  intro n
  induction n with
  | zero => intro y o l; rfl
  | succ n ih =>
    intro y o l
    unfold icyRowsC
    simp only [res_bind, res_tick, ok_bind]
    by_cases h1 : o ≥ d.size
    · simp only [h1, true_or, if_true, res_pure]
      rw [icyRows_succ]; simp only [h1, if_true]
    · by_cases h2 : (LoaderLoops.icyNoColumnsGuard = true ∧ l.w ≤ 0)
      · simp only [h2, and_self, or_true, if_true, res_pure]
        exact (icyRows_no_columns d l h2.2 _ _ _).symm
      · simp only [h1, h2, or_self, if_false, res_bind, icyRowC_res, ih]
        rw [icyRows_succ]; simp only [h1, if_false]

theorem icyNewLayerC_res (d : Bytes) (st : IcySt) : (icyNewLayerC d st).res = icyNewLayer d st := by
  unfold icyNewLayerC icyNewLayer
  simp only [res_bind, res_spend, res_fail, ok_bind, apply_ite RC.res, res_pure, res_lift, icyRowsC_res]
  rfl

theorem icyContinueC_res (d : Bytes) (st : IcySt) (n : Nat) : (icyContinueC d st n).res = icyContinue d st n := by
  unfold icyContinueC icyContinue
  split
  · simp only []
    split
    · simp only [res_bind, res_pure, icyRowsC_res]
      rfl
    · simp only [res_bind, res_spend, ok_bind, res_pure]
      rfl
  · rfl

theorem icyChunkC_res (kw : String) (d : Bytes) (f : Foreign) (st : IcySt) : (icyChunkC kw d f st).res = icyChunk kw d f st := by
  by_cases h1 : (kw == "END") = true
  · unfold icyChunkC icyChunk; simp only [h1, if_true]; rfl
  · by_cases h2 : (kw == "ICED") = true
    · unfold icyChunkC; simp only [h1, h2, res_lift, Bool.false_eq_true, ↓reduceIte]
    · by_cases h3 : ((kw == "PALETTE") = true ∨ (kw == "SAUCE") = true)
      · unfold icyChunkC; simp only [h1, h2, h3, res_lift, Bool.false_eq_true, ↓reduceIte]
      · by_cases h4 : "FONT_".toList.isPrefixOf kw.toList = true
        · unfold icyChunkC; simp only [h1, h2, h3, h4, res_lift, Bool.false_eq_true, ↓reduceIte]
        · by_cases h5 : (!"LAYER_".toList.isPrefixOf kw.toList) = true
          · unfold icyChunkC icyChunk; simp only [h1, h2, h3, h4, h5, Bool.false_eq_true, ↓reduceIte]; rfl
          · unfold icyChunkC icyChunk
            simp only [h1, h2, h3, h4, h5, Bool.false_eq_true, ↓reduceIte]
            cases layerContinue (kw.toList.length + 1) kw.toList with
            | none => simp only [res_bind, icyNewLayerC_res, res_pure]; exact bind_ok_map some _
            | some ds =>
              simp only []
              cases parseUsize ds with
              | none => rfl
              | some n => simp only [res_bind, icyContinueC_res, res_pure]; exact bind_ok_map some _

theorem icyChunksC_res : ∀ (cs : List (String × Bytes × Foreign)) (st : IcySt), (icyChunksC cs st).res = icyChunks cs st := by
  intro cs
  induction cs with
  | nil => intro st; rfl
  | cons c rest ih =>
    intro st
    obtain ⟨kw, d, f⟩ := c
    unfold icyChunksC icyChunks
    simp only [res_bind, res_tick, ok_bind, icyChunkC_res]
    congr 1; funext r
    cases r with
    | none => rfl
    | some st' => exact ih st'

theorem loadIcyC_res (chunks : List (String × Bytes × Foreign)) : (loadIcyC chunks).res = loadIcy chunks :=
  icyChunksC_res chunks _

theorem laySetChar_lines_ge (l : Lay) (x y : Int) : l.lines ≤ (l.setChar x y).lines := by
  unfold Lay.setChar; split
  · exact Nat.le_refl _
  · split
    · exact Nat.le_refl _
    · split
      · simp only; omega
      · exact Nat.le_refl _

theorem laySetChar_lines_le (l : Lay) (x y : Int) (B : Nat) (hl : l.lines ≤ B) (hy : y < B) : (l.setChar x y).lines ≤ B := by
  unfold Lay.setChar; split
  · exact hl
  · split
    · exact hl
    · split
      · simp only; omega
      · exact hl

theorem laySetChar_fields (l : Lay) (x y : Int) :
    (l.setChar x y).w = l.w ∧ (l.setChar x y).h = l.h ∧ (l.setChar x y).role = l.role := by
  unfold Lay.setChar; split
  · exact ⟨rfl, rfl, rfl⟩
  · split
    · exact ⟨rfl, rfl, rfl⟩
    · split <;> exact ⟨rfl, rfl, rfl⟩

/-- what decoding cells does to a layer: the declared size untouched, the line vector only grows -/
structure LayKept (l l' : Lay) : Prop where
  w : l'.w = l.w
  h : l'.h = l.h
  lines : l.lines ≤ l'.lines

theorem LayKept.refl (l : Lay) : LayKept l l := ⟨rfl, rfl, Nat.le_refl _⟩

theorem LayKept.trans {l l' l'' : Lay} (h : LayKept l l') (h' : LayKept l' l'') : LayKept l l'' :=
  ⟨h'.w.trans h.w, h'.h.trans h.h, Nat.le_trans h.lines h'.lines⟩

theorem laySetChar_kept (l : Lay) (x y : Int) : LayKept l (l.setChar x y) :=
  ⟨(laySetChar_fields l x y).1, (laySetChar_fields l x y).2.1, laySetChar_lines_ge l x y⟩

structure IcyRowPost (d : Bytes) (B : Nat) (n o : Nat) (l : Lay) (r : Nat × Lay) : Prop where
  ge : o ≤ r.1
  adv : 0 < n → o + 2 ≤ r.1
  le : r.1 ≤ d.size
  lines : r.2.lines ≤ B
  kept : LayKept l r.2

/-- Every cell that is read consumes at least two bytes.  Budget and potential left read together (`spent + W' ≤ W`): the row spends at most
    `r.1 - o` iterations, one per byte consumed, whatever width the layer declares; that is the form `icyRowsC_busy` uses. -/
theorem icyRowC_pot (d : Bytes) (y : Int) (B : Nat) (hy : y < B) :
    ∀ (n : Nat) (x : Int) (o : Nat) (l : Lay), o ≤ d.size → l.lines ≤ B →
      (icyRowC d y n x o l).Pot IcyOwn (2 * (d.size - o) + 1) (B - l.lines) 0 (fun r => IcyRowPost d B n o l r)
        (fun r => (d.size - r.1) + (d.size - o) + 1) (fun r => B - r.2.lines) (fun _ => 0) := by
  intro n
  induction n with
  | zero =>
    intro x o l ho hl
    exact Pot.pure ⟨Nat.le_refl _, fun h => absurd h (Nat.lt_irrefl 0), ho, hl, .refl l⟩ (by show _ ≤ 2 * (d.size - o) + 1; omega)
  | succ n ih =>
    intro x o l ho hl
    unfold icyRowC
    refine Pot.tick_bind (Nat.succ_pos _) (Pot.guard (fun hlen => Pot.sat_bind (rdU16s_sat (by omega)) (fun attr _ => Pot.ite (fun _ => ?_) (fun _ => ?_))))
    · exact Pot.pure ⟨by show o ≤ o + 2; omega, fun _ => Nat.le_refl _, by show o + 2 ≤ d.size; omega, hl, .refl l⟩
        (by show d.size - (o + 2) + (d.size - o) + 1 ≤ _; omega)
    · -- the next cell starts at least two bytes on
      have next : ∀ (o' : Nat) (l' : Lay), o + 2 ≤ o' → o' ≤ d.size → l'.lines ≤ B → LayKept l l' →
          (icyRowC d y n (x + 1) o' l').Pot IcyOwn (2 * (d.size - o) + 1 - 1) (B - l'.lines) 0 (fun r => IcyRowPost d B (n + 1) o l r)
            (fun r => (d.size - r.1) + (d.size - o) + 1) (fun r => B - r.2.lines) (fun _ => 0) :=
        fun o' l' h1 h2 h3 h4 => Pot.mono (ih (x + 1) o' l' h2 h3) (by omega) (Nat.le_refl _) (Nat.le_refl _)
          (fun r hr => ⟨⟨by have := hr.ge; omega, fun _ => by have := hr.ge; omega, hr.le, hr.lines, h4.trans hr.kept⟩,
            by have := hr.ge; have := hr.le; omega, Nat.le_add_right _ _, Nat.le_add_right _ _⟩)
      refine Pot.ite (fun _ => next _ l (Nat.le_refl _) (by omega) hl (.refl l)) (fun _ => Pot.lift_bind (icyCell_sat d _ _) (fun o' ho' => ?_))
      exact Pot.rows_bind (laySetChar_lines_ge l x y) (laySetChar_lines_le l x y B hl hy)
        (next o' _ ho'.1 ho'.2 (laySetChar_lines_le l x y B hl hy) (laySetChar_kept l x y))

/-- the iterations the row loop spends on the rows a layer without columns DECLARES: none with the guard of the repaired loader
    (regenerated flag `icyNoColumnsGuard`), one per row without it -/
def idleRows (n : Nat) : Nat := if LoaderLoops.icyNoColumnsGuard = true then 0 else n

theorem idleRows_guard (hguard : LoaderLoops.icyNoColumnsGuard = true) (n : Nat) : idleRows n = 0 := if_pos hguard

theorem idleRows_mono {n m : Nat} (h : n ≤ m) : idleRows n ≤ idleRows m := by
  unfold idleRows; split
  · exact Nat.le_refl _
  · exact h

theorem icyRowsC_idle {S : String → Prop} (d : Bytes) (l : Lay) (hw : l.w ≤ 0) :
    ∀ (n : Nat) (y : Int) (o : Nat), (icyRowsC d n y o l).Pot S (1 + idleRows n) 0 0 (fun l' => l' = l) (fun _ => 0) (fun _ => 0) (fun _ => 0) := by
  intro n
  induction n with
  | zero => intro y o; exact Pot.pure rfl (Nat.zero_le _)
  | succ n ih =>
    intro y o
    unfold icyRowsC
    refine Pot.tick_bind (by omega) (Pot.ite (fun _ => Pot.pure rfl (Nat.zero_le _)) (fun hc => ?_))
    have hg : ¬ LoaderLoops.icyNoColumnsGuard = true := fun h => hc (Or.inr ⟨h, hw⟩)
    have h0 : l.w.toNat = 0 := by omega
    have e : ∀ k, idleRows k = k := fun k => if_neg hg
    rw [h0, e]
    refine Pot.bind (x := icyRowC d y 0 0 o l) (P := fun r => r = (o, l)) (W' := fun _ => 1 + n) (R' := fun _ => 0) (E' := fun _ => 0)
      (Pot.pure rfl (by omega)) (fun r hr => ?_)
    subst hr
    exact e n ▸ ih (y + 1) o

/-- a layer with columns: every row that is decoded consumes at least two bytes -/
theorem icyRowsC_busy (d : Bytes) (B : Nat) :
    ∀ (n : Nat) (y : Int) (o : Nat) (l : Lay), 0 < l.w → o ≤ d.size → l.lines ≤ B → 2 * y + ((d.size - o : Nat) : Int) < 2 * (B : Int) →
      (icyRowsC d n y o l).Pot IcyOwn (2 * (d.size - o) + 2) (B - l.lines) 0 (fun l' => l'.lines ≤ B ∧ LayKept l l')
        (fun _ => 0) (fun l' => B - l'.lines) (fun _ => 0) := by
  intro n
  induction n with
  | zero =>
    intro y o l _ ho hl hy
    exact Pot.pure ⟨hl, .refl l⟩ (Nat.zero_le _)
  | succ n ih =>
    intro y o l hw ho hl hy
    unfold icyRowsC
    refine Pot.tick_bind (Nat.succ_pos _) (Pot.ite (fun _ => Pot.pure ⟨hl, .refl l⟩ (Nat.zero_le _)) (fun hc => ?_))
    have hc' : ¬ o ≥ d.size := fun h => hc (Or.inl h)
    refine Pot.bind_le (icyRowC_pot d y B (by omega) l.w.toNat 0 o l ho hl) (by omega) (Nat.le_refl _) (Nat.le_refl _) (fun r hr => ?_)
    have hadv := hr.adv (by omega)
    have hle := hr.le
    exact Pot.weaken ((ih (y + 1) r.1 r.2 (hr.kept.w ▸ hw) hr.le hr.lines (by omega)).imp (fun _ h => ⟨h.1, hr.kept.trans h.2⟩)) (by omega) (Nat.le_add_right _ _)

theorem icyRowsC_pot (d : Bytes) (B : Nat) (n : Nat) (y : Int) (o : Nat) (l : Lay) (ho : o ≤ d.size) (hl : l.lines ≤ B)
    (hy : 2 * y + ((d.size - o : Nat) : Int) < 2 * (B : Int)) :
    (icyRowsC d n y o l).Pot IcyOwn (2 * (d.size - o) + 2 + idleRows n) (B - l.lines) 0 (fun l' => l'.lines ≤ B ∧ LayKept l l')
      (fun _ => 0) (fun l' => B - l'.lines) (fun _ => 0) := by
  by_cases hw : l.w ≤ 0
  · exact Pot.mono (icyRowsC_idle d l hw n y o) (by omega) (Nat.zero_le _) (Nat.le_refl _)
      (fun l' e => by subst e; exact ⟨⟨hl, .refl l'⟩, Nat.zero_le _, by omega, Nat.zero_le _⟩)
  · exact Pot.weaken (icyRowsC_busy d B n y o l (by omega) ho hl hy) (by omega)

/-- the idle term: a layer without columns can declare up to `i32::MAX` rows; `extra`: the title and the picture data are copied -/
theorem icyNewLayerC_pot (d : Bytes) (st : IcySt) :
    (icyNewLayerC d st).Spends IcyOwn (2 * d.size + 2 + idleRows 2147483647) (d.size / 2 + 1) d.size := by
  unfold icyNewLayerC
  have e1 : icyLayerHeaderLen = 41 := rfl
  have e2 : icyImageHeaderLen = 16 := rfl
  refine Pot.sat_bind (icyString_sat d 0 (Nat.zero_le _)) (fun size hsize => Pot.spend_bind (by omega) ?_)
  refine Pot.guard (fun hlen => Pot.sat_bind (rd_sat (by omega)) (fun role _ => Pot.sat_bind (rd_sat (by omega)) (fun mode _ => Pot.guard (fun _ => ?_))))
  refine Pot.sat_bind (rd_sat (by omega)) (fun _ _ => Pot.sat_bind (rd_sat (by omega)) (fun _ _ => Pot.sat_bind (rd_sat (by omega)) (fun _ _ => Pot.sat_bind (rd_sat (by omega)) (fun _ _ => ?_))))
  refine Pot.sat_bind (rdU32_sat (by omega)) (fun flags _ => Pot.sat_bind (rd_sat (by omega)) (fun _ _ => Pot.sat_bind (rdU32_sat (by omega)) (fun ox _ => Pot.sat_bind (rdU32_sat (by omega)) (fun oy _ => ?_))))
  refine Pot.sat_bind (rdU32_sat (by omega)) (fun w _ => Pot.sat_bind (rdU32_sat (by omega)) (fun h _ => Pot.sat_bind (rdU16s_sat (by omega)) (fun _ _ => Pot.sat_bind (rdU64_sat (by omega)) (fun length _ => ?_))))
  refine Pot.ite (fun _ => Pot.guard (fun himg => ?_)) (fun _ => Pot.sat_bind (usub_sat (by omega)) (fun rest hrest => Pot.guard (fun _ => ?_)))
  · refine Pot.sat_bind (rdU32_sat (by omega)) (fun _ _ => Pot.sat_bind (rdU32_sat (by omega)) (fun _ _ => Pot.sat_bind (rdU32_sat (by omega)) (fun _ _ => Pot.sat_bind (rdU32_sat (by omega)) (fun _ _ => Pot.sat_bind (slice_sat (by omega)) (fun _ _ => ?_)))))
    exact Pot.spend_bind (by omega) (pot_done _)
  · have hh := idleRows_mono (n := (asI32 h).toNat) (m := 2147483647) (by have := asI32_range h; omega)
    refine Pot.bind_le (icyRowsC_pot d (d.size / 2 + 1) _ 0 _ ⟨0, asI32 w, asI32 h, 0, asI32 ox, asI32 oy, 0, true⟩ (by omega) (Nat.zero_le _)
      (by omega)) (by show _ + idleRows (asI32 h).toNat ≤ _; omega) (Nat.sub_le _ _) (Nat.zero_le _) (fun l _ => pot_done _)

/-- the rows layer `n` still declares (its height less the rows it has): what a continuation chunk can idle through -/
def declaredRows (st : IcySt) (n : Nat) : Nat :=
  match st.layers[n]? with
  | some l => (l.h - (l.lines : Int)).toNat
  | none => 0

/-- `extra`: an image layer copies the chunk -/
theorem icyContinueC_pot (d : Bytes) (st : IcySt) (n : Nat) :
    (icyContinueC d st n).Spends IcyOwn (2 * d.size + 2 + idleRows (declaredRows st n)) (d.size / 2 + 1) d.size := by
  unfold icyContinueC
  refine Pot.dite (fun hn => Pot.ite (fun _ => ?_) (fun _ => ?_)) (fun _ => pot_fail)
  · have e : declaredRows st n = (st.layers[n].h - (st.layers[n].lines : Int)).toNat := by
      unfold declaredRows; rw [Array.getElem?_eq_getElem hn]
    rw [e]
    exact Pot.bind_le (icyRowsC_pot d (st.layers[n].lines + d.size / 2 + 1) _ (st.layers[n].lines : Int) 0 st.layers[n] (Nat.zero_le _) (by omega)
      (by omega)) (by omega) (by omega) (Nat.zero_le _) (fun l _ => pot_done _)
  · exact Pot.spend_bind (by omega) (pot_done _)

theorem icyRowsC_work_without_guard (hg : LoaderLoops.icyNoColumnsGuard = false) (d : Bytes) (l : Lay) (hw : l.w ≤ 0) (o : Nat)
    (ho : o < d.size) : ∀ (n : Nat) (y : Int), (icyRowsC d n y o l).work = n := by
  intro n
  induction n with
  | zero => intro y; rfl
  | succ n ih =>
    intro y
    unfold icyRowsC
    have h0 : l.w.toNat = 0 := by omega
    have hc : ¬ (o ≥ d.size ∨ (LoaderLoops.icyNoColumnsGuard = true ∧ l.w ≤ 0)) := by
      intro h
      cases h with
      | inl h => omega
      | inr h => rw [hg] at h; exact absurd h.1 (by decide)
    simp only [hc, if_false, h0]
    show (RC.bind tick fun _ => RC.bind (icyRowC d y 0 0 o l) fun r => icyRowsC d n (y + 1) r.1 r.2).work = n + 1
    simp only [RC.bind, tick, icyRowC, pure]
    have := ih (y + 1)
    omega

end IcyVerif.LoaderCost

namespace IcyVerif.Loaders
open IcyVerif.Bytes IcyVerif.Bytes.Res IcyVerif.LoaderCost IcyVerif.Gen IcyVerif.Gen.Loaders

theorem icyNewLayer_sat (d : Bytes) (st : IcySt) : (icyNewLayer d st).SatS IcyOwn (fun _ => True) :=
  icyNewLayerC_res d st ▸ (icyNewLayerC_pot d st).sat

theorem icyContinue_sat (d : Bytes) (st : IcySt) (n : Nat) : (icyContinue d st n).SatS IcyOwn (fun _ => True) :=
  icyContinueC_res d st n ▸ (icyContinueC_pot d st n).sat

theorem icyChunk_sat (S : String → Prop) (hS : ∀ s, IcyOwn s → S s) (kw : String) (d : Bytes) (f : Foreign) (st : IcySt)
    (hf : (foreign f).SatS S (fun _ => True)) : (icyChunk kw d f st).SatS S (fun _ => True) := by
  unfold icyChunk
  have e1 : icedHeaderSize = 19 := rfl
  refine SatS.ite (fun _ => True.intro) (fun _ => SatS.ite (fun _ => SatS.guard (fun hlen => ?_))
    (fun _ => SatS.ite (fun _ => SatS.bind hf (fun _ _ => True.intro)) (fun _ => SatS.ite (fun _ => ?_) (fun _ => SatS.ite (fun _ => True.intro) (fun _ => ?_)))))
  · -- ICED header
    have hlen' : d.size = 19 := by
      rw [← e1]; exact Decidable.not_not.mp hlen
    apply SatS.bind_sat (rdU16s_sat (by omega)); intro _ _
    apply SatS.bind_sat (rd_sat (by omega)); intro _ _
    apply SatS.bind_sat (rd_sat (by omega)); intro _ _
    apply SatS.bind_sat (rd_sat (by omega)); intro _ _
    apply SatS.bind_sat (rdU32_sat (by omega)); intro _ _
    apply SatS.bind_sat (rdU32_sat (by omega)); intro _ _
    exact True.intro
  · -- FONT_n: slot number unreadable / font name, then the font loader
    split
    · exact True.intro
    · apply SatS.bind_sat (icyString_sat d 0 (by omega)); intro _ _
      apply SatS.bind hf; intro _ _
      exact True.intro
  · -- LAYER_n~k (number unreadable / continuation), else a new LAYER_n
    split
    · split
      · exact True.intro
      · exact SatS.map (SatS.weaken (icyContinue_sat d st _) hS) (fun _ _ => True.intro)
    · exact SatS.map (SatS.weaken (icyNewLayer_sat d st) hS) (fun _ _ => True.intro)

theorem icyChunks_sat (S : String → Prop) (hS : ∀ s, IcyOwn s → S s) :
    ∀ (cs : List (String × Bytes × Foreign)) (st : IcySt), (∀ c ∈ cs, (foreign c.2.2).SatS S (fun _ => True)) →
      (icyChunks cs st).SatS S (fun _ => True) := by
  intro cs
  induction cs with
  | nil => intro st _; unfold icyChunks; exact True.intro
  | cons c rest ih =>
    intro st hf
    obtain ⟨kw, d, f⟩ := c
    unfold icyChunks
    apply SatS.bind (icyChunk_sat S hS kw d f st (hf (kw, d, f) (List.mem_cons_self ..))); intro r _
    split
    · exact True.intro
    · exact ih _ (fun c hc => hf c (List.mem_cons_of_mem _ hc))

theorem foreign_own (f : Foreign) (hf : f ≠ .panic) : (foreign f).SatS IcyOwn (fun _ => True) := by
  cases f
  · exact True.intro
  · exact True.intro
  · exact absurd rfl hf

theorem foreign_site (f : Foreign) : (foreign f).SatS IcySite (fun _ => True) := by
  cases f
  · exact True.intro
  · exact True.intro
  · exact Or.inr rfl

/-- the only panic-like outcome of the clipboard model: the abort of `char::from_u32_unchecked` on a
    surrogate code unit, present only while the source still has the unchecked conversion -/
def ClipSite (s : String) : Prop := clipCharUnchecked = true ∧ s = sClipAbort

theorem clipCells_sat (d : Bytes) : ∀ (n off : Nat), off + 14 * n ≤ d.size → (clipCells d n off).SatS ClipSite (fun _ => True) := by
  intro n
  induction n with
  | zero => intro off h; exact True.intro
  | succ n ih =>
    intro off h
    unfold clipCells
    apply SatS.bind_sat (rdU16_sat (by omega)); intro ch _
    apply SatS.bind_sat (rd_sat (by omega)); intro _ _
    refine SatS.ite (fun hs => ⟨by simpa using hs.1, rfl⟩) (fun _ => ?_)
    apply SatS.bind_sat (slice_sat (by omega)); intro _ _
    exact ih _ (by omega)

theorem loadClip_sat (d : Bytes) : (loadClip d).SatS ClipSite (fun _ => True) := by
  unfold loadClip
  refine SatS.guard (fun hlen => ?_)
  apply SatS.bind_sat (rd_sat (by omega)); intro t _
  refine SatS.guard (fun _ => ?_)
  apply SatS.bind_sat (rdU32_sat (by omega)); intro x _
  apply SatS.bind_sat (rdU32_sat (by omega)); intro y _
  apply SatS.bind_sat (rdU32_sat (by omega)); intro w _
  apply SatS.bind_sat (rdU32_sat (by omega)); intro h _
  apply SatS.bind_sat (slice_sat (by omega)); intro _ _
  refine SatS.guard (fun hc => ?_)
  have hc' : ¬ ((d.size - 17) / 14 < w * h) := fun a => hc (Or.inr (Or.inr a))
  have hcells : 14 * (w * h) ≤ d.size - 17 := by
    have := Nat.div_mul_le_self (d.size - 17) 14
    have h3 : w * h ≤ (d.size - 17) / 14 := by omega
    have := Nat.mul_le_mul_right 14 h3
    omega
  apply SatS.bind (clipCells_sat d (w * h) 17 (by omega)); intro _ _
  exact True.intro

end IcyVerif.Loaders
