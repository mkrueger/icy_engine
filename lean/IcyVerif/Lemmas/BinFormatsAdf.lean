import IcyVerif.Lemmas.BinFormatsSauce
import IcyVerif.Lemmas.PaletteBridge
/-!
# C05, ArtWorx ADF: save → load reproduces every representable picture (with and without a SAUCE record)

`adfSave_ok_iff` is the one place that follows `adfSave` (with a record: `adfSave_eq`).
-/
namespace IcyVerif.BinFormats
open IcyVerif.XbCompress IcyVerif.Gen

theorem adf_load (p : Pic) (f0 : Font) (s : Option Sauce.Sauce)
    (hs : ∀ s', s = some s' → s'.width = 80)
    (hwf : wellFormed p = true) (hw : p.w = 80) (hcells : allCells p (attrCell true) = true)
    (hpal : pal16 p.pal = true) (hpages : analyzeFontUsage p.rows.flatten = [0]) (hfd : f0.data.length = 4096) :
    adfLoad (BinFmt.adfVersion :: (toEgaData p.pal ++ (f0.data ++
        p.rows.flatMap (fun row => row.flatMap fun c => [c.ch, asU8 .ice c.attr])))) s =
      .ok (shownBuf p 80 .ice p.pal [(0, mkFont 16 f0.data)] (s.map metaOf)) := by
  obtain ⟨hpl, hp6⟩ := pal16_parts _ hpal
  have hdec : ∀ r ∈ p.rows, ∀ c ∈ r, (⟨c.ch, fromU8 true (asU8 .ice c.attr)⟩ : Cell) = shownCell c := fun r hr c hc =>
    dec_ice c (allCells_mem hcells hr hc) (page_zero p.rows hpages r hr c hc)
  have hc : (BinFmt.adfClearsRows == 1) = true := by decide
  have hstart : ∃ (bh0 lh0 : Int) (ic : IceMode) (fs : List (Nat × Font)),
      (LBuf.start BinFmt.adfStartW BinFmt.adfStartH (BinFmt.adfClearsRows == 1)).setSauce true s =
      { bw := 80, bh := bh0, lw := 80, lh := lh0, lines := [], ice := ic, pal := dosPalette, fonts := fs, sauce := s.map metaOf } := by
    cases s with
    | none => rw [hc, start_setSauce_none]; exact ⟨_, _, _, _, rfl⟩
    | some s' =>
      have hw' := hs s' rfl
      rw [hc, start_setSauce _ _ s' (by omega) (by omega), hw']
      exact ⟨_, _, _, _, rfl⟩
  obtain ⟨bh0, lh0, ic, fs, hst⟩ := hstart
  generalize hrest : toEgaData p.pal ++ (f0.data ++ p.rows.flatMap (fun row => row.flatMap fun c => [c.ch, asU8 .ice c.attr])) = rest
  have hrlen : rest.length ≥ 4288 := by
    rw [← hrest]; simp only [List.length_append, toEgaData_length, hfd]; omega
  unfold adfLoad
  rw [hst]
  have hlen : ¬ ((BinFmt.adfVersion :: rest).length < BinFmt.adfHeaderLength) := by
    have : BinFmt.adfHeaderLength = 4289 := rfl
    simp only [List.length_cons, this]; omega
  simp only [hlen, if_false, ne_eq, not_true_eq_false]
  have hps : BinFmt.adfPaletteSize = 192 := rfl
  have hfs : BinFmt.adfFontSize = 4096 := rfl
  have ht1 : rest.take BinFmt.adfPaletteSize = toEgaData p.pal := by
    rw [← hrest]; exact List.take_left' (by rw [toEgaData_length, hps])
  have hd1 : rest.drop BinFmt.adfPaletteSize =
      f0.data ++ p.rows.flatMap (fun row => row.flatMap fun c => [c.ch, asU8 .ice c.attr]) := by
    rw [← hrest]; exact List.drop_left' (by rw [toEgaData_length, hps])
  rw [ht1, hd1, List.take_left' (by rw [hfd, hfs]), List.drop_left' (by rw [hfd, hfs]), fromEga_toEga p.pal hpl hp6,
    flatMap_rows, pairsOf_flat, map_dec_enc p.rows (fun c => (c.ch, asU8 .ice c.attr)) _ hdec]
  have hplace := placeAll_shown true false p hwf (by omega)
    ({ bw := 80, bh := bh0, lw := 80, lh := lh0, lines := [], ice := IceMode.ice, pal := p.pal, fonts := [(0, mkFont 16 f0.data)],
       sauce := s.map metaOf } : LBuf) rfl (by rw [hw]; exact Nat.le_refl _) (Or.inl rfl)
  rw [hw] at hplace
  simp only [show BinFmt.adfWidth = 80 from rfl]
  rw [hplace, crop_shown p hwf (by omega) 80 _ rfl]
  simp [shownBuf, hw]

theorem adfSave_eq (s : Bool) (date : List Nat) (p : Pic) :
    adfSave s date p = withSauce s .ansi p date (adfSave false date p) := by
  show Sauces s .ansi p date _ _
  unfold adfSave
  refine .ite .err (.ite .err (.ite .err (.ite .err ?_)))
  cases lookupFont p.fonts ((analyzeFontUsage p.rows.flatten).headD 0) with
  | none => exact .err
  | some font => exact .ite .err (.ite .err (.leaf _))

theorem adfSave_ok_iff (date : List Nat) (p : Pic) (body : List Nat) :
    adfSave false date p = .ok body ↔
      p.ice = .ice ∧ p.w = BinFmt.adfWidth ∧ p.pal.length = 16 ∧ (analyzeFontUsage p.rows.flatten).length ≤ 1 ∧
      ∃ font, lookupFont p.fonts ((analyzeFontUsage p.rows.flatten).headD 0) = some font ∧ font.height = 16 ∧
        rowsFit8 p.rows = true ∧
        body = [BinFmt.adfVersion] ++ toEgaData p.pal ++ font.data ++
          p.rows.flatMap (fun row => row.flatMap fun c => [c.ch, asU8 .ice c.attr]) := by
  unfold adfSave
  dsimp only
  cases lookupFont p.fonts ((analyzeFontUsage p.rows.flatten).headD 0) <;>
    simp only [ok_ite_err_iff, bne_iff_ne, ne_eq, Decidable.not_not, Nat.not_lt, Bool.not_eq_true', Bool.not_eq_false, Bool.false_eq_true, if_false,
      Out.ok.injEq, reduceCtorEq, and_false, false_and, exists_false, Option.some.injEq, exists_eq_left', eq_comm (a := body)]

theorem adf_roundtrip (o : Opts) (date : List Nat) (p : Pic) (hrep : Representable .adf o p = true) (hdate : dateOk date = true) :
    ∃ bytes, save .adf o date p = .ok bytes ∧
      ((o.sauce = true ∨ tailReadsAsSauce bytes = false) → ∃ g, fromBytes .adf bytes = .ok g ∧ SamePicture .adf p g) := by
  obtain ⟨hmeta, hw, hh, f0, hwf, hice, hcells, hpal, hpages, hf, hf16, hfd⟩ := (representable_adf o p).mp hrep
  have hpl : p.pal.length = 16 := (pal16_parts _ hpal).1
  let cellBytes := p.rows.flatMap (fun row => row.flatMap fun c => [c.ch, asU8 .ice c.attr])
  let body := [BinFmt.adfVersion] ++ toEgaData p.pal ++ f0.data ++ cellBytes
  have hbody : body = BinFmt.adfVersion :: (toEgaData p.pal ++ (f0.data ++ cellBytes)) := by
    simp [body, List.append_assoc]
  have hsave0 : adfSave o.sauce date p = if o.sauce then writeSauce .ansi p date body else .ok body := by
    rw [adfSave_eq, (adfSave_ok_iff date p body).mpr ⟨hice, hw, hpl, by rw [hpages]; decide, f0, by rw [hpages]; exact hf, hf16,
      fits8_of_cells p true hcells, rfl⟩]
    rfl
  have hsame : ∀ m, SamePicture .adf p (shownBuf p 80 .ice p.pal [(0, mkFont 16 f0.data)] m) := fun m =>
    samePicture_shown .adf p 80 .ice _ m hwf (hw ▸ Nat.le_refl _) (by rw [hice]) fun _ => fontsSame_font16 p _ f0 hpages hf hf16 rfl
  have hload : ∀ s, (∀ s', s = some s' → s'.width = 80) → ∃ g, loadBody .adf body s = .ok g ∧ SamePicture .adf p g := fun s hs =>
    ⟨_, hbody ▸ adf_load p f0 s hs hwf hw hcells hpal hpages hfd, hsame _⟩
  refine roundtrip_of_body .adf .ansi o date p body hsave0 hmeta hdate
    (fun _ => ⟨f0, hf, nofun, fun hl => hload _ ?_⟩) (fun _ => hload none nofun)
  intro s' hs'
  cases hs'
  rw [show SauceKind.ansi.idx = 2 from rfl, (IcyVerif.C11.carry_ansi 2 (by decide) (bufInfo p f0.name) hl).1]
  show p.w % 65536 = 80
  rw [hw]

/-- what `tailReadsAsSauce` looks at in a file without a record is picture content -/
theorem adfSave_tail (date : List Nat) (p : Pic) :
    EndsIn (p.rows.flatMap (fun row => row.flatMap fun c => [c.ch, asU8 .ice c.attr])) (adfSave false date p) := fun b h => by
  obtain ⟨_, _, _, _, font, _, _, _, rfl⟩ := (adfSave_ok_iff date p b).mp h
  exact ⟨_, rfl⟩

end IcyVerif.BinFormats
