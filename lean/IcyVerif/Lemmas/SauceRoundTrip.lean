import IcyVerif.Lemmas.SauceExtract
/-! C11: what `write_sauce_info` writes, read back by `extract`: the record through `sauceLayout` (`recordVals`), the comment
    block, and the per-variant interpretation = what the variant can carry. -/
namespace IcyVerif.Sauce
open IcyVerif.Gen.Sauce

/-- the strings handed to the writer fit their fields (an invariant of `SauceString::from`) -/
structure Valid (b : BufInfo) : Prop where
  title : (b.sauce.getD {}).title.length ≤ titleLen
  author : (b.sauce.getD {}).author.length ≤ authorLen
  group : (b.sauce.getD {}).group.length ≤ groupLen
  comments : ∀ c ∈ (b.sauce.getD {}).comments, c.length ≤ commentLen

/-- raw fields a record written by `write_sauce_info` holds, as `read` returns them -/
def writtenHeader (a : WArm) (ft : Nat) (b : BufInfo) (nc : Nat) : Header :=
  let m := b.sauce.getD {}
  { title := carryPad titleLen titlePad m.title, author := carryPad authorLen authorPad m.author,
    group := carryPad groupLen groupPad m.group, dataType := a.dataType, fileType := ft,
    t1 := if a.w1 then b.width % 65536 else 0, t2 := if a.h2 then b.height % 65536 else 0,
    nComments := nc, flags := flagBits a b,
    tinfo := carryNul (strFrom tinfoLen (if a.font then b.fontName else [])) }

theorem le16_val (n : Nat) (h : n < 65536) : n % 256 + n / 256 % 256 * 256 = n := Basics.le16_val n h

/-- what `write_sauce_info` puts into the fields of `sauceLayout` -/
def recordVals (a : WArm) (ft : Nat) (b : BufInfo) (date : List Nat) (fileSize nc : Nat) : List Val :=
  let m := b.sauce.getD {}
  [.bytes sauceId, .bytes versionWrite, .bytes m.title, .bytes m.author, .bytes m.group, .bytes date, .bytes (le32 fileSize),
   .num a.dataType, .num ft, .num (if a.w1 then b.width % 65536 else 0), .num (if a.h2 then b.height % 65536 else 0),
   .bytes (le16 0), .bytes (le16 0), .num nc, .num (flagBits a b),
   .bytes (strFrom tinfoLen (if a.font then b.fontName else []))]

theorem recordBytes_eq (a : WArm) (ft : Nat) (b : BufInfo) (date : List Nat) (fileSize nc : Nat) :
    recordBytes a ft b date fileSize nc = encFields sauceLayout (recordVals a ft b date fileSize nc) := by
  simp only [recordBytes, recordVals, sauceLayout, encFields, Fld.enc, List.append_assoc, List.cons_append, List.nil_append,
    List.append_nil]

theorem recordVals_fits (a : WArm) (ft : Nat) {b : BufInfo} (hv : Valid b) {date : List Nat} (hd : date.length = dateLen)
    (fileSize nc : Nat) : FitsAll sauceLayout (recordVals a ft b date fileSize nc) :=
  ⟨rfl, rfl, hv.title, hv.author, hv.group, hd, rfl, trivial, trivial, trivial, trivial, rfl, rfl, trivial, trivial,
    by show (List.take _ _).length ≤ _; rw [List.length_take]; omega, trivial⟩

theorem recordBytes_length (a : WArm) (ft : Nat) (b : BufInfo) (hv : Valid b) (date : List Nat)
    (hd : date.length = dateLen) (fileSize nc : Nat) : (recordBytes a ft b date fileSize nc).length = sauceLen := by
  rw [recordBytes_eq, (decFields_enc _ _ (recordVals_fits a ft hv hd fileSize nc) []).2]
  rfl

theorem headerOf_record (dateOk : List Nat → Bool) (a : WArm) (ft : Nat) (b : BufInfo) (hv : Valid b)
    (date : List Nat) (hd : date.length = dateLen) (hok : dateOk date = true) (fileSize nc : Nat) :
    headerOf dateOk (decFields sauceLayout (recordBytes a ft b date fileSize nc)) = .ok (some (writtenHeader a ft b nc)) := by
  rw [recordBytes_eq, ← List.append_nil (encFields _ _), (decFields_enc _ _ (recordVals_fits a ft hv hd fileSize nc) []).1]
  -- the two 16-bit numbers are written already reduced mod 2^16
  have e : ∀ (c : Bool) (n : Nat), (if c then n % 65536 else 0) % 65536 = if c then n % 65536 else 0 :=
    fun c n => by split <;> omega
  simp only [sauceLayout, recordVals, carriedAll, Fld.carried, headerOf, bytesAt, numAt, List.getD_cons_zero,
    List.getD_cons_succ, Val.toBytes, Val.toNum, hok, e, writtenHeader]
  rfl

/-- the padded comment lines, one after the other -/
def commentLines (cs : List (List Nat)) : List Nat := cs.flatMap (fun c => strAppend commentLen commentPad c [])

theorem foldl_strAppend (cs : List (List Nat)) (init : List Nat) :
    cs.foldl (fun v c => strAppend commentLen commentPad c v) init = init ++ commentLines cs := by
  induction cs generalizing init with
  | nil => simp [commentLines]
  | cons c cs ih =>
    simp only [List.foldl_cons, ih, commentLines, List.flatMap_cons]
    rw [strAppend_eq]; simp

theorem commentBlock_eq (cs : List (List Nat)) :
    commentBlock cs = if cs.isEmpty then [] else commentId ++ commentLines cs := by
  simp only [commentBlock, foldl_strAppend]

theorem commentLines_length (cs : List (List Nat)) (h : ∀ c ∈ cs, c.length ≤ commentLen) :
    (commentLines cs).length = cs.length * 64 := by
  induction cs with
  | nil => rfl
  | cons c cs ih =>
    have := strAppend_nil_length (pad := commentPad) (h c (by simp))
    simp only [commentLines, List.flatMap_cons, List.length_append, this] at ih ⊢
    rw [ih (fun c hc => h c (by simp [hc]))]
    simp only [commentLen, List.length_cons]; omega

theorem commentsAt_written (cs : List (List Nat)) (h : ∀ c ∈ cs, c.length ≤ commentLen) (pre rest : List Nat) :
    commentsAt (pre ++ (commentLines cs ++ rest)) cs.length pre.length = cs.map carryNul := by
  induction cs generalizing pre with
  | nil => rfl
  | cons c cs ih =>
    have hc := h c (by simp)
    have hl := strAppend_nil_length (pad := commentPad) hc
    have := ih (fun c hc => h c (by simp [hc])) (pre ++ strAppend commentLen commentPad c [])
    rw [List.length_append, hl, List.append_assoc] at this
    simp only [List.length_cons, commentsAt, commentLines, List.flatMap_cons, List.append_assoc, List.map_cons,
      List.drop_left, strVal_append hc] at this ⊢
    rw [if_pos (show commentPad = 0 from rfl), this]

theorem commentsOf_block (pre lines record : List Nat) (n : Nat) (hn : n ≠ 0) (hl : lines.length = n * commentLen)
    (hr : record.length = sauceLen) :
    commentsOf (pre ++ (commentId ++ (lines ++ record))) n =
      .ok (commentsAt (pre ++ (commentId ++ (lines ++ record))) n (pre ++ commentId).length, pre.length) := by
  unfold commentsOf
  have hlen : (pre ++ (commentId ++ (lines ++ record))).length =
      pre.length + (commentId.length + (n * commentLen + sauceLen)) := by
    simp only [List.length_append, hl, hr]
  rw [hlen, if_neg hn]
  generalize n * commentLen = L
  generalize hI : commentId.length = I
  have a1 : pre.length + (I + (L + sauceLen)) - sauceLen - L - I = pre.length := by omega
  have a2 : pre.length + (I + (L + sauceLen)) - sauceLen - L = pre.length + I := by omega
  have a3 : ¬ pre.length + (I + (L + sauceLen)) - sauceLen < L + I := by omega
  rw [if_neg a3, a1, a2, List.drop_left, ← hI, List.take_left, if_neg (fun h => h rfl), List.length_append]

theorem commentsOf_written (content : List Nat) (cs : List (List Nat)) (hcs : ∀ c ∈ cs, c.length ≤ commentLen)
    (record : List Nat) (hr : record.length = sauceLen) :
    commentsOf (content ++ [eofByte] ++ commentBlock cs ++ record) cs.length =
      .ok (cs.map carryNul, content.length + 1) := by
  rw [commentBlock_eq]
  cases cs with
  | nil =>
    rw [commentsOf, if_pos List.length_nil, if_pos List.isEmpty_nil, List.append_nil, List.length_append, hr,
      Nat.add_sub_cancel, List.length_append]
    rfl
  | cons c cs =>
    have e : content ++ [eofByte] ++ (commentId ++ commentLines (c :: cs)) ++ record =
        (content ++ [eofByte]) ++ (commentId ++ (commentLines (c :: cs) ++ record)) := by simp only [List.append_assoc]
    rw [if_neg (by simp), e, commentsOf_block (content ++ [eofByte]) _ record (c :: cs).length (by simp)
      (commentLines_length _ hcs) hr, ← List.append_assoc, commentsAt_written _ hcs, List.length_append]
    rfl

/-- the `file_type` byte the writer arm `a` produces -/
def fileTypeOf (a : WArm) (b : BufInfo) : Nat :=
  match a.fileType with
  | some ft => ft
  | none => b.width / 2

theorem flags_eval (i a l : Bool) :
    (((if i then flagNonBlink else 0) ||| (if a then arStretch else 0) ||| (if l then ls9px else 0)) &&& flagNonBlink == flagNonBlink) = i ∧
    (((if i then flagNonBlink else 0) ||| (if a then arStretch else 0) ||| (if l then ls9px else 0)) &&& maskLetterSpacing == ls9px) = l ∧
    (((if i then flagNonBlink else 0) ||| (if a then arStretch else 0) ||| (if l then ls9px else 0)) &&& maskAspectRatio == arStretch) = a := by
  cases i <;> cases a <;> cases l <;> decide

theorem flagBits_spec (a : WArm) (b : BufInfo) :
    (flagBits a b &&& flagNonBlink == flagNonBlink) = (a.ice && b.ice) ∧
    (flagBits a b &&& maskLetterSpacing == ls9px) = (a.ls && (b.sauce.getD {}).ls) ∧
    (flagBits a b &&& maskAspectRatio == arStretch) = (a.ar && (b.sauce.getD {}).ar) := by
  simp only [flagBits, ← Bool.and_eq_true]
  exact flags_eval _ _ _

theorem interpret_carry (k : Nat) (hk : k < 9) (b : BufInfo) (hbin : (writerArm k).fileType = none → b.width / 2 ≤ 255)
    (hl : Nat) :
    interpret (writtenHeader (writerArm k) (fileTypeOf (writerArm k) b) b (b.sauce.getD {}).comments.length)
      ((b.sauce.getD {}).comments.map carryNul) hl = carry k b hl := by
  have hk' : k = 0 ∨ k = 1 ∨ k = 2 ∨ k = 3 ∨ k = 4 ∨ k = 5 ∨ k = 6 ∨ k = 7 ∨ k = 8 := by omega
  obtain ⟨f1, f2, f3⟩ := flagBits_spec (writerArm k) b
  simp only [interpret, writtenHeader, f1, f2, f3]
  rcases hk' with rfl | rfl | rfl | rfl | rfl | rfl | rfl | rfl | rfl
  -- both sides evaluate on the generated arm tables; in the BinaryText arm (`k = 7`) the width stored as `width / 2` comes
  -- back doubled mod 2^16, which `hbin` makes exact
  case inr.inr.inr.inr.inr.inr.inr.inl =>
    have : b.width / 2 * 2 % 65536 = b.width / 2 * 2 := by have := hbin rfl; omega
    show ({ width := if _ then _ else if _ then b.width / 2 * 2 % 65536 else _, .. } : Sauce) = _
    rw [this]
    rfl
  all_goals rfl


theorem writeSauce_ok {k : Nat} {b : BufInfo} {date : List Nat} {fileSize : Nat} {tail : List Nat}
    (h : writeSauce k b date fileSize = .ok tail) :
    (b.sauce.getD {}).comments.length ≤ commentLimit ∧
    ((writerArm k).fileType = none → b.width / 2 ≤ 255) ∧
    tail = commentBlock (b.sauce.getD {}).comments ++
      recordBytes (writerArm k) (fileTypeOf (writerArm k) b) b date fileSize (b.sauce.getD {}).comments.length := by
  simp only [writeSauce] at h
  split at h
  · cases h
  rename_i hc
  refine ⟨by omega, ?_⟩
  simp only [fileTypeOf]
  split at h
  · rename_i ft hft
    exact ⟨by simp [hft], by rw [hft]; exact (Res.ok.inj h).symm⟩
  · rename_i hft
    split at h
    · cases h
    · rename_i hw
      exact ⟨fun _ => by omega, by rw [hft]; exact (Res.ok.inj h).symm⟩

/-- the two length facts are what the cut `bytes[..len - sauce_header_len]` needs -/
theorem writeSauceInfo_ok {k : Nat} {b : BufInfo} {date content bytes : List Nat}
    (hw : writeSauceInfo k b date content = .ok bytes) :
    ∃ fileSize tail, writeSauce k b date fileSize = .ok tail ∧ bytes = content ++ [eofByte] ++ tail ∧
      bytes.length - content.length = tail.length + 1 ∧ bytes.length - (tail.length + 1) = content.length := by
  obtain ⟨tail, h1, h2⟩ := bind_eq_ok hw
  cases h2
  refine ⟨_, tail, h1, rfl, ?_, ?_⟩ <;> (simp only [List.length_append, List.length_cons, List.length_nil]; omega)

theorem extract_writeSauce (dateOk : List Nat → Bool) {k : Nat} (hk : k < 9) {b : BufInfo} (hv : Valid b) {date : List Nat}
    (hd : date.length = dateLen) (hok : dateOk date = true) {fileSize : Nat} {tail : List Nat}
    (hw : writeSauce k b date fileSize = .ok tail) (content : List Nat) :
    extract dateOk (content ++ [eofByte] ++ tail) = .ok (some (carry k b (tail.length + 1))) := by
  obtain ⟨hc, hbin, ht⟩ := writeSauce_ok hw
  generalize hcs : (b.sauce.getD {}).comments = cs at *
  subst ht
  have hrl := recordBytes_length (writerArm k) (fileTypeOf (writerArm k) b) b hv date hd fileSize cs.length
  have hh := headerOf_record dateOk (writerArm k) (fileTypeOf (writerArm k) b) b hv date hd hok fileSize cs.length
  generalize recordBytes (writerArm k) (fileTypeOf (writerArm k) b) b date fileSize cs.length = record at hrl hh ⊢
  rw [← List.append_assoc, extract_eq, extractOf, List.length_append, hrl, if_neg (by omega), Nat.add_sub_cancel,
    List.drop_left, hh, bind_ok]
  simp only []
  rw [show (writtenHeader (writerArm k) (fileTypeOf (writerArm k) b) b cs.length).nComments = cs.length from rfl,
    commentsOf_written content cs (by rw [← hcs]; exact hv.comments) _ hrl, bind_ok, ← hcs, ← interpret_carry k hk b hbin]
  simp only [List.length_append, List.length_cons, List.length_nil, hrl, show eofLen = 1 from rfl]
  congr 3
  omega

end IcyVerif.Sauce
