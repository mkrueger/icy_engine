import IcyVerif.Model.XbCompress
/-!
# C06: the run-builder lemma for XBin compression

For ANY end-of-run decision that fires whenever it is forced to (`Forced`), the row loop emits the serialisation of well-formed
runs (`Run.ok`) standing for exactly the row's cells (`run_builder_sound`); the specification decoder reads such a serialisation
back and stops at the row end; the heuristic of `compress_backtrack`, whatever its look-ahead computes, is such a decision.
-/
namespace IcyVerif.XbCompress
open IcyVerif.Gen

/-- the data bytes that follow the repeat-counter byte -/
def Run.payload (r : Run) : List Nat :=
  match r.mode with
  | .off => r.cells.flatMap fun c => [c.1, c.2]
  | .chr => r.head.1 :: r.cells.map (·.2)
  | .att => r.head.2 :: r.cells.map (·.1)
  | .full => [r.head.1, r.head.2]

def Run.ser (r : Run) : List Nat := (r.mode.code ||| r.rest.length) :: r.payload

/-- at most 64 cells, and the cells are uniform in the way the run type claims -/
def Run.ok (r : Run) : Prop :=
  r.rest.length < 64 ∧
  match r.mode with
  | .off => True
  | .chr => ∀ c ∈ r.rest, c.1 = r.head.1
  | .att => ∀ c ∈ r.rest, c.2 = r.head.2
  | .full => ∀ c ∈ r.rest, c = r.head

theorem Run.len_pos (r : Run) : 1 ≤ r.len := by unfold Run.len; omega
theorem Run.ok_len (r : Run) (h : r.ok) : r.len ≤ 64 := by unfold Run.len; have := h.1; omega
theorem Run.cells_length (r : Run) : r.cells.length = r.len := by simp [Run.cells, Run.len]

theorem runLimit_eq : Xb.runLimit = 64 := rfl

theorem codes_distinct : Xb.compChar ≠ Xb.compOff ∧ Xb.compAttr ≠ Xb.compOff ∧ Xb.compAttr ≠ Xb.compChar ∧
    Xb.compFull ≠ Xb.compOff ∧ Xb.compFull ≠ Xb.compChar ∧ Xb.compFull ≠ Xb.compAttr := by decide

/-- the repeat-counter byte of a run of `n + 1` cells as both decoders split it: type in the two high bits, `n` below -/
theorem hdr (m : Mode) : ∀ n, n < 64 →
    (m.code ||| n) / 64 = (match m with | .off => 0 | .chr => 1 | .att => 2 | .full => 3) ∧ (m.code ||| n) % 64 = n ∧
    (m.code ||| n) &&& Xb.readTypeMask = m.code ∧ (m.code ||| n) &&& Xb.readCountMask = n := by
  cases m <;> decide

theorem takeN_append (xs tl : List Nat) : takeN xs.length (xs ++ tl) = some (xs, tl) := by
  induction xs with
  | nil => simp [takeN]
  | cons x xs ih => simp [takeN, ih]

theorem takePairs_flat (cs : List (Nat × Nat)) (tl : List Nat) :
    takePairs cs.length (cs.flatMap (fun c => [c.1, c.2]) ++ tl) = some (cs, tl) := by
  induction cs with
  | nil => simp [takePairs]
  | cons c cs ih => simp [takePairs, ih]

theorem map_fst_const (h : Nat) (l : List (Nat × Nat)) (hl : ∀ c ∈ l, c.1 = h) :
    (l.map (·.2)).map (fun a' => (h, a')) = l := by
  rw [List.map_map]
  exact (List.map_congr_left fun c hc => by rw [← hl c hc]; rfl).trans (List.map_id l)

theorem map_snd_const (h : Nat) (l : List (Nat × Nat)) (hl : ∀ c ∈ l, c.2 = h) :
    (l.map (·.1)).map (fun c' => (c', h)) = l := by
  rw [List.map_map]
  exact (List.map_congr_left fun c hc => by rw [← hl c hc]; rfl).trans (List.map_id l)

theorem parseRun_ser (r : Run) (hr : r.ok) (tl : List Nat) : parseRun (r.ser ++ tl) = some (r, tl) := by
  obtain ⟨m, hd, rest⟩ := r
  obtain ⟨hlen, hm⟩ := hr
  simp only at hlen hm
  cases m with
  | off =>
    obtain ⟨h1, h2, _, _⟩ := hdr .off rest.length hlen
    have := takePairs_flat (hd :: rest) tl
    simp only [List.length_cons] at this
    simp only [Run.ser, Run.payload, Run.cells, List.cons_append, parseRun, h1, h2, if_true, this]
  | chr =>
    obtain ⟨h1, h2, _, _⟩ := hdr .chr rest.length hlen
    have := takeN_append ((hd :: rest).map (·.2)) tl
    simp only [List.length_map, List.length_cons] at this
    have hmap := map_fst_const hd.1 rest hm
    simp only [Run.ser, Run.payload, Run.cells, List.cons_append, parseRun, h1, h2, this]
    simp [hmap]
  | att =>
    obtain ⟨h1, h2, _, _⟩ := hdr .att rest.length hlen
    have := takeN_append ((hd :: rest).map (·.1)) tl
    simp only [List.length_map, List.length_cons] at this
    have hmap := map_snd_const hd.2 rest hm
    simp only [Run.ser, Run.payload, Run.cells, List.cons_append, parseRun, h1, h2, this]
    simp [hmap]
  | full =>
    obtain ⟨h1, h2, _, _⟩ := hdr .full rest.length hlen
    have hrep := (List.eq_replicate_of_mem hm).symm
    simp only [Run.ser, Run.payload, List.cons_append, parseRun, h1, h2]
    simp [hrep]

theorem expand_cons (r : Run) (rs : List Run) : expand (r :: rs) = r.cells ++ expand rs := by
  simp [expand]

theorem expand_append (a b : List Run) : expand (a ++ b) = expand a ++ expand b := by
  simp [expand]

theorem parseRow_sers (runs : List Run) (hok : ∀ r ∈ runs, r.ok) (tl : List Nat) :
    ∀ fuel, (expand runs).length ≤ fuel →
      parseRow fuel (expand runs).length (runs.flatMap Run.ser ++ tl) = some (runs, tl) := by
  induction runs with
  | nil => intro fuel _; cases fuel <;> simp [expand, parseRow]
  | cons r rs ih =>
    intro fuel hf
    have hr := hok r (by simp)
    have hrs : ∀ r ∈ rs, r.ok := fun r' h' => hok r' (by simp [h'])
    have hlen : (expand (r :: rs)).length = r.len + (expand rs).length := by
      simp [expand_cons, Run.cells_length]
    have hpos := r.len_pos
    rw [hlen] at hf ⊢
    obtain ⟨f, rfl⟩ : ∃ f, fuel = f + 1 := ⟨fuel - 1, by omega⟩
    obtain ⟨n, hn⟩ : ∃ n, r.len + (expand rs).length = n + 1 := ⟨r.len + (expand rs).length - 1, by omega⟩
    have hp : parseRun (r.ser ++ (rs.flatMap Run.ser ++ tl)) = some (r, rs.flatMap Run.ser ++ tl) :=
      parseRun_ser r hr _
    have hsub : n + 1 - r.len = (expand rs).length := by omega
    have hle : r.len ≤ n + 1 := by omega
    have ih' := ih hrs f (by omega)
    rw [hn]
    simp only [List.flatMap_cons, List.append_assoc, parseRow, hp, hle, if_true, hsub, ih']

theorem parseImage_rows (w : Nat) (rows : List (List Run)) (hok : ∀ rs ∈ rows, ∀ r ∈ rs, r.ok)
    (hw : ∀ rs ∈ rows, (expand rs).length = w) (tl : List Nat) :
    parseImage w rows.length (rows.flatMap (fun rs => rs.flatMap Run.ser) ++ tl) = some (rows, tl) := by
  induction rows with
  | nil => simp [parseImage]
  | cons rs rows ih =>
    have h1 := hw rs (by simp)
    have hrow := parseRow_sers rs (hok rs (by simp)) (rows.flatMap (fun rs => rs.flatMap Run.ser) ++ tl) w (by omega)
    rw [h1] at hrow
    have ih' := ih (fun a ha => hok a (by simp [ha])) (fun a ha => hw a (by simp [ha]))
    simp only [List.length_cons, List.flatMap_cons, List.append_assoc, parseImage, hrow, ih']

/-- the decision function fires whenever the open run cannot take the current cell -/
def Forced (enc : Attr → Nat) (dec : Decision) : Prop :=
  ∀ (mode : Mode) (runCh : Cell) (count : Nat) (row : List Cell) (x : Nat), x < row.length → 0 < count →
    (64 ≤ count ∨
     (mode = .chr ∧ (getChar row x).ch ≠ runCh.ch) ∨
     (mode = .att ∧ enc (getChar row x).attr ≠ enc runCh.attr) ∨
     (mode = .full ∧ encCell enc (getChar row x) ≠ encCell enc runCh)) →
    dec mode runCh count row x = true

/-- loop invariant before column `x`: the closed part of the output is a list of well-formed runs, the open run
    (if any) is well-formed and `run_buf` is its payload, and together they cover exactly the first `x` cells -/
def Good (enc : Attr → Nat) (row : List Cell) (x : Nat) (s : St) : Prop :=
  ∃ (runs : List Run) (rs : List (Nat × Nat)),
    s.out = runs.flatMap Run.ser ∧ (∀ r ∈ runs, r.ok) ∧
    ((s.count = 0 ∧ expand runs = (row.take x).map (encCell enc)) ∨
     (s.count = rs.length + 1 ∧
      Run.ok ⟨s.mode, encCell enc s.runCh, rs⟩ ∧
      s.buf = Run.payload ⟨s.mode, encCell enc s.runCh, rs⟩ ∧
      expand runs ++ (encCell enc s.runCh :: rs) = (row.take x).map (encCell enc)))

theorem take_succ_map (enc : Attr → Nat) (row : List Cell) (x : Nat) (hx : x < row.length) :
    (row.take (x + 1)).map (encCell enc) = (row.take x).map (encCell enc) ++ [encCell enc (getChar row x)] := by
  have : getChar row x = row[x] := by
    unfold getChar
    simp [List.getD, List.getElem?_eq_getElem hx]
  rw [this, List.take_add_one, List.getElem?_eq_getElem hx]
  simp only [Option.toList_some, List.map_append, List.map_cons, List.map_nil]

theorem fresh_payload (m : Mode) (c : Nat × Nat) :
    Run.payload ⟨m, c, []⟩ = if m = .att then [c.2, c.1] else [c.1, c.2] := by
  cases m <;> simp [Run.payload, Run.cells]

theorem fresh_ok (m : Mode) (c : Nat × Nat) : Run.ok ⟨m, c, []⟩ := by
  unfold Run.ok; cases m <;> simp

theorem step_first (enc : Attr → Nat) (dec : Decision) (row : List Cell) (s : St) (x : Nat) (hc : s.count = 0) :
    step enc dec row s x =
      { s with mode := pickMode row x (getChar row x) (if x + 1 < row.length then getChar row (x + 1) else Cell.dflt),
               buf := if pickMode row x (getChar row x) (if x + 1 < row.length then getChar row (x + 1) else Cell.dflt) = .att
                      then [enc (getChar row x).attr, (getChar row x).ch]
                      else [(getChar row x).ch, enc (getChar row x).attr],
               runCh := getChar row x, count := 0 + 1 } := by
  simp [step, hc]

theorem good_open (enc : Attr → Nat) (dec : Decision) (row : List Cell) (x : Nat) (hx : x < row.length)
    (runs : List Run) (hok : ∀ r ∈ runs, r.ok) (hcells : expand runs = (row.take x).map (encCell enc))
    (s : St) (hout : s.out = runs.flatMap Run.ser) (hc : s.count = 0) : Good enc row (x + 1) (step enc dec row s x) := by
  rw [step_first enc dec row s x hc]
  refine ⟨runs, [], hout, hok, Or.inr ⟨by simp, fresh_ok _ _, ?_, ?_⟩⟩
  · simp only [fresh_payload, encCell]
  · rw [take_succ_map enc row x hx, hcells]

theorem payload_snoc (m : Mode) (h : Nat × Nat) (rs : List (Nat × Nat)) (c : Nat × Nat) :
    Run.payload ⟨m, h, rs ++ [c]⟩ =
      Run.payload ⟨m, h, rs⟩ ++ (match m with
        | .off => [c.1, c.2] | .chr => [c.2] | .att => [c.1] | .full => []) := by
  cases m <;> simp [Run.payload, Run.cells]

theorem step_close (enc : Attr → Nat) (dec : Decision) (row : List Cell) (s : St) (x : Nat) (hpos : s.count > 0)
    (hdec : dec s.mode s.runCh s.count row x = true) :
    step enc dec row s x = step enc dec row { s with out := s.flush, count := 0 } x := by
  simp [step, hpos, hdec]

theorem step_join (enc : Attr → Nat) (dec : Decision) (row : List Cell) (s : St) (x : Nat) (hpos : s.count > 0)
    (hdec : dec s.mode s.runCh s.count row x = false) :
    step enc dec row s x =
      { s with buf := s.buf ++ (match s.mode with
                 | .off => [(getChar row x).ch, enc (getChar row x).attr]
                 | .chr => [enc (getChar row x).attr]
                 | .att => [(getChar row x).ch]
                 | .full => []),
               count := s.count + 1 } := by
  obtain ⟨out, buf, mode, count, runCh⟩ := s
  simp only at hpos hdec
  simp only [step, hpos, hdec, decide_true, Bool.and_false, Bool.false_eq_true, if_false, if_true]
  cases mode <;> simp

theorem good_flush {enc : Attr → Nat} {row : List Cell} {x : Nat} {s : St} (hs : Good enc row x s) (hpos : s.count > 0) :
    ∃ runs : List Run, s.flush = runs.flatMap Run.ser ∧ (∀ r ∈ runs, r.ok) ∧
      expand runs = (row.take x).map (encCell enc) := by
  obtain ⟨runs, rs, hout, hok, hcase⟩ := hs
  rcases hcase with ⟨hc0, _⟩ | ⟨hcnt, hrok, hbuf, hcells⟩
  · omega
  refine ⟨runs ++ [⟨s.mode, encCell enc s.runCh, rs⟩], ?_, ?_, ?_⟩
  · have : s.count - 1 = rs.length := by omega
    simp [St.flush, hout, Run.ser, hbuf, this]
  · intro r' hr'
    rcases List.mem_append.mp hr' with h | h
    · exact hok r' h
    · simp at h; subst h; exact hrok
  · rw [expand_append, ← hcells]; simp [expand, Run.cells]

theorem step_good (enc : Attr → Nat) (dec : Decision) (hd : Forced enc dec) (row : List Cell) (x : Nat)
    (hx : x < row.length) (s : St) (hs : Good enc row x s) : Good enc row (x + 1) (step enc dec row s x) := by
  have hs' := hs
  obtain ⟨runs, rs, hout, hok, hcase⟩ := hs
  rcases hcase with ⟨hc0, hcells⟩ | ⟨hcnt, hrok, hbuf, hcells⟩
  · -- no open run
    exact good_open enc dec row x hx runs hok hcells s hout hc0
  · have hpos : s.count > 0 := by omega
    cases hdec : dec s.mode s.runCh s.count row x with
    | true =>
      -- the run is closed and a new one opened
      rw [step_close enc dec row s x hpos hdec]
      obtain ⟨runs', hflush, hok', hcells'⟩ := good_flush hs' hpos
      exact good_open enc dec row x hx runs' hok' hcells' { s with out := s.flush, count := 0 } hflush rfl
    | false =>
      -- the current cell joins the open run
      rw [step_join enc dec row s x hpos hdec]
      have hnf : ¬ (64 ≤ s.count ∨ (s.mode = .chr ∧ (getChar row x).ch ≠ s.runCh.ch) ∨
          (s.mode = .att ∧ enc (getChar row x).attr ≠ enc s.runCh.attr) ∨
          (s.mode = .full ∧ encCell enc (getChar row x) ≠ encCell enc s.runCh)) := by
        intro h
        have := hd s.mode s.runCh s.count row x hx hpos h
        rw [hdec] at this
        exact Bool.false_ne_true this
      simp only [not_or, not_and, Classical.not_not, Nat.not_le] at hnf
      obtain ⟨h64, hchr, hatt, hfull⟩ := hnf
      have hrok' : Run.ok ⟨s.mode, encCell enc s.runCh, rs ++ [encCell enc (getChar row x)]⟩ := by
        obtain ⟨hl, hm⟩ := hrok
        refine ⟨by simp; omega, ?_⟩
        have snoc : ∀ {P : Nat × Nat → Prop}, (∀ c ∈ rs, P c) → P (encCell enc (getChar row x)) →
            ∀ c ∈ rs ++ [encCell enc (getChar row x)], P c := by
          intro P h1 h2 c hc
          rcases List.mem_append.mp hc with h | h
          · exact h1 c h
          · simp at h; subst h; exact h2
        cases hmode : s.mode <;> simp only [hmode] at hm ⊢
        · exact snoc hm (by simpa [encCell] using hchr hmode)
        · exact snoc hm (by simpa [encCell] using hatt hmode)
        · exact snoc hm (hfull hmode)
      have hcells' : expand runs ++ (encCell enc s.runCh :: (rs ++ [encCell enc (getChar row x)])) =
          (row.take (x + 1)).map (encCell enc) := by
        rw [take_succ_map enc row x hx, ← hcells]; simp
      have hpl := payload_snoc s.mode (encCell enc s.runCh) rs (encCell enc (getChar row x))
      refine ⟨runs, rs ++ [encCell enc (getChar row x)], hout, hok, Or.inr ⟨?_, hrok', ?_, hcells'⟩⟩
      · simp [hcnt]
      · show s.buf ++ _ = _
        rw [hpl, hbuf]
        cases s.mode <;> simp [encCell]

theorem loop_good (enc : Attr → Nat) (dec : Decision) (hd : Forced enc dec) (row : List Cell) :
    ∀ n, n ≤ row.length → Good enc row n ((List.range n).foldl (step enc dec row) St.init) := by
  intro n
  induction n with
  | zero => intro _; exact ⟨[], [], rfl, by simp, Or.inl ⟨rfl, by simp [expand]⟩⟩
  | succ n ih =>
    intro hn
    rw [List.range_succ, List.foldl_append]
    exact step_good enc dec hd row n (by omega) _ (ih (by omega))

/-- **Generic run-builder lemma.**  Whatever the (forced-respecting) end-of-run heuristic does, the emitted row is
    a sequence of well-formed runs standing for exactly the row's cells. -/
theorem run_builder_sound (enc : Attr → Nat) (dec : Decision) (hd : Forced enc dec) (row : List Cell) :
    ∃ runs : List Run, compressRowWith enc dec row = runs.flatMap Run.ser ∧ (∀ r ∈ runs, r.ok) ∧
      expand runs = row.map (encCell enc) := by
  have hg := loop_good enc dec hd row row.length (Nat.le_refl _)
  unfold compressRowWith
  generalize (List.range row.length).foldl (step enc dec row) St.init = st at hg
  by_cases hpos : st.count > 0
  · obtain ⟨runs, hflush, hok, hcells⟩ := good_flush hg hpos
    exact ⟨runs, by rw [if_pos hpos, hflush], hok, by rw [hcells, List.take_length]⟩
  · obtain ⟨runs, rs, hout, hok, hcase⟩ := hg
    rcases hcase with ⟨_, hcells⟩ | ⟨hcnt, _⟩
    · exact ⟨runs, by rw [if_neg hpos, hout], hok, by rw [hcells, List.take_length]⟩
    · omega

theorem Attr.eq_of_eqv (a b : Attr) (h : a.eqv b = true) (hp : a.page = b.page) : a = b := by
  obtain ⟨f1, b1, fl1, p1⟩ := a
  obtain ⟨f2, b2, fl2, p2⟩ := b
  simp [Attr.eqv] at h hp
  simp [h, hp]

theorem Cell.eq_of_eqv (a b : Cell) (h : a.eqv b = true) (hp : a.attr.page = b.attr.page) : a = b := by
  obtain ⟨c1, a1⟩ := a
  obtain ⟨c2, a2⟩ := b
  simp [Cell.eqv] at h hp
  have := Attr.eq_of_eqv a1 a2 h.2 hp
  simp [h.1, this]

/-- `compress_backtrack`'s decision ends the run whenever the cell cannot join it — for every attribute encoding,
    because its comparisons are on the cells themselves (attribute AND font page), not on the encoded byte. -/
theorem realEndRun_forced (enc : Attr → Nat) : Forced enc realEndRun := by
  intro mode runCh count row x hx hc h
  unfold realEndRun
  simp only [runLimit_eq]
  by_cases h64 : count ≥ 64
  · simp [h64]
  · have hc' : count > 0 := hc
    simp only [h64, if_false, hc', if_true]
    rcases h with h | ⟨hm, h⟩ | ⟨hm, h⟩ | ⟨hm, h⟩
    · exact absurd h h64
    · subst hm
      have : ((getChar row x).ch != runCh.ch) = true := by simpa using h
      simp [this]
    · subst hm
      by_cases he : (getChar row x).attr.eqv runCh.attr = true
      · by_cases hp : (getChar row x).attr.page = runCh.attr.page
        · exact absurd (congrArg enc (Attr.eq_of_eqv _ _ he hp)) h
        · have : ((getChar row x).attr.page != runCh.attr.page) = true := by simpa using hp
          simp [this]
      · simp [he]
    · subst hm
      by_cases he : (getChar row x).eqv runCh = true
      · by_cases hp : (getChar row x).attr.page = runCh.attr.page
        · exact absurd (congrArg (encCell enc) (Cell.eq_of_eqv _ _ he hp)) h
        · have : ((getChar row x).attr.page != runCh.attr.page) = true := by simpa using hp
          simp [this]
      · simp [he]

end IcyVerif.XbCompress
