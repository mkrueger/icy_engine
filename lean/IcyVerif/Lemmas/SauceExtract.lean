import IcyVerif.Lemmas.Sauce
/-! C11: `extract` without its index arithmetic: the 128-byte record is one layout (`sauceLayout`), and `parseHeader`,
    `commentPart`, `extract` and the SAUCE part of `from_bytes` are total functions of the file, off which "never panics" is read. -/
namespace IcyVerif.Sauce
open IcyVerif.Gen.Sauce

theorem bind_eq_ok {α β : Type} {r : Res α} {f : α → Res β} {b : β} (h : r.bind f = .ok b) :
    ∃ a, r = .ok a ∧ f a = .ok b := by
  cases r with
  | ok a => exact ⟨a, rfl, h⟩
  | err e => cases h
  | panic s => cases h

theorem usub_eq_ok {a b c : Nat} (h : usub a b = .ok c) : b ≤ a ∧ c = a - b := by
  unfold usub at h
  split at h
  · rename_i hle; exact ⟨hle, (Res.ok.inj h).symm⟩
  · cases h

/-- the record as `extract` reads it: `SAUCE`, version, title, author, group, date, file size (skipped), data type, file type,
    t_info1, t_info2, t_info3 and t_info4 (skipped), number of comment lines, flags, t_info_s -/
def sauceLayout : List Fld :=
  [.raw sauceIdSlice, .raw versionRead.length, .str titleLen titlePad, .str authorLen authorPad, .str groupLen groupPad,
   .raw dateLen, .skip fileSizeLen, .u8, .u8, .u16, .u16, .skip 2, .skip 2, .u8, .u8, .str tinfoLen tinfoPad]

def bytesAt (vs : List Val) (i : Nat) : List Nat := (vs.getD i (.bytes [])).toBytes
def numAt (vs : List Val) (i : Nat) : Nat := (vs.getD i (.num 0)).toNum

/-- the record part of `extract` on the fields of `sauceLayout` (by position): three checks, then the raw header -/
def headerOf (dateOk : List Nat → Bool) (vs : List Val) : Res (Option Header) :=
  if sauceId ≠ bytesAt vs 0 then .ok none
  else if versionRead ≠ bytesAt vs 1 then .err .unsupportedVersion
  else if dateOk (bytesAt vs 5) = false then .err .unsupportedDate
  else .ok (some { title := bytesAt vs 2, author := bytesAt vs 3, group := bytesAt vs 4, dataType := numAt vs 7,
                   fileType := numAt vs 8, t1 := numAt vs 9, t2 := numAt vs 10, nComments := numAt vs 13,
                   flags := numAt vs 14, tinfo := bytesAt vs 15 })

theorem headerOf_np (dateOk : List Nat → Bool) (vs : List Val) : (headerOf dateOk vs).isPanic = false := by
  unfold headerOf
  split
  · rfl
  split
  · rfl
  split <;> rfl

/-- the one walk over the cursor arithmetic of `parseHeader`; the side goals are its fifteen index bounds and the final
    `assert_eq!` -/
theorem parseHeader_window (dateOk : List Nat → Bool) (data : List Nat) (o0 : Nat) (h : o0 + sauceLen = data.length) :
    parseHeader dateOk data o0 = headerOf dateOk (decFields sauceLayout (data.drop o0)) := by
  have e : sauceLen = 128 ∧ sauceIdSlice = 5 ∧ sauceIdSkip = 5 ∧ versionRead.length = 2 ∧ titleLen = 35 ∧ authorLen = 20 ∧
    groupLen = 20 ∧ dateLen = 8 ∧ fileSizeLen = 4 ∧ tinfoLen = 22 := ⟨rfl, rfl, rfl, rfl, rfl, rfl, rfl, rfl, rfl, rfl⟩
  obtain ⟨e1, e2, e3, e4, e5, e6, e7, e8, e9, e10⟩ := e
  rw [e1] at h
  simp only [parseHeader, e2, e3, e4, e5, e6, e7, e8, e9, e10]
  rw [slice_drop, bind_ok, slice_drop, bind_ok, readAt_drop, bind_ok, readAt_drop, bind_ok, readAt_drop, bind_ok,
    slice_drop, bind_ok, idx_drop, bind_ok, idx_drop, bind_ok, rd16_drop, bind_ok, rd16_drop, bind_ok,
    idx_drop, bind_ok, idx_drop, bind_ok, readAt_drop, bind_ok, if_neg (show ¬ data.length ≠ _ by omega)]
  · simp only [sauceLayout, decFields, Fld.dec, Fld.width, List.drop_drop, e2, e4, e5, e6, e7, e8, e9, e10,
      headerOf, bytesAt, numAt, List.getD_cons_zero, List.getD_cons_succ, Val.toBytes, Val.toNum]
  all_goals omega

/-- the raw fields of the record in the window `w`.  The offsets are the running sums of the widths of `sauceLayout`: 5 + 2 = 7
    title, 42 author, 62 group, 82 date, 90 file size, 94 data type, 95 file type, 96 and 98 t_info1/2, 100 and 102 t_info3/4,
    104 comment lines, 105 flags, 106 t_info_s -/
structure HeaderAt (w : List Nat) (h : Header) : Prop where
  title : h.title = strVal titleLen titlePad (w.drop 7)
  author : h.author = strVal authorLen authorPad (w.drop 42)
  group : h.group = strVal groupLen groupPad (w.drop 62)
  dataType : h.dataType = (w.drop 94).getD 0 0
  fileType : h.fileType = (w.drop 95).getD 0 0
  t1 : h.t1 = (w.drop 96).getD 0 0 + (w.drop 96).getD 1 0 * 256
  t2 : h.t2 = (w.drop 98).getD 0 0 + (w.drop 98).getD 1 0 * 256
  nComments : h.nComments = (w.drop 104).getD 0 0
  flags : h.flags = (w.drop 105).getD 0 0
  tinfo : h.tinfo = strVal tinfoLen tinfoPad (w.drop 106)

theorem headerOf_fields {dateOk : List Nat → Bool} {w : List Nat} {h : Header}
    (e : headerOf dateOk (decFields sauceLayout w) = .ok (some h)) : HeaderAt w h := by
  simp only [headerOf, sauceLayout, decFields, Fld.dec, Fld.width, List.drop_drop, bytesAt, numAt, List.getD_cons_zero,
    List.getD_cons_succ, Val.toBytes, Val.toNum, show sauceIdSlice = 5 from rfl, show versionRead.length = 2 from rfl,
    show titleLen = 35 from rfl, show authorLen = 20 from rfl, show groupLen = 20 from rfl, show dateLen = 8 from rfl,
    show fileSizeLen = 4 from rfl, Nat.reduceAdd] at e
  split at e
  · cases e
  split at e
  · cases e
  split at e
  · cases e
  · cases e
    exact ⟨rfl, rfl, rfl, rfl, rfl, rfl, rfl, rfl, rfl, rfl⟩

/-- the `n` comment lines that start at offset `o` -/
def commentsAt (data : List Nat) : Nat → Nat → List (List Nat)
  | 0, _ => []
  | n+1, o => strVal commentLen commentPad (data.drop o) :: commentsAt data n (o + commentLen)

theorem readComments_eq (data : List Nat) : ∀ (n o : Nat) (acc : List (List Nat)), o + n * commentLen ≤ data.length →
    readComments data n o acc = .ok (acc ++ commentsAt data n o) := by
  intro n
  induction n with
  | zero => intro o acc _; simp [readComments, commentsAt]
  | succ n ih =>
    intro o acc h
    rw [readComments, readAt_drop (by rw [Nat.succ_mul] at h; omega), bind_ok,
      ih _ _ (by rw [Nat.succ_mul] at h; omega), commentsAt, List.append_assoc]
    rfl

theorem commentsAt_spec (data : List Nat) (n o : Nat) :
    (commentsAt data n o).length = n ∧ ∀ c ∈ commentsAt data n o, c.length ≤ commentLen := by
  induction n generalizing o with
  | zero => exact ⟨rfl, nofun⟩
  | succ n ih =>
    refine ⟨by rw [commentsAt, List.length_cons, (ih _).1], fun c hc => ?_⟩
    rcases List.mem_cons.mp hc with rfl | hc
    · exact strVal_length _ _ _
    · exact (ih _).2 c hc

/-- the comment part of `extract` without arithmetic that can fail: the block ends where the record starts, `COMNT` stands
    `nc` lines before that; the second component is where the SAUCE data starts -/
def commentsOf (data : List Nat) (nc : Nat) : Res (List (List Nat) × Nat) :=
  if nc = 0 then .ok ([], data.length - sauceLen)
  else if data.length - sauceLen < nc * commentLen + commentId.length then .err .invalidCommentBlock
  else if commentId ≠ (data.drop (data.length - sauceLen - nc * commentLen - commentId.length)).take commentId.length then
    .err .invalidCommentId
  else .ok (commentsAt data nc (data.length - sauceLen - nc * commentLen),
    data.length - sauceLen - nc * commentLen - commentId.length)

theorem commentPart_eq (data : List Nat) (nc : Nat) (h : sauceLen ≤ data.length) : commentPart data nc = commentsOf data nc := by
  unfold commentPart commentsOf
  rw [show checkLine = commentLen from rfl, show checkId = commentId.length from rfl, show startLine = commentLen from rfl,
    show startId = commentId.length from rfl, show commentIdSlice = commentId.length from rfl,
    show commentIdSkip = commentId.length from rfl, usub_ok h, bind_ok]
  have ha : data.length - sauceLen ≤ data.length := Nat.sub_le _ _
  generalize data.length - sauceLen = avail at ha ⊢
  by_cases h0 : nc = 0
  · rw [if_neg (by omega), if_pos h0, bind_ok]
  rw [if_pos (by omega), if_neg h0]
  generalize hL : nc * commentLen = L
  generalize commentId.length = I
  by_cases h1 : avail < L + I
  · rw [if_pos h1, if_pos h1]
  rw [if_neg h1, if_neg h1, usub_ok (by omega), bind_ok, usub_ok (by omega), bind_ok, slice_drop (by omega), bind_ok]
  by_cases h2 : commentId ≠ (data.drop (avail - L - I)).take I
  · rw [if_pos h2, if_pos h2]
  rw [if_neg h2, if_neg h2, show avail - L - I + I = avail - L by omega,
    readComments_eq _ _ _ _ (by omega), bind_ok, List.nil_append]

theorem commentsOf_np (data : List Nat) (nc : Nat) : (commentsOf data nc).isPanic = false := by
  unfold commentsOf
  split
  · rfl
  split
  · rfl
  split <;> rfl

theorem commentsOf_ok {data : List Nat} {nc : Nat} {cs : List (List Nat)} {len : Nat} (hd : sauceLen ≤ data.length)
    (h : commentsOf data nc = .ok (cs, len)) :
    len + sauceLen ≤ data.length ∧ cs.length = nc ∧ ∀ c ∈ cs, c.length ≤ commentLen := by
  unfold commentsOf at h
  split at h
  · rename_i h0
    cases h
    exact ⟨by omega, h0.symm, nofun⟩
  split at h
  · cases h
  split at h
  · cases h
  · cases h
    exact ⟨by omega, (commentsAt_spec _ _ _).1, (commentsAt_spec _ _ _).2⟩

/-- `SauceData::extract`: the record is the last 128 bytes read through `sauceLayout`, the comment block ends where the
    record starts, the header length counts from the EOF byte in front of the SAUCE data -/
def extractOf (dateOk : List Nat → Bool) (data : List Nat) : Res (Option Sauce) :=
  if data.length < sauceLen then .ok none else
  (headerOf dateOk (decFields sauceLayout (data.drop (data.length - sauceLen)))).bind fun oh =>
  match oh with
  | none => .ok none
  | some h => (commentsOf data h.nComments).bind fun r => .ok (some (interpret h r.1 (data.length - (r.2 - eofLen))))

theorem extract_eq (dateOk : List Nat → Bool) (data : List Nat) : extract dateOk data = extractOf dateOk data := by
  unfold extract extractOf
  by_cases hlt : data.length < sauceLen
  · rw [if_pos hlt, if_pos hlt]
  have hle : sauceLen ≤ data.length := Nat.le_of_not_lt hlt
  rw [if_neg hlt, if_neg hlt, usub_ok hle, bind_ok, parseHeader_window _ _ _ (Nat.sub_add_cancel hle)]
  cases headerOf dateOk (decFields sauceLayout (data.drop (data.length - sauceLen))) with
  | err e => rfl
  | panic s => rfl
  | ok oh =>
    cases oh with
    | none => rfl
    | some h =>
      simp only [bind_ok]
      rw [commentPart_eq _ _ hle]
      cases hc : commentsOf data h.nComments with
      | err e => rfl
      | panic s => rfl
      | ok r =>
        obtain ⟨cs, len⟩ := r
        have := (commentsOf_ok hle hc).1
        simp only [bind_ok]
        rw [usub_ok (by omega), bind_ok]

theorem extractOf_np (dateOk : List Nat → Bool) (data : List Nat) : (extractOf dateOk data).isPanic = false := by
  unfold extractOf
  split
  · rfl
  refine bind_np (headerOf_np _ _) fun oh _ => ?_
  cases oh with
  | none => rfl
  | some h => exact bind_np (commentsOf_np _ _) fun _ _ => rfl

theorem extract_headerLen_le (dateOk : List Nat → Bool) (data : List Nat) (s : Sauce)
    (h : extract dateOk data = .ok (some s)) : s.headerLen ≤ data.length := by
  rw [extract_eq, extractOf] at h
  split at h
  · cases h
  obtain ⟨oh, _, h⟩ := bind_eq_ok h
  cases oh with
  | none => cases h
  | some hd =>
    obtain ⟨r, _, h⟩ := bind_eq_ok h
    cases h
    exact Nat.sub_le _ _

/-- `len -= sauce_header_len; &bytes[..len]` of `Buffer::from_bytes` -/
theorem fromBytesSplit_eq (dateOk : List Nat → Bool) (bytes : List Nat) :
    fromBytesSplit dateOk bytes = .ok (match extract dateOk bytes with
      | .ok (some s) => (bytes.take (bytes.length - s.headerLen), some s)
      | _ => (bytes, none)) := by
  have hall : slice bytes 0 bytes.length = .ok bytes := by
    rw [slice_ok (Nat.zero_le _) (Nat.le_refl _), List.drop_zero, Nat.sub_zero, List.take_length]
  unfold fromBytesSplit
  cases h : extract dateOk bytes with
  | ok os =>
    cases os with
    | none => simp only [hall, bind_ok]
    | some s =>
      simp only []
      rw [usub_ok (extract_headerLen_le dateOk bytes s h), bind_ok, slice_ok (Nat.zero_le _) (Nat.sub_le _ _), bind_ok,
        List.drop_zero, Nat.sub_zero]
  | err e => simp only [hall, bind_ok]
  | panic p =>
    have := extractOf_np dateOk bytes
    rw [← extract_eq, h] at this
    cases this

end IcyVerif.Sauce
