import IcyVerif.Model.Rip
/-! The RIP parameter interpreter: the decidable well-formedness of a command table (`tableOk`), the invariant `CmdGood` of the command
under construction, and `cmdParse_good`: for a well-formed specification `parse` does not panic and keeps the invariant. -/
namespace IcyVerif.Rip
open IcyVerif.RipSpec

def isDigitUnwrap : Act → Bool
  | .digitUnwrap _ => true
  | _ => false

def isVdigit : Act → Bool
  | .vdigit => true
  | _ => false

def isLtPoly : Ret → Bool
  | .ltPoly _ => true
  | _ => false

/-- an ordinary arm: no `unwrap`, no vector access, no `(npoints + 1) * 4` -/
def armOk (a : Arm) : Bool := !isDigitUnwrap a.act && !isVdigit a.act && !isLtPoly a.ret

/-- the arms in front of a `vdigit` default arm: none (SetPalette) or exactly `0 | 1 => digit i, Ok(true)` (polygons) -/
def polyArms (arms : List Arm) (i : Nat) : Bool := arms == [⟨0, 1, .digit i, .t⟩]

def dfltOk (arms : List Arm) : Option (Act × Ret) → Bool
  | none => true
  | some (.vdigit, .ltPoly i) => polyArms arms i
  | some (.vdigit, r) => arms.isEmpty && !isLtPoly r
  | some (a, r) => !isDigitUnwrap a && !isLtPoly r

def specOk (spec : CmdSpec) : Bool := spec.arms.all armOk && dfltOk spec.arms spec.dflt

def tableOk (T : Table) : Bool :=
  T.checked && T.cmds.all specOk && T.dispatch.all (fun d => decide (d.cmd < T.cmds.length))

theorem digit36_lt {c d : Nat} (h : digit36? c = some d) : d < 36 := by
  unfold digit36? at h
  split at h
  · cases h; omega
  · split at h
    · cases h; omega
    · split at h
      · cases h; omega
      · cases h

theorem parseBase36_checked_no_panic (n : Int) (c : Nat) (site : String) : parseBase36 true n c ≠ .panic site := by
  unfold parseBase36
  cases hd : digit36? c with
  | none => simp
  | some d =>
    by_cases hc : i32Min ≤ n * 36 ∧ n * 36 ≤ i32Max ∧ n * 36 + (d : Int) ≤ i32Max
    · simp [hc]
    · simp [hc]

theorem parseBase36_ok {n : Int} {c : Nat} {v : Int} {chk : Bool} (h : parseBase36 chk n c = .ok v) :
    ∃ d : Nat, digit36? c = some d ∧ v = n * 36 + d ∧ v ≤ i32Max := by
  unfold parseBase36 at h
  cases hd : digit36? c with
  | none => simp [hd] at h
  | some d =>
    by_cases hc : i32Min ≤ n * 36 ∧ n * 36 ≤ i32Max ∧ n * 36 + (d : Int) ≤ i32Max
    · simp [hd, hc] at h
      exact ⟨d, rfl, h.symm, by rw [← h]; exact hc.2.2⟩
    · cases chk <;> simp [hd, hc] at h

/-- where the vector region of a `vdigit` command starts -/
def vstart (spec : CmdSpec) : Int := 2 * spec.arms.length

/-- invariant of the command under construction in parameter state `p`: in an odd state of the vector region the vector is not empty
(the second digit of an entry has a `last` to extend: `pop().unwrap()`); the point count of a polygon command is 0 before its first
digit, below 36 after one, below 1296 always, so `(npoints + 1) * 4` cannot overflow -/
def CmdGood (spec : CmdSpec) (c : CmdSt) (p : Int) : Prop :=
  (∀ r, spec.dflt = some (.vdigit, r) → (p % 2 = 1 → vstart spec ≤ p → c.vec ≠ [])) ∧
  (∀ i, spec.dflt = some (.vdigit, .ltPoly i) →
      0 ≤ getInt c i ∧ (p = 0 → getInt c i = 0) ∧ (p = 1 → getInt c i < 36) ∧ getInt c i < 1296)

theorem getInt_setInt_self (c : CmdSt) (i : Nat) (v : Int) (h : i < c.ints.length) : getInt (setInt c i v) i = v := by
  simp [getInt, setInt, List.getD, h]

theorem getInt_setInt_lt (c : CmdSt) (i : Nat) (v : Int) : getInt (setInt c i v) i = v ∨ getInt (setInt c i v) i = getInt c i := by
  by_cases h : i < c.ints.length
  · left; exact getInt_setInt_self c i v h
  · right
    simp [getInt, setInt, List.getD]
    have : (c.ints.set i v)[i]? = none := by simp; omega
    have h2 : c.ints[i]? = none := by simp; omega
    simp [this, h2]

theorem getInt_setInt_ne (c : CmdSt) (i j : Nat) (v : Int) (h : i ≠ j) : getInt (setInt c i v) j = getInt c j := by
  simp [getInt, setInt, List.getD, h]

theorem getInt_setStr (c : CmdSt) (s : Nat) (v : List Nat) (j : Nat) : getInt (setStr c s v) j = getInt c j := rfl

theorem vec_setInt (c : CmdSt) (i : Nat) (v : Int) : (setInt c i v).vec = c.vec := rfl
theorem vec_setStr (c : CmdSt) (i : Nat) (v : List Nat) : (setStr c i v).vec = c.vec := rfl

/-- `evalRet` cannot panic unless it is the polygon bound on a large value -/
theorem evalRet_no_panic (r : Ret) (c : CmdSt) (p : Int) (site : String)
    (h : ∀ i, r = .ltPoly i → 0 ≤ getInt c i ∧ getInt c i < 1296) : evalRet r c p ≠ .panic site := by
  cases r with
  | t => simp [evalRet]
  | f => simp [evalRet]
  | lt n => simp [evalRet]
  | ltPoly i =>
    have := h i rfl
    simp only [evalRet]
    split
    · simp
    · rename_i hn
      exfalso; apply hn
      simp only [i32Max, i32Min]
      omega

theorem evalRet_not_err (r : Ret) (c : CmdSt) (p : Int) : evalRet r c p ≠ .err := by
  cases r <;> simp [evalRet]
  split <;> simp

theorem finish_ok (r : Ret) (c' : CmdSt) (p : Int) (hr : ∀ site, evalRet r c' p ≠ .panic site) :
    ∃ b, finish r c' p = .ok c' b := by
  unfold finish
  cases he : evalRet r c' p with
  | ok b => exact ⟨b, rfl⟩
  | err => exact absurd he (evalRet_not_err r c' p)
  | panic s => exact absurd he (hr s)

theorem applyAct_plain (a : Act) (r : Ret) (c : CmdSt) (p : Int) (ch : Nat)
    (ha1 : isDigitUnwrap a = false) (ha2 : isVdigit a = false) (hr : isLtPoly r = false) :
    (∀ site, applyAct true a r c p ch ≠ .panic site) ∧
    (∀ c' b, applyAct true a r c p ch = .ok c' b → c'.vec = c.vec ∧
        ∀ i j, a = .digit i → getInt c' j = getInt c j ∨ (i = j ∧ ∃ d : Nat, d < 36 ∧ getInt c' j = getInt c j * 36 + d)) := by
  have hnp : ∀ c' site, evalRet r c' p ≠ .panic site := by
    intro c' site
    apply evalRet_no_panic
    intro i hi; subst hi; simp [isLtPoly] at hr
  -- the arms that end in `finish` on a state with the vector untouched
  have fin_ok : ∀ c1 : CmdSt, c1.vec = c.vec →
      (∀ site, finish r c1 p ≠ .panic site) ∧ ∀ c' b, finish r c1 p = .ok c' b → c'.vec = c.vec := by
    intro c1 hv
    obtain ⟨b', hb⟩ := finish_ok r c1 p (hnp _)
    rw [hb]
    exact ⟨fun _ h => (by cases h), fun c' b h => (by cases h; exact hv)⟩
  cases a with
  | digit i =>
    simp only [applyAct]
    cases hp : parseBase36 true (getInt c i) ch with
    | ok v =>
      obtain ⟨d, hd, hv, _⟩ := parseBase36_ok hp
      have hd36 := digit36_lt hd
      obtain ⟨b', hb⟩ := finish_ok r (setInt c i v) p (hnp _)
      simp only [hb]
      constructor
      · intro site h; cases h
      · intro c' b h
        cases h
        refine ⟨rfl, ?_⟩
        intro i' j hi'
        cases hi'
        by_cases hij : i = j
        · subst hij
          rcases getInt_setInt_lt c i v with h1 | h1
          · right; exact ⟨rfl, d, hd36, by rw [h1, hv]⟩
          · left; exact h1
        · left; exact getInt_setInt_ne c i j v hij
    | err => simp
    | panic s => exact absurd hp (parseBase36_checked_no_panic _ _ _)
  | digitUnwrap i => simp [isDigitUnwrap] at ha1
  | vdigit => simp [isVdigit] at ha2
  | flag i =>
    obtain ⟨h1, h2⟩ := fin_ok (setInt c i (if ch = 49 then 1 else 0)) rfl
    exact ⟨h1, fun c' b h => ⟨h2 c' b h, fun _ _ hi => by cases hi⟩⟩
  | push s' =>
    obtain ⟨h1, h2⟩ := fin_ok (setStr c s' (getStr c s' ++ [ch])) rfl
    exact ⟨h1, fun c' b h => ⟨h2 c' b h, fun _ _ hi => by cases hi⟩⟩
  | setc s' =>
    obtain ⟨h1, h2⟩ := fin_ok (setStr c s' [ch]) rfl
    exact ⟨h1, fun c' b h => ⟨h2 c' b h, fun _ _ hi => by cases hi⟩⟩
  | dollar s' =>
    simp only [applyAct]
    split
    · exact ⟨fun site h => (by cases h), fun c' b h => (by cases h; exact ⟨rfl, fun _ _ hi => by cases hi⟩)⟩
    · obtain ⟨h1, h2⟩ := fin_ok (setStr c s' (getStr c s' ++ [ch])) rfl
      exact ⟨h1, fun c' b h => ⟨h2 c' b h, fun _ _ hi => by cases hi⟩⟩

theorem applyAct_vdigit (r : Ret) (c : CmdSt) (p : Int) (ch : Nat)
    (hv : p % 2 = 1 → c.vec ≠ [])
    (hr : ∀ i, r = .ltPoly i → 0 ≤ getInt c i ∧ getInt c i < 1296) :
    (∀ site, applyAct true .vdigit r c p ch ≠ .panic site) ∧
    (∀ c' b, applyAct true .vdigit r c p ch = .ok c' b → c'.vec ≠ [] ∧ c'.ints = c.ints) := by
  simp only [applyAct]
  have hne : (if p % 2 = 0 then c.vec ++ [0] else c.vec) ≠ [] := by
    by_cases h0 : p % 2 = 0
    · simp [h0]
    · simp only [h0, if_false]
      apply hv
      omega
  cases hl : (if p % 2 = 0 then c.vec ++ [0] else c.vec).getLast? with
  | none =>
    exfalso
    rw [List.getLast?_eq_none_iff] at hl
    exact hne hl
  | some last =>
    simp only []
    cases hp : parseBase36 true last ch with
    | err => simp
    | panic s => exact absurd hp (parseBase36_checked_no_panic _ _ _)
    | ok v =>
      simp only []
      have hnp : ∀ site, evalRet r { c with vec := (if p % 2 = 0 then c.vec ++ [0] else c.vec).dropLast ++ [v] } p ≠ .panic site := by
        intro site
        apply evalRet_no_panic
        intro i hi
        exact hr i hi
      obtain ⟨b', hb⟩ := finish_ok r _ p hnp
      simp only [hb]
      constructor
      · intro site h; cases h
      · intro c' b h
        cases h
        exact ⟨by simp, rfl⟩

theorem findArm_some {arms : List Arm} {n : Nat} {a : Arm} (h : findArm arms n = some a) :
    a ∈ arms ∧ a.lo ≤ n ∧ n ≤ a.hi := by
  unfold findArm at h
  have h1 := List.mem_of_find?_eq_some h
  have h2 := List.find?_some h
  simp at h2
  exact ⟨h1, h2⟩

theorem dfltOk_vdigit {arms : List Arm} {r : Ret} (h : dfltOk arms (some (.vdigit, r)) = true) :
    (∃ i, r = .ltPoly i ∧ arms = [⟨0, 1, .digit i, .t⟩]) ∨ (arms = [] ∧ isLtPoly r = false) := by
  cases r with
  | ltPoly i =>
    left
    simp [dfltOk, polyArms] at h
    exact ⟨i, rfl, h⟩
  | t => right; simp [dfltOk] at h; simpa [isLtPoly] using h
  | f => right; simp [dfltOk] at h; simpa [isLtPoly] using h
  | lt n => right; simp [dfltOk] at h; simpa [isLtPoly] using h

theorem dfltOk_other {arms : List Arm} {a : Act} {r : Ret} (h : dfltOk arms (some (a, r)) = true) (hv : isVdigit a = false) :
    isDigitUnwrap a = false ∧ isLtPoly r = false := by
  cases a <;> simp_all [dfltOk, isVdigit, isDigitUnwrap]

theorem cmdGood_of_no_vdigit {spec : CmdSpec} {c : CmdSt} {p : Int} (h : ∀ r, spec.dflt ≠ some (.vdigit, r)) : CmdGood spec c p :=
  ⟨fun r hr => absurd hr (h r), fun _ hi => absurd hi (h _)⟩

/-- by the shape of the command (`dfltOk`): no vector arm; a polygon command (the arm `0 | 1` reads the point count, the vector arm
runs from state 2 on); a plain vector command (the vector arm from state 0 on) -/
theorem cmdParse_good (spec : CmdSpec) (hok : specOk spec = true) (c : CmdSt) (p : Int) (ch : Nat)
    (hp : 0 ≤ p) (hg : CmdGood spec c p) :
    (∀ site, cmdParse true spec c p ch ≠ .panic site) ∧
    (∀ c', cmdParse true spec c p ch = .ok c' true → CmdGood spec c' (p + 1)) := by
  simp only [specOk, Bool.and_eq_true, List.all_eq_true] at hok
  obtain ⟨harms, hd⟩ := hok
  obtain ⟨hg1, hg2⟩ := hg
  have listed (a : Arm) (hf : findArm spec.arms p.toNat = some a) :=
    have hak : (isDigitUnwrap a.act = false ∧ isVdigit a.act = false) ∧ isLtPoly a.ret = false := by
      simpa [armOk] using harms a (findArm_some hf).1
    applyAct_plain a.act a.ret c p ch hak.1.1 hak.1.2 hak.2
  have vector (r : Ret) (hdf : spec.dflt = some (.vdigit, r)) (hvs : vstart spec ≤ p) :=
    applyAct_vdigit r c p ch (fun ho => hg1 r hdf ho hvs) fun i hi => by
      subst hi
      exact ⟨(hg2 i hdf).1, (hg2 i hdf).2.2.2⟩
  simp only [cmdParse, hp, if_true]
  cases hdf : spec.dflt with
  | none =>
    refine ⟨?_, fun _ _ => cmdGood_of_no_vdigit (by simp [hdf])⟩
    cases hf : findArm spec.arms p.toNat with
    | some a => exact (listed a hf).1
    | none => simp
  | some ar =>
    obtain ⟨a, r⟩ := ar
    rw [hdf] at hd
    by_cases hv : isVdigit a = true
    · have : a = .vdigit := by cases a <;> simp [isVdigit] at hv ⊢
      subst this
      rcases dfltOk_vdigit hd with ⟨i, hi, harm⟩ | ⟨harm, hl⟩
      · -- a polygon command
        subst hi
        have hvs2 : vstart spec = 2 := by simp [vstart, harm]
        cases hf : findArm spec.arms p.toNat with
        | some a =>
          -- states 0 and 1: the digits of the point count
          obtain ⟨hmem, hlo, hhi⟩ := findArm_some hf
          obtain ⟨hnp, hres⟩ := listed a hf
          rw [harm] at hmem
          simp only [List.mem_singleton] at hmem
          subst hmem
          simp only [] at hlo hhi
          refine ⟨hnp, fun c' hc' => ⟨fun _ _ _ hvs => by omega, fun i' hdf' => ?_⟩⟩
          rw [hdf] at hdf'
          cases hdf'
          obtain ⟨h0, hz, h1, h2⟩ := hg2 i hdf
          have hp01 : p = 0 ∨ p = 1 := by omega
          rcases (hres c' true hc').2 i i rfl with he | ⟨_, d, hd36, he⟩
          · rw [he]
            rcases hp01 with e | e
            · rw [hz e]; omega
            · exact ⟨h0, by omega, by omega, h2⟩
          · rw [he]
            rcases hp01 with e | e
            · rw [hz e]; omega
            · have := h1 e; omega
        | none =>
          -- from state 2 on: the vector
          have hvs : vstart spec ≤ p := by
            rw [harm] at hf
            simp [findArm] at hf
            omega
          obtain ⟨hnp, hres⟩ := vector _ hdf hvs
          refine ⟨hnp, fun c' hc' => ?_⟩
          obtain ⟨hne, hints⟩ := hres c' true hc'
          refine ⟨fun _ _ _ _ => hne, fun i' hdf' => ?_⟩
          rw [hdf] at hdf'
          cases hdf'
          obtain ⟨h0, _, _, h2⟩ := hg2 i hdf
          rw [show getInt c' i = getInt c i by simp [getInt, hints]]
          exact ⟨h0, by omega, by omega, h2⟩
      · -- a plain vector command: no arm in front of the vector arm
        have hf : findArm spec.arms p.toNat = none := by simp [findArm, harm]
        rw [hf]
        obtain ⟨hnp, hres⟩ := vector r hdf (by simp [vstart, harm]; omega)
        refine ⟨hnp, fun c' hc' => ⟨fun _ _ _ _ => (hres c' true hc').1, fun i' hdf' => ?_⟩⟩
        rw [hdf] at hdf'
        cases hdf'
        simp [isLtPoly] at hl
    · -- no vector arm
      have hv' : isVdigit a = false := by simpa using hv
      refine ⟨?_, fun _ _ => cmdGood_of_no_vdigit fun r' h => by rw [hdf] at h; cases h; simp [isVdigit] at hv'⟩
      cases hf : findArm spec.arms p.toNat with
      | some a' => exact (listed a' hf).1
      | none => exact (applyAct_plain a r c p ch (dfltOk_other hd hv').1 hv' (dfltOk_other hd hv').2).1

theorem finish_ok_eq {r : Ret} {c' c'' : CmdSt} {p : Int} {b : Bool} (h : finish r c' p = .ok c'' b) : c'' = c' := by
  unfold finish at h
  cases he : evalRet r c' p with
  | ok b' => simp [he] at h; exact h.1.symm
  | err => simp [he] at h
  | panic s => simp [he] at h

theorem applyAct_idx {chk : Bool} {a : Act} {r : Ret} {c c' : CmdSt} {p : Int} {ch : Nat} {b : Bool}
    (h : applyAct chk a r c p ch = .ok c' b) : c'.idx = c.idx := by
  cases a with
  | digit i =>
    simp only [applyAct] at h
    cases hp : parseBase36 chk (getInt c i) ch with
    | ok v => simp only [hp] at h; rw [finish_ok_eq h]; rfl
    | err => simp [hp] at h
    | panic s => simp [hp] at h
  | digitUnwrap i =>
    simp only [applyAct] at h
    cases hd : digit36? ch with
    | some d => simp only [hd] at h; rw [finish_ok_eq h]; rfl
    | none => simp [hd] at h
  | flag i => simp only [applyAct] at h; rw [finish_ok_eq h]; rfl
  | push s' => simp only [applyAct] at h; rw [finish_ok_eq h]; rfl
  | setc s' => simp only [applyAct] at h; rw [finish_ok_eq h]; rfl
  | dollar s' =>
    simp only [applyAct] at h
    by_cases hc : ch = 36
    · simp [hc] at h; rw [h.1]
    · simp only [hc, if_false] at h; rw [finish_ok_eq h]; rfl
  | vdigit =>
    simp only [applyAct] at h
    cases hl : (if p % 2 = 0 then c.vec ++ [0] else c.vec).getLast? with
    | none => simp [hl] at h
    | some last =>
      simp only [hl] at h
      cases hp : parseBase36 chk last ch with
      | ok v => simp only [hp] at h; rw [finish_ok_eq h]
      | err => simp [hp] at h
      | panic s => simp [hp] at h

theorem cmdParse_idx {chk : Bool} {spec : CmdSpec} {c c' : CmdSt} {p : Int} {ch : Nat} {b : Bool}
    (h : cmdParse chk spec c p ch = .ok c' b) : c'.idx = c.idx := by
  unfold cmdParse at h
  split at h
  · exact applyAct_idx h
  · split at h
    · exact applyAct_idx h
    · cases h

end IcyVerif.Rip
