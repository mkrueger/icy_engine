import IcyVerif.Lemmas.BinFormatsDom
import IcyVerif.Lemmas.XbCompressLoad
/-!
# C05: font pages in use; the attribute byte read back is `shownCell`

`dec_ice`, `dec_blink`, `dec_unl` lift the finite tables of `BinFormatsBasic` to every cell in the domain of `attrCell`.
-/
namespace IcyVerif.BinFormats
open IcyVerif.XbCompress IcyVerif.Gen

theorem mem_insertSorted (x p : Nat) (l : List Nat) : x ∈ insertSorted p l ↔ x = p ∨ x ∈ l := by
  induction l with
  | nil => simp [insertSorted]
  | cons q qs ih =>
    unfold insertSorted
    by_cases h1 : p < q
    · simp [h1]
    · by_cases h2 : p = q
      · subst h2; simp [h1]
      · simp only [h1, h2, if_false, List.mem_cons, ih]
        constructor
        · rintro (h | h | h) <;> simp [h]
        · rintro (h | h | h) <;> simp [h]

theorem mem_usage_fold (cells : List Cell) : ∀ (acc : List Nat) (x : Nat),
    x ∈ cells.foldl (fun acc c => insertSorted c.attr.page acc) acc ↔ (x ∈ acc ∨ ∃ c ∈ cells, c.attr.page = x) := by
  induction cells with
  | nil => intro acc x; simp
  | cons c cs ih =>
    intro acc x
    rw [List.foldl_cons, ih, mem_insertSorted]
    simp only [List.mem_cons, exists_eq_or_imp]
    constructor
    · rintro ((h | h) | h)
      · exact Or.inr (Or.inl h.symm)
      · exact Or.inl h
      · exact Or.inr (Or.inr h)
    · rintro (h | h | h)
      · exact Or.inl (Or.inr h)
      · exact Or.inl (Or.inl h.symm)
      · exact Or.inr h

theorem mem_usage (cells : List Cell) (x : Nat) : x ∈ analyzeFontUsage cells ↔ ∃ c ∈ cells, c.attr.page = x := by
  unfold analyzeFontUsage
  rw [mem_usage_fold]
  simp

theorem page_of_usage (cells : List Cell) (c : Cell) (h : c ∈ cells) : c.attr.page ∈ analyzeFontUsage cells :=
  (mem_usage cells _).mpr ⟨c, h, rfl⟩

theorem page_zero (rows : List (List Cell)) (hu : analyzeFontUsage rows.flatten = [0]) (r : List Cell) (hr : r ∈ rows)
    (c : Cell) (hc : c ∈ r) : c.attr.page = 0 := by
  have := page_of_usage rows.flatten c (List.mem_flatten.mpr ⟨r, hr, hc⟩)
  rw [hu] at this
  simpa using this

theorem attrCell_ice (c : Cell) (h : attrCell true c = true) :
    c.ch ≤ 255 ∧ c.attr.fg < 16 ∧ c.attr.bg < 16 ∧ isBlink c.attr = false := by
  unfold attrCell at h
  simp only [if_true, Bool.and_eq_true, decide_eq_true_eq, Bool.not_eq_true'] at h
  obtain ⟨⟨h1, h3⟩, h4, h5⟩ := h
  exact ⟨h1, h3, h4, h5⟩

theorem attrCell_blink (c : Cell) (h : attrCell false c = true) :
    c.ch ≤ 255 ∧ c.attr.fg < 16 ∧ c.attr.bg < 8 := by
  unfold attrCell at h
  simp only [Bool.false_eq_true, if_false, Bool.and_eq_true, decide_eq_true_eq] at h
  obtain ⟨⟨h1, h3⟩, h4⟩ := h
  exact ⟨h1, h3, h4⟩

/-- ice colours: attribute written with `as_u8(Ice)`, read with `from_u8(.., Ice)` -/
theorem dec_ice (c : Cell) (h : attrCell true c = true) (hp : c.attr.page = 0) :
    (⟨c.ch, fromU8 true (asU8 .ice c.attr)⟩ : Cell) = shownCell c := by
  obtain ⟨_, hfg, hbg, hbl⟩ := attrCell_ice c h
  obtain ⟨_, t2, t3⟩ := tab_ice c.attr.fg hfg c.attr.bg hbg (isBold c.attr) (isBlink c.attr)
  rw [asU8_ice]
  unfold fromU8 shownCell
  rw [hbl] at t2 t3
  simp only [if_true, hbl, t2, t3, Bool.false_eq_true, if_false, hp]
  rfl

/-- blink mode: attribute written with `as_u8(Blink)`, read with `from_u8(.., Blink)` (or `Unlimited`, which reads alike) -/
theorem dec_blink (c : Cell) (h : attrCell false c = true) (hp : c.attr.page = 0) :
    (⟨c.ch, fromU8 false (asU8 .blink c.attr)⟩ : Cell) = shownCell c := by
  obtain ⟨_, hfg, hbg⟩ := attrCell_blink c h
  obtain ⟨_, t2, t3, t4⟩ := tab_blink c.attr.fg hfg c.attr.bg hbg (isBold c.attr) (isBlink c.attr)
  rw [asU8_blink]
  unfold fromU8 shownCell
  simp only [Bool.false_eq_true, if_false, t2, t3, t4, hp]
  rfl

/-- `as_u8(Unlimited)` on the four things it looks at -/
def unlByte (fg bg : Nat) (bold blink : Bool) : Nat :=
  let fg0 := fg &&& 0b1111
  let fg' := if bold then fg0 ||| 0b1000 else fg0
  let bg' := (bg &&& 0b1111) ||| (if blink then 0b1000 else 0)
  (fg' ||| (bg' <<< 4)) % 256

theorem tab_unl : ∀ fg, fg < 16 → ∀ bg, bg < 8 → ∀ bold blink : Bool, unlByte fg bg bold blink = attrByte true fg bg bold blink := by
  decide +kernel

theorem asU8'_unl (a : Attr) : asU8' .unlimited a = unlByte a.fg a.bg (isBold a) (isBlink a) := rfl

theorem dec_unl (c : Cell) (h : attrCell false c = true) (hp : c.attr.page = 0) :
    (⟨c.ch, fromU8 false (asU8' .unlimited c.attr)⟩ : Cell) = shownCell c := by
  obtain ⟨_, hfg, hbg⟩ := attrCell_blink c h
  rw [asU8'_unl, tab_unl _ hfg _ hbg, ← asU8_blink]
  exact dec_blink c h hp

theorem pairsOf_eq (l : List Nat) : pairsOf l = readUncompressed l := by
  fun_induction pairsOf l with
  | case1 c a rest ih => rw [readUncompressed, ih]
  | case2 l h =>
    match l, h with
    | [], _ | [_], _ => rfl
    | c :: a :: rest, h => exact absurd rfl (h c a rest)

theorem pairsOf_flat (cells : List Cell) (f : Cell → Nat) (g : Cell → Nat) :
    pairsOf (cells.flatMap fun c => [f c, g c]) = cells.map fun c => (f c, g c) := by
  rw [pairsOf_eq]; exact readUncompressed_flat cells f g

theorem flatMap_rows {α : Type} (rows : List (List Cell)) (f : Cell → List α) :
    (rows.flatMap fun row => row.flatMap f) = rows.flatten.flatMap f := by
  induction rows with
  | nil => rfl
  | cons r rs ih => simp [List.flatMap_cons, List.flatten_cons, List.flatMap_append, ih]

theorem flatten_length_rows (rows : List (List Cell)) (w : Nat) (h : ∀ r ∈ rows, r.length = w) : rows.flatten.length = w * rows.length := by
  induction rows with
  | nil => simp
  | cons r rs ih =>
    simp only [List.flatten_cons, List.length_append, List.length_cons]
    rw [ih (fun r' hr' => h r' (by simp [hr'])), h r (by simp)]
    rw [Nat.mul_succ]; omega

theorem map_rows_congr (rows : List (List Cell)) (f g : Cell → Cell) (h : ∀ r ∈ rows, ∀ c ∈ r, f c = g c) :
    (rows.map fun r => r.map f) = rows.map fun r => r.map g := by
  apply List.map_congr_left
  intro r hr
  apply List.map_congr_left
  intro c hc
  exact h r hr c hc

theorem dateOk_length (d : List Nat) (h : dateOk d = true) : d.length = 8 := by
  unfold dateOk at h
  match d, h with
  | [_, _, _, _, _, _, _, _], _ => rfl

end IcyVerif.BinFormats
