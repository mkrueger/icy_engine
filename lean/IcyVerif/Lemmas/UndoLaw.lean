import IcyVerif.Model.Undo
/-! # C08 framework: observations, the inverse law as links between classes of documents (`Link`, `Undoable`), chains and stacks of links

`Doc.obs` is the document state the property talks about: buffer size; the rest of the buffer (`XObs`: font table as a
function slot → font, font / palette / ice mode, palette, SAUCE record); per layer in stack order, size, properties
(visibility, locks, alpha, offset) and every stored cell — read through `rowsGet`, i.e. INCLUDING the rows/cells hidden
beyond the layer size, but NOT the representation (how many rows/cells are materialised).  Caret (with its font page),
selection, selection mask, current layer and mirror mode are not part of it. -/
namespace IcyVerif.Undo

/-- a layer observed: width, height, properties, cells (`cells x y`: column `x` of row `y`, hidden ones included); read as
    `a.w`, `a.h`, `a.props`, `a.cells` (`Lemmas/UndoLayer`) -/
abbrev LObs := Int × Int × Props × (Nat → Nat → Cell)

def LayerM.obs (l : LayerM) : LObs := (l.w, l.h, l.props, rowsGet l.lines)

/-- the buffer besides size and layers; the font table is observed as the function slot → font -/
structure XObs where
  fonts : Nat → Option Nat
  fontMode : Nat
  palette : List Nat
  paletteMode : Nat
  iceMode : Nat
  sauce : Option Nat

def Extra.obs (x : Extra) : XObs := ⟨fmLookup x.fonts, x.fontMode, x.palette, x.paletteMode, x.iceMode, x.sauce⟩

structure DObs where
  w : Int
  h : Int
  layers : List LObs
  x : XObs

def Doc.obs (d : Doc) : DObs := ⟨d.w, d.h, d.layers.map LayerM.obs, d.x.obs⟩

theorem obs_w {d e : Doc} (h : d.obs = e.obs) : d.w = e.w := congrArg DObs.w h
theorem obs_h {d e : Doc} (h : d.obs = e.obs) : d.h = e.h := congrArg DObs.h h
theorem obs_layers {d e : Doc} (h : d.obs = e.obs) : d.layers.map LayerM.obs = e.layers.map LayerM.obs := congrArg DObs.layers h
theorem obs_length {d e : Doc} (h : d.obs = e.obs) : d.layers.length = e.layers.length := by
  have := congrArg List.length (obs_layers h); simpa using this

theorem obs_getElem? {d e : Doc} (h : d.obs = e.obs) (i : Nat) :
    (d.layers[i]?).map LayerM.obs = (e.layers[i]?).map LayerM.obs := by
  have := congrArg (fun l => l[i]?) (obs_layers h)
  simpa [List.getElem?_map] using this

theorem obs_some {d e : Doc} (h : d.obs = e.obs) {i : Nat} {l : LayerM} (hl : d.layers[i]? = some l) :
    ∃ l', e.layers[i]? = some l' ∧ l'.obs = l.obs := by
  have := obs_getElem? h i
  rw [hl] at this
  cases he : e.layers[i]? with
  | none => rw [he] at this; simp at this
  | some l' => rw [he] at this; simp at this; exact ⟨l', rfl, this.symm⟩

theorem obs_none {d e : Doc} (h : d.obs = e.obs) {i : Nat} (hl : d.layers[i]? = none) : e.layers[i]? = none := by
  have := obs_getElem? h i
  rw [hl] at this
  cases he : e.layers[i]? with
  | none => rfl
  | some l' => rw [he] at this; simp at this

theorem obs_setLayer (d : Doc) (i : Nat) (l : LayerM) :
    (d.setLayer i l).obs = ⟨d.w, d.h, (d.layers.map LayerM.obs).set i l.obs, d.x.obs⟩ := by
  simp [Doc.setLayer, Doc.obs, List.map_set]

/-- `U`: the records that may sit on the undo stack between the document classes `a` (below) and `a'` (above), `R`: those on
    the redo stack.  Undoing a `U` record from ANY document observed as `a'` succeeds, lands on `a` and leaves an `R` record,
    and conversely.  (Records mutate themselves, so `U`/`R` are sets of records.) -/
structure Link (a a' : DObs) (U R : UndoOp → Prop) : Prop where
  undo_ok : ∀ o, U o → ∀ e', e'.obs = a' → ∃ o2 e, o.undo e' = .ok (o2, e) ∧ e.obs = a ∧ R o2
  redo_ok : ∀ o, R o → ∀ e, e.obs = a → ∃ o2 e', o.redo e = .ok (o2, e') ∧ e'.obs = a' ∧ U o2

/-- `op` can be undone from `a'` to `a`, redone, undone again … for ever -/
def Undoable (op : UndoOp) (a a' : DObs) : Prop := ∃ U R, U op ∧ Link a a' U R
/-- `op` can be redone from `a` to `a'`, undone, redone again … for ever -/
def Redoable (op : UndoOp) (a a' : DObs) : Prop := ∃ U R, R op ∧ Link a a' U R

theorem Undoable.step {op : UndoOp} {a a' : DObs} (h : Undoable op a a') {e' : Doc} (he : e'.obs = a') :
    ∃ o2 e, op.undo e' = .ok (o2, e) ∧ e.obs = a ∧ Redoable o2 a a' := by
  obtain ⟨U, R, hU, hL⟩ := h
  obtain ⟨o2, e, h1, h2, h3⟩ := hL.undo_ok op hU e' he
  exact ⟨o2, e, h1, h2, U, R, h3, hL⟩

theorem Redoable.step {op : UndoOp} {a a' : DObs} (h : Redoable op a a') {e : Doc} (he : e.obs = a) :
    ∃ o2 e', op.redo e = .ok (o2, e') ∧ e'.obs = a' ∧ Undoable o2 a a' := by
  obtain ⟨U, R, hR, hL⟩ := h
  obtain ⟨o2, e', h1, h2, h3⟩ := hL.redo_ok op hR e he
  exact ⟨o2, e', h1, h2, U, R, h3, hL⟩

/-- the inverse law of DESIGN §4 C08 follows from `Undoable`: undo restores (observationally), redo re-applies -/
theorem Undoable.inverse {op' : UndoOp} {d d' : Doc} (h : Undoable op' d.obs d'.obs) :
    ∃ op'' d₂, op'.undo d' = .ok (op'', d₂) ∧ d₂.obs = d.obs ∧
      ∃ op''' d₃, op''.redo d₂ = .ok (op''', d₃) ∧ d₃.obs = d'.obs := by
  obtain ⟨o2, e, h1, h2, h3⟩ := h.step rfl
  obtain ⟨o3, e3, h4, h5, _⟩ := h3.step h2
  exact ⟨o2, e, h1, h2, o3, e3, h4, h5⟩

/-- records in push order leading from `a` up to `c`, each undoable -/
inductive UChain : List UndoOp → DObs → DObs → Prop
  | nil (a : DObs) : UChain [] a a
  | cons {op : UndoOp} {rest : List UndoOp} {a b c : DObs} : Undoable op a b → UChain rest b c → UChain (op :: rest) a c

inductive RChain : List UndoOp → DObs → DObs → Prop
  | nil (a : DObs) : RChain [] a a
  | cons {op : UndoOp} {rest : List UndoOp} {a b c : DObs} : Redoable op a b → RChain rest b c → RChain (op :: rest) a c

theorem UChain.undoList {ops : List UndoOp} {a c : DObs} (h : UChain ops a c) {e' : Doc} (he : e'.obs = c) :
    ∃ ops2 e, undoList ops e' = .ok (ops2, e) ∧ e.obs = a ∧ RChain ops2 a c := by
  induction h generalizing e' with
  | nil a => exact ⟨[], e', by simp [IcyVerif.Undo.undoList], he, .nil _⟩
  | cons hop _ ih =>
    obtain ⟨rest2, e1, h1, h2, h3⟩ := ih he
    obtain ⟨o2, e, h4, h5, h6⟩ := hop.step h2
    exact ⟨o2 :: rest2, e, by simp [IcyVerif.Undo.undoList, h1, h4], h5, .cons h6 h3⟩

theorem RChain.redoList {ops : List UndoOp} {a c : DObs} (h : RChain ops a c) {e : Doc} (he : e.obs = a) :
    ∃ ops2 e', redoList ops e = .ok (ops2, e') ∧ e'.obs = c ∧ UChain ops2 a c := by
  induction h generalizing e with
  | nil a => exact ⟨[], e, by simp [IcyVerif.Undo.redoList], he, .nil _⟩
  | cons hop _ ih =>
    obtain ⟨o2, e1, h1, h2, h3⟩ := hop.step he
    obtain ⟨rest2, e', h4, h5, h6⟩ := ih h2
    exact ⟨o2 :: rest2, e', by simp [IcyVerif.Undo.redoList, h1, h4], h5, .cons h3 h6⟩

/-- groups nest: the members may be atomic -/
theorem undoable_atomic {ops : List UndoOp} {a c : DObs} (h : UChain ops a c) : Undoable (.atomic ops) a c := by
  refine ⟨fun o => ∃ l, o = .atomic l ∧ UChain l a c, fun o => ∃ l, o = .atomic l ∧ RChain l a c, ⟨ops, rfl, h⟩, ?_, ?_⟩
  · rintro o ⟨l, rfl, hl⟩ e' he'
    obtain ⟨l2, e, h1, h2, h3⟩ := hl.undoList he'
    exact ⟨.atomic l2, e, by simp [UndoOp.undo, h1], h2, l2, rfl, h3⟩
  · rintro o ⟨l, rfl, hl⟩ e he
    obtain ⟨l2, e', h1, h2, h3⟩ := hl.redoList he
    exact ⟨.atomic l2, e', by simp [UndoOp.redo, h1], h2, l2, rfl, h3⟩

/-- undo stack (top first) under the document class `a`; `bs` lists the class below each entry -/
inductive UStack : DObs → List UndoOp → List DObs → Prop
  | nil (a : DObs) : UStack a [] []
  | cons {op : UndoOp} {rest : List UndoOp} {a b : DObs} {bs : List DObs} :
      Undoable op b a → UStack b rest bs → UStack a (op :: rest) (b :: bs)

/-- redo stack (top first) over the document class `a`; `cs` lists the class above each entry -/
inductive RStack : DObs → List UndoOp → List DObs → Prop
  | nil (a : DObs) : RStack a [] []
  | cons {op : UndoOp} {rest : List UndoOp} {a b : DObs} {cs : List DObs} :
      Redoable op a b → RStack b rest cs → RStack a (op :: rest) (b :: cs)

theorem UStack.length_eq {a : DObs} {ops : List UndoOp} {bs : List DObs} (h : UStack a ops bs) : bs.length = ops.length := by
  induction h with
  | nil => rfl
  | cons _ _ ih => simp [ih]

theorem RStack.length_eq {a : DObs} {ops : List UndoOp} {cs : List DObs} (h : RStack a ops cs) : cs.length = ops.length := by
  induction h with
  | nil => rfl
  | cons _ _ ih => simp [ih]

theorem UStack.fold {a : DObs} {ops : List UndoOp} {bs : List DObs} (h : UStack a ops bs) (n : Nat) (hn : n < ops.length) :
    ∃ b, bs[n]? = some b ∧ UChain ((ops.take (n + 1)).reverse) b a ∧ UStack b (ops.drop (n + 1)) (bs.drop (n + 1)) := by
  -- generalised: a chain `tail` from `a` up to `top` is appended
  suffices H : ∀ (top : DObs) (tail : List UndoOp), UChain tail a top →
      ∃ b, bs[n]? = some b ∧ UChain ((ops.take (n + 1)).reverse ++ tail) b top ∧ UStack b (ops.drop (n + 1)) (bs.drop (n + 1)) by
    obtain ⟨b, h1, h2, h3⟩ := H a [] (.nil a)
    exact ⟨b, h1, by simpa using h2, h3⟩
  induction h generalizing n with
  | nil a => simp at hn
  | @cons op rest a b bs hop hrest ih =>
    intro top tail htail
    cases n with
    | zero =>
      refine ⟨b, by simp, ?_, by simpa using hrest⟩
      simpa using UChain.cons hop htail
    | succ n =>
      have hn' : n < rest.length := by simpa using hn
      obtain ⟨b', h1, h2, h3⟩ := ih n hn' top (op :: tail) (.cons hop htail)
      refine ⟨b', by simpa using h1, ?_, by simpa using h3⟩
      simpa [List.take_succ_cons, List.reverse_cons, List.append_assoc] using h2

end IcyVerif.Undo
