import IcyVerif.Lemmas.XbCompress
/-!
# C06: the crate's loader (`read_data_compressed`, `read_data_uncompressed`) on well-formed run streams
-/
namespace IcyVerif.XbCompress
open IcyVerif.Gen

theorem rdOff_cells (cs : List (Nat × Nat)) (tl : List Nat) :
    ∀ acc, rdOff cs.length (cs.flatMap (fun c => [c.1, c.2]) ++ tl) acc = (acc ++ cs, tl) := by
  induction cs with
  | nil => intro acc; simp [rdOff]
  | cons c cs ih => intro acc; simp [rdOff, ih]

theorem rdChr_cells (c : Nat) (as : List Nat) (tl : List Nat) :
    ∀ acc, rdChr c as.length (as ++ tl) acc = (acc ++ as.map (fun a => (c, a)), tl) := by
  induction as with
  | nil => intro acc; simp [rdChr]
  | cons a as ih => intro acc; simp [rdChr, ih]

theorem rdAtt_cells (a : Nat) (cs : List Nat) (tl : List Nat) :
    ∀ acc, rdAtt a cs.length (cs ++ tl) acc = (acc ++ cs.map (fun c => (c, a)), tl) := by
  induction cs with
  | nil => intro acc; simp [rdAtt]
  | cons c cs ih => intro acc; simp [rdAtt, ih]

theorem readAux_run (r : Run) (hr : r.ok) (tl : List Nat) (fuel : Nat) (acc : List (Nat × Nat)) :
    readCompressedAux (fuel + 1) (r.ser ++ tl) acc = readCompressedAux fuel tl (acc ++ r.cells) := by
  obtain ⟨m, hd, rest⟩ := r
  obtain ⟨hlen, hm⟩ := hr
  obtain ⟨d1, d2, d3, d4, d5, d6⟩ := codes_distinct
  simp only at hlen hm
  cases m with
  | off =>
    obtain ⟨_, _, h1, h2⟩ := hdr .off rest.length hlen
    have := rdOff_cells (hd :: rest) tl acc
    simp only [List.length_cons] at this
    simp only [Run.ser, Run.payload, Run.cells, List.cons_append, readCompressedAux, h1, h2]
    simp only [Mode.code, if_true, this]
  | chr =>
    obtain ⟨_, _, h1, h2⟩ := hdr .chr rest.length hlen
    have := rdChr_cells hd.1 ((hd :: rest).map (·.2)) tl acc
    simp only [List.length_map, List.length_cons] at this
    have hmap := map_fst_const hd.1 rest hm
    simp only [Run.ser, Run.payload, Run.cells, List.cons_append, readCompressedAux, h1, h2]
    simp only [Mode.code, d1, if_false, if_true, this]
    simp [hmap]
  | att =>
    obtain ⟨_, _, h1, h2⟩ := hdr .att rest.length hlen
    have := rdAtt_cells hd.2 ((hd :: rest).map (·.1)) tl acc
    simp only [List.length_map, List.length_cons] at this
    have hmap := map_snd_const hd.2 rest hm
    simp only [Run.ser, Run.payload, Run.cells, List.cons_append, readCompressedAux, h1, h2]
    simp only [Mode.code, d2, d3, if_false, if_true, this]
    simp [hmap]
  | full =>
    obtain ⟨_, _, h1, h2⟩ := hdr .full rest.length hlen
    have hrep := (List.eq_replicate_of_mem hm).symm
    simp only [Run.ser, Run.payload, Run.cells, List.cons_append, readCompressedAux, h1, h2]
    simp only [Mode.code, d4, d5, d6, if_false]
    simp [List.replicate_succ, hrep]

theorem readAux_sers (runs : List Run) (hok : ∀ r ∈ runs, r.ok) :
    ∀ fuel acc, runs.length < fuel → readCompressedAux fuel (runs.flatMap Run.ser) acc = some (acc ++ expand runs) := by
  induction runs with
  | nil =>
    intro fuel acc hf
    obtain ⟨f, rfl⟩ : ∃ f, fuel = f + 1 := ⟨fuel - 1, by omega⟩
    simp [readCompressedAux, expand]
  | cons r rs ih =>
    intro fuel acc hf
    obtain ⟨f, rfl⟩ : ∃ f, fuel = f + 1 := ⟨fuel - 1, by simp at hf; omega⟩
    have hr := hok r (by simp)
    have := ih (fun r' h' => hok r' (by simp [h'])) f (acc ++ r.cells) (by simp at hf; omega)
    simp only [List.flatMap_cons, readAux_run r hr, this, expand_cons, List.append_assoc]

theorem sers_length (runs : List Run) : runs.length ≤ (runs.flatMap Run.ser).length := by
  induction runs with
  | nil => simp
  | cons r rs ih =>
    simp only [List.flatMap_cons, List.length_append, List.length_cons, Run.ser]
    omega

theorem readCompressed_sers (runs : List Run) (hok : ∀ r ∈ runs, r.ok) :
    readCompressed (runs.flatMap Run.ser) = some (expand runs) := by
  have := readAux_sers runs hok ((runs.flatMap Run.ser).length + 1) [] (by have := sers_length runs; omega)
  simpa [readCompressed] using this

/-- `read_data_uncompressed` reads a stream of two bytes per item back item by item -/
theorem readUncompressed_flat {α : Type} (l : List α) (f g : α → Nat) :
    readUncompressed (l.flatMap fun c => [f c, g c]) = l.map fun c => (f c, g c) := by
  induction l with
  | nil => rfl
  | cons c cs ih => simp [readUncompressed, ih]

end IcyVerif.XbCompress
