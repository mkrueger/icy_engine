import IcyVerif.Lemmas.BgiFillSpans
/-! The BGI flood-fill model: the two loops.  The scan loop of one stack entry ends within
`x2 - x1 + 1` iterations (`cx` strictly increases), never indexes outside the screen or the span lists, and every span
it collects shrinks `unc`; the worklist loop ends because `3 * unc + stack size` decreases with every entry popped. -/
namespace IcyVerif.Bgi

/-- a stack entry: columns inside `0 .. W-1` (`W = min(viewport width, 640)`), a screen row, direction ±1 -/
def FLIok (W : Int) (f : FLI) : Prop := 0 ≤ f.x1 ∧ f.x2 ≤ W - 1 ∧ (f.dir = 1 ∨ f.dir = -1) ∧ 0 ≤ f.y ∧ f.y < 350

theorem consIf_ok {α : Type} {P : α → Prop} {c : Prop} [Decidable c] {a : α} {l : List α} {n : Nat} (ha : P a)
    (hl : (∀ f, f ∈ l → P f) ∧ l.length ≤ n) :
    (∀ f, f ∈ (if c then a :: l else l) → P f) ∧ (if c then a :: l else l).length ≤ n + 1 := by
  split
  · exact ⟨fun f hf => (List.mem_cons.mp hf).elim (fun e => e ▸ ha) (hl.1 f), Nat.succ_le_succ hl.2⟩
  · exact ⟨hl.1, Nat.le_succ_of_le hl.2⟩

theorem pushSpans_ok (s : Bgi) (W : Int) (st : List FLI) (fli : FLI) (li : LI) (hf : FLIok W fli)
    (hx2 : 0 ≤ fli.x2) (hx1 : fli.x1 ≤ W) (hl1 : 0 ≤ li.x1) (hl2 : li.x2 ≤ W - 1) (hy0 : 0 ≤ li.y) (hy1 : li.y < 350)
    (hst : ∀ f, f ∈ st → FLIok W f) :
    (∀ f, f ∈ pushSpans s st fli li → FLIok W f) ∧ (pushSpans s st fli li).length ≤ st.length + 3 := by
  obtain ⟨f1, f2, f3, f4, f5⟩ := hf
  have hd : (-fli.dir = 1 ∨ -fli.dir = -1) := by omega
  -- the span itself in the old direction, and the two overhangs in the opposite one
  have a0 : FLIok W ⟨fli.dir, li.x1, li.x2, li.y⟩ := ⟨hl1, hl2, f3, hy0, hy1⟩
  have a1 : FLIok W ⟨-fli.dir, fli.x2 + 1, li.x2, li.y⟩ := ⟨by dsimp only; omega, hl2, hd, hy0, hy1⟩
  have a2 : FLIok W ⟨-fli.dir, li.x1, fli.x1 - 1, li.y⟩ := ⟨hl1, by dsimp only; omega, hd, hy0, hy1⟩
  have h0 : (∀ f, f ∈ (⟨fli.dir, li.x1, li.x2, li.y⟩ : FLI) :: st → FLIok W f) ∧
      ((⟨fli.dir, li.x1, li.x2, li.y⟩ : FLI) :: st).length ≤ st.length + 1 :=
    ⟨fun f hf => (List.mem_cons.mp hf).elim (fun e => e ▸ a0) (hst f), Nat.le_refl _⟩
  unfold pushSpans
  split
  · exact consIf_ok a2 (consIf_ok a1 h0)
  · exact ⟨h0.1, Nat.le_trans h0.2 (by omega)⟩

/-- the scan loop of one stack entry returns; the span lists and the stack stay well formed; the worklist measure `3 * unc + stack size`
does not grow; `spans + unc` does not grow (every collected span covers a new pixel: this bounds the number of `bar` calls of the drawing
pass); at most 1281 steps per iteration (one + at most 1280 pixels read by `find_line`) -/
theorem ffInner_spec {s : Bgi} (hc : FillCtx s) (b : Nat) (fli : FLI) (hfli : FLIok (min s.vp.w 640) fli)
    (cury : Int) (hy0 : 0 ≤ cury) (hy1 : cury < 350) :
    ∀ (fuel : Nat) (cx : Int) (fl : Array (List LI)) (st : List FLI) (n : Nat),
      fli.x1 ≤ cx → 0 ≤ cx → fli.x2 + 1 - cx ≤ fuel → FlOk fl → (∀ f, f ∈ st → FLIok (min s.vp.w 640) f) →
      ∃ fl' st' n', ffInner s b fli cury (cury * 640) fuel cx fl st n = .ok (fl', st', n') ∧ FlOk fl' ∧
        (∀ f, f ∈ st' → FLIok (min s.vp.w 640) f) ∧ 3 * unc fl' + st'.length ≤ 3 * unc fl + st.length ∧
        spans fl' + unc fl' ≤ spans fl + unc fl ∧ n' ≤ n + fuel * 1281 := by
  have hsz := hc.hsz
  have hwid : 1 ≤ min s.vp.w 640 ∧ min s.vp.w 640 ≤ 640 := by have := hc.hvw1; omega
  generalize hWd : min s.vp.w 640 = W at hfli hwid ⊢
  intro fuel
  induction fuel with
  | zero =>
    intro cx fl st n h1 h0 hfu hfl hst
    unfold ffInner
    have : cx > fli.x2 := by omega
    simp only [this, if_true]
    exact ⟨fl, st, n, rfl, hfl, hst, Nat.le_refl _, Nat.le_refl _, by omega⟩
  | succ f ih =>
    intro cx fl st n h1 h0 hfu hfl hst
    unfold ffInner
    by_cases hgt : cx > fli.x2
    · simp only [hgt, if_true]
      exact ⟨fl, st, n, rfl, hfl, hst, Nat.le_refl _, Nat.le_refl _, by omega⟩
    · simp only [hgt, if_false]
      have hx2 : fli.x2 ≤ W - 1 := hfli.2.1
      -- a column that yields no span: on to the next one, with `c` pixels read by `find_line`
      have skip : ∀ c, c ≤ 1280 → ∃ fl' st' n', ffInner s b fli cury (cury * 640) f (cx + 1) fl st (n + 1 + c) = .ok (fl', st', n') ∧
          FlOk fl' ∧ (∀ f, f ∈ st' → FLIok W f) ∧ 3 * unc fl' + st'.length ≤ 3 * unc fl + st.length ∧
          spans fl' + unc fl' ≤ spans fl + unc fl ∧ n' ≤ n + (f + 1) * 1281 := by
        intro c hc
        obtain ⟨fl', st', n', e, a1, a2, a3, a4, a5⟩ := ih (cx + 1) fl st (n + 1 + c) (by omega) (by omega) (by omega) hfl hst
        exact ⟨fl', st', n', e, a1, a2, a3, a4, by omega⟩
      rw [chk_in (v := cury * 640 + cx) (by omega)]
      simp only []
      obtain ⟨v, hv⟩ := scrAt_some (scr := s.screen) (i := cury * 640 + cx) (by omega) (by rw [hsz]; omega)
      rw [hv]
      simp only []
      by_cases hb : v = b ∨ (v = s.fillColor ∧ s.fillStyle = Gen.Bgi.fillStyleSolid)
      · simp only [hb, if_true]
        exact skip 0 (Nat.zero_le _)
      · simp only [hb, if_false]
        have hvb : v ≠ b := fun h => hb (Or.inl h)
        obtain ⟨row, hrow, had⟩ := alreadyDrawn_ok hfl cx hy0 hy1
        rw [had]
        cases hcov : coversX row cx with
        | true => exact skip 0 (Nat.zero_le _)
        | false =>
          simp only []
          obtain ⟨r, c, hfind, hcle, hli⟩ := findLine_spec hc cx cury b h0 (by omega) hy0 hy1
          rw [hfind]
          cases r with
          | none => exact skip c hcle
          | some li =>
            simp only []
            rw [hWd] at hli
            obtain ⟨l1, l2, l3, l4, l5, l6⟩ := hli li rfl
            have hcxli : cx ≤ li.x2 := l6 (by omega) v hv hvb
            obtain ⟨fl1, hpush, hfl1, hsp, hun, hdec⟩ := pushLine_ok hfl li cury.toNat (by omega) ⟨by omega, l2, by omega, l4, by omega⟩
            rw [hpush]
            simp only []
            have hdec' := hdec cx h0 (by omega) (by rw [l1, had, hcov]) l3 hcxli
            obtain ⟨hps1, hps2⟩ := pushSpans_ok s W st fli li hfli (by omega) (by omega) l2 l5 (by omega) (by omega) hst
            obtain ⟨fl', st', n', e, a1, a2, a3, a4, a5⟩ := ih (li.x2 + 1) fl1 (pushSpans s st fli li) (n + 1 + c)
              (by omega) (by omega) (by omega) hfl1 hps1
            exact ⟨fl', st', n', e, a1, a2, by omega, by omega, by omega⟩

/-- the worklist loop returns within fuel `3 * unc + stack size`; each entry costs one step + a scan loop of at most 640 iterations
(819841 = 1 + 640 * 1281) -/
theorem ffOuter_spec {s : Bgi} (hc : FillCtx s) (b : Nat) (top bottom : Int) (ht : 0 ≤ top) (hb : bottom ≤ 350) :
    ∀ (fuel : Nat) (st : List FLI) (fl : Array (List LI)) (n : Nat),
      FlOk fl → (∀ f, f ∈ st → FLIok (min s.vp.w 640) f) → 3 * unc fl + st.length ≤ fuel →
      ∃ fl' n', ffOuter s b top bottom fuel st fl n = .ok (fl', n') ∧ FlOk fl' ∧
        spans fl' + unc fl' ≤ spans fl + unc fl ∧ n' ≤ n + fuel * 819841 := by
  have hW := hc.hW
  intro fuel
  induction fuel with
  | zero =>
    intro st fl n hfl hst hm
    cases st with
    | nil => exact ⟨fl, n, rfl, hfl, Nat.le_refl _, by omega⟩
    | cons a t => simp at hm
  | succ f ih =>
    intro st fl n hfl hst hm
    cases st with
    | nil => exact ⟨fl, n, by unfold ffOuter; rfl, hfl, Nat.le_refl _, by omega⟩
    | cons fli t =>
      have hfli := hst fli (List.mem_cons_self)
      have ht' : ∀ f, f ∈ t → FLIok (min s.vp.w 640) f := fun f h => hst f (List.mem_cons_of_mem _ h)
      obtain ⟨f1, f2, f3, f4, f5⟩ := hfli
      have hwid : 1 ≤ min s.vp.w 640 ∧ min s.vp.w 640 ≤ 640 := by have := hc.hvw1; omega
      unfold ffOuter
      rw [chk_in (v := fli.y + fli.dir) (by omega)]
      simp only []
      simp only [List.length_cons] at hm
      by_cases hin : fli.y + fli.dir < bottom ∧ fli.y + fli.dir ≥ top
      · simp only [hin, and_self, if_true, hW]
        rw [chk_in (v := (fli.y + fli.dir) * 640) (by omega)]
        simp only []
        -- the fuel of the scan loop: the width of the entry, at most one screen row
        have hK : fli.x2 + 1 - fli.x1 ≤ ((fli.x2 - fli.x1 + 1).toNat : Int) ∧ (fli.x2 - fli.x1 + 1).toNat ≤ 640 := by omega
        generalize (fli.x2 - fli.x1 + 1).toNat = K at hK ⊢
        obtain ⟨fl1, st1, n1, e, a1, a2, a3, a4, a5⟩ := ffInner_spec hc b fli ⟨f1, f2, f3, f4, f5⟩ (fli.y + fli.dir) (by omega) (by omega)
          K fli.x1 fl t (n + 1) (Int.le_refl _) f1 hK.1 hfl ht'
        rw [e]
        simp only []
        obtain ⟨fl', n', e', b1, b2, b3⟩ := ih st1 fl1 n1 a1 a2 (by omega)
        exact ⟨fl', n', e', b1, by omega, by omega⟩
      · simp only [hin, if_false]
        obtain ⟨fl', n', e', b1, b2, b3⟩ := ih t fl (n + 1) hfl ht' (by omega)
        exact ⟨fl', n', e', b1, b2, by omega⟩

end IcyVerif.Bgi
