import IcyVerif.Lemmas.ArtFormats
/-! # Ctrl-A: the writer's attribute bookkeeping (`was_bold`, `^A N` reset, `last_fore/last_back`) against the parser's
(`is_bold`, `high_bg`, caret attribute) — C15 -/
namespace IcyVerif.ArtIO
open IcyVerif.Gen.Art

/-- the reader between two Ctrl-A codes: attribute `a`, bold flag `bold`, screen as in `r0` -/
structure CMid (r0 r : RS) (a : Attr) (bold : Bool) : Prop where
  idle : Idle .ctrla r
  attr : r.core.attr = a
  bold : r.ctrla.bold = bold
  hbg : r.ctrla.highBg = false
  scr : r.core.scr = r0.core.scr

/-- `b` is none of the command letters `ctrlaStep` knows after `^A`: L ' J > < ] | A H I E N Z — a colour letter must not be one of them -/
def ctrlaNotCmd (b : Nat) : Prop :=
  b ≠ 76 ∧ b ≠ 39 ∧ b ≠ 74 ∧ b ≠ 62 ∧ b ≠ 60 ∧ b ≠ 93 ∧ b ≠ 124 ∧ b ≠ 65 ∧ b ≠ 72 ∧ b ≠ 73 ∧ b ≠ 69 ∧ b ≠ 78 ∧ b ≠ 90

instance (b : Nat) : Decidable (ctrlaNotCmd b) := by unfold ctrlaNotCmd; infer_instance

theorem ctrla_tabs_fg : ∀ n < 8, ctrlaFg.getD n 0 % 256 = ctrlaFg.getD n 0 ∧
    ctrlaFg.findIdx? (· == ctrlaFg.getD n 0) = some n ∧ ctrlaNotCmd (ctrlaFg.getD n 0) := by
  decide +kernel

theorem ctrla_tabs_bg : ∀ n < 8, ctrlaBg.getD n 0 % 256 = ctrlaBg.getD n 0 ∧
    ctrlaFg.findIdx? (· == ctrlaBg.getD n 0) = none ∧
    ctrlaBg.findIdx? (· == ctrlaBg.getD n 0) = some n ∧ ctrlaNotCmd (ctrlaBg.getD n 0) := by
  decide +kernel

theorem cmid_N (r0 r : RS) (a : Attr) (bold : Bool) (h : CMid r0 r a bold) :
    CMid r0 ([1, 78].foldl (step .ctrla) r) defaultAttr false := by
  obtain ⟨⟨ns, (q : r.ctrla.ctrlA = false), ag, ice⟩, hat, hb, hh, hs⟩ := h
  have e : [1, 78].foldl (step .ctrla) r =
      { r with ctrla := { r.ctrla with bold := false, highBg := false }, core := { r.core with attr := defaultAttr } } := by
    have d1 : ¬ (7 < defaultAttr.fg) := by decide
    have d2 : ¬ (7 < defaultAttr.bg) := by decide
    simp [step, ctrlaStep, ns, q, Core.resetAttr, d1, d2]
  rw [e]
  exact ⟨⟨ns, q, ag, ice⟩, rfl, rfl, rfl, hs⟩

theorem cmid_H (r0 r : RS) (a : Attr) (bold : Bool) (h : CMid r0 r a bold) :
    CMid r0 ([1, 72].foldl (step .ctrla) r) { a with fg := if a.fg < 8 then a.fg + 8 else a.fg } true := by
  obtain ⟨⟨ns, (q : r.ctrla.ctrlA = false), ag, ice⟩, hat, hb, hh, hs⟩ := h
  have e : [1, 72].foldl (step .ctrla) r =
      { r with ctrla := { r.ctrla with bold := true },
               core := { r.core with attr := { r.core.attr with fg := if r.core.attr.fg < 8 then r.core.attr.fg + 8 else r.core.attr.fg } } } := by
    simp [step, ctrlaStep, ns, q]
  rw [e]
  exact ⟨⟨ns, q, ag, ice⟩, by simp [hat], rfl, hh, hs⟩

/-- the foreground letter, written when the colour differs from the last one (`lf`); `bold` adds 8 -/
theorem cmid_F (r0 r : RS) (a : Attr) (bold : Bool) (lf cf : Nat) (hcf : cf < 16) (hbold : bold = decide (7 < cf))
    (hf : cf = lf → a.fg = cf) (h : CMid r0 r a bold) :
    CMid r0 ((if cf ≠ lf then [1, ctrlaFg.getD (cf % 8) 0] else []).foldl (step .ctrla) r) { a with fg := cf } bold := by
  by_cases hne : cf ≠ lf
  · obtain ⟨⟨ns, (q : r.ctrla.ctrlA = false), ag, ice⟩, hat, hb, hh, hs⟩ := h
    obtain ⟨m, f1, hn⟩ := ctrla_tabs_fg (cf % 8) (by omega)
    unfold ctrlaNotCmd at hn
    rw [if_pos hne]
    generalize ctrlaFg.getD (cf % 8) 0 = b at *
    have e : [1, b].foldl (step .ctrla) r =
        { r with core := { r.core with attr := { r.core.attr with fg := cf % 8 + (if r.ctrla.bold then 8 else 0) } } } := by
      simp [step, ctrlaStep, ns, q, m, f1, hn]
      exact CtrlAP.ext q.symm rfl rfl
    have e8 : cf % 8 + (if bold = true then 8 else 0) = cf := by
      rw [hbold]; by_cases h7 : 7 < cf <;> simp [h7] <;> omega
    rw [e]
    exact ⟨⟨ns, q, ag, ice⟩, by simp [hat, hb, e8], hb, hh, hs⟩
  · rw [if_neg hne, ← hf (Decidable.not_not.1 hne)]
    exact h

theorem cmid_B (r0 r : RS) (a : Attr) (bold : Bool) (lb cb : Nat) (hcb : cb < 8) (hb : cb = lb → a.bg = cb) (h : CMid r0 r a bold) :
    CMid r0 ((if cb ≠ lb then [1, ctrlaBg.getD (cb % 8) 0] else []).foldl (step .ctrla) r) { a with bg := cb } bold := by
  by_cases hne : cb ≠ lb
  · obtain ⟨⟨ns, (q : r.ctrla.ctrlA = false), ag, ice⟩, hat, hbd, hh, hs⟩ := h
    obtain ⟨m, f0, f1, hn⟩ := ctrla_tabs_bg (cb % 8) (by omega)
    unfold ctrlaNotCmd at hn
    rw [if_pos hne, Nat.mod_eq_of_lt hcb] at *
    generalize ctrlaBg.getD cb 0 = b at *
    have e : [1, b].foldl (step .ctrla) r =
        { r with core := { r.core with attr := { r.core.attr with bg := cb } } } := by
      simp [step, ctrlaStep, ns, q, m, f0, f1, hn, hh]
      exact CtrlAP.ext q.symm rfl hh.symm
    rw [e]
    exact ⟨⟨ns, q, ag, ice⟩, by simp [hat], hbd, hh, hs⟩
  · rw [if_neg hne, ← hb (Decidable.not_not.1 hne)]
    exact h

theorem cmid_tail (r0 r : RS) (a : Attr) (bold : Bool) (lf lb cf cb : Nat) (h : CMid r0 r a bold)
    (hbold : bold = decide (7 < cf)) (hcf : cf < 16) (hcb : cb < 8) (hf : cf = lf → a.fg = cf) (hb : cb = lb → a.bg = cb) :
    CMid r0 (((if cf ≠ lf then [1, ctrlaFg.getD (cf % 8) 0] else []) ++ (if cb ≠ lb then [1, ctrlaBg.getD (cb % 8) 0] else [])).foldl
        (step .ctrla) r) ⟨cf, cb, a.fl⟩ bold := by
  rw [List.foldl_append]
  exact cmid_B r0 _ { a with fg := cf } bold lb cb hcb hb (cmid_F r0 r a bold lf cf hcf hbold hf h)

/-- the Ctrl-A writer's bookkeeping `s` against the reader `r` between two cells: the caret has the last attribute (no flags, 16 × 8
    colours), `was_bold` says whether its foreground is bright, the two other flags are off -/
structure CtrlR (s : CtrlAW) (r : RS) : Prop where
  mid : CMid r r s.last s.wasBold
  fl : s.last.fl = Flags.none
  lfg : s.last.fg < 16
  lbg : s.last.bg < 8
  wb : s.wasBold = decide (7 < s.last.fg)
  whb : s.wasHighBg = false
  wbl : s.wasBlink = false

/-- `FrontDom .ctrla` spelled out: the lead-in is ^A (1) -/
def CtrlDom (c : Cell) : Prop :=
  c.attr.fg < 16 ∧ c.attr.bg < 8 ∧ c.attr.fl = Flags.none ∧ 0 < c.ch ∧ c.ch < 256 ∧ c.ch ≠ 1 ∧ AnsiPrintable c.ch

theorem ctrlDom_eq : CtrlDom = FrontDom .ctrla := rfl

theorem ctrla_codes (s : CtrlAW) (r : RS) (c : Cell) (hR : CtrlR s r) (hd : FrontDom .ctrla c) :
    ∃ pre s', ctrlaEmit s c = some (pre ++ [chByte c.ch], s') ∧ CtrlR s' (pre.foldl (step .ctrla) r) ∧
      (pre.foldl (step .ctrla) r).core.scr = r.core.scr ∧ (pre.foldl (step .ctrla) r).core.attr = c.attr := by
  obtain ⟨hfg, hbg, hfl, _⟩ := hd
  obtain ⟨mid, lfl, lfg, lbg, wb, whb, wbl⟩ := hR
  have hcattr : (⟨c.attr.fg, c.attr.bg, Flags.none⟩ : Attr) = c.attr := Attr.eta_none hfl
  have hblink : c.attr.fl.blink = false := by rw [hfl]; rfl
  have hhigh : ¬ (7 < c.attr.bg) := by omega
  -- whatever the codes were: once the reader has the cell's attribute it is related to the writer's new state
  have hfinal : ∀ (r' : RS) (bd : Bool), bd = decide (7 < c.attr.fg) → CMid r r' c.attr bd →
      CtrlR { last := c.attr, wasBold := bd, wasBlink := false, wasHighBg := false } r' ∧
      r'.core.scr = r.core.scr ∧ r'.core.attr = c.attr := fun r' bd hbd M =>
    ⟨⟨⟨M.idle, M.attr, M.bold, M.hbg, rfl⟩, hfl, hfg, hbg, hbd, rfl, rfl⟩, M.scr, M.attr⟩
  by_cases hchg : (!(c.attr.same s.last)) = true
  · unfold ctrlaEmit; rw [if_pos hchg]
    refine ⟨_, _, rfl, ?_⟩
    by_cases hBW : s.wasBold = decide (7 < c.attr.fg)
    · -- bold stays as it is
      have T := cmid_tail r r s.last s.wasBold s.last.fg s.last.bg c.attr.fg c.attr.bg mid hBW hfg hbg (fun e => e.symm) (fun e => e.symm)
      rw [lfl, hcattr] at T
      have key := hfinal _ _ hBW T
      simpa [hBW, hhigh, hblink, whb, wbl] using key
    · by_cases hB : 7 < c.attr.fg
      · -- bold is switched on
        have wb' : s.wasBold = false := by rw [decide_eq_true hB] at hBW; exact Bool.eq_false_iff.2 hBW
        have H := cmid_H r r s.last s.wasBold mid
        have hlt : s.last.fg < 8 := by rw [wb'] at wb; have := of_decide_eq_false wb.symm; omega
        rw [if_pos hlt] at H
        have T := cmid_tail r _ _ true s.last.fg s.last.bg c.attr.fg c.attr.bg H (by simp [hB]) hfg hbg (fun e => by omega) (fun e => e.symm)
        simp only [lfl, hcattr] at T
        rw [← List.foldl_append] at T
        have key := hfinal _ _ (by simp [hB]) T
        simpa [hB, hhigh, hblink, wb', whb, wbl] using key
      · -- bold is switched off: ^A N resets everything
        have wb' : s.wasBold = true := by rw [decide_eq_false hB] at hBW; exact (Bool.not_eq_false _).mp hBW
        have N := cmid_N r r s.last s.wasBold mid
        have T := cmid_tail r _ _ false 7 0 c.attr.fg c.attr.bg N (by simp [hB]) hfg hbg (fun e => by rw [e]; rfl) (fun e => by rw [e]; rfl)
        have dfl : defaultAttr.fl = Flags.none := rfl
        simp only [dfl, hcattr] at T
        rw [← List.foldl_append] at T
        have key := hfinal _ _ (by simp [hB]) T
        simpa [hB, hhigh, hblink, wb', whb, wbl] using key
  · have hsame : c.attr = s.last := (same_iff _ _).1 (by simpa using hchg)
    exact ⟨[], s, by unfold ctrlaEmit; rw [if_neg hchg]; rfl, ⟨mid, lfl, lfg, lbg, wb, whb, wbl⟩, rfl, mid.attr.trans hsame.symm⟩

theorem CtrlR.frame {s : CtrlAW} {r : RS} (h : CtrlR s r) (scr : Screen) (lc : Nat) :
    CtrlR s { r with core := { r.core with scr := scr }, ansi := { r.ansi with lastCh := lc } } :=
  ⟨⟨h.mid.idle.frame scr lc, h.mid.attr, h.mid.bold, h.mid.hbg, rfl⟩, h.fl, h.lfg, h.lbg, h.wb, h.whb, h.wbl⟩

/-- `^A L` / `^A '` on the fresh screen change nothing -/
theorem ctrla_prep (prep : Prep) (r : RS) (hR : CtrlR {} r) (hfresh : r.core.scr.lines = [] ∧ r.core.scr.cx = 0 ∧ r.core.scr.cy = 0) :
    CtrlR {} ((ctrlaPrep prep).foldl (step .ctrla) r) ∧ ((ctrlaPrep prep).foldl (step .ctrla) r).core.scr = r.core.scr := by
  obtain ⟨k1, k2, _⟩ := fresh_clear_home r.core.scr hfresh
  have ns := hR.mid.idle.ns
  have q : r.ctrla.ctrlA = false := hR.mid.idle.q
  have e : (ctrlaPrep prep).foldl (step .ctrla) r = r := by
    cases prep with
    | none => rfl
    | home =>
      simp [ctrlaPrep, step, ctrlaStep, ns, q, k2]
      exact RS.ext (Core.ext rfl rfl rfl rfl rfl rfl ns.symm) rfl rfl rfl (CtrlAP.ext q.symm rfl rfl) rfl rfl
    | clear =>
      simp [ctrlaPrep, step, ctrlaStep, ns, q, k1]
      exact RS.ext (Core.ext rfl rfl rfl rfl rfl rfl ns.symm) rfl rfl rfl (CtrlAP.ext q.symm rfl rfl) rfl rfl
  rw [e]
  exact ⟨hR, rfl⟩

end IcyVerif.ArtIO
