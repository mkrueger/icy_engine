import IcyVerif.Model.BinFormats
import IcyVerif.Lemmas.Basics
/-!
# Sequential placement of cells into an empty layer (C05)

`placeAll_rows`: writing the cells of `rows` (all of width `w`) one after the other with `set_char` + `advance_pos` into a layer
without allocated rows yields exactly the rows, padded with invisible cells up to the layer width — induction over the rows, inside
it over the cells of a row.  `placeAll_inv`: what every step keeps, the placement keeps.  `TFrame` / `SameFrame`: the fields no loader
step touches once the header is read (`setChar_frame`, `crop_frame`; every range structure is built on them).  `Outside f`: a change of the buffer that
placement neither reads nor overwrites commutes with it.
-/
namespace IcyVerif.BinFormats
open IcyVerif.XbCompress IcyVerif.Gen

/-- the row being written -/
def partRow (lw : Nat) (pre : List Cell) : List Cell := pre ++ List.replicate (lw - pre.length) Cell.invisible

theorem partRow_length (lw : Nat) (pre : List Cell) (h : pre.length ≤ lw) : (partRow lw pre).length = lw := by
  simp [partRow]; omega

/-- the buffer a cell is written into: after `set_height(y + 1)` of the layer / of the buffer where the loader does that -/
def grow (gl gb : Bool) (b : LBuf) (y : Nat) : LBuf :=
  { b with lh := if gl then (y : Int) + 1 else b.lh, bh := if gb then (y : Int) + 1 else b.bh }

theorem placeCell_eq (gl gb : Bool) (x0 xl : Nat) (b : LBuf) (x y : Nat) (c : Cell) :
    placeCell gl gb x0 xl (b, x, y) c =
      ((grow gl gb b y).setChar x y c, if x + 1 > xl then x0 else x + 1, if x + 1 > xl then y + 1 else y) := by
  unfold placeCell grow
  cases gl <;> cases gb <;> (simp only [Bool.false_eq_true, if_true, if_false]; split <;> rfl)

theorem grow_lh (gl gb : Bool) (b : LBuf) (y : Nat) (hg : gl = true ∨ (y : Int) < b.lh) : (y : Int) < (grow gl gb b y).lh := by
  show (y : Int) < (if gl then (y : Int) + 1 else b.lh)
  cases hg with
  | inl h => simp only [h, if_true]; omega
  | inr h => by_cases hgl : gl = true <;> simp only [hgl, if_true] <;> omega

theorem placeAll_inv (Q : LBuf → Prop) (gl gb : Bool) (x0 xl : Nat) (cells : List Cell)
    (hstep : ∀ (b : LBuf) (x y : Nat), ∀ c ∈ cells, Q b → Q ((grow gl gb b y).setChar x y c)) :
    ∀ (b : LBuf) (x y : Nat), Q b → Q (placeAll gl gb x0 xl b x y cells).1 := by
  induction cells with
  | nil => intro b x y h; exact h
  | cons c cs ih =>
    intro b x y h
    have h1 := hstep b x y c List.mem_cons_self h
    unfold placeAll
    rw [List.foldl_cons, placeCell_eq]
    exact ih (fun b x y d hd => hstep b x y d (List.mem_cons_of_mem _ hd)) _ _ _ h1

theorem setChar_fresh (b : LBuf) (x : Nat) (c : Cell) (hx : x < b.lw) (hy : (b.lines.length : Int) < b.lh) :
    b.setChar x b.lines.length c = ({ b with lines := b.lines ++ [partRow b.lw []] } : LBuf).setChar x b.lines.length c := by
  unfold LBuf.setChar
  have h : ¬ (x ≥ b.lw ∨ (b.lines.length : Int) ≥ b.lh) := by omega
  simp only [h, if_false, ge_iff_le, Nat.le_refl, if_true, List.length_append, List.length_cons, List.length_nil]
  have h1 : b.lines.length + 1 - b.lines.length = 1 := by omega
  have h2 : ¬ (b.lines.length + (0 + 1) ≤ b.lines.length) := by omega
  simp [h1, h2, partRow]

theorem setChar_part (b : LBuf) (L : List (List Cell)) (pre : List Cell) (c : Cell)
    (hl : b.lines = L ++ [partRow b.lw pre]) (hx : pre.length < b.lw) (hy : (L.length : Int) < b.lh) :
    b.setChar pre.length L.length c = { b with lines := L ++ [partRow b.lw (pre ++ [c])] } := by
  unfold LBuf.setChar
  have h0 : ¬ (pre.length ≥ b.lw ∨ (L.length : Int) ≥ b.lh) := by omega
  have hlen : b.lines.length = L.length + 1 := by simp [hl]
  have h1 : ¬ (L.length ≥ b.lines.length) := by omega
  simp only [h0, h1, if_false]
  have hget : b.lines.getD L.length [] = partRow b.lw pre := by
    rw [hl, Basics.getD_append_right _ _ _ _ (Nat.le_refl _)]; simp
  have hrow : lineSet (partRow b.lw pre) pre.length c = partRow b.lw (pre ++ [c]) := by
    unfold lineSet
    have : ¬ (pre.length ≥ (partRow b.lw pre).length) := by rw [partRow_length _ _ (by omega)]; omega
    simp only [this, if_false]
    unfold partRow
    rw [List.set_append_right _ _ (Nat.le_refl _)]
    have hn : b.lw - pre.length = (b.lw - (pre.length + 1)) + 1 := by omega
    simp only [Nat.sub_self, List.length_append, List.length_cons, List.length_nil]
    rw [hn, List.replicate_succ]
    simp
  rw [hget, hrow, hl, List.set_append_right _ _ (Nat.le_refl _)]
  simp

/-- the rest of a row: from the state "`pre` written" to "row complete, cursor at the start of the next row" -/
theorem placeAll_rowAux (gl gb : Bool) (w : Nat) (L : List (List Cell)) :
    ∀ (suf pre : List Cell) (b : LBuf), suf ≠ [] → pre.length + suf.length = w → w ≤ b.lw →
      b.lines = L ++ [partRow b.lw pre] → (gl = true ∨ (L.length : Int) < b.lh) →
      placeAll gl gb 0 (w - 1) b pre.length L.length suf =
        ({ b with lines := L ++ [partRow b.lw (pre ++ suf)],
                  lh := if gl then (L.length : Int) + 1 else b.lh,
                  bh := if gb then (L.length : Int) + 1 else b.bh }, 0, L.length + 1) := by
  intro suf
  induction suf with
  | nil => intro pre b h; exact absurd rfl h
  | cons c t ih =>
    intro pre b _ hlen hw hl hg
    simp only [List.length_cons] at hlen
    let b2 := grow gl gb b L.length
    have hb2l : b2.lines = L ++ [partRow b2.lw pre] := hl
    have hb2y : (L.length : Int) < b2.lh := grow_lh gl gb b L.length hg
    have hstep := setChar_part b2 L pre c hb2l (by show pre.length < b.lw; omega) hb2y
    have hcell : placeCell gl gb 0 (w - 1) (b, pre.length, L.length) c =
        (({ b2 with lines := L ++ [partRow b.lw (pre ++ [c])] } : LBuf),
          (if pre.length + 1 > w - 1 then 0 else pre.length + 1), (if pre.length + 1 > w - 1 then L.length + 1 else L.length)) := by
      rw [placeCell_eq]; exact congrArg (·, _, _) hstep
    cases t with
    | nil =>
      simp only [List.length_nil] at hlen
      have hwrap : pre.length + 1 > w - 1 := by omega
      simp only [placeAll, List.foldl_cons, List.foldl_nil, hcell, hwrap, if_true]
      rfl
    | cons c2 t2 =>
      simp only [List.length_cons] at hlen
      have hwrap : ¬ (pre.length + 1 > w - 1) := by omega
      have := ih (pre ++ [c]) ({ b2 with lines := L ++ [partRow b.lw (pre ++ [c])] } : LBuf) (by simp)
        (by simp only [List.length_append, List.length_cons, List.length_nil]; omega) hw rfl (Or.inr hb2y)
      simp only [placeAll, List.foldl_cons, hcell, hwrap, if_false] at this ⊢
      simp only [List.length_append, List.length_cons, List.length_nil] at this
      rw [this]
      simp only [List.append_assoc, List.cons_append, List.nil_append]
      cases gl <;> cases gb <;> simp [b2, grow]

theorem placeAll_row (gl gb : Bool) (w : Nat) (row : List Cell) (b : LBuf) (hw0 : 0 < w) (hrow : row.length = w)
    (hw : w ≤ b.lw) (hg : gl = true ∨ (b.lines.length : Int) < b.lh) :
    placeAll gl gb 0 (w - 1) b 0 b.lines.length row =
      ({ b with lines := b.lines ++ [partRow b.lw row],
                lh := if gl then (b.lines.length : Int) + 1 else b.lh,
                bh := if gb then (b.lines.length : Int) + 1 else b.bh }, 0, b.lines.length + 1) := by
  cases row with
  | nil => simp at hrow; omega
  | cons c t =>
    -- first cell: same as writing into a fresh row of invisible cells
    let b2 := grow gl gb b b.lines.length
    have hb2y : (b2.lines.length : Int) < b2.lh := grow_lh gl gb b b.lines.length hg
    have hfresh := setChar_fresh b2 0 c (by show 0 < b.lw; omega) hb2y
    have h1 : placeAll gl gb 0 (w - 1) b 0 b.lines.length (c :: t) =
        placeAll gl gb 0 (w - 1) ({ b with lines := b.lines ++ [partRow b.lw []] } : LBuf) 0 b.lines.length (c :: t) := by
      simp only [placeAll, List.foldl_cons, placeCell_eq]
      exact congrArg (fun q => List.foldl _ (q, _, _) t) hfresh
    rw [h1]
    have := placeAll_rowAux gl gb w b.lines (c :: t) [] ({ b with lines := b.lines ++ [partRow b.lw []] } : LBuf)
      (by simp) (by simpa using hrow) hw rfl hg
    simpa using this

theorem placeAll_rows (gl gb : Bool) (w : Nat) (hw0 : 0 < w) :
    ∀ (rows : List (List Cell)) (b : LBuf), (∀ r ∈ rows, r.length = w) → w ≤ b.lw →
      (gl = true ∨ (b.lines.length : Int) + rows.length ≤ b.lh) →
      placeAll gl gb 0 (w - 1) b 0 b.lines.length rows.flatten =
        ({ b with lines := b.lines ++ rows.map (partRow b.lw),
                  lh := if gl ∧ rows ≠ [] then (b.lines.length : Int) + rows.length else b.lh,
                  bh := if gb ∧ rows ≠ [] then (b.lines.length : Int) + rows.length else b.bh },
          0, b.lines.length + rows.length) := by
  intro rows
  induction rows with
  | nil => intro b _ _ _; simp [placeAll]
  | cons r rs ih =>
    intro b hr hw hg
    have hrl : r.length = w := hr r (by simp)
    have h1 := placeAll_row gl gb w r b hw0 hrl hw (by
      cases hg with
      | inl h => exact Or.inl h
      | inr h => simp only [List.length_cons] at h; right; omega)
    simp only [List.flatten_cons]
    unfold placeAll at h1 ⊢
    rw [List.foldl_append, h1]
    let b' : LBuf := { b with lines := b.lines ++ [partRow b.lw r],
                              lh := (if gl then (b.lines.length : Int) + 1 else b.lh),
                              bh := (if gb then (b.lines.length : Int) + 1 else b.bh) }
    have hlen' : b'.lines.length = b.lines.length + 1 := by simp [b']
    have h2 := ih b' (fun r' h' => hr r' (by simp [h'])) hw (by
      by_cases hgl : gl = true
      · exact Or.inl hgl
      · cases hg with
        | inl h => exact absurd h hgl
        | inr h =>
          right
          simp only [List.length_cons] at h
          show ((b.lines ++ [partRow b.lw r]).length : Int) + rs.length ≤ (if gl then (b.lines.length : Int) + 1 else b.lh)
          have hf : gl = false := by simpa using hgl
          subst hf
          simp only [Bool.false_eq_true, if_false, List.length_append, List.length_cons, List.length_nil]
          omega)
    unfold placeAll at h2
    rw [hlen'] at h2
    rw [h2]
    simp only [b', List.map_cons, List.length_cons, List.append_assoc, List.cons_append, List.nil_append]
    refine Prod.ext ?_ (Prod.ext rfl (by simp; omega))
    simp only
    cases gl <;> cases gb <;> by_cases hrs : rs = [] <;> simp [hrs] <;> omega

theorem getD_partRow (lw : Nat) (row : List Cell) (x : Nat) (hx : x < row.length) :
    (partRow lw row).getD x Cell.invisible = row.getD x Cell.invisible := by
  unfold partRow
  exact Basics.getD_append_left _ _ _ _ hx

theorem getD_map_partRow (lw : Nat) (rows : List (List Cell)) (y : Nat) (hy : y < rows.length) :
    (rows.map (partRow lw)).getD y [] = partRow lw (rows.getD y []) := by
  simp [List.getD_eq_getElem?_getD, List.getElem?_map, List.getElem?_eq_getElem hy]

/-- what no loader step touches once the header is read: `b` has the sizes, mode, fonts and SAUCE data of `a` -/
structure TFrame (a b : LBuf) : Prop where
  bw : b.bw = a.bw
  lw : b.lw = a.lw
  ice : b.ice = a.ice
  fonts : b.fonts = a.fonts
  sauce : b.sauce = a.sauce

theorem TFrame.refl (a : LBuf) : TFrame a a := ⟨rfl, rfl, rfl, rfl, rfl⟩

theorem TFrame.trans {a b c : LBuf} (h1 : TFrame a b) (h2 : TFrame b c) : TFrame a c :=
  ⟨h2.bw.trans h1.bw, h2.lw.trans h1.lw, h2.ice.trans h1.ice, h2.fonts.trans h1.fonts, h2.sauce.trans h1.sauce⟩

/-- … and the palette (every loader but Tundra's, which collects the colours it meets) -/
structure SameFrame (a b : LBuf) : Prop extends TFrame a b where
  pal : b.pal = a.pal

theorem SameFrame.refl (a : LBuf) : SameFrame a a := ⟨.refl a, rfl⟩

theorem SameFrame.trans {a b c : LBuf} (h1 : SameFrame a b) (h2 : SameFrame b c) : SameFrame a c :=
  ⟨h1.toTFrame.trans h2.toTFrame, h2.pal.trans h1.pal⟩

theorem setChar_frame (b : LBuf) (x y : Nat) (c : Cell) : SameFrame b (b.setChar x y c) ∧ (b.setChar x y c).lh = b.lh ∧ (b.setChar x y c).bh = b.bh := by
  unfold LBuf.setChar
  split
  · exact ⟨SameFrame.refl b, rfl, rfl⟩
  · exact ⟨⟨⟨rfl, rfl, rfl, rfl, rfl⟩, rfl⟩, rfl, rfl⟩

theorem crop_frame (b : LBuf) : SameFrame b b.crop := ⟨⟨rfl, rfl, rfl, rfl, rfl⟩, rfl⟩

/-- `f` changes nothing that placing cells reads (layer width, layer height, lines) and commutes with what it writes (lines, layer
    height).  Setting the palette, the fonts, the kept SAUCE record or the buffer height are instances, each field by `rfl`. -/
structure Outside (f : LBuf → LBuf) : Prop where
  lw : ∀ b, (f b).lw = b.lw
  lh : ∀ b, (f b).lh = b.lh
  lines : ∀ b, (f b).lines = b.lines
  setLines : ∀ b l, f { b with lines := l } = { f b with lines := l }
  setLh : ∀ b h, f { b with lh := h } = { f b with lh := h }

theorem Outside.setChar {f : LBuf → LBuf} (hf : Outside f) (b : LBuf) (x y : Nat) (c : Cell) :
    (f b).setChar x y c = f (b.setChar x y c) := by
  unfold LBuf.setChar
  by_cases h : x ≥ b.lw ∨ (y : Int) ≥ b.lh
  · rw [if_pos h, if_pos (by rwa [hf.lw, hf.lh])]
  · rw [if_neg h, if_neg (by rwa [hf.lw, hf.lh])]
    refine Eq.trans ?_ (hf.setLines b _).symm
    simp only [hf.lines, hf.lw]

/-- with `gb` the step also sets the buffer height, so `f` has to commute with that as well -/
theorem Outside.grow {f : LBuf → LBuf} (hf : Outside f) (gl gb : Bool)
    (hbh : gb = true → ∀ b h, f { b with bh := h } = { f b with bh := h }) (b : LBuf) (y : Nat) :
    grow gl gb (f b) y = f (grow gl gb b y) := by
  cases gb with
  | false =>
    cases gl <;> simp only [BinFormats.grow, if_true, Bool.false_eq_true, if_false, hf.lh]
    · exact (hf.setLh b _).symm
    · exact (hf.setLh b _).symm
  | true =>
    have hb := hbh rfl
    cases gl <;> simp only [BinFormats.grow, if_true, Bool.false_eq_true, if_false]
    · exact (hb b _).symm
    · exact ((hb { b with lh := (y : Int) + 1 } _).trans (by rw [hf.setLh])).symm

theorem Outside.placeAll {f : LBuf → LBuf} (hf : Outside f) (gl gb : Bool)
    (hbh : gb = true → ∀ b h, f { b with bh := h } = { f b with bh := h }) (x0 xl : Nat) (cells : List Cell) :
    ∀ (b : LBuf) (x y : Nat), placeAll gl gb x0 xl (f b) x y cells =
      (f (placeAll gl gb x0 xl b x y cells).1, (placeAll gl gb x0 xl b x y cells).2) := by
  unfold BinFormats.placeAll
  induction cells with
  | nil => intro b x y; rfl
  | cons c cs ih =>
    intro b x y
    simp only [List.foldl_cons, placeCell_eq, hf.grow gl gb hbh, hf.setChar]
    exact ih _ _ _

end IcyVerif.BinFormats
