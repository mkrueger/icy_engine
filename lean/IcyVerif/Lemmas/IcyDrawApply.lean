import IcyVerif.Lemmas.IcyDraw
/-! C07, IcyDraw: what `Layer::set_char` does to the visible content of a layer, and the visible content after applying all
the cells the reader produced. -/
namespace IcyVerif.IcyDraw
open IcyVerif.Gen.Icy

/-- the layer takes every `set_char` (as the freshly created layer does while it is being loaded) -/
def Plain (l : Layer) : Prop := l.isLocked = false ∧ l.isVisible = true ∧ l.hasAlpha = false

theorem optCell_invisibleCell (p : Nat) : optCell (invisibleCell p) = none := by
  simp [optCell, invisibleCell, Cell.visible, attrInvisible]

/-- visible content stored at a position, if the line and the cell exist -/
def visIn (lines : List (List Cell)) (x y : Nat) : Option Cell := ((lines[y]?).bind (·[x]?)).bind optCell

theorem visAt_eq (l : Layer) (x y : Nat) :
    visAt l x y = if x < l.width ∧ y < l.height then visIn l.lines x y else none := by
  unfold visAt getChar visIn
  by_cases hb : x < l.width ∧ y < l.height
  · simp only [hb, and_self, if_true]
    cases h1 : l.lines[y]? with
    | none => simp [invisibleCell, Cell.visible, attrInvisible]
    | some line =>
      cases h2 : line[x]? with
      | none => simp [h2, invisibleCell, Cell.visible, attrInvisible]
      | some c => simp [h2, optCell]
  · simp only [hb, if_false]
    simp [invisibleCell, Cell.visible, attrInvisible]

def padLines (lines : List (List Cell)) (w y : Nat) : List (List Cell) :=
  if y ≥ lines.length then lines ++ List.replicate (y + 1 - lines.length) (lineCreate w) else lines

def setLines (lines : List (List Cell)) (w x y : Nat) (c : Cell) : List (List Cell) :=
  (padLines lines w y).set y (lineSet ((padLines lines w y).getD y []) x c)

theorem setChar_plain (l : Layer) (x y : Nat) (c : Cell) (hp : Plain l) (hx : x < l.width) (hy : y < l.height) :
    setChar l x y c = { l with lines := setLines l.lines l.width x y c } := by
  obtain ⟨h1, h2, h3⟩ := hp
  simp [setChar, hx, hy, h1, h2, h3, setLines, padLines]

theorem lineSet_get (line : List Cell) (x : Nat) (c : Cell) (x' : Nat) :
    ((lineSet line x c)[x']?).bind optCell = if x' = x then optCell c else (line[x']?).bind optCell := by
  unfold lineSet
  by_cases hx : x ≥ line.length
  · simp only [hx, if_true]
    by_cases e : x' = x
    · subst e
      rw [List.getElem?_set_self (by simp; omega)]; simp
    · simp only [e, if_false]
      rw [List.getElem?_set_ne (Ne.symm e)]
      by_cases hl : x' < line.length
      · rw [List.getElem?_append_left hl]
      · rw [List.getElem?_append_right (by omega), List.getElem?_replicate]
        have : line[x']? = none := by simp; omega
        rw [this]
        split <;> simp [optCell_invisibleCell]
  · simp only [hx, if_false]
    by_cases e : x' = x
    · subst e
      rw [List.getElem?_set_self (by omega)]; simp
    · simp only [e, if_false]
      rw [List.getElem?_set_ne (Ne.symm e)]

theorem lineCreate_get (w x' : Nat) : ((lineCreate w)[x']?).bind optCell = none := by
  unfold lineCreate
  rw [List.getElem?_replicate]
  split <;> simp [optCell_invisibleCell]

theorem visIn_padLines (lines : List (List Cell)) (w y x' y' : Nat) :
    visIn (padLines lines w y) x' y' = visIn lines x' y' := by
  unfold visIn padLines
  by_cases hy : y ≥ lines.length
  · simp only [hy, if_true]
    by_cases hl : y' < lines.length
    · rw [List.getElem?_append_left hl]
    · rw [List.getElem?_append_right (by omega), List.getElem?_replicate]
      have : lines[y']? = none := by simp; omega
      rw [this]
      split
      · simp only [Option.bind_some, Option.bind_none]; exact lineCreate_get _ _
      · simp
  · simp [hy]

theorem padLines_length (lines : List (List Cell)) (w y : Nat) : y < (padLines lines w y).length := by
  unfold padLines
  by_cases h : y ≥ lines.length
  · simp only [h, if_true, List.length_append, List.length_replicate]; omega
  · simp only [h, if_false]; omega

theorem visIn_setLines (lines : List (List Cell)) (w x y : Nat) (c : Cell) (x' y' : Nat) :
    visIn (setLines lines w x y c) x' y' = if x' = x ∧ y' = y then optCell c else visIn lines x' y' := by
  have hlen := padLines_length lines w y
  rw [← visIn_padLines lines w y x' y']
  unfold setLines
  generalize padLines lines w y = pl at hlen ⊢
  unfold visIn
  by_cases ey : y' = y
  · subst ey
    rw [List.getElem?_set_self hlen]
    simp only [Option.bind_some]
    rw [lineSet_get]
    have : pl[y']? = some (pl.getD y' []) := by simp [List.getD, hlen]
    rw [this]
    simp
  · rw [List.getElem?_set_ne (Ne.symm ey)]
    simp [ey]

theorem visAt_setChar (l : Layer) (x y : Nat) (c : Cell) (hp : Plain l) (hx : x < l.width) (hy : y < l.height)
    (x' y' : Nat) :
    visAt (setChar l x y c) x' y' = if x' = x ∧ y' = y then optCell c else visAt l x' y' := by
  rw [setChar_plain l x y c hp hx hy]
  simp only [visAt_eq, visIn_setLines]
  by_cases hb : x' < l.width ∧ y' < l.height
  · simp [hb]
  · simp only [hb, if_false]
    split
    · rename_i h; obtain ⟨rfl, rfl⟩ := h; exact absurd ⟨hx, hy⟩ hb
    · rfl


/-- same layer except for the stored lines -/
def SameFields (a b : Layer) : Prop := ∃ ls, a = { b with lines := ls }

theorem SameFields.refl (l : Layer) : SameFields l l := ⟨l.lines, rfl⟩
theorem SameFields.trans {a b c : Layer} (h1 : SameFields a b) (h2 : SameFields b c) : SameFields a c := by
  obtain ⟨l1, rfl⟩ := h1; obtain ⟨l2, rfl⟩ := h2; exact ⟨l1, rfl⟩
theorem SameFields.plain {a b : Layer} (h : SameFields a b) (hp : Plain b) : Plain a := by
  obtain ⟨ls, rfl⟩ := h; exact hp
theorem SameFields.width {a b : Layer} (h : SameFields a b) : a.width = b.width := by
  obtain ⟨ls, rfl⟩ := h; rfl
theorem SameFields.height {a b : Layer} (h : SameFields a b) : a.height = b.height := by
  obtain ⟨ls, rfl⟩ := h; rfl

theorem setChar_same (l : Layer) (x y : Nat) (c : Cell) : SameFields (setChar l x y c) l := by
  fun_cases setChar l x y c
  · exact .refl l
  · exact .refl l
  · exact ⟨_, rfl⟩
  · exact ⟨_, rfl⟩

/-- the cell a row of reader outcomes writes at column `x'` when its first entry is column `x0` -/
def lookupRow (cs : List (Option Cell)) (x0 x' : Nat) : Option Cell := if x0 ≤ x' then (cs[x' - x0]?).join else none

theorem lookupRow_lt (cs : List (Option Cell)) (x0 x' : Nat) (h : x' < x0) : lookupRow cs x0 x' = none := if_neg (by omega)

theorem lookupRow_cons (o : Option Cell) (cs : List (Option Cell)) (x0 x' : Nat) :
    lookupRow (o :: cs) x0 x' = if x' = x0 then o else lookupRow cs (x0 + 1) x' := by
  unfold lookupRow
  by_cases e : x' = x0
  · subst e; simp
  · by_cases h : x0 ≤ x'
    · rw [if_pos h, if_neg e, if_pos (by omega), show x' - x0 = (x' - (x0 + 1)) + 1 by omega, List.getElem?_cons_succ]
    · rw [if_neg h, if_neg e, if_neg (by omega)]

theorem applyRow_spec (cs : List (Option Cell)) (l : Layer) (y x0 : Nat) (hp : Plain l) (hy : y < l.height)
    (hx : x0 + cs.length ≤ l.width) :
    SameFields (applyRow l y x0 cs) l ∧
    ∀ x' y', visAt (applyRow l y x0 cs) x' y' =
      if y' = y then (match lookupRow cs x0 x' with | some c => optCell c | none => visAt l x' y') else visAt l x' y' := by
  induction cs generalizing l x0 with
  | nil => simp [applyRow, lookupRow, SameFields.refl]
  | cons o cs ih =>
    simp only [List.length_cons] at hx
    cases o with
    | none =>
      obtain ⟨s, v⟩ := ih l (x0 + 1) hp hy (by omega)
      refine ⟨by simpa [applyRow] using s, ?_⟩
      intro x' y'
      simp only [applyRow, v, lookupRow_cons]
      by_cases e : x' = x0
      · subst e; simp [lookupRow_lt]
      · simp [e]
    | some c =>
      have hs := setChar_same l x0 y c
      obtain ⟨s, v⟩ := ih (setChar l x0 y c) (x0 + 1) (hs.plain hp) (by rw [hs.height]; exact hy) (by rw [hs.width]; omega)
      refine ⟨by simpa [applyRow] using s.trans hs, ?_⟩
      intro x' y'
      simp only [applyRow, v, lookupRow_cons, visAt_setChar l x0 y c hp (by omega) hy]
      by_cases ey : y' = y
      · by_cases e : x' = x0
        · subst e; simp [ey, lookupRow_lt]
        · simp [e, ey]
      · simp [ey]

/-- the cell a list of rows writes at `(x', y')` when its first row is row `y0` -/
def gridAt (rows : List (List (Option Cell))) (y0 x' y' : Nat) : Option Cell :=
  if y0 ≤ y' then (match rows[y' - y0]? with | some r => lookupRow r 0 x' | none => none) else none

theorem gridAt_lt (rs : List (List (Option Cell))) (y0 x' y' : Nat) (h : y' < y0) : gridAt rs y0 x' y' = none :=
  if_neg (by omega)

theorem gridAt_cons (r : List (Option Cell)) (rs : List (List (Option Cell))) (y0 x' y' : Nat) :
    gridAt (r :: rs) y0 x' y' = if y' = y0 then lookupRow r 0 x' else gridAt rs (y0 + 1) x' y' := by
  unfold gridAt
  by_cases e : y' = y0
  · subst e; simp
  · by_cases h : y0 ≤ y'
    · rw [if_pos h, if_neg e, if_pos (by omega), show y' - y0 = (y' - (y0 + 1)) + 1 by omega, List.getElem?_cons_succ]
    · rw [if_neg h, if_neg e, if_neg (by omega)]

theorem applyRows_spec (rows : List (List (Option Cell))) (l : Layer) (y0 : Nat) (hp : Plain l)
    (hy : y0 + rows.length ≤ l.height) (hx : ∀ r ∈ rows, r.length ≤ l.width) :
    SameFields (applyRows l y0 rows) l ∧
    ∀ x' y', visAt (applyRows l y0 rows) x' y' =
      match gridAt rows y0 x' y' with | some c => optCell c | none => visAt l x' y' := by
  induction rows generalizing l y0 with
  | nil => simp [applyRows, gridAt, SameFields.refl]
  | cons r rs ih =>
    simp only [List.length_cons] at hy
    have hr := hx r (List.mem_cons_self ..)
    obtain ⟨s1, v1⟩ := applyRow_spec r l y0 0 hp (by omega) (by omega)
    obtain ⟨s2, v2⟩ := ih (applyRow l y0 0 r) (y0 + 1) (s1.plain hp) (by rw [s1.height]; omega)
      (fun r' hr' => by rw [s1.width]; exact hx r' (List.mem_cons_of_mem _ hr'))
    refine ⟨by simpa [applyRows] using s2.trans s1, ?_⟩
    intro x' y'
    simp only [applyRows, v2, v1, gridAt_cons]
    by_cases ey : y' = y0
    · subst ey; simp [gridAt_lt]
    · simp [ey]

end IcyVerif.IcyDraw
