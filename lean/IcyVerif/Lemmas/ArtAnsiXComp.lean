import IcyVerif.Lemmas.ArtAnsiXSgr
import IcyVerif.Lemmas.ArtAnsiTrim
import IcyVerif.Lemmas.ArtItems
/-! # One line of the ANSI writer, all colours (C04): `Disp`, the reader on the pieces of a line, `LineOkX`, `LineG`

The reader's state between two cells is its caret attribute and its palette (`RdSt`, invariant `CInvX`).  What a printed cell
shows is stated in RGB values (`Disp`); the reader's palette only grows, so `Disp` facts survive to the end of the file
(`Disp.mono`).  `LineG` is a line over any notion of a reader state that is good for a cell; `LineOkX` and `LineOk` are such
lines (`toG`).  `CellSync` is all the loops ask of `get_color`; its instances are `cellSyncX` (from `sgr_syncX`) and `cellSync16`
(from `sgr_sync`), and `generate_cells` makes a `LineG` line of a row for any of them (`lineG_gen`). -/
namespace IcyVerif.ArtIO
open IcyVerif.Gen.Art

/-- the loaded (or printed) cell `l` shows what the saved cell `c` shows: same character, the displayed foreground
    colour (bold low colour = bright colour), the background colour and the blink flag agree — `c` seen through the
    picture's palette `pal`, `l` through the reader's palette `P` (indices inside it) -/
structure Disp (pal P : List Rgb) (c l : Cell) : Prop where
  ch : l.ch = c.ch
  vis : l.attr.fl.invisible = false
  fgb : dispFg l.attr < P.length
  bgb : l.attr.bg < P.length
  fg : pget P (dispFg l.attr) = getRgb pal (dispFg c.attr)
  bg : pget P l.attr.bg = getRgb pal c.attr.bg
  blink : l.attr.fl.blink = c.attr.fl.blink

theorem Disp.mono {pal P Q : List Rgb} {c l : Cell} (h : Disp pal P c l) (hq : P <+: Q) : Disp pal Q c l := by
  obtain ⟨h1, h2, h3, h4, h5, h6, h7⟩ := h
  have hl := hq.length_le
  exact ⟨h1, h2, by omega, by omega, by rw [pget_prefix hq h3]; exact h5, by rw [pget_prefix hq h4]; exact h6, h7⟩

theorem Disp.fold {pal P : List Rgb} {c l : Cell} (h : Disp pal P c l) : Disp pal P c (foldBold l) := by
  obtain ⟨h1, h2, h3, h4, h5, h6, h7⟩ := h
  unfold foldBold
  by_cases hb : l.attr.fl.bold = true
  · rw [if_pos hb]
    have e : dispFg ({ l with attr := { l.attr with fg := if l.attr.fg < 8 then l.attr.fg + 8 else l.attr.fg, fl := { l.attr.fl with bold := false } } } : Cell).attr = dispFg l.attr := by
      unfold dispFg
      simp [hb]
    exact ⟨h1, h2, by rw [e]; exact h3, h4, by rw [e]; exact h5, h6, h7⟩
  · rw [if_neg hb]; exact ⟨h1, h2, h3, h4, h5, h6, h7⟩

/-- what the reader prints for a cell after the cell's `get_color` output: `Caret::get_attribute` folds the iCE blink into the
    background index exactly as `BgRel` shifts it, and `dispFg` folds bold into the foreground index as `FgRel` does -/
theorem disp_of_sync (ic : Bool) (pal : List Rgb) (attr : Attr) (P0 : List Rgb) (g : AnsiState × List Nat × List Nat) (R : RdSt)
    (h : SyncX ic pal attr P0 g R) (ha : AttrX ic attr) (ch : Nat) : Disp pal R.2 ⟨ch, attr⟩ ⟨ch, prAttr ic R.1⟩ := by
  obtain ⟨_, _, ⟨fl, dp, ⟨f1, _, f3⟩, ⟨b1, b2⟩⟩, _, _, fgc, bgc, blk⟩ := h
  obtain ⟨a1, _, _⟩ := ha
  have h16 := dp.len
  have hbold : R.1.fl.bold = g.1.isBold := by rw [fl]; rfl
  have hblink : R.1.fl.blink = g.1.isBlink := by rw [fl]; rfl
  have hinv : R.1.fl.invisible = false := by rw [fl]; rfl
  have efg : dispFg (prAttr ic R.1) = (if (g.1.isBold && decide (R.1.fg < 8)) = true then R.1.fg + 8 else R.1.fg) := by
    unfold dispFg prAttr
    cases ic <;> simp [hbold]
  have ebg : (prAttr ic R.1).bg = (if (ic && g.1.isBlink && decide (R.1.bg < 8)) = true then R.1.bg + 8 else R.1.bg) := by
    unfold prAttr
    cases ic with
    | false => simp
    | true =>
      simp only [if_true, Bool.true_and]
      rw [hblink]
      cases hq : g.1.isBlink <;> by_cases h8 : R.1.bg < 8 <;> simp [h8]
  refine ⟨rfl, ?_, ?_, ?_, ?_, ?_, ?_⟩
  · show (prAttr ic R.1).fl.invisible = false
    unfold prAttr; cases ic <;> simp [hinv]
  · show dispFg (prAttr ic R.1) < R.2.length
    rw [efg]; split
    · rename_i hc; simp only [Bool.and_eq_true, decide_eq_true_eq] at hc; omega
    · exact f1
  · show (prAttr ic R.1).bg < R.2.length
    rw [ebg]; split
    · rename_i hc; simp only [Bool.and_eq_true, decide_eq_true_eq] at hc; omega
    · exact b1
  · show pget R.2 (dispFg (prAttr ic R.1)) = getRgb pal (dispFg attr)
    rw [efg, ← f3, fgc]
  · show pget R.2 (prAttr ic R.1).bg = getRgb pal attr.bg
    rw [ebg, ← b2, bgc]
  · show (prAttr ic R.1).fl.blink = attr.fl.blink
    cases hq : ic with
    | true => rw [a1 hq]; unfold prAttr; simp
    | false => unfold prAttr; simp; rw [hblink, blk hq]

/-- the reader between two steps of the line loop: as `CInv`, plus its palette -/
structure CInvX (ic : Bool) (R : RdSt) (w : Nat) (p : AnsiP) (c : Core) : Prop where
  base : CInv ic R.1 w p c
  pal : c.pal = R.2

theorem CInvX.rd {ic : Bool} {R : RdSt} {w : Nat} {p : AnsiP} {c : Core} (h : CInvX ic R w p c) (R' : RdSt) :
    CInvX ic R' w { p with st := .ground } { c with attr := R'.1, pal := R'.2 } :=
  ⟨⟨h.base.ns, rfl, h.base.ice, rfl, h.base.sw, h.base.th⟩, rfl⟩

theorem CInvX.rdSt {ic : Bool} {R : RdSt} {w : Nat} {p : AnsiP} {c : Core} (h : CInvX ic R w p c) : (c.attr, c.pal) = R := by
  rw [h.base.attr, h.pal]

theorem tc_read (ic : Bool) (w : Nat) : ∀ (fuel : Nat) (tc : List Nat) (R : RdSt) (p : AnsiP) (core : Core),
    CInvX ic R w p core → (∀ n ∈ tc, n < 1000) →
    ∃ p1 core1, ansiRun p core (tcSeqs fuel tc) = (p1, core1) ∧ core1.scr = core.scr ∧ CInvX ic (rdTc fuel tc R) w p1 core1 := by
  intro fuel
  induction fuel with
  | zero => intro tc R p core h _; exact ⟨p, core, rfl, rfl, h⟩
  | succ f ih =>
    intro tc R p core h hlt
    rcases tc with _ | ⟨a, _ | ⟨b, _ | ⟨c, _ | ⟨d, rest⟩⟩⟩⟩
    -- fewer than four numbers left: nothing is written
    iterate 4 exact ⟨p, core, rfl, rfl, h⟩
    · have hlt4 : ∀ n ∈ [a, b, c, d], n < 1000 := fun n hn => hlt n (List.mem_append_left rest hn)
      show ∃ p1 core1, ansiRun p core (csi [a, b, c, d] 116 ++ tcSeqs f rest) = (p1, core1) ∧ _
      rw [ansiRun_append_of_eq (ansiRun_color24 p core h.base.ns h.base.ag a b c d hlt4), color24_rd, h.rdSt]
      exact ih rest _ _ _ (h.rd (rdTc 1 [a, b, c, d] R)) (fun n hn => hlt n (List.mem_append_right [a, b, c, d] hn))

theorem pre_readX (ic : Bool) (R : RdSt) (w : Nat) (p : AnsiP) (core : Core) (sgrs tc : List Nat) (h : CInvX ic R w p core)
    (hs : ∀ n ∈ sgrs, n < 1000) (ht : ∀ n ∈ tc, n < 1000) :
    ∃ p1 core1, ansiRun p core ((if sgrs.isEmpty then [] else csi sgrs 109) ++ tcSeqs tc.length tc) = (p1, core1) ∧
      core1.scr = core.scr ∧ CInvX ic (rdPre R sgrs tc) w p1 core1 := by
  by_cases hemp : sgrs.isEmpty = true
  · rw [if_pos hemp, List.nil_append]
    have : rdPre R sgrs tc = rdTc tc.length tc R := by unfold rdPre rdSgr; rw [if_pos hemp]
    rw [this]
    exact tc_read ic w tc.length tc R p core h ht
  · have hne : sgrs ≠ [] := fun e => hemp (by rw [e]; rfl)
    rw [if_neg hemp, ansiRun_append_of_eq (ansiRun_sgr p core h.base.ns h.base.ag sgrs hne hs), sgr_rd core sgrs hne, h.rdSt]
    exact tc_read ic w tc.length tc _ _ _ (h.rd (rdSgr R sgrs)) ht

def CellDomX (o : AnsiOpts) (ic : Bool) (c : Cell) : Prop := AttrX ic c.attr ∧ EncDom o c.ch

/-- the cells of (part of) a row next to the `CharCell`s `generate_cells` made of them, with the reader's state before
    and after: each cell's sequences move the reader (`rdPre`) to a state in which it prints what the cell shows -/
inductive LineOkX (o : AnsiOpts) (ic : Bool) (pal : List Rgb) : RdSt → List Cell → List CharCell → RdSt → Prop
  | nil (R : RdSt) : LineOkX o ic pal R [] [] R
  | cons (R R' Re : RdSt) (c : Cell) (cc : CharCell) (cs : List Cell) (ccs : List CharCell) :
      cc.ch = c.ch → (∀ n ∈ cc.sgr, n < 1000) → (∀ n ∈ cc.sgrTc, n < 1000) → rdPre R cc.sgr cc.sgrTc = R' →
      R.2 <+: R'.2 → R'.2.length ≤ R.2.length + 2 →
      Disp pal R'.2 c ⟨c.ch, prAttr ic R'.1⟩ →
      (cc.cur.bg = black → cc.cur.isBlink = false → getRgb pal c.attr.bg = black ∧ c.attr.fl.blink = false) →
      EncDom o c.ch → LineOkX o ic pal R' cs ccs Re → LineOkX o ic pal R (c :: cs) (cc :: ccs) Re

theorem LineOkX.grow {o : AnsiOpts} {ic : Bool} {pal : List Rgb} {R Re : RdSt} {cs : List Cell} {ccs : List CharCell}
    (h : LineOkX o ic pal R cs ccs Re) : R.2 <+: Re.2 ∧ Re.2.length ≤ R.2.length + 2 * cs.length := by
  induction h with
  | nil => exact ⟨List.prefix_refl _, by simp⟩
  | cons _ _ _ _ _ _ _ _ _ _ _ h5 h6 _ _ _ _ ih =>
    exact ⟨List.IsPrefix.trans h5 ih.1, by simp; omega⟩

theorem rdPre_nil (R : RdSt) : rdPre R [] [] = R := rfl

theorem CInvX.scr {ic : Bool} {R : RdSt} {w : Nat} {p : AnsiP} {c : Core} (h : CInvX ic R w p c) (p' : AnsiP) (hp' : p'.st = .ground)
    (s : Screen) (hs : s.w = c.scr.w) : CInvX ic R w p' { c with scr := s } :=
  ⟨⟨h.base.ns, hp', h.base.ice, h.base.attr, hs.trans h.base.sw, h.base.th⟩, h.pal⟩

theorem char_readX (o : AnsiOpts) (ic : Bool) (R : RdSt) (w : Nat) (p : AnsiP) (core : Core) (ch : Nat) (h : CInvX ic R w p core)
    (hd : EncDom o ch) :
    ∃ p1 core1, ansiRun p core (cellChar o ch) = (p1, core1) ∧ core1.scr = core.scr.put ⟨ch, prAttr ic R.1⟩ ∧ p1.lastCh = ch ∧
      CInvX ic R w p1 core1 := by
  refine ⟨{ p with lastCh := ch }, { core with scr := core.scr.put ⟨ch, prAttr ic R.1⟩ }, ?_, rfl, rfl,
    h.scr { p with lastCh := ch } h.base.ag (core.scr.put ⟨ch, prAttr ic R.1⟩) (exec_w core.scr (Op.put _))⟩
  rw [cellChar_read o p core ch h.base.ns h.base.ag hd]
  simp [Core.printAnsi, printAttr_prAttr core ic R.1 h.base.ice h.base.attr]

theorem cuf_readX (ic : Bool) (R : RdSt) (w : Nat) (p : AnsiP) (core : Core) (n : Nat) (h : CInvX ic R w p core) (hn : n < 1000)
    (hfit : core.scr.cx + n < w) (hw : w ≤ 100000) :
    ∃ p1 core1, ansiRun p core (csi [n] 67) = (p1, core1) ∧ core1.scr = core.scr.runItems (List.replicate n none) ∧ CInvX ic R w p1 core1 := by
  have ns := h.base.ns
  have sw := h.base.sw
  refine ⟨{ p with st := .ground }, { core with scr := core.scr.runItems (List.replicate n none) }, ?_, rfl, h.scr _ rfl _ (runItems_w _ _)⟩
  rw [ansiRun_cuf p core ns h.base.ag n hn, right_n n core.scr (by rw [sw]; exact hfit) (by rw [sw]; exact hw)]

theorem rep_readX (ic : Bool) (R : RdSt) (w : Nat) (p : AnsiP) (core : Core) (n : Nat) (h : CInvX ic R w p core) (hn : n < 1000) (hnw : n ≤ w) :
    ∃ p1 core1, ansiRun p core (csi [n] 98) = (p1, core1) ∧
      core1.scr = core.scr.runItems (List.replicate n (some ⟨p.lastCh, prAttr ic R.1⟩)) ∧ CInvX ic R w p1 core1 := by
  have ns := h.base.ns
  have sw := h.base.sw
  refine ⟨{ p with st := .ground }, { core with scr := core.scr.runItems (List.replicate n (some ⟨p.lastCh, prAttr ic R.1⟩)) }, ?_, rfl,
    h.scr _ rfl _ (runItems_w _ _)⟩
  have hmin : min n (core.scr.w * core.termH) = n := by
    have : core.scr.w ≤ core.scr.w * core.termH := Nat.le_mul_of_pos_right _ h.base.th
    omega
  rw [ansiRun_rep p core ns h.base.ag n hn]
  simp [rep, hmin, printAttr_prAttr core ic R.1 h.base.ice h.base.attr, puts_replicate]

/-- a cell the writer may skip with cursor forward: a space on a black background that does not blink -/
def SkipCellX (pal : List Rgb) (c : Cell) : Prop := c.ch = 32 ∧ getRgb pal c.attr.bg = black ∧ c.attr.fl.blink = false

theorem skip_trimX {pal : List Rgb} {c : Cell} (h : SkipCellX pal c) : TrimCellX pal c := ⟨Or.inl h.1, h.2.1, h.2.2⟩

/-- the items the reader performs for the cells of (the rest of) a row that starts in column `x`: each cell is printed
    as a cell that shows the same (through the palette `Pf`), or it is a skippable cell skipped away from the margin -/
def ItemsOkX (pal Pf : List Rgb) (x w : Nat) (cells : List Cell) (items : List (Option Cell)) : Prop :=
  ∀ j, j < cells.length →
    (∃ l, items.getD j none = some l ∧ Disp pal Pf (cells.getD j defaultCell) l) ∨
    (items.getD j none = none ∧ SkipCellX pal (cells.getD j defaultCell) ∧ x + j + 1 < w)

theorem ItemsOkX.mono {pal P Q : List Rgb} {x w : Nat} {cells : List Cell} {items : List (Option Cell)}
    (h : ItemsOkX pal P x w cells items) (hq : P <+: Q) : ItemsOkX pal Q x w cells items := by
  intro j hj
  rcases h j hj with ⟨l, e, d⟩ | q
  · exact Or.inl ⟨l, e, d.mono hq⟩
  · exact Or.inr q

theorem ItemsP.skips {Pr : Cell → Option Cell → Prop} {Sk : Cell → Prop} {w : Nat} {cells : List Cell} {items : List (Option Cell)}
    (hPr : ∀ c, ¬ Pr c none) (hl : items.length = cells.length) (h : ItemsP Pr Sk 0 w cells items) : RowSkipsInside w items := by
  intro i hi hn
  rcases h i (by omega) with h' | ⟨_, _, h3⟩
  · rw [hn] at h'; exact absurd h' (hPr _)
  · omega

/-- a line over any notion `G R c` of "the reader in state `R` prints what `c` shows": each cell's sequences move the reader
    (`rdPre`) to a state that is good for the cell; a cell whose writer state records colour 0, black, not blinking is of
    kind `S` (on the default background, not blinking) -/
inductive LineG (o : AnsiOpts) (G : RdSt → Cell → Prop) (S : Cell → Prop) : RdSt → List Cell → List CharCell → RdSt → Prop
  | nil (R : RdSt) : LineG o G S R [] [] R
  | cons (R R' Re : RdSt) (c : Cell) (cc : CharCell) (cs : List Cell) (ccs : List CharCell) :
      cc.ch = c.ch → (∀ n ∈ cc.sgr, n < 1000) → (∀ n ∈ cc.sgrTc, n < 1000) → rdPre R cc.sgr cc.sgrTc = R' → G R' c →
      (cc.cur.bgIdx = 0 → cc.cur.bg = black → cc.cur.isBlink = false → S c) → EncDom o c.ch →
      LineG o G S R' cs ccs Re → LineG o G S R (c :: cs) (cc :: ccs) Re

section LineG
variable {o : AnsiOpts} {G : RdSt → Cell → Prop} {S : Cell → Prop}

theorem LineG.length_eq {R Re : RdSt} {cs : List Cell} {ccs : List CharCell} (h : LineG o G S R cs ccs Re) : ccs.length = cs.length := by
  induction h with
  | nil => rfl
  | cons _ _ _ _ _ _ _ _ _ _ _ _ _ _ _ ih => simp [ih]

/-- a run found by the RLE scan: its cells come without sequences, so the reader's state is good for each of them as it
    stands, and the rest of the line is still a line -/
theorem lineG_run (ch0 : Nat) : ∀ (r : Nat) (R Re : RdSt) (cs : List Cell) (ccs : List CharCell),
    LineG o G S R cs ccs Re → r ≤ ccs.length →
    (∀ j, j < r → ∃ cc, ccs[j]? = some cc ∧ cc.ch = ch0 ∧ cc.sgr = [] ∧ cc.sgrTc = []) →
    (∀ j, j < r → (cs.getD j defaultCell).ch = ch0 ∧ G R (cs.getD j defaultCell) ∧ EncDom o (cs.getD j defaultCell).ch) ∧
    LineG o G S R (cs.drop r) (ccs.drop r) Re := by
  intro r
  induction r with
  | zero => intro R Re cs ccs h _ _; exact ⟨fun j hj => by omega, by simpa using h⟩
  | succ k ih =>
    intro R Re cs ccs h hr hrun
    cases h with
    | nil => simp at hr
    | cons _ R' _ c cc cs' ccs' h1 h2 h3 h4 h7 h8 h9 h10 =>
      obtain ⟨cc0, e0, g1, g2, g3⟩ := hrun 0 (by omega)
      simp at e0; subst e0
      have hR : R' = R := by rw [← h4, g2, g3]; rfl
      subst hR
      have hrun' : ∀ j, j < k → ∃ cc, ccs'[j]? = some cc ∧ cc.ch = ch0 ∧ cc.sgr = [] ∧ cc.sgrTc = [] := by
        intro j hj
        obtain ⟨cc, e, q1, q2, q3⟩ := hrun (j + 1) (by omega)
        exact ⟨cc, by simpa using e, q1, q2, q3⟩
      obtain ⟨J1, J2⟩ := ih R' Re cs' ccs' h10 (by simp at hr; omega) hrun'
      refine ⟨?_, by simpa using J2⟩
      intro j hj
      cases j with
      | zero => exact ⟨by simpa using h1.symm.trans g1, by simpa using h7, by simpa using h9⟩
      | succ j' => simpa using J1 j' (by omega)

end LineG

theorem LineOkX.toG {o : AnsiOpts} {ic : Bool} {pal : List Rgb} {R Re : RdSt} {cs : List Cell} {ccs : List CharCell}
    (h : LineOkX o ic pal R cs ccs Re) :
    LineG o (fun R' c => Disp pal R'.2 c ⟨c.ch, prAttr ic R'.1⟩ ∧ R'.2 <+: Re.2)
      (fun c => getRgb pal c.attr.bg = black ∧ c.attr.fl.blink = false) R cs ccs Re := by
  induction h with
  | nil R => exact .nil R
  | cons R R' Re c cc cs ccs h1 h2 h3 h4 _ _ h7 h8 h9 h10 ih =>
    exact .cons R R' Re c cc cs ccs h1 h2 h3 h4 ⟨h7, h10.grow.1⟩ (fun _ hb hk => h8 hb hk) h9 ih

theorem LineOk.toG {o : AnsiOpts} {ic : Bool} {A : Attr} {cs : List Cell} {ccs : List CharCell} (P : List Rgb)
    (h : LineOk o ic A cs ccs) :
    LineG o (fun R' c => (R'.1 = caretAttr ic c.attr ∧ Attr16 ic c.attr) ∧ R'.2 <+: P)
      (fun c => (printedAttr c.attr).bg = 0 ∧ (printedAttr c.attr).fl.blink = false) (A, P) cs ccs (lastAttr ic A cs, P) := by
  induction h with
  | nil A => exact .nil _
  | cons A c cc cs ccs h1 h2 h3 h4 h5 h6 _ ih =>
    refine .cons _ (caretAttr ic c.attr, P) _ c cc cs ccs h1 (fun n hn => (h3 n hn).2) (by rw [h2]; intro n hn; cases hn) ?_
      ⟨⟨rfl, h6.1⟩, List.prefix_refl _⟩ ?_ h6.2 ih
    · rw [h2, rdPre_simple A P cc.sgr h3, h4]
    · intro kb _ kk
      exact skip_of_caret ic _ h6.1 (by rw [← h5.bi]; exact kb) (by rw [h5.fl]; exact kk)

/-- what the sequences `g` (= `get_color`'s result) emitted for the cell `c` do to a reader that goes from `R` to `R'` over
    them; `G`, `S` as in `LineG` -/
structure CellStep (o : AnsiOpts) (Rel : AnsiState → RdSt → Prop) (G : RdSt → Cell → Prop) (S : Cell → Prop) (c : Cell)
    (g : AnsiState × List Nat × List Nat) (R R' : RdSt) : Prop where
  vis : c.isVisible = true
  enc : EncDom o c.ch
  lt : ∀ n ∈ g.2.1, n < 1000
  lttc : ∀ n ∈ g.2.2, n < 1000
  rel : Rel g.1 R'
  pre : R.2 <+: R'.2
  len : R'.2.length ≤ R.2.length + 2
  good : G R' c
  skip : g.1.bg = black → g.1.isBlink = false → S c

/-- the interface between `get_color` and the loops: every cell of kind `Dom`, written from a state the reader is in step
    with, makes a `CellStep` -/
def CellSync (o : AnsiOpts) (pal : List Rgb) (im : IceMode) (Rel : AnsiState → RdSt → Prop) (Dom : Cell → Prop)
    (G : RdSt → Cell → Prop) (S : Cell → Prop) : Prop :=
  ∀ (c : Cell) (st : AnsiState) (R : RdSt), Dom c → Rel st R →
    CellStep o Rel G S c (getColor o pal im c.attr st) R (rdPre R (getColor o pal im c.attr st).2.1 (getColor o pal im c.attr st).2.2)

theorem line_gen {o : AnsiOpts} {pal : List Rgb} {im : IceMode} {Rel : AnsiState → RdSt → Prop} {Dom : Cell → Prop}
    {L : RdSt → List Cell → List CharCell → RdSt → Prop} (hnil : ∀ R, L R [] [] R)
    (hcons : ∀ (c : Cell) (st : AnsiState) (R : RdSt), Dom c → Rel st R → c.isVisible = true ∧
      Rel (getColor o pal im c.attr st).1 (rdPre R (getColor o pal im c.attr st).2.1 (getColor o pal im c.attr st).2.2) ∧
      ∀ cs ccs Re, L (rdPre R (getColor o pal im c.attr st).2.1 (getColor o pal im c.attr st).2.2) cs ccs Re →
        L R (c :: cs) (⟨c.ch, (getColor o pal im c.attr st).2.1, (getColor o pal im c.attr st).2.2, (getColor o pal im c.attr st).1⟩ :: ccs) Re)
    (row : List Cell) (hd : ∀ c ∈ row, Dom c) :
    ∀ (n x : Nat) (st : AnsiState) (R : RdSt), x + n ≤ row.length → Rel st R →
      ∃ Re, L R ((row.drop x).take n) (genCellsRow o pal im row n x st).1 Re ∧ Rel (genCellsRow o pal im row n x st).2 Re := by
  intro n
  induction n with
  | zero => intro x st R _ h; exact ⟨R, by simp [genCellsRow]; exact hnil R, by simpa [genCellsRow] using h⟩
  | succ k ih =>
    intro x st R hx h
    have hxl : x < row.length := by omega
    have hget : row.getD x defaultCell = row[x] := by
      rw [List.getD_eq_getElem?_getD, List.getElem?_eq_getElem hxl]; rfl
    obtain ⟨hvis, hrel, hc⟩ := hcons row[x] st R (hd _ (List.getElem_mem hxl)) h
    generalize hg : getColor o pal im row[x].attr st = g at hrel hc
    obtain ⟨Re, I1, I2⟩ := ih (x + 1) g.1 _ (by omega) hrel
    have hdrop : (row.drop x).take (k + 1) = row[x] :: (row.drop (x + 1)).take k := by
      rw [List.drop_eq_getElem_cons hxl]; rfl
    unfold genCellsRow
    rw [hget, hdrop]
    simp only [hvis, if_true, hg]
    exact ⟨Re, hc _ _ _ I1, I2⟩

theorem lineG_gen {o : AnsiOpts} {pal : List Rgb} {im : IceMode} {Rel : AnsiState → RdSt → Prop} {Dom : Cell → Prop}
    {G : RdSt → Cell → Prop} {S : Cell → Prop} (hsync : CellSync o pal im Rel Dom G S) (row : List Cell) (hd : ∀ c ∈ row, Dom c)
    (n x : Nat) (st : AnsiState) (R : RdSt) (hx : x + n ≤ row.length) (h : Rel st R) :
    ∃ Re, (LineG o (fun R' c => G R' c ∧ R'.2 <+: Re.2) S R ((row.drop x).take n) (genCellsRow o pal im row n x st).1 Re ∧
        R.2 <+: Re.2 ∧ Re.2.length ≤ R.2.length + 2 * ((row.drop x).take n).length) ∧
      Rel (genCellsRow o pal im row n x st).2 Re :=
  line_gen (L := fun R cs ccs Re => LineG o (fun R' c => G R' c ∧ R'.2 <+: Re.2) S R cs ccs Re ∧ R.2 <+: Re.2 ∧
      Re.2.length ≤ R.2.length + 2 * cs.length)
    (fun R => ⟨.nil R, List.prefix_refl _, Nat.le_refl _⟩)
    (fun c st R hc h => by
      have s := hsync c st R hc h
      exact ⟨s.vis, s.rel, fun cs ccs Re ⟨I1, I2, I3⟩ =>
        ⟨.cons R _ Re c _ cs ccs rfl s.lt s.lttc rfl ⟨s.good, I2⟩ (fun _ => s.skip) s.enc I1, s.pre.trans I2,
          by rw [List.length_cons]; have := s.len; omega⟩⟩)
    row hd n x st R hx h

theorem cellSyncX (o : AnsiOpts) (pal : List Rgb) (hpal : PalBytes pal) (im : IceMode) :
    CellSync o pal im (fun st R => RelX (decide (im = .ice)) st.isBlink st R.1 R.2) (CellDomX o (decide (im = .ice)))
      (fun R' c => Disp pal R'.2 c ⟨c.ch, prAttr (decide (im = .ice)) R'.1⟩)
      (fun c => getRgb pal c.attr.bg = black ∧ c.attr.fl.blink = false) := by
  intro c st R hdc h
  have S := sgr_syncX o pal hpal im c.attr hdc.1 st R.1 R.2 h
  refine ⟨by unfold Cell.isVisible; rw [hdc.1.2.2]; rfl, hdc.2, S.lt, S.lttc, S.rel, S.pre, S.len,
    disp_of_sync _ pal c.attr R.2 _ _ S hdc.1 c.ch, fun hb hk => ⟨by rw [← S.bgc]; exact hb, ?_⟩⟩
  cases hq : decide (im = IceMode.ice) with
  | true => exact hdc.1.1 hq
  | false => rw [← S.blk hq]; exact hk

theorem cellSync16 (o : AnsiOpts) (im : IceMode) :
    CellSync o dosPalette im (fun st R => RelS (decide (im = .ice)) st.isBlink st R.1) (CellDom o (decide (im = .ice)))
      (fun R' c => R'.1 = caretAttr (decide (im = .ice)) c.attr ∧ Attr16 (decide (im = .ice)) c.attr)
      (fun c => (printedAttr c.attr).bg = 0 ∧ (printedAttr c.attr).fl.blink = false) := by
  intro c st R hdc h
  obtain ⟨S1, S2, S3, S4⟩ := sgr_sync o im c.attr hdc.1 st R.1 h
  have e : rdPre R (getColor o dosPalette im c.attr st).2.1 (getColor o dosPalette im c.attr st).2.2 = (caretAttr (decide (im = .ice)) c.attr, R.2) := by
    rw [S1, ← S4]; exact rdPre_simple R.1 R.2 _ S2
  rw [e]
  rw [S4] at S3
  refine ⟨by unfold Cell.isVisible; rw [hdc.1.2.2.2]; rfl, hdc.2, fun n hn => (S2 n hn).2, (by rw [S1]; intro n hn; cases hn), S3,
    List.prefix_refl _, Nat.le_add_right _ _, ⟨rfl, hdc.1⟩, fun hb hk => ?_⟩
  -- the recorded colour is black and steady: the reader is on colour 0 (DOS colours are pairwise different)
  have e0 := S3.cb
  rw [hk, Bool.and_false, if_neg (by decide), Nat.add_zero, hb] at e0
  exact skip_of_caret _ _ hdc.1 (dos_inj _ (Nat.lt_trans S3.bgl (by decide)) 0 (by decide) e0.symm) (by rw [S3.fl]; exact hk)

/-! `LineOkX` and `LineOk` are the line relations `subst_sound_all` / `subst_sound` (Props/C04.lean) are stated in; the
writer's lines satisfy them. -/

theorem lineOkX_gen (o : AnsiOpts) (pal : List Rgb) (hpal : PalBytes pal) (im : IceMode) (row : List Cell)
    (hd : ∀ c ∈ row, CellDomX o (decide (im = .ice)) c) (n x : Nat) (st : AnsiState) (R : RdSt) (hx : x + n ≤ row.length)
    (h : RelX (decide (im = .ice)) st.isBlink st R.1 R.2) :
    ∃ Re, LineOkX o (decide (im = .ice)) pal R ((row.drop x).take n) (genCellsRow o pal im row n x st).1 Re ∧
      RelX (decide (im = .ice)) (genCellsRow o pal im row n x st).2.isBlink (genCellsRow o pal im row n x st).2 Re.1 Re.2 :=
  line_gen (L := LineOkX o (decide (im = .ice)) pal) .nil
    (fun c st R hc h => by
      have s := cellSyncX o pal hpal im c st R hc h
      exact ⟨s.vis, s.rel, fun cs ccs Re I => .cons R _ Re c _ cs ccs rfl s.lt s.lttc rfl s.pre s.len s.good s.skip s.enc I⟩)
    row hd n x st R hx h

theorem lineOk_gen (o : AnsiOpts) (im : IceMode) (row : List Cell) (hd : ∀ c ∈ row, CellDom o (decide (im = .ice)) c)
    (n x : Nat) (st : AnsiState) (A : Attr) (hx : x + n ≤ row.length) (h : RelS (decide (im = .ice)) st.isBlink st A) :
    LineOk o (decide (im = .ice)) A ((row.drop x).take n) (genCellsRow o dosPalette im row n x st).1 := by
  obtain ⟨_, I, _⟩ := line_gen (Rel := fun st R => RelS (decide (im = .ice)) st.isBlink st R.1)
    (L := fun R cs ccs _ => LineOk o (decide (im = .ice)) R.1 cs ccs) (fun R => .nil R.1)
    (fun c st R hc h => by
      obtain ⟨S1, S2, S3, S4⟩ := sgr_sync o im c.attr hc.1 st R.1 h
      have e : rdPre R (getColor o dosPalette im c.attr st).2.1 (getColor o dosPalette im c.attr st).2.2 =
          (caretAttr (decide (im = .ice)) c.attr, R.2) := by rw [S1, ← S4]; exact rdPre_simple R.1 R.2 _ S2
      rw [e]
      exact ⟨by unfold Cell.isVisible; rw [hc.1.2.2.2]; rfl, by rw [← S4]; exact S3,
        fun cs ccs _ I => .cons R.1 c _ cs ccs rfl S1 S2 S4 (by rw [← S4]; exact S3) hc I⟩)
    row hd n x st (A, dosPalette) hx h
  exact I

end IcyVerif.ArtIO
