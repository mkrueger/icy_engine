import IcyVerif.Model.UniMacro
import IcyVerif.Lemmas.UnicodeSites
/-! C10Macro: the characters of a stored macro body all come from the stream (text macros) or are byte values (hex macros) -/
namespace IcyVerif.UniMacro
open IcyVerif.Uni IcyVerif.Gen.UniMacro IcyVerif.Gen.Unsafe

/-- all members are Unicode scalar values (what a stream of Rust `char`s is) -/
def Scalars (l : List Nat) : Prop := ∀ c ∈ l, isScalar c = true

def TableScalars (t : Table) : Prop := ∀ e ∈ t, Scalars e.2

theorem scalars_nil : Scalars [] := by intro c h; cases h

theorem scalars_append {a b : List Nat} (ha : Scalars a) (hb : Scalars b) : Scalars (a ++ b) := by
  intro c hc
  rcases List.mem_append.mp hc with h | h
  · exact ha c h
  · exact hb c h

theorem scalars_tail {c : Nat} {l : List Nat} (h : Scalars (c :: l)) : Scalars l :=
  fun x hx => h x (List.mem_cons_of_mem _ hx)

/-- the recorder only ever pushes characters of the stream (and the ESC it had held back) -/
theorem record_scalars (esc : Bool) (acc chars : List Nat) (ha : Scalars acc) (hc : Scalars chars) (s rest : List Nat)
    (h : record esc acc chars = .done s rest) : Scalars s ∧ Scalars rest := by
  induction chars generalizing esc acc with
  | nil => unfold record at h; cases h
  | cons c t ih =>
    have hcs : isScalar c = true := hc c (by simp)
    unfold record at h
    split at h
    · split at h
      · injection h with h1 h2
        subst h1; subst h2
        exact ⟨ha, scalars_tail hc⟩
      · split at h
        · cases h
        · have hacc : Scalars (acc ++ [ESC, c]) := by
            apply scalars_append ha
            intro x hx
            simp at hx
            rcases hx with rfl | rfl
            · exact (by decide : isScalar ESC = true)
            · exact hcs
          exact ih false _ hacc (scalars_tail hc) h
    · split at h
      · exact ih true _ ha (scalars_tail hc) h
      · have hacc : Scalars (acc ++ [c]) := by
          apply scalars_append ha
          intro x hx
          simp at hx
          subst hx
          exact hcs
        exact ih false _ hacc (scalars_tail hc) h

theorem takeNums_rest_mem (numsRev : List Int) (s : List Nat) : ∀ c ∈ (takeNums numsRev s).2, c ∈ s := by
  induction s generalizing numsRev with
  | nil => intro c h; simp [takeNums] at h
  | cons a t ih =>
    intro c h
    unfold takeNums at h
    split at h
    · split at h
      · exact List.mem_cons_of_mem _ (ih _ c h)
      · exact List.mem_cons_of_mem _ (ih _ c h)
    · split at h
      · exact List.mem_cons_of_mem _ (ih _ c h)
      · exact h

theorem tblInsert_scalars (id : Nat) (b : List Nat) (t : Table) (hb : Scalars b) (ht : TableScalars t) :
    TableScalars (tblInsert id b t) := by
  induction t with
  | nil => intro e he; simp [tblInsert] at he; subst he; exact hb
  | cons kv t ih =>
    obtain ⟨k, v⟩ := kv
    have ht' : TableScalars t := fun e he => ht e (List.mem_cons_of_mem _ he)
    unfold tblInsert
    split
    · intro e he
      rcases List.mem_cons.mp he with rfl | he
      · exact hb
      · exact ht e he
    · split
      · intro e he
        rcases List.mem_cons.mp he with rfl | he
        · exact hb
        · exact ht' e he
      · intro e he
        rcases List.mem_cons.mp he with rfl | he
        · exact ht _ (by simp)
        · exact ih ht' e he

theorem tblGet_insert (id : Nat) (b : List Nat) (t : Table) : tblGet id (tblInsert id b t) = some b := by
  induction t with
  | nil => simp [tblInsert, tblGet]
  | cons kv t ih =>
    obtain ⟨k, v⟩ := kv
    unfold tblInsert
    split
    · simp [tblGet]
    · split
      · simp [tblGet]
      · rename_i h1 h2
        have : ¬ k = id := fun h => h2 h.symm
        simp [tblGet, this, ih]

theorem tableScalars_nil : TableScalars [] := by intro e he; cases he

theorem parseMacro_scalars (tbl : Table) (nums : List Int) (body : List Nat) (ht : TableScalars tbl) (hb : Scalars body) :
    TableScalars (parseMacro tbl nums body).1 := by
  unfold parseMacro
  split
  · exact ht
  · rename_i pid more
    have ht1 : TableScalars (if more.head? = some pdtClear then [] else tbl) := by
      split
      · exact tableScalars_nil
      · exact ht
    dsimp only
    split
    · exact ht1
    · split
      · exact tblInsert_scalars _ _ _ hb ht1
      · split
        · split
          · rename_i m hm
            exact tblInsert_scalars _ _ _ (fun c hc => lt256_scalar _ (hexMacro_lt hexTable (by decide) body m hm c hc)) ht1
          · exact ht1
        · exact ht1

theorem executeDcs_scalars (tbl : Table) (s : List Nat) (ht : TableScalars tbl) (hs : Scalars s) :
    TableScalars (executeDcs tbl s).1 := by
  unfold executeDcs
  split
  · exact ht
  · dsimp only
    split
    · apply parseMacro_scalars _ _ _ ht
      intro c hc
      exact hs c (takeNums_rest_mem [] s c (List.mem_of_mem_drop hc))
    · split
      · exact ht
      · exact ht

def OpScalars : Op → Prop
  | .dcs cs => Scalars cs
  | .ris => True

theorem step_scalars (tbl : Table) (op : Op) (ht : TableScalars tbl) (ho : OpScalars op) :
    TableScalars (step tbl op).1 := by
  cases op with
  | ris => exact tableScalars_nil
  | dcs chars =>
    unfold step
    dsimp only
    split
    · rename_i s hrec
      have hs := (record_scalars false [] chars scalars_nil ho s [] hrec).1
      have := executeDcs_scalars tbl s ht hs
      split <;> rename_i heq <;> rw [heq] at this <;> exact this
    · exact ht

theorem run_scalars (tbl : Table) (ops : List Op) (ht : TableScalars tbl) (ho : ∀ op ∈ ops, OpScalars op) :
    TableScalars (run tbl ops).1 := by
  induction ops generalizing tbl with
  | nil => exact ht
  | cons op ops ih =>
    unfold run
    have h1 := step_scalars tbl op ht (ho op (by simp))
    have h2 := ih (step tbl op).1 h1 (fun o h => ho o (List.mem_cons_of_mem _ h))
    exact h2

/-- number prefix: only digits and `;` -/
def NumChars (pre : List Nat) : Prop := ∀ c ∈ pre, isDigit c = true ∨ c = 59

theorem takeNums_append (numsRev : List Int) (pre rest : List Nat) (hp : NumChars pre)
    (hr : ∀ c, rest.head? = some c → isDigit c = false ∧ c ≠ 59) :
    takeNums numsRev (pre ++ rest) = ((takeNums numsRev pre).1, rest) := by
  induction pre generalizing numsRev with
  | nil =>
    cases rest with
    | nil => simp [takeNums]
    | cons c t =>
      have := hr c rfl
      simp [takeNums, this.1, this.2]
  | cons a t ih =>
    have ht : NumChars t := fun c hc => hp c (List.mem_cons_of_mem _ hc)
    have ha := hp a (by simp)
    simp only [List.cons_append]
    unfold takeNums
    split
    · split <;> exact ih _ ht
    · rename_i hnd
      rcases ha with ha | ha
      · exact absurd ha hnd
      · simp only [ha, if_true]; exact ih _ ht

end IcyVerif.UniMacro
