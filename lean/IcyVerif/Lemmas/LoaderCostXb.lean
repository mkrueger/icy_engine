import IcyVerif.Lemmas.LoaderCostBase
/-! XBin loader: the block readers, `_res`, and one walk per loop: never a panic (C02, through `_res`), work within the budget (C03). -/
namespace IcyVerif.Loaders
open IcyVerif.Bytes IcyVerif.Bytes.Res IcyVerif.Gen IcyVerif.Gen.Loaders

/-- invariant of the XBin readers: column in `[0, 4096)`, row `>= 0` -/
def XbPos (p : Pos) : Prop := 0 ≤ p.x ∧ p.x < 4096 ∧ 0 ≤ p.y

theorem xbCount_le (c : Nat) : (c &&& Xb.readCountMask) + 1 ≤ 64 := by
  have : c &&& Xb.readCountMask ≤ Xb.readCountMask := Nat.and_le_right
  have h63 : Xb.readCountMask = 63 := rfl
  omega

theorem xbPalette_sat (d : Bytes) (o : Nat) (has : Bool) (ho : o ≤ d.size) :
    (xbPalette d o has).Sat (fun o' => o' ≤ d.size) := by
  unfold xbPalette
  refine Sat.ite (fun _ => ho) (fun _ => Sat.guard (fun h => ?_))
  apply Sat.bind (slice_sat (by omega)); intro _ _
  show o + Xb.paletteLength ≤ d.size
  omega

theorem xbFonts_sat (d : Bytes) (o fs : Nat) (has ext : Bool) (ho : o ≤ d.size) :
    (xbFonts d o fs has ext).Sat (fun o' => o' ≤ d.size) := by
  unfold xbFonts
  refine Sat.ite (fun _ => ho) (fun _ => ?_)
  cases ext with
  | false =>
    refine Sat.guard (fun h => ?_)
    simp only [Bool.false_eq_true, if_false] at h ⊢
    apply Sat.bind (slice_sat (by omega)); intro _ _
    show o + fs * 256 ≤ d.size
    omega
  | true =>
    refine Sat.guard (fun h => ?_)
    simp only [if_true] at h ⊢
    apply Sat.bind (slice_sat (by omega)); intro _ _
    apply Sat.bind (slice_sat (by omega)); intro _ _
    show o + fs * 256 + fs * 256 ≤ d.size
    omega

end IcyVerif.Loaders

namespace IcyVerif.LoaderCost
open IcyVerif.Bytes IcyVerif.Bytes.Res IcyVerif.Loaders IcyVerif.Gen IcyVerif.Gen.Loaders RC

theorem xbOffRunC_res (d : Bytes) (bw : Int) : ∀ n o p g, (xbOffRunC d bw n o p g).res = xbOffRun d bw n o p g
  | 0, _, _, _ => rfl
  | n + 1, o, p, g => by simp only [xbOffRunC, xbOffRun, res_bind, res_tick, ok_bind, apply_ite RC.res, res_pure, res_lift, res_setCharC, xbOffRunC_res d bw n]

theorem xbOneRunC_res (d : Bytes) (bw : Int) : ∀ n o p g, (xbOneRunC d bw n o p g).res = xbOneRun d bw n o p g
  | 0, _, _, _ => rfl
  | n + 1, o, p, g => by simp only [xbOneRunC, xbOneRun, res_bind, res_tick, ok_bind, apply_ite RC.res, res_pure, res_lift, res_setCharC, xbOneRunC_res d bw n]

theorem xbFullRunC_res (bw : Int) : ∀ n p g, (xbFullRunC bw n p g).res = xbFullRun bw n p g
  | 0, _, _ => rfl
  | n + 1, p, g => by simp only [xbFullRunC, xbFullRun, res_bind, res_tick, ok_bind, res_lift, res_setCharC, xbFullRunC_res bw n]

theorem xbCompressedC_res (d : Bytes) (bw bh : Int) : ∀ fuel o p g, (xbCompressedC d bw bh fuel o p g).res = xbCompressed d bw bh fuel o p g
  | 0, _, _, _ => by unfold xbCompressedC xbCompressed; exact res_ite (fun _ => rfl) (fun _ => rfl)
  | fuel + 1, _, _, _ => by
    unfold xbCompressedC xbCompressed
    simp only [res_bind, res_tick, ok_bind, apply_ite RC.res, res_pure, res_lift, xbOffRunC_res, xbOneRunC_res, xbFullRunC_res, xbCompressedC_res d bw bh fuel]

theorem xbUncompressedC_res (d : Bytes) (bw bh : Int) : ∀ fuel o p g, (xbUncompressedC d bw bh fuel o p g).res = xbUncompressed d bw bh fuel o p g
  | 0, _, _, _ => by unfold xbUncompressedC xbUncompressed; exact res_ite (fun _ => rfl) (fun _ => res_ite (fun _ => rfl) (fun _ => rfl))
  | fuel + 1, _, _, _ => by
    unfold xbUncompressedC xbUncompressed
    simp only [res_bind, res_tick, ok_bind, apply_ite RC.res, res_pure, res_lift, res_setCharC, xbUncompressedC_res d bw bh fuel]

theorem loadXbC_res (d : Bytes) (sauce : Option (Nat × Nat)) : (loadXbC d sauce).res = loadXb d sauce := by
  unfold loadXbC loadXb
  simp only [res_bind, res_spend, res_fail, ok_bind, apply_ite RC.res, res_pure, res_lift, xbCompressedC_res, xbUncompressedC_res]
  rfl

/-- linear index of a position in a picture `bw` cells wide -/
def idx (p : Pos) (bw : Int) : Int := p.y * bw + p.x

theorem idx_zero (bw : Int) : idx ⟨0, 0⟩ bw = 0 := by simp [idx]

theorem advance_idx {bw : Int} {p q : Pos} (h : Adv bw p q) (hx : 0 ≤ p.x) : 0 ≤ q.x ∧ idx q bw ≤ idx p bw + 1 := by
  unfold idx
  rcases h with ⟨h1, h2, _⟩ | ⟨h1, h2, h3⟩
  · rw [h1, h2]; omega
  · rw [h1, h2, Int.add_mul, Int.one_mul]; omega

/-- one cell of any of the XBin readers: `set_char`, then `advance_pos` -/
theorem cell_bind {β : Type} {s : String} {bw : Int} {B : Nat} {p : Pos} {g : Geo} {K : Pos → Geo → RC β}
    {S : String → Prop} {W E : Nat} {Q : β → Prop} {W' R' E' : β → Nat}
    (hbw : 0 < bw ∧ bw ≤ 4096) (hp : XbPos p) (hy : p.y < 2147483647) (hi : idx p bw < B * bw) (hg : g.lines ≤ B)
    (hK : ∀ q, XbPos q → q.y ≤ p.y + 1 → idx q bw ≤ idx p bw + 1 → (g.setChar p.x p.y).lines ≤ B →
      (K q (g.setChar p.x p.y)).Pot S W (B - (g.setChar p.x p.y).lines) E Q W' R' E') :
    (setCharC g p.x p.y >>= fun g' => lift (advance s bw p) >>= fun q => K q g').Pot S W (B - g.lines) E Q W' R' E' := by
  obtain ⟨hx0, hx1, hy0⟩ := hp
  have hrow := row_lt_of_budget hbw.1 hx0 hi
  refine Pot.setChar_bind hg hrow (Pot.sat_bind (advance_step (by omega) (by omega)) (fun q hq => ?_))
  have hq' : XbPos q ∧ q.y ≤ p.y + 1 := by
    unfold XbPos
    rcases hq with ⟨h1, h2, _⟩ | ⟨h1, h2, _⟩ <;> omega
  exact hK q hq'.1 hq'.2 (advance_idx hq hx0).2 (setChar_lines_le g p.x p.y B hg hrow)

/-- what a run of `n` cells from `p` on `g` leaves -/
structure RunPost (bw : Int) (B n : Nat) (p : Pos) (g : Geo) (q : Pos) (g' : Geo) : Prop where
  pos : XbPos q
  y : q.y ≤ p.y + n
  ix : idx q bw ≤ idx p bw + n
  lines : g'.lines ≤ B
  kept : GeoKept g g'

theorem RunPost.refl {bw : Int} {B n : Nat} {p : Pos} {g : Geo} (hp : XbPos p) (hg : g.lines ≤ B) : RunPost bw B n p g p g :=
  ⟨hp, Int.le.intro n rfl, Int.le.intro n rfl, hg, .refl g⟩

theorem RunPost.step {bw : Int} {B n : Nat} {p q r : Pos} {g g' : Geo} (hy : q.y ≤ p.y + 1) (hi : idx q bw ≤ idx p bw + 1)
    (h : RunPost bw B n q (g.setChar p.x p.y) r g') : RunPost bw B (n + 1) p g r g' :=
  ⟨h.pos, by have := h.y; omega, by have := h.ix; omega, h.lines, (setChar_kept g p.x p.y).trans h.kept⟩

/-- what a run of `n` cells from `p` needs -/
structure RunPre (bw : Int) (B n : Nat) (p : Pos) (g : Geo) : Prop where
  pos : XbPos p
  rows : p.y + n < 2147483647
  cells : idx p bw + n ≤ B * bw
  lines : g.lines ≤ B

theorem RunPre.next {bw : Int} {B n : Nat} {p q : Pos} {g g' : Geo} (h : RunPre bw B (n + 1) p g) (hq : XbPos q) (hy : q.y ≤ p.y + 1)
    (hi : idx q bw ≤ idx p bw + 1) (hl : g'.lines ≤ B) : RunPre bw B n q g' :=
  ⟨hq, by have := h.rows; omega, by have := h.cells; omega, hl⟩

theorem xbFullRunC_pot (bw : Int) (hbw : 0 < bw ∧ bw ≤ 4096) (B : Nat) :
    ∀ (n : Nat) (p : Pos) (g : Geo), RunPre bw B n p g →
      (xbFullRunC bw n p g).Pot (fun _ => False) n (B - g.lines) 0 (fun r => RunPost bw B n p g r.1 r.2)
        (fun _ => 0) (fun r => B - r.2.lines) (fun _ => 0) := by
  intro n
  induction n with
  | zero => intro p g h; exact Pot.pure (.refl h.pos h.lines)
  | succ n ih =>
    intro p g h
    unfold xbFullRunC
    refine Pot.tick_bind (Nat.succ_pos n) (cell_bind hbw h.pos (by have := h.rows; omega) (by have := h.cells; omega) h.lines (fun q hq hqy hqi hl => ?_))
    exact (ih q _ (h.next hq hqy hqi hl)).imp (fun r hr => hr.step hqy hqi)

theorem xbOffRunC_pot (d : Bytes) (bw : Int) (hbw : 0 < bw ∧ bw ≤ 4096) (B : Nat) :
    ∀ (n o : Nat) (p : Pos) (g : Geo), RunPre bw B n p g →
      (xbOffRunC d bw n o p g).Pot (fun _ => False) n (B - g.lines) 0 (fun r => o ≤ r.1 ∧ RunPost bw B n p g r.2.1 r.2.2)
        (fun _ => 0) (fun r => B - r.2.2.lines) (fun _ => 0) := by
  intro n
  induction n with
  | zero => intro o p g h; exact Pot.pure ⟨Nat.le_refl _, .refl h.pos h.lines⟩
  | succ n ih =>
    intro o p g h
    unfold xbOffRunC
    refine Pot.tick_bind (Nat.succ_pos n) (Pot.ite (fun _ => ?_) (fun _ => ?_))
    · exact Pot.pure ⟨Nat.le_refl _, .refl h.pos h.lines⟩ (Nat.zero_le _)
    · refine Pot.sat_bind (rd_sat (by omega)) (fun _ _ => Pot.sat_bind (rd_sat (by omega)) (fun _ _ => ?_))
      refine cell_bind hbw h.pos (by have := h.rows; omega) (by have := h.cells; omega) h.lines (fun q hq hqy hqi hl => ?_)
      exact (ih (o + 2) q _ (h.next hq hqy hqi hl)).imp (fun r hr => ⟨by have := hr.1; omega, hr.2.step hqy hqi⟩)

theorem xbOneRunC_pot (d : Bytes) (bw : Int) (hbw : 0 < bw ∧ bw ≤ 4096) (B : Nat) :
    ∀ (n o : Nat) (p : Pos) (g : Geo), RunPre bw B n p g →
      (xbOneRunC d bw n o p g).Pot (fun _ => False) n (B - g.lines) 0 (fun r => o ≤ r.1 ∧ RunPost bw B n p g r.2.1 r.2.2)
        (fun _ => 0) (fun r => B - r.2.2.lines) (fun _ => 0) := by
  intro n
  induction n with
  | zero => intro o p g h; exact Pot.pure ⟨Nat.le_refl _, .refl h.pos h.lines⟩
  | succ n ih =>
    intro o p g h
    unfold xbOneRunC
    refine Pot.tick_bind (Nat.succ_pos n) (Pot.ite (fun _ => ?_) (fun _ => ?_))
    · exact Pot.pure ⟨Nat.le_refl _, .refl h.pos h.lines⟩ (Nat.zero_le _)
    · refine Pot.sat_bind (rd_sat (by omega)) (fun _ _ => ?_)
      refine cell_bind hbw h.pos (by have := h.rows; omega) (by have := h.cells; omega) h.lines (fun q hq hqy hqi hl => ?_)
      exact (ih (o + 1) q _ (h.next hq hqy hqi hl)).imp (fun r hr => ⟨by have := hr.1; omega, hr.2.step hqy hqi⟩)

/-- what holds at the head of every iteration of the two data readers, with at most `m` bytes left, each good for `c` cells -/
structure XbInv (d : Bytes) (bw : Int) (B : Nat) (c : Int) (fuel o m : Nat) (p : Pos) (g : Geo) : Prop where
  fuel : m < fuel
  left : d.size ≤ o + m
  pos : XbPos p
  /-- the cells decoded so far and `c` cells for every byte left fit into the first `B` rows -/
  budget : idx p bw + c * (m : Int) < B * bw
  lines : g.lines ≤ B

/-- `read_data_compressed`.  No panic: the row is below the 16-bit height at the head of an iteration and a run adds at most 64.
    Budget: 65 loop iterations per byte (a control byte starts a run of at most 64 cells); rows only as far as the cells decoded so far reach. -/
theorem xbCompressedC_pot (d : Bytes) (bw bh : Int) (hbw : 0 < bw ∧ bw ≤ 4096) (hbh : bh ≤ 65535) (B : Nat) :
    ∀ (fuel o m : Nat) (p : Pos) (g : Geo), XbInv d bw B 64 fuel o m p g →
      (xbCompressedC d bw bh fuel o p g).Pot (fun _ => False) (65 * m) (B - g.lines) 0 (fun g' => g'.lines ≤ B ∧ GeoKept g g')
        (fun _ => 0) (fun g' => B - g'.lines) (fun _ => 0) := by
  intro fuel
  induction fuel with
  | zero => intro o m p g h; have := h.fuel; omega
  | succ fuel ih =>
    intro o m p g h
    obtain ⟨hf, hm, hp, hi, hg⟩ := h
    unfold xbCompressedC
    refine Pot.ite (fun _ => Pot.pure ⟨hg, .refl g⟩ (Nat.zero_le _)) (fun hc => ?_)
    obtain ⟨ho, hy⟩ : o < d.size ∧ p.y < bh := Decidable.not_not.mp hc
    obtain ⟨m, rfl⟩ : ∃ k, m = k + 1 := ⟨m - 1, by omega⟩
    refine Pot.tick_bind (by omega) (Pot.sat_bind (rd_sat ho) (fun c _ => ?_))
    have hcnt := xbCount_le c
    generalize (c &&& Xb.readCountMask) + 1 = cnt at hcnt ⊢
    -- after the run: the index has grown by at most 64 and at least one byte is gone
    have next : ∀ (o' : Nat) (q : Pos) (g' : Geo), o + 1 ≤ o' → RunPost bw B cnt p g q g' →
        (xbCompressedC d bw bh fuel o' q g').Pot (fun _ => False) (65 * (m + 1) - 1 - cnt) (B - g'.lines) 0 (fun g'' => g''.lines ≤ B ∧ GeoKept g g'')
          (fun _ => 0) (fun g'' => B - g''.lines) (fun _ => 0) :=
      fun o' q g' ho' hr => Pot.weaken ((ih o' m q g'
        { fuel := by omega, left := by omega, pos := hr.pos, budget := by have := hr.ix; omega, lines := hr.lines }).imp
          (fun _ h => ⟨h.1, hr.kept.trans h.2⟩)) (by omega)
    have done : (pure g : RC Geo).Pot (fun _ => False) (65 * (m + 1) - 1) (B - g.lines) 0 (fun g' => g'.lines ≤ B ∧ GeoKept g g')
        (fun _ => 0) (fun g' => B - g'.lines) (fun _ => 0) := Pot.pure ⟨hg, .refl g⟩ (Nat.zero_le _)
    have run : RunPre bw B cnt p g := { pos := hp, rows := by omega, cells := by omega, lines := hg }
    refine Pot.ite (fun _ => ?_) (fun _ => Pot.ite (fun _ => Pot.ite (fun _ => done) (fun _ => ?_))
      (fun _ => Pot.ite (fun _ => done) (fun _ => ?_)))
    · exact Pot.call (xbOffRunC_pot d bw hbw B _ (o + 1) p g run) (by omega)
        (fun r hr => next r.1 r.2.1 r.2.2 hr.1 hr.2)
    · refine Pot.sat_bind (rd_sat (by omega)) (fun _ _ => ?_)
      exact Pot.call (xbOneRunC_pot d bw hbw B _ (o + 1 + 1) p g run) (by omega)
        (fun r hr => next r.1 r.2.1 r.2.2 (Nat.le_trans (Nat.le_succ _) hr.1) hr.2)
    · refine Pot.sat_bind (rd_sat (by omega)) (fun _ _ => Pot.ite (fun _ => done) (fun _ => Pot.sat_bind (rd_sat (by omega)) (fun _ _ => ?_)))
      exact Pot.call (xbFullRunC_pot bw hbw B _ p g run) (by omega)
        (fun r hr => next (o + 1 + 1 + 1) r.1 r.2 (by omega) hr)

theorem xbUncompressedC_pot (d : Bytes) (bw bh : Int) (hbw : 0 < bw ∧ bw ≤ 4096) (hbh : bh ≤ 65535) (B : Nat) :
    ∀ (fuel o m : Nat) (p : Pos) (g : Geo), XbInv d bw B 1 fuel o m p g →
      (xbUncompressedC d bw bh fuel o p g).Pot (fun _ => False) m (B - g.lines) 0 (fun g' => g'.lines ≤ B ∧ GeoKept g g')
        (fun _ => 0) (fun g' => B - g'.lines) (fun _ => 0) := by
  intro fuel
  induction fuel with
  | zero => intro o m p g h; have := h.fuel; omega
  | succ fuel ih =>
    intro o m p g h
    obtain ⟨hf, hm, hp, hi, hg⟩ := h
    unfold xbUncompressedC
    refine Pot.ite (fun _ => Pot.pure ⟨hg, .refl g⟩ (Nat.zero_le _)) (fun hc => Pot.ite (fun _ => Pot.pure ⟨hg, .refl g⟩ (Nat.zero_le _)) (fun h1 => ?_))
    obtain ⟨ho, hy⟩ : o < d.size ∧ p.y < bh := Decidable.not_not.mp hc
    refine Pot.tick_bind (by omega) (Pot.sat_bind (rd_sat (by omega)) (fun _ _ => Pot.sat_bind (rd_sat (by omega)) (fun _ _ => ?_)))
    refine cell_bind hbw hp (by omega) (by omega) hg (fun q hq _ hqi hl => ?_)
    exact (ih (o + 2) (m - 1) q _ { fuel := by omega, left := by omega, pos := hq, budget := by omega, lines := hl }).imp
      (fun _ h => ⟨h.1, (setChar_kept g p.x p.y).trans h.2⟩)

/-- the width an XBin header declares -/
def xbWidth (d : Bytes) : Nat := byteAt d 5 + byteAt d 6 * 256

theorem loadXbC_pot (d : Bytes) (sauce : Option (Nat × Nat)) :
    (loadXbC d sauce).Spends (fun _ => False) (65 * d.size) (64 * d.size / xbWidth d + 1) d.size := by
  unfold loadXbC
  generalize hR0 : 64 * d.size / xbWidth d + 1 = R0
  have hH : Xb.headerSize = 11 := rfl
  have hMin : xbMinWidth = 1 := rfl
  have hMax : xbMaxWidth = 4096 := rfl
  refine Pot.guard (fun hlen => Pot.sat_bind (slice_sat (by omega)) (fun _ _ => Pot.guard (fun _ => ?_)))
  refine Pot.sat_bind (rdU16_val (by omega)) (fun w hw => Pot.guard (fun hwr => ?_))
  refine Pot.sat_bind (rdU16_sat (by omega)) (fun h hh => Pot.sat_bind (rd_sat (by omega)) (fun fs _ => Pot.guard (fun _ => ?_)))
  refine Pot.sat_bind (rd_sat (by omega)) (fun flags _ => Pot.guard (fun _ => ?_))
  refine Pot.sat_bind (xbPalette_sat d _ _ (by omega)) (fun o1 ho1 => Pot.sat_bind (xbFonts_sat d o1 _ _ _ ho1) (fun o2 ho2 => ?_))
  refine Pot.spend_bind (by omega) (Pot.sat_bind (slice_sat (by omega)) (fun _ _ => ?_))
  have hsz : (d.extract o2 d.size).size ≤ d.size := by simp only [Array.size_extract]; omega
  generalize d.extract o2 d.size = data at hsz ⊢
  have hw1 : (0 : Int) < w ∧ (w : Int) ≤ 4096 := by omega
  have hh' : (h : Int) ≤ 65535 := by omega
  have hwd : w = xbWidth d := hw.1
  have hBi : ((64 * d.size : Nat) : Int) < (R0 : Int) * (w : Int) := by
    rw [← hR0, hwd]; exact lt_div_succ_mul _ _ (by rw [← hwd]; omega)
  have hg : (initGeo xbInitW xbInitH xbLinesCleared sauce).lines ≤ R0 := by rw [initGeo_lines]; simp [xbLinesCleared]
  have h0 : XbPos ⟨0, 0⟩ := ⟨by decide, by decide, by decide⟩
  refine Pot.ite (fun _ => ?_) (fun _ => ?_)
  · refine Pot.bind_le (xbCompressedC_pot data w h hw1 hh' R0 _ 0 data.size ⟨0, 0⟩ _
      { fuel := Nat.lt_succ_self _, left := Nat.le_add_left _ _, pos := h0, budget := by rw [idx_zero]; omega, lines := hg })
      (by omega) (Nat.sub_le _ _) (Nat.zero_le _) (fun _ _ => pot_done _)
  · refine Pot.bind_le (xbUncompressedC_pot data w h hw1 hh' R0 _ 0 data.size ⟨0, 0⟩ _
      { fuel := Nat.lt_succ_self _, left := Nat.le_add_left _ _, pos := h0, budget := by rw [idx_zero]; omega, lines := hg })
      (by omega) (Nat.sub_le _ _) (Nat.zero_le _) (fun _ _ => pot_done _)

end IcyVerif.LoaderCost

namespace IcyVerif.Loaders
open IcyVerif.Bytes IcyVerif.Bytes.Res IcyVerif.LoaderCost

theorem loadXb_sat (d : Bytes) (sauce : Option (Nat × Nat)) : (loadXb d sauce).Sat (fun _ => True) :=
  loadXbC_res d sauce ▸ (loadXbC_pot d sauce).sat.toSat (fun _ h => h)

end IcyVerif.Loaders
