import IcyVerif.Model.Palette
/-! Index laws of `Palette` (C16): `insert_color`, `set_color`, `push`, `get_rgb`; `Keeps i p q` (the palette `q` continues `p` at
    index `i`) is the relation every operation except `set_color i` stands in, and carries the laws to histories. -/
namespace IcyVerif.Palette

theorem firstIdx_le (c : Rgb) (p : List Rgb) : firstIdx c p ≤ p.length := by
  induction p with
  | nil => simp [firstIdx]
  | cons x xs ih => simp only [firstIdx]; split <;> simp <;> omega

theorem firstIdx_lt_iff (c : Rgb) (p : List Rgb) : firstIdx c p < p.length ↔ c ∈ p := by
  induction p with
  | nil => simp [firstIdx]
  | cons x xs ih =>
    simp only [firstIdx]
    split
    · rename_i h; simp [h]
    · rename_i h
      have : ¬ c = x := fun e => h e.symm
      simp [this, ih]

theorem getD_firstIdx (c : Rgb) (p : List Rgb) (d : Rgb) (h : firstIdx c p < p.length) :
    p.getD (firstIdx c p) d = c := by
  induction p with
  | nil => simp at h
  | cons x xs ih =>
    simp only [firstIdx] at h ⊢
    split
    · rename_i hx; simp [hx]
    · rename_i hx
      rw [if_neg hx] at h
      simp only [List.getD_cons_succ]
      exact ih (by simpa using h)

theorem firstIdx_first (c : Rgb) (p : List Rgb) (d : Rgb) (j : Nat) (hj : j < firstIdx c p) : p.getD j d ≠ c := by
  induction p generalizing j with
  | nil => simp [firstIdx] at hj
  | cons x xs ih =>
    simp only [firstIdx] at hj
    split at hj
    · omega
    · rename_i hx
      cases j with
      | zero => simpa using hx
      | succ j => simp only [List.getD_cons_succ]; exact ih j (by omega)

/-- bit 31 of a colour index marks an RGB value carried in the index itself; indices below 2^31 are palette positions -/
theorem and_bit31_of_lt (i : Nat) (h : i < 2147483648) : i &&& 0x80000000 = 0 := by
  have e : (0x80000000 : Nat) = 2 ^ 31 := by decide
  rw [e]
  apply Nat.eq_of_testBit_eq
  intro j
  simp only [Nat.testBit_and, Nat.testBit_two_pow, Nat.zero_testBit]
  by_cases hj : 31 = j
  · subst hj; simp [Nat.testBit_lt_two_pow (show i < 2^31 by omega)]
  · simp [hj]

theorem getRgb_of_lt (p : List Rgb) (i : Nat) (h : i < 2147483648) : getRgb p i = p.getD i black := by
  unfold getRgb; rw [and_bit31_of_lt i h]; simp

theorem getRgb_congr (p q : List Rgb) (i : Nat) (h : p.getD i black = q.getD i black) : getRgb p i = getRgb q i := by
  unfold getRgb; split
  · rfl
  · exact h

theorem insertColor_mem (p : List Rgb) (c : Rgb) (h : c ∈ p) : insertColor p c = (p, firstIdx c p) := by
  unfold insertColor; rw [if_pos ((firstIdx_lt_iff c p).mpr h)]

theorem insertColor_not_mem (p : List Rgb) (c : Rgb) (h : c ∉ p) : insertColor p c = (p ++ [c], p.length) := by
  unfold insertColor; rw [if_neg (fun hh => h ((firstIdx_lt_iff c p).mp hh))]

theorem insertColor_idx_lt (p : List Rgb) (c : Rgb) : (insertColor p c).2 < (insertColor p c).1.length := by
  unfold insertColor; split
  · assumption
  · simp

theorem insertColor_idx_le (p : List Rgb) (c : Rgb) : (insertColor p c).2 ≤ p.length := by
  unfold insertColor; split
  · exact Nat.le_of_lt ‹_›
  · exact Nat.le_refl _

theorem insertColor_length_ge (p : List Rgb) (c : Rgb) : p.length ≤ (insertColor p c).1.length := by
  unfold insertColor; split <;> simp

theorem insertColor_getD (p : List Rgb) (c : Rgb) : (insertColor p c).1.getD (insertColor p c).2 black = c := by
  unfold insertColor; split
  · rename_i h; exact getD_firstIdx c p black h
  · simp [List.getD_eq_getElem?_getD]

theorem getD_append_replicate (p : List Rgb) (n j : Nat) : (p ++ List.replicate n black).getD j black = p.getD j black := by
  simp only [List.getD_eq_getElem?_getD]
  by_cases hj : j < p.length
  · rw [List.getElem?_append_left hj]
  · rw [List.getElem?_append_right (by omega), List.getElem?_eq_none (l := p) (by omega)]
    by_cases h2 : j - p.length < n
    · simp [h2]
    · simp [h2]

theorem setColor_getD_self (p : List Rgb) (i : Nat) (c : Rgb) : (setColor p i c).getD i black = c := by
  unfold setColor
  split
  · rename_i h
    simp only [List.getD_eq_getElem?_getD, List.getElem?_set, List.length_append, List.length_replicate]
    rw [if_pos trivial, if_pos (by omega)]; rfl
  · rename_i h
    simp only [List.getD_eq_getElem?_getD, List.getElem?_set]
    rw [if_pos trivial, if_pos (by omega)]; rfl

theorem setColor_getD_ne (p : List Rgb) (i j : Nat) (c : Rgb) (h : j ≠ i) :
    (setColor p i c).getD j black = p.getD j black := by
  unfold setColor
  split
  · have := getD_append_replicate p (i + 1 - p.length) j
    simp only [List.getD_eq_getElem?_getD] at this ⊢
    rw [List.getElem?_set_ne (by omega)]
    exact this
  · simp only [List.getD_eq_getElem?_getD]
    rw [List.getElem?_set_ne (by omega)]

theorem setColor_length (p : List Rgb) (i : Nat) (c : Rgb) : (setColor p i c).length = max p.length (i + 1) := by
  unfold setColor; split
  · simp only [List.length_set, List.length_append, List.length_replicate]; omega
  · simp only [List.length_set]; omega

theorem insertColor_length_le (p : List Rgb) (c : Rgb) : (insertColor p c).1.length ≤ p.length + 1 := by
  unfold insertColor; split <;> simp

theorem setColor_length_ge (p : List Rgb) (i : Nat) (c : Rgb) : p.length ≤ (setColor p i c).length := by
  rw [setColor_length]; omega

theorem insertColor_nodup (p : List Rgb) (c : Rgb) (h : p.Nodup) : (insertColor p c).1.Nodup := by
  unfold insertColor; split
  · exact h
  · rename_i hn
    have : c ∉ p := fun hc => hn ((firstIdx_lt_iff c p).mpr hc)
    simp only []
    rw [List.nodup_append]
    exact ⟨h, by simp, fun a ha b hb => by simp at hb; subst hb; exact fun e => this (e ▸ ha)⟩

/-- an operation that may change what index `i` resolves to: only `set i _` -/
def Op.touches (i : Nat) : Op → Prop
  | .set j _ => j = i
  | _ => False

/-- `q` continues `p` at index `i`: it is not shorter, and if `i` was an entry of `p` it still holds the same colour.
    A preorder that contains every palette operation except `set_color i`, so histories are by transitivity. -/
structure Keeps (i : Nat) (p q : List Rgb) : Prop where
  len : p.length ≤ q.length
  get : i < p.length → q.getD i black = p.getD i black

section
variable {i k : Nat} {p q r : List Rgb} {c : Rgb}

theorem Keeps.refl : Keeps i p p := ⟨Nat.le_refl _, fun _ => rfl⟩

theorem Keeps.trans (a : Keeps i p q) (b : Keeps i q r) : Keeps i p r :=
  ⟨Nat.le_trans a.len b.len, fun h => (b.get (Nat.lt_of_lt_of_le h a.len)).trans (a.get h)⟩

theorem Keeps.getRgb (h : Keeps i p q) (hi : i < p.length) : getRgb q i = getRgb p i := getRgb_congr _ _ i (h.get hi)

theorem keeps_append : Keeps i p (p ++ q) :=
  ⟨by simp, fun hi => by simp [List.getD_eq_getElem?_getD, List.getElem?_append_left hi]⟩

theorem keeps_insert : Keeps i p (insertColor p c).1 := by
  unfold insertColor; split
  · exact .refl
  · exact keeps_append

theorem keeps_set (h : i ≠ k) : Keeps i p (setColor p k c) := ⟨setColor_length_ge p k c, fun _ => setColor_getD_ne p k i c h⟩

theorem step_keeps {op : Op} (h : ¬ op.touches i) : Keeps i p (step p op).1 := by
  cases op with
  | insert c => exact keeps_insert
  | set j c => exact keeps_set fun e => h e.symm
  | lookup j => exact .refl
  | push c => exact keeps_append

theorem runOps_keeps {ops : List Op} (h : ∀ op ∈ ops, ¬ op.touches i) : Keeps i p (runOps p ops) :=
  List.foldlRecOn ops _ .refl fun _ hb op ho => hb.trans (step_keeps (h op ho))

end

end IcyVerif.Palette
