import IcyVerif.Model.FontLoad
import IcyVerif.Lemmas.LoadersBase
import IcyVerif.Lemmas.Basics
/-! `BitFont::from_bytes` never panics and its loops are bounded by the file length (C02 / C03). -/
namespace IcyVerif.FontLoad
open IcyVerif.Bytes IcyVerif.Bytes.Res IcyVerif.Gen.FontPal

theorem chkI64_sat {s : String} {v : Int} (h : -9223372036854775808 ≤ v ∧ v ≤ 9223372036854775807) :
    (chkI64 s v).Sat (fun w => w = v) := by
  simp only [chkI64, h, and_self, if_true, sat_ok]

theorem chkU64_sat {s : String} {v : Nat} (h : v < 18446744073709551616) : (chkU64 s v).Sat (fun w => w = v) := by
  simp only [chkU64, h, if_true, sat_ok]

theorem glyphLoop_sat (h : Nat) (d : Bytes) (hh : 1 ≤ h) :
    ∀ (fuel o n : Nat), o ≤ d.size → d.size - o < fuel →
      (glyphLoop h d fuel o n).Sat (fun r => ∃ k, r = n + k ∧ k * h ≤ d.size - o) := by
  intro fuel
  induction fuel with
  | zero => intro o n _ hf; omega
  | succ fuel ih =>
    intro o n ho hf
    unfold glyphLoop
    refine Sat.ite (fun hle => ?_) (fun _ => ⟨0, rfl, by omega⟩)
    apply Sat.bind (slice_sat (by omega)); intro _ _
    apply Sat.bind (slice_sat (by omega)); intro _ _
    apply Sat.mono (ih (o + h) (n + 1) (by omega) (by omega))
    intro r hr
    obtain ⟨k, hk, hb⟩ := hr
    refine ⟨k + 1, by omega, ?_⟩
    rw [Nat.succ_mul]; omega

theorem glyphLoop_zero_diverges (d : Bytes) : ∀ (fuel o n : Nat), o ≤ d.size → glyphLoop 0 d fuel o n = .panic sDiverge := by
  intro fuel
  induction fuel with
  | zero => intro o n _; rfl
  | succ fuel ih =>
    intro o n ho
    unfold glyphLoop
    have h0 : 0 ≤ d.size - o := Nat.zero_le _
    have e1 : slice sGlyphs d o (o + 0) = .ok () := by
      have : o ≤ o + 0 ∧ o + 0 ≤ d.size := by omega
      simp only [slice, this, and_self, if_true]
    have e2 : slice sGlyphs d (o + 0) d.size = .ok () := by
      have : o + 0 ≤ d.size ∧ d.size ≤ d.size := by omega
      simp only [slice, this, and_self, if_true]
    rw [if_pos h0, e1, e2]
    show glyphLoop 0 d fuel (o + 0) (n + 1) = _
    exact ih (o + 0) (n + 1) (by omega)

theorem glyphsFrom_sat (hg : glyphZeroGuard = true) (h : Nat) (d : Bytes) (o : Nat) (ho : o ≤ d.size) :
    (glyphsFrom h d o).Sat (fun r => r * h ≤ d.size - o ∧ r ≤ d.size - o) := by
  unfold glyphsFrom
  rw [hg]
  by_cases h0 : h = 0
  · subst h0; simp
  · have hb : (true && h == 0) = false := by simp [h0]
    rw [hb]
    simp only [Bool.false_eq_true, if_false]
    apply Sat.mono (glyphLoop_sat h d (by omega) _ o 0 ho (by omega))
    intro r hr
    obtain ⟨k, hk, hb⟩ := hr
    have hk' : r = k := by omega
    subst hk'
    refine ⟨hb, ?_⟩
    have : r * 1 ≤ r * h := Nat.mul_le_mul_left r (by omega)
    omega

theorem glyphsFrom_needs_guard (hg : glyphZeroGuard = false) (d : Bytes) (o : Nat) (ho : o ≤ d.size) :
    glyphsFrom 0 d o = .panic sDiverge := by
  unfold glyphsFrom
  rw [hg]
  simp only [Bool.false_and, Bool.false_eq_true, if_false]
  exact glyphLoop_zero_diverges d _ o 0 ho

/-- bound on the two loop counters of a loaded font, in terms of the file length only -/
def CostOk (d : Bytes) (f : Font) : Prop := f.iters ≤ d.size ∧ f.cksum ≤ max 512 d.size

/-- no dimension of the font is 0 (the cell size `parse_with_parser` divides by) -/
def SizeOk (f : Font) : Prop := f.w ≠ 0 ∧ f.h ≠ 0

theorem asI32_ne_zero {x : Nat} (h1 : 1 ≤ x) (h2 : x < 4294967296) : asI32 x ≠ 0 := by
  unfold asI32
  have : x % 4294967296 = x := Nat.mod_eq_of_lt h2
  simp only [this]
  split <;> omega

/-! One walk through each variant gives both facts about the font it returns: the loop counters are bounded by the file
    length, and no dimension is 0 (PSF1: if the character size byte is not 0; raw: the height `len / 256` of a non-empty multiple of 256 is not 0,
    and below 2^40 bytes it is still not 0 after the cast to `i32`). -/

theorem loadPsf1_spec (hg : glyphZeroGuard = true) (d : Bytes) (hd : 4 ≤ d.size) :
    (loadPsf1 d).Sat (fun f => CostOk d f ∧ (byteAt d 3 ≠ 0 → SizeOk f)) := by
  unfold loadPsf1
  apply Sat.bind (rd_sat (by omega)); intro mode _
  apply Sat.bind (rd_sat_eq (by omega)); intro charsize hc
  apply Sat.bind (slice_sat (by omega)); intro _ _
  apply Sat.bind (glyphsFrom_sat hg charsize d 4 (by omega)); intro n hn
  subst hc
  refine ⟨⟨by show n ≤ d.size; omega, ?_⟩, fun h0 => ⟨(by decide : (8 : Int) ≠ 0), by show ((byteAt d 3 : Nat) : Int) ≠ 0; omega⟩⟩
  show (if mode &&& psf1Mode512 = psf1Mode512 then (512 : Int) else 256).toNat ≤ max 512 d.size
  split <;> omega

theorem loadPlain_spec (hg : glyphZeroGuard = true) (d : Bytes) :
    (loadPlain d).Sat (fun f => CostOk d f ∧ (4 ≤ d.size → d.size < 1099511627776 → SizeOk f)) := by
  unfold loadPlain
  have hp : plainGlyphs = 256 := rfl
  refine Sat.guard (fun hm => ?_)
  apply Sat.bind (glyphsFrom_sat hg _ d 0 (by omega)); intro n hn
  refine ⟨⟨by show n ≤ d.size; omega, by show (256 : Int).toNat ≤ max 512 d.size; omega⟩, fun h4 hbig => ⟨(by decide : (8 : Int) ≠ 0), asI32_ne_zero ?_ ?_⟩⟩
  · rw [hp] at hm ⊢; omega
  · rw [hp]; omega

theorem loadPsf2_spec (hg : glyphZeroGuard = true) (d : Bytes) : (loadPsf2 d).Sat (fun f => CostOk d f ∧ SizeOk f) := by
  unfold loadPsf2
  refine Sat.guard (fun hlen => ?_)
  have h32 : 32 ≤ d.size := by
    have : psf2HeaderLen = 32 := rfl
    omega
  apply Sat.bind (rdU32_sat (by omega)); intro version _
  refine Sat.guard (fun _ => ?_)
  apply Sat.bind (rdU32_sat (by omega)); intro hs hhs
  apply Sat.bind (rdU32_sat (by omega)); intro len _
  apply Sat.bind (rdU32_sat (by omega)); intro cs _
  apply Sat.bind (rdU32_sat (by omega)); intro height hheight
  apply Sat.bind (rdU32_sat (by omega)); intro width hwidth
  -- the product of two `i32` values fits an `i64` with room to spare
  have hb := Basics.mul_bounds (y := asI32 len) (w := asI32 cs) (a := 2147483648) (b := 2147483648) (by have := asI32_range len; omega) (by have := asI32_range cs; omega)
  apply Sat.bind (chkI64_sat (by omega)); intro prod hprod
  apply Sat.bind (chkI64_sat (by omega)); intro expected hexp
  apply Sat.bind (chkU64_sat (by omega)); intro w7 hw7
  have hrb : height * (w7 / 8) < 18446744073709551616 := by
    have h1 : w7 / 8 ≤ 536870912 := by omega
    have h2 : height * (w7 / 8) ≤ 4294967296 * 536870912 := Nat.mul_le_mul (by omega) h1
    omega
  apply Sat.bind (chkU64_sat hrb); intro rowBytes hrow
  refine Sat.guard (fun hc => ?_)
  have hl : ¬ asI32 len < 0 := fun h => hc (Or.inl h)
  have hcs : ¬ asI32 cs ≤ 0 := fun h => hc (Or.inr (Or.inl h))
  have hex : expected = (d.size : Int) := Decidable.not_not.mp (fun h => hc (Or.inr (Or.inr (Or.inl h))))
  have hrw : asI32 cs = (rowBytes : Int) := Decidable.not_not.mp (fun h => hc (Or.inr (Or.inr (Or.inr h))))
  subst hprod; subst hexp; subst hrow; subst hw7
  -- charsize = height * ((width + 7) / 8) > 0: neither factor is 0
  have hpos : 0 < height * ((width + 7) / 8) := by omega
  have hh1 : 1 ≤ height := Nat.pos_of_mul_pos_right hpos
  have hw1 : 1 ≤ width := by
    rcases Nat.eq_zero_or_pos width with h0 | h0
    · rw [h0] at hpos; simp at hpos
    · exact h0
  have hge : asI32 len * 1 ≤ asI32 len * asI32 cs := Int.mul_le_mul_of_nonneg_left (by omega) (by omega)
  have hnn : 0 ≤ asI32 len * asI32 cs := Int.mul_nonneg (by omega) (by omega)
  apply Sat.bind (slice_sat (by omega)); intro _ _
  apply Sat.bind (glyphsFrom_sat hg height d hs (by omega)); intro n hn
  refine ⟨⟨by show n ≤ d.size; omega, by show (asI32 len).toNat ≤ max 512 d.size; omega⟩, asI32_ne_zero hw1 hwidth, asI32_ne_zero hh1 hheight⟩

theorem fontFromBytes_spec (hg : glyphZeroGuard = true) (d : Bytes) :
    (fontFromBytes d).Sat (fun f => CostOk d f ∧ (psf1ZeroRejected = true → d.size < 1099511627776 → SizeOk f)) := by
  unfold fontFromBytes
  refine Sat.guard (fun hlen => ?_)
  have h4 : 4 ≤ d.size := by
    have : fontMinLen = 4 := rfl
    omega
  apply Sat.bind (rdU16s_sat (by omega)); intro m16 _
  refine Sat.ite (fun _ => ?_) (fun _ => ?_)
  · apply Sat.bind (rd_sat_eq (by omega)); intro cs hcs
    refine Sat.guard (fun hz => Sat.mono (loadPsf1_spec hg d h4) (fun f hf => ⟨hf.1, fun hz' _ => hf.2 ?_⟩))
    -- the zero test is in the source, and it did not fire
    intro h0
    rw [hz', hcs, h0] at hz
    exact hz rfl
  · apply Sat.bind (rdU32_sat (by omega)); intro m32 _
    exact Sat.ite (fun _ => Sat.mono (loadPsf2_spec hg d) (fun f hf => ⟨hf.1, fun _ _ => hf.2⟩))
      (fun _ => Sat.mono (loadPlain_spec hg d) (fun f hf => ⟨hf.1, fun _ hbig => hf.2 h4 hbig⟩))

theorem fontFromBytes_sat (hg : glyphZeroGuard = true) (d : Bytes) : (fontFromBytes d).Sat (CostOk d) :=
  Sat.mono (fontFromBytes_spec hg d) (fun _ h => h.1)

theorem fontFromBytes_size (hg : glyphZeroGuard = true) (hz : psf1ZeroRejected = true) (d : Bytes) (hbig : d.size < 1099511627776)
    (f : Font) (h : fontFromBytes d = .ok f) : f.w ≠ 0 ∧ f.h ≠ 0 := by
  have := fontFromBytes_spec hg d
  rw [h] at this
  exact this.2 hz hbig

end IcyVerif.FontLoad
