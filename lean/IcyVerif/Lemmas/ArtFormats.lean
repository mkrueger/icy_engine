import IcyVerif.Lemmas.ArtFinish
/-! # The front parsers; ASCII, PCBoard, Renegade: the writer's bytes drive the reader through the picture's screen program (C15) -/
namespace IcyVerif.ArtIO
open IcyVerif.Gen.Art

/-- characters the ANSI parser prints in its ground state -/
def AnsiPrintable (ch : Nat) : Prop := ch ≠ 27 ∧ ch ≠ 10 ∧ ch ≠ 12 ∧ ch ≠ 13 ∧ ch ≠ 7 ∧ ch ≠ 127

theorem ansiStep_print (p : AnsiP) (c : Core) (ch : Nat) (hs : c.stuck = false) (hg : p.st = .ground) (hp : AnsiPrintable ch) :
    ansiStep p c ch = ({ p with lastCh := ch }, c.printAnsi ch) := by
  obtain ⟨h1, h2, h3, h4, h5, h6⟩ := hp
  unfold ansiStep
  simp [hs, hg, h1, h2, h3, h4, h5, h6]

theorem ansiStep_cr (p : AnsiP) (c : Core) (hs : c.stuck = false) (hg : p.st = .ground) :
    ansiStep p c 13 = (p, { c with scr := c.scr.cr }) := by
  unfold ansiStep; simp [hs, hg]

theorem ansiStep_lf (p : AnsiP) (c : Core) (hs : c.stuck = false) (hg : p.st = .ground) :
    ansiStep p c 10 = (p, { c with scr := c.scr.lf }) := by
  unfold ansiStep; simp [hs, hg]

theorem same_iff (a b : Attr) : a.same b = true ↔ a = b := by
  cases a; cases b; simp [Attr.same, and_assoc]

theorem chByte_id {ch : Nat} (h0 : 0 < ch) (h1 : ch < 256) : chByte ch = ch := by
  unfold chByte; rw [if_neg (by omega)]; omega

theorem Attr.eta_none {a : Attr} (h : a.fl = Flags.none) : (⟨a.fg, a.bg, Flags.none⟩ : Attr) = a := by
  cases a; cases h; rfl

/-- the writers' colour test fails: this is not the first cell, and its attribute is the last one written -/
theorem attr_unchanged {s : Attr × Bool} {a : Attr} (h : ¬ (s.2 || !(a.same s.1)) = true) : s.2 = false ∧ a = s.1 := by
  cases h2 : s.2 <;> cases hs : a.same s.1 <;> simp [h2, hs] at h
  exact ⟨rfl, (same_iff _ _).1 hs⟩

theorem cell_eta (c : Cell) : (⟨c.ch, c.attr⟩ : Cell) = c := by cases c; rfl

theorem Core.printValue_scalar (c : Core) {v : Nat} (h : v < 55296) : c.printValue v = { c with scr := c.scr.put ⟨v, c.attr⟩ } := by
  unfold Core.printValue
  simp only []
  rw [Nat.mod_eq_of_lt (by omega), if_neg (by omega)]

theorem fresh_clear_home (sc : Screen) (h : sc.lines = [] ∧ sc.cx = 0 ∧ sc.cy = 0) :
    sc.clear = sc ∧ ({ sc with cx := 0, cy := 0 } : Screen) = sc ∧ ({ sc with cy := 1 - 1, cx := 1 - 1 } : Screen).limit = sc := by
  obtain ⟨a, b, c⟩ := h
  cases sc; simp_all [Screen.clear, Screen.limit]

theorem noBom_of_head {bytes : List Nat} (h : bytes.head? ≠ some 239) : bomPrefixed bytes = false := by
  unfold bomPrefixed
  rcases bytes with _ | ⟨a, _ | ⟨b, _ | ⟨c, t⟩⟩⟩ <;> simp_all

/-! Extensionality of the reader's records: for what is left when a code has put a field back to the value it had (`code := false`,
`stuck := false` …). -/

theorem PcbP.ext {a b : PcbP} (h1 : a.code = b.code) (h2 : a.color = b.color) (h3 : a.value = b.value) (h4 : a.pos = b.pos) : a = b := by
  cases a; cases b; simp_all
theorem CtrlAP.ext {a b : CtrlAP} (h1 : a.ctrlA = b.ctrlA) (h2 : a.bold = b.bold) (h3 : a.highBg = b.highBg) : a = b := by
  cases a; cases b; simp_all
theorem AvtP.ext {a b : AvtP} (h1 : a.st = b.st) (h2 : a.sub = b.sub) (h3 : a.repCh = b.repCh) : a = b := by
  cases a; cases b; simp_all
theorem Core.ext {a b : Core} (h1 : a.scr = b.scr) (h2 : a.attr = b.attr) (h3 : a.caretIce = b.caretIce) (h4 : a.bufIce = b.bufIce)
    (h5 : a.pal = b.pal) (h6 : a.termH = b.termH) (h7 : a.stuck = b.stuck) : a = b := by
  cases a; cases b; simp_all
theorem RS.ext {a b : RS} (h1 : a.core = b.core) (h2 : a.ansi = b.ansi) (h3 : a.pcb = b.pcb) (h4 : a.ren = b.ren) (h5 : a.ctrla = b.ctrla)
    (h6 : a.avt = b.avt) (h7 : a.ataEsc = b.ataEsc) : a = b := by
  cases a; cases b; simp_all

/-! The parsers of PCBoard, Renegade, Ctrl-A and Avatar are thin state machines in front of the ANSI parser.  Between two of its own codes
such a parser hands every byte that starts none of them to the ANSI parser (`step_pass`: the one place where the four dispatchers are
unfolded for such bytes). -/

/-- the formats whose parser is a front of the ANSI parser -/
def Fmt.Fronted : Fmt → Prop
  | .pcboard | .renegade | .ctrla | .avatar => True
  | _ => False

/-- the front parser is between two of its own codes -/
def frontIdle : Fmt → RS → Prop
  | .pcboard, r => r.pcb.code = false ∧ r.pcb.color = false
  | .renegade, r => r.ren = .normal
  | .ctrla, r => r.ctrla.ctrlA = false
  | .avatar, r => r.avt.st = .chars
  | _, _ => True

/-- the bytes that start one of the front parser's own codes: `@`, `|`, ^A, and Avatar's ^L ^Y ^V -/
def leadIn : Fmt → Nat → Prop
  | .pcboard, ch => ch = 64
  | .renegade, ch => ch = 124
  | .ctrla, ch => ch = 1
  | .avatar, ch => ch = 12 ∨ ch = 25 ∨ ch = 22
  | _, _ => False

theorem step_pass (f : Fmt) (hf : f.Fronted) (r : RS) (ch : Nat) (ns : r.core.stuck = false) (hq : frontIdle f r) (hl : ¬ leadIn f ch) :
    step f r ch = { r with ansi := (ansiStep r.ansi r.core ch).1, core := (ansiStep r.ansi r.core ch).2 } := by
  cases f with
  | pcboard => simp only [frontIdle, leadIn] at hq hl; simp [step, pcbStep, ns, hq.1, hq.2, hl]
  | renegade => simp only [frontIdle, leadIn] at hq hl; simp [step, renStep, ns, hq, hl]
  | ctrla => simp only [frontIdle, leadIn] at hq hl; simp [step, ctrlaStep, ns, hq, hl]
  | avatar =>
    simp only [frontIdle, leadIn, not_or] at hq hl
    simp [step, avtStep, ns, hq, hl.1, hl.2.1, hl.2.2, avtClr, avtRep, avtCmd]
  | _ => exact hf.elim

/-- the reader between two tokens: not stuck, front parser idle, ANSI parser in its ground state, no iCE caret -/
structure Idle (f : Fmt) (r : RS) : Prop where
  ns : r.core.stuck = false
  q : frontIdle f r
  ag : r.ansi.st = .ground
  ice : r.core.caretIce = false

theorem Idle.frame {f : Fmt} {r : RS} (h : Idle f r) (scr : Screen) (lc : Nat) :
    Idle f { r with core := { r.core with scr := scr }, ansi := { r.ansi with lastCh := lc } } :=
  ⟨h.ns, by cases f <;> exact h.q, h.ag, h.ice⟩

theorem step_print (f : Fmt) (hf : f.Fronted) (r : RS) (ch : Nat) (h : Idle f r) (hl : ¬ leadIn f ch) (hp : AnsiPrintable ch) :
    step f r ch = { r with core := { r.core with scr := r.core.scr.put ⟨ch, r.core.attr⟩ }, ansi := { r.ansi with lastCh := ch } } := by
  rw [step_pass f hf r ch h.ns h.q hl, ansiStep_print _ _ _ h.ns h.ag hp]
  simp only [Core.printAnsi, Core.printAttr, h.ice, Bool.false_eq_true, if_false]

theorem step_crlf (f : Fmt) (hf : f.Fronted) (r : RS) (h : Idle f r) :
    crlf.foldl (step f) r = { r with core := { r.core with scr := r.core.scr.cr.lf } } := by
  have hl : ¬ leadIn f 13 ∧ ¬ leadIn f 10 := by cases f <;> simp [leadIn]
  have h1 : step f r 13 = { r with core := { r.core with scr := r.core.scr.cr } } := by
    rw [step_pass f hf r 13 h.ns h.q hl.1, ansiStep_cr _ _ h.ns h.ag]
  have I1 := h.frame r.core.scr.cr r.ansi.lastCh
  show step f (step f r 13) 10 = _
  rw [h1, step_pass f hf _ 10 I1.ns I1.q hl.2, ansiStep_lf _ _ I1.ns I1.ag]

/-- what PCBoard, Renegade and Ctrl-A files can hold: 16 × 8 colours without flags, and a byte the ANSI parser prints that is not the
    format's lead-in.  `PcbDom`, `RenDom`, `CtrlDom` spell this out for their format (`pcbDom_eq`, `renDom_eq`, `ctrlDom_eq`). -/
def FrontDom (f : Fmt) (c : Cell) : Prop :=
  c.attr.fg < 16 ∧ c.attr.bg < 8 ∧ c.attr.fl = Flags.none ∧ 0 < c.ch ∧ c.ch < 256 ∧ ¬ leadIn f c.ch ∧ AnsiPrintable c.ch

/-- A cell of a front format is its colour codes, then the character byte: if the codes (`hcodes`, the format's own lemma) bring the
    caret to the cell's attribute and leave the screen alone, the format's rows and row ends are what `rt_rows` asks for. -/
theorem fronted_sim (f : Fmt) (hf : f.Fronted) {σ : Type} (emit : σ → Cell → Option (List Nat × σ)) (R : σ → RS → Prop)
    (w : Nat) (hidle : ∀ s r, R s r → Idle f r)
    (hframe : ∀ s r scr lc, R s r → R s { r with core := { r.core with scr := scr }, ansi := { r.ansi with lastCh := lc } })
    (hcodes : ∀ s r c, R s r → FrontDom f c → ∃ pre s', emit s c = some (pre ++ [chByte c.ch], s') ∧ R s' (pre.foldl (step f) r) ∧
      (pre.foldl (step f) r).core.scr = r.core.scr ∧ (pre.foldl (step f) r).core.attr = c.attr) :
    RowSim (cellsRow emit) (step f) (fun r => r.core.scr) id R (FrontDom f) w ∧
    ∀ s r, R s r → R s (crlf.foldl (step f) r) ∧ (crlf.foldl (step f) r).core.scr = r.core.scr.exec Op.nl := by
  refine ⟨cellsRow_sim _ _ _ _ _ emit w fun s r c hR hd => ?_, fun s r hR => ?_⟩
  · have ⟨_, _, _, h0, h1, hl, hp⟩ := hd
    obtain ⟨pre, s', e, R1, sc, at1⟩ := hcodes s r c hR hd
    refine ⟨_, s', e, ?_⟩
    rw [List.foldl_append, chByte_id h0 h1]
    show R s' (step f _ c.ch) ∧ (step f _ c.ch).core.scr = _
    rw [step_print f hf _ c.ch (hidle _ _ R1) hl hp, at1, sc, cell_eta]
    exact ⟨hframe _ _ _ _ R1, rfl⟩
  · rw [step_crlf f hf r (hidle _ _ hR)]
    exact ⟨hframe s r r.core.scr.cr.lf r.ansi.lastCh hR, rfl⟩

/-- the writers that keep `(last_attr, first_char)` (PCBoard, Avatar) against the reader between two tokens: once something was written
    the caret has the last attribute written -/
structure AttrR (f : Fmt) (s : Attr × Bool) (r : RS) : Prop where
  idle : Idle f r
  bi : r.core.bufIce = .unlimited
  attr : s.2 = false → r.core.attr = s.1

theorem AttrR.frame {f : Fmt} {s : Attr × Bool} {r : RS} (h : AttrR f s r) (scr : Screen) (lc : Nat) :
    AttrR f s { r with core := { r.core with scr := scr }, ansi := { r.ansi with lastCh := lc } } :=
  ⟨h.idle.frame scr lc, h.bi, h.attr⟩

/-- what the ASCII reader prints: 0 and 255 reset the attribute instead, 7 / 10 / 12 / 13 are BEL, LF, FF, CR, and on 8 / 127
    (BS, DEL) the reader model gives up (`ascStep`) -/
def AscDom (c : Cell) : Prop :=
  0 < c.ch ∧ c.ch < 255 ∧ c.ch ≠ 7 ∧ c.ch ≠ 10 ∧ c.ch ≠ 12 ∧ c.ch ≠ 13 ∧ c.ch ≠ 8 ∧ c.ch ≠ 127

/-- the ASCII loader keeps no colours: every cell comes back in the default attribute -/
def ascImg (c : Cell) : Cell := ⟨c.ch, defaultAttr⟩

def AscR (_ : Unit) (r : RS) : Prop := r.core.stuck = false ∧ r.core.attr = defaultAttr

theorem ascStep_print (k : Core) (c : Cell) (ns : k.stuck = false) (hd : AscDom c) :
    ascStep k c.ch = { k with scr := k.scr.put ⟨c.ch, k.attr⟩ } := by
  obtain ⟨h0, h1, h7, h10, h12, h13, h8, h127⟩ := hd
  unfold ascStep
  rw [if_neg (by rw [ns]; decide), if_neg (by omega), if_neg h7, if_neg h10, if_neg h12, if_neg h13, if_neg (by omega),
    Core.printValue_scalar _ (by omega)]

theorem asc_cell (s : Unit) (r : RS) (c : Cell) (hR : AscR s r) (hd : AscDom c) :
    ∃ b s', ascEmit s c = some (b, s') ∧ AscR s' (b.foldl (step .ascii) r) ∧
      (b.foldl (step .ascii) r).core.scr = r.core.scr.put (ascImg c) := by
  obtain ⟨ns, ha⟩ := hR
  have e : [c.ch].foldl (step .ascii) r = { r with core := { r.core with scr := r.core.scr.put (ascImg c) } } := by
    show step .ascii r c.ch = _
    unfold step
    simp only []
    rw [ascStep_print r.core c ns hd, ha]; rfl
  refine ⟨[c.ch], (), ?_, ?_, ?_⟩
  · unfold ascEmit; rw [chByte_id hd.1 (Nat.lt_trans hd.2.1 (by decide))]
  · rw [e]; exact ⟨ns, ha⟩
  · rw [e]

theorem asc_eol (s : Unit) (r : RS) (hR : AscR s r) :
    AscR s (crlf.foldl (step .ascii) r) ∧ (crlf.foldl (step .ascii) r).core.scr = r.core.scr.exec Op.nl := by
  obtain ⟨ns, ha⟩ := hR
  constructor
  · simp [crlf, step, ascStep, ns, AscR, ha]
  · simp [crlf, step, ascStep, ns, Screen.exec]

/-- `HEX_TABLE` against `conv_ch`; no hex digit is the lead-in `@` -/
theorem pcb_hex : ∀ n < 16, ∃ b, hexTable[n]? = some b ∧ pcbConvCh b = n ∧ b ≠ 64 := by decide +kernel

theorem pcb_attr : ∀ fg < 16, ∀ bg < 8, attrFromU8 (bg * 16 % 256 + fg) .unlimited = ⟨fg, bg, Flags.none⟩ := by decide +kernel

/-- 16 × 8 colours without flags, a byte the ANSI parser prints, and not `@` (64): `@X<bg><fg>` is PCBoard's colour code -/
def PcbDom (c : Cell) : Prop :=
  c.attr.fg < 16 ∧ c.attr.bg < 8 ∧ c.attr.fl = Flags.none ∧ 0 < c.ch ∧ c.ch < 256 ∧ c.ch ≠ 64 ∧ AnsiPrintable c.ch

theorem pcbDom_eq : PcbDom = FrontDom .pcboard := rfl

theorem pcb_codes (s : Attr × Bool) (r : RS) (c : Cell) (hR : AttrR .pcboard s r) (hd : FrontDom .pcboard c) :
    ∃ pre s', pcbEmit s c = some (pre ++ [chByte c.ch], s') ∧ AttrR .pcboard s' (pre.foldl (step .pcboard) r) ∧
      (pre.foldl (step .pcboard) r).core.scr = r.core.scr ∧ (pre.foldl (step .pcboard) r).core.attr = c.attr := by
  obtain ⟨hfg, hbg, hfl, _⟩ := hd
  obtain ⟨bb, hb1, hb2, _⟩ := pcb_hex c.attr.bg (by omega)
  obtain ⟨bf, hf1, hf2, _⟩ := pcb_hex c.attr.fg hfg
  obtain ⟨⟨ns, ⟨q1, q2⟩, ag, ice⟩, bi, hat⟩ := hR
  by_cases hchg : (s.2 || !(c.attr.same s.1)) = true
  · have e : [64, 88, bb, bf].foldl (step .pcboard) r =
        { r with core := { r.core with attr := c.attr }, pcb := { r.pcb with pos := 2, value := c.attr.bg * 16 % 256 + c.attr.fg } } := by
      simp [step, pcbStep, ns, q1, q2, hb2, hf2, bi, pcb_attr c.attr.fg hfg c.attr.bg hbg, Attr.eta_none hfl]
    refine ⟨[64, 88, bb, bf], (c.attr, false), by unfold pcbEmit; rw [if_pos hchg, hb1, hf1]; rfl, ?_⟩
    rw [e]; exact ⟨⟨⟨ns, ⟨q1, q2⟩, ag, ice⟩, bi, fun _ => rfl⟩, rfl, rfl⟩
  · obtain ⟨hs2, hsame⟩ := attr_unchanged hchg
    exact ⟨[], (s.1, false), by unfold pcbEmit; rw [if_neg hchg]; rfl, ⟨⟨ns, ⟨q1, q2⟩, ag, ice⟩, bi, fun _ => hat hs2⟩, rfl,
      (hat hs2).trans hsame.symm⟩

/-- `@CLS@` (and nothing for the other two options) leaves the reader in its initial state -/
theorem pcb_prep (prep : Prep) (r : RS) (hR : AttrR .pcboard (defaultAttr, true) r) :
    AttrR .pcboard (defaultAttr, true) ((pcbPrep prep).foldl (step .pcboard) r) ∧
    ((pcbPrep prep).foldl (step .pcboard) r).core.scr = r.core.scr := by
  cases prep with
  | clear =>
    have ⟨q1, q2⟩ := hR.idle.q
    have e : (pcbPrep .clear).foldl (step .pcboard) r = r := by
      simp [pcbPrep, step, pcbStep, hR.idle.ns, q1, q2]
      exact RS.ext rfl rfl (PcbP.ext q1.symm q2.symm rfl rfl) rfl rfl rfl rfl
    rw [e]
    exact ⟨hR, rfl⟩
  | _ => exact ⟨hR, rfl⟩

/-! ### a PCBoard file never starts with a UTF-8 BOM -/

theorem pcb_cells_head (s : Attr × Bool) (hs : s.2 = true) (cells : List Cell) (b : List Nat) (s' : Attr × Bool)
    (h : writeCells pcbEmit s cells = some (b, s')) : (cells = [] ∧ b = [] ∧ s' = s) ∨ b.head? = some 64 := by
  cases cells with
  | nil =>
    left; simp only [writeCells, Option.some.injEq, Prod.mk.injEq] at h
    exact ⟨rfl, h.1.symm, h.2.symm⟩
  | cons c cs =>
    right
    simp only [writeCells] at h
    split at h
    · cases h
    · rename_i b1 s1 he
      split at h
      · cases h
      · rename_i bs s2 hw
        simp only [Option.some.injEq, Prod.mk.injEq] at h
        unfold pcbEmit at he
        rw [if_pos (by simp [hs])] at he
        split at he
        · simp only [Option.some.injEq, Prod.mk.injEq] at he
          rw [← h.1, ← he.1]; rfl
        · cases he

theorem pcb_noBom (prep : Prep) (w : Nat) (rows : List (List Cell)) (b : List Nat)
    (h : rowsLoop (cellsRow pcbEmit) crlf w (defaultAttr, true) rows = some b) : bomPrefixed (pcbPrep prep ++ b) = false := by
  apply noBom_of_head
  have H := rowsLoop_head (cellsRow pcbEmit) crlf w 64 (fun s => s.2 = true) (by decide) (fun s row b s' n hs e => by
    obtain ⟨⟨b1, s1⟩, hc, e⟩ := Option.map_eq_some_iff.1 e
    cases e
    exact (pcb_cells_head s hs _ _ _ hc).imp (fun h => ⟨h.2.1, h.2.2⟩) id) rows _ b rfl h
  cases prep with
  | clear => simp [pcbPrep]
  | _ =>
    show b.head? ≠ some 239
    rcases H with rfl | e | e
    · exact nofun
    all_goals rw [e]; decide

/-- `last` = the last attribute written: the caret has it, and it carries no flags -/
structure RenR (last : Attr) (r : RS) : Prop where
  idle : Idle .renegade r
  attr : r.core.attr = last
  fl : last.fl = Flags.none

/-- `FrontDom .renegade` spelled out: the lead-in is `|` (124), `|nn` is Renegade's colour code -/
def RenDom (c : Cell) : Prop :=
  c.attr.fg < 16 ∧ c.attr.bg < 8 ∧ c.attr.fl = Flags.none ∧ 0 < c.ch ∧ c.ch < 256 ∧ c.ch ≠ 124 ∧ AnsiPrintable c.ch

theorem renDom_eq : RenDom = FrontDom .renegade := rfl

/-- `|nn`: a colour below 16 sets the foreground, 16 ≤ nn < 24 the background -/
theorem ren_pipe (r : RS) (n : Nat) (hn : n < 24) (ns : r.core.stuck = false) (q : r.ren = .normal) :
    (pipe2 n).foldl (step .renegade) r =
      { r with core := { r.core with attr := if n < 16 then { r.core.attr with fg := n } else { r.core.attr with bg := n - 16 } } } := by
  have h100 : n < 100 := by omega
  have m1 : (48 + n / 10) % 256 = 48 + n / 10 := by omega
  have m2 : (48 + n % 10) % 256 = 48 + n % 10 := by omega
  have a1 : 48 + n / 10 ≤ 51 := by omega
  have a2 : 48 + n % 10 ≤ 57 := by omega
  have a3 : n / 10 * 10 + n % 10 = n := by omega
  by_cases h16 : n < 16 <;> simp [pipe2, h100, step, renStep, ns, q, m1, m2, a1, a2, a3, h16]

theorem ren_fg (last : Attr) (r : RS) (n : Nat) (hn : n < 16) (hR : RenR last r) :
    RenR { last with fg := n } ((if n ≠ last.fg then pipe2 n else []).foldl (step .renegade) r) ∧
    ((if n ≠ last.fg then pipe2 n else []).foldl (step .renegade) r).core.scr = r.core.scr := by
  by_cases h : n ≠ last.fg
  · obtain ⟨⟨ns, q, ag, ice⟩, hat, hfl⟩ := hR
    rw [if_pos h, ren_pipe r n (by omega) ns q, if_pos hn]
    exact ⟨⟨⟨ns, q, ag, ice⟩, by simp [hat], hfl⟩, rfl⟩
  · rw [if_neg h, Decidable.not_not.1 h]
    exact ⟨hR, rfl⟩

theorem ren_bg (last : Attr) (r : RS) (n : Nat) (hn : n < 8) (hR : RenR last r) :
    RenR { last with bg := n } ((if n ≠ last.bg then pipe2 (16 + n) else []).foldl (step .renegade) r) ∧
    ((if n ≠ last.bg then pipe2 (16 + n) else []).foldl (step .renegade) r).core.scr = r.core.scr := by
  by_cases h : n ≠ last.bg
  · obtain ⟨⟨ns, q, ag, ice⟩, hat, hfl⟩ := hR
    rw [if_pos h, ren_pipe r (16 + n) (by omega) ns q, if_neg (by omega), Nat.add_sub_cancel_left]
    exact ⟨⟨⟨ns, q, ag, ice⟩, by simp [hat], hfl⟩, rfl⟩
  · rw [if_neg h, Decidable.not_not.1 h]
    exact ⟨hR, rfl⟩

theorem ren_codes (last : Attr) (r : RS) (c : Cell) (hR : RenR last r) (hd : FrontDom .renegade c) :
    ∃ pre s', renEmit last c = some (pre ++ [chByte c.ch], s') ∧ RenR s' (pre.foldl (step .renegade) r) ∧
      (pre.foldl (step .renegade) r).core.scr = r.core.scr ∧ (pre.foldl (step .renegade) r).core.attr = c.attr := by
  obtain ⟨hfg, hbg, hfl, _⟩ := hd
  by_cases hchg : (!(c.attr.same last)) = true
  · obtain ⟨R1, s1⟩ := ren_fg last r c.attr.fg hfg hR
    obtain ⟨R2, s2⟩ := ren_bg _ _ c.attr.bg hbg R1
    have hattr : ({ ({ last with fg := c.attr.fg } : Attr) with bg := c.attr.bg } : Attr) = c.attr := by
      show (⟨c.attr.fg, c.attr.bg, last.fl⟩ : Attr) = c.attr
      rw [hR.fl]; exact Attr.eta_none hfl
    rw [hattr] at R2
    refine ⟨_, c.attr, by unfold renEmit; rw [if_pos hchg], ?_⟩
    rw [List.foldl_append]
    exact ⟨R2, s2.trans s1, R2.attr⟩
  · have hsame : c.attr = last := (same_iff _ _).1 (by simpa using hchg)
    exact ⟨[], last, by unfold renEmit; rw [if_neg hchg]; rfl, hR, rfl, hR.attr.trans hsame.symm⟩

end IcyVerif.ArtIO
