import IcyVerif.Lemmas.ArtFinish
/-! # The round-trip statement shared by the C15 formats, its assembly for every loader, and `rt_rows` -/
namespace IcyVerif.ArtIO

/-- every row fits the picture's width -/
def Pic.WF (p : Pic) : Prop := ∀ r ∈ p.rows, r.length ≤ p.w
/-- every cell of the picture satisfies `D` -/
def Pic.AllCells (p : Pic) (D : Cell → Prop) : Prop := ∀ r ∈ p.rows, ∀ c ∈ r, D c
/-- the picture has a last row and that row is not empty (`get_line_length > 0`) -/
def Pic.LastRowNonEmpty (p : Pic) : Prop := p.rows ≠ [] ∧ ∀ r, p.rows.getLast? = some r → trimRow r ≠ []

/-- The loaded picture `L` shows picture `p` up to the cell image `img`: the reader never left the modelled
    sub-language; same width and height; inside each row's length (`get_line_length`) the loaded cell is the image of
    the saved cell; after it the loaded cell is the default cell (blank on black) and the saved cell there is itself
    blank on colour 0 — "blank cells on black after the end of a row are not significant". -/
def Shows (L : Loaded) (p : Pic) (img : Cell → Cell) : Prop :=
  L.stuck = false ∧ L.w = p.w ∧ L.h = p.rows.length ∧
  ∀ x y, x < p.w → y < p.rows.length →
    (x < rowLen (p.rows.getD y []) → L.cellAt x y = img (p.get x y)) ∧
    (rowLen (p.rows.getD y []) ≤ x → L.cellAt x y = defaultCell ∧ (p.get x y).isTransparent = true)

/-- as `Shows`, but the loaded layer may be taller than the picture (the ATASCII loader starts from 24 rows and crops
    nothing) -/
def ShowsIn (L : Loaded) (p : Pic) (img : Cell → Cell) : Prop :=
  L.stuck = false ∧ L.w = p.w ∧ p.rows.length ≤ L.h ∧
  ∀ x y, x < p.w → y < p.rows.length →
    (x < rowLen (p.rows.getD y []) → L.cellAt x y = img (p.get x y)) ∧
    (rowLen (p.rows.getD y []) ≤ x → L.cellAt x y = defaultCell ∧ (p.get x y).isTransparent = true)

theorem Shows.of_in {L : Loaded} {p : Pic} {img : Cell → Cell} (h : ShowsIn L p img) (hh : L.h = p.rows.length) : Shows L p img :=
  ⟨h.1, h.2.1, hh, h.2.2.2⟩

theorem convertText_of_noBom {bytes : List Nat} (h : bomPrefixed bytes = false) : convertText bytes = bytes := by
  unfold convertText; rw [h]; rfl

theorem initial_scr (f : Fmt) (hf : f ≠ .atascii) :
    (initial f none).core.scr = freshScreen (loadSize f).1 (loadSize f).2 := by
  cases f <;> first | rfl | exact absurd rfl hf

theorem initial_blank (f : Fmt) : (initial f none).core.scr.cx = 0 ∧ (initial f none).core.scr.cy = 0 ∧
    (initial f none).core.scr.w = (loadSize f).1 ∧ ∀ x y, shownAt (initial f none).core.scr.lines x y = defaultCell := by
  cases f <;> exact ⟨rfl, rfl, rfl, fun x y => by first | exact shownAt_nil x y | exact shownAt_replicate_invisible _ _ _ _⟩

theorem showsIn_of_cells (L : Loaded) (p : Pic) (img : Cell → Cell) (hs : L.stuck = false) (hw : L.w = p.w) (hh : p.rows.length ≤ L.h)
    (hcell : ∀ x y, x < p.w → y < p.rows.length → L.cellAt x y =
      if x < (trimRow (p.rows.getD y [])).length then img ((trimRow (p.rows.getD y [])).getD x defaultCell) else defaultCell) :
    ShowsIn L p img := by
  refine ⟨hs, hw, hh, fun x y hx hy => ⟨fun hlt => ?_, fun hge => ?_⟩⟩
  · have hlt : x < (trimRow (p.rows.getD y [])).length := hlt
    rw [hcell x y hx hy, if_pos hlt, trimRow_getD _ _ _ hlt]; rfl
  · have hge : (trimRow (p.rows.getD y [])).length ≤ x := hge
    rw [hcell x y hx hy, if_neg (Nat.not_lt.2 hge)]
    exact ⟨rfl, trimRow_rest_transparent _ _ hge⟩

/-- from the reader's final screen to what the loaded picture shows, for every loader (ATASCII's crops nothing: `finish_atascii`) -/
theorem assemble (f : Fmt) (img : Cell → Cell) (p : Pic) (bytes : List Nat)
    (hw : p.w = (loadSize f).1) (hw0 : 0 < p.w) (hwf : p.WF) (hlast : p.LastRowNonEmpty)
    (himg : ∀ r ∈ p.rows, ∀ c ∈ r, (img c).attr.fl.invisible = false ∧ (img c).attr.fl.bold = false)
    (hrun : (run f (initial f none) bytes).core.scr = (initial f none).core.scr.runOps (picOps trimRow img p.w p.rows))
    (hstuck : (run f (initial f none) bytes).core.stuck = false)
    (hbom : f ≠ .atascii → bomPrefixed bytes = false) :
    ShowsIn (load f none bytes) p img ∧ (f ≠ .atascii → (load f none bytes).h = p.rows.length) := by
  have hfit : ∀ r ∈ p.rows, (trimRow r).length ≤ p.w := fun r hr => Nat.le_trans (trimRow_length_le r) (hwf r hr)
  -- a cell of the picture comes back as its image: the image is visible and not bold
  have hself : ∀ x y, y < p.rows.length → x < (trimRow (p.rows.getD y [])).length →
      shown (img ((trimRow (p.rows.getD y [])).getD x defaultCell)) = img ((trimRow (p.rows.getD y [])).getD x defaultCell) ∧
      foldBold (img ((trimRow (p.rows.getD y [])).getD x defaultCell)) = img ((trimRow (p.rows.getD y [])).getD x defaultCell) := by
    intro x y hy hlt
    obtain ⟨hv, hb⟩ := himg _ (Basics.getD_mem hy) _ (mem_trimRow (Basics.getD_mem hlt))
    exact ⟨shown_of_visible (by unfold Cell.isVisible; rw [hv]; rfl), by unfold foldBold; rw [hb]; rfl⟩
  have hload : load f none bytes = finish f (run f (initial f none) bytes) := by
    unfold load
    by_cases hf : f = .atascii
    · rw [if_pos hf]
    · rw [if_neg hf, convertText_of_noBom (hbom hf)]
  rw [hload]
  by_cases hf : f = .atascii
  · subst hf
    obtain ⟨h0x, h0y, h0w, h0v⟩ := initial_blank .atascii
    rw [← hw] at h0w
    rw [← h0w] at hrun hfit hw0
    obtain ⟨F1, F2, F3, F4⟩ := finish_atascii trimRow _ img _ p.rows h0x h0y h0v hw0 hfit hlast.1 hlast.2 hrun
    rw [h0w] at F1 F4
    refine ⟨showsIn_of_cells _ p img (F3.trans hstuck) F1 F2 fun x y hx hy => ?_, fun n => absurd rfl n⟩
    rw [F4 x y hx hy]
    split
    · exact (hself x y hy (by assumption)).1
    · rfl
  · rw [initial_scr f hf, ← hw] at hrun
    obtain ⟨F1, F2, F3, F4⟩ := finish_spec trimRow f hf _ img p.w (loadSize f).2 p.rows hw0 hfit hlast.1 hlast.2 hrun
    refine ⟨showsIn_of_cells _ p img (F3.trans hstuck) F1 (Nat.le_of_eq F2.symm) fun x y hx hy => ?_, fun _ => F2⟩
    rw [F4 x y hx hy]
    split
    · rw [(hself x y hy (by assumption)).1, (hself x y hy (by assumption)).2]
    · rfl

theorem plain_flags {c : Cell} (h : c.attr.fl = Flags.none) : (id c).attr.fl.invisible = false ∧ (id c).attr.fl.bold = false := by
  show c.attr.fl.invisible = false ∧ c.attr.fl.bold = false
  rw [h]; exact ⟨rfl, rfl⟩

/-- The round trip of a format whose writer is the row loop over `rowW`: the reader relation `R` holds after the screen preparation `pre`
    (which leaves the initial screen as it is), and every row (`hrow`: the format's own lemma) and every end of a row keep it. -/
theorem rt_rows {σ : Type} (f : Fmt) (img : Cell → Cell) (rowW : σ → List Cell → Option (List Nat × σ × Nat)) (eol : List Nat)
    (R : σ → RS → Prop) (Dom : Cell → Prop) (p : Pic)
    (hrow : RowSim rowW (step f) (fun r => r.core.scr) img R Dom p.w)
    (heol : ∀ s r, R s r → R s (eol.foldl (step f) r) ∧ (eol.foldl (step f) r).core.scr = r.core.scr.exec Op.nl)
    (hns : ∀ s r, R s r → r.core.stuck = false)
    (himg : ∀ c, Dom c → (img c).attr.fl.invisible = false ∧ (img c).attr.fl.bold = false)
    (hw : p.w = (loadSize f).1) (hw0 : 0 < p.w) (hwf : p.WF) (hlast : p.LastRowNonEmpty) (hdom : p.AllCells Dom)
    (pre : List Nat) (s0 : σ) (hpre : R s0 (pre.foldl (step f) (initial f none)))
    (hscr : (pre.foldl (step f) (initial f none)).core.scr = (initial f none).core.scr) :
    ∃ b, rowsLoop rowW eol p.w s0 p.rows = some b ∧ ((f ≠ .atascii → bomPrefixed (pre ++ b) = false) →
      ShowsIn (load f none (pre ++ b)) p img ∧ (f ≠ .atascii → (load f none (pre ++ b)).h = p.rows.length)) := by
  obtain ⟨b, e, ⟨s', R'⟩, sc⟩ := rowsLoop_sim rowW eol (step f) (fun r => r.core.scr) img R Dom p.w hrow heol p.rows s0 _ hpre hwf hdom
  refine ⟨b, e, fun hbom => assemble f img p _ hw hw0 hwf hlast (fun r hr c hc => himg c (hdom r hr c hc)) ?_ ?_ hbom⟩
  · show ((pre ++ b).foldl (step f) (initial f none)).core.scr = _
    rw [List.foldl_append, sc, hscr]
  · show ((pre ++ b).foldl (step f) (initial f none)).core.stuck = false
    rw [List.foldl_append]; exact hns _ _ R'

end IcyVerif.ArtIO
