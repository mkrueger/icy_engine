import IcyVerif.Lemmas.LoadersBase
/-! `Buffer::from_bytes`: SAUCE length arithmetic and dispatch never panic (C02). -/
namespace IcyVerif.Loaders
open IcyVerif.Bytes IcyVerif.Bytes.Res IcyVerif.Gen IcyVerif.Gen.Loaders

/-- the only site `from_bytes` can panic at: inside `SauceData::extract` (owned by C11) -/
def SauceSite (s : String) : Prop := s = sSauce

/-- where `extract` can still panic: at its own site, and only while one of C11's two repairs (`saturating_sub`, the comment
    check in `usize`) is missing from the tree -/
def SauceOpen (s : String) : Prop := s = sSauce ∧ ¬ (sauceOffsetSaturating = true ∧ sauceCommentCheckUsize = true)

/-- The comment block start and the offset are the two places whose arithmetic depends on a repair: with the repair in the tree the step
    cannot panic, without it it can only at `extract`'s own site. -/
theorem sauceInfo_open (d : Bytes) (dateOk : Bool) :
    (sauceInfo d dateOk).SatS SauceOpen (fun r => ∀ si, r = some si → si.headerLen ≤ d.size ∧ si.w < 65536 ∧ si.h < 65536) := by
  unfold sauceInfo
  have e : sauceLen = 128 := rfl
  refine SatS.ite (fun _ si h => by cases h) (fun hlen => ?_)
  apply SatS.bind_sat (usub_sat (by omega)); intro o ho
  apply SatS.bind_sat (slice_sat (by omega)); intro _ _
  refine SatS.ite (fun _ si h => by cases h) (fun _ => ?_)
  apply SatS.bind_sat (slice_sat (by omega)); intro _ _
  refine SatS.guard (fun _ => SatS.guard (fun _ => ?_))
  apply SatS.bind_sat (rd_sat (by omega)); intro dataType _
  apply SatS.bind_sat (rd_sat (by omega)); intro fileType _
  apply SatS.bind_sat (rdU16_sat (by omega)); intro t1 ht1
  apply SatS.bind_sat (rdU16_sat (by omega)); intro t2 ht2
  apply SatS.bind_sat (rd_sat (by omega)); intro comments _
  apply SatS.bind (P := fun len => len ≤ d.size)
  · refine SatS.ite (fun _ => ?_) (fun _ => (usub_sat (by omega)).toSatS.mono (fun v hv => by omega))
    apply SatS.bind_sat (usub_sat (by omega)); intro rest hrest
    refine SatS.ite (fun _ => SatS.guard (fun hr => ?_)) (fun hc => ?_)
    · apply SatS.bind_sat (usub_sat (by omega)); intro cs hcs
      apply SatS.bind_sat (slice_sat (by omega)); intro _ _
      exact SatS.guard (fun _ => (by show cs ≤ d.size; omega))
    · have op : ∀ s, s = sSauce → SauceOpen s := fun s h => ⟨h, fun hh => hc hh.2⟩
      apply SatS.bind (chk32_site.weaken op); intro a _
      apply SatS.bind (chk32_site.weaken op); intro b _
      refine SatS.guard (fun _ => ?_)
      apply SatS.bind (usub_site.weaken op); intro c1 _
      apply SatS.bind (usub_site.weaken op); intro cs _
      apply SatS.bind (slice_site.weaken op); intro _ hsl
      exact SatS.guard (fun _ => (by show cs ≤ d.size; omega))
  · intro len hlen
    apply SatS.bind (P := fun v => v ≤ d.size)
    · refine SatS.ite (fun _ => (by show len - 1 ≤ d.size; omega)) (fun hs => ?_)
      exact (usub_site.weaken (fun s h => ⟨h, fun hh => hs hh.1⟩)).mono (fun v hv => by omega)
    · intro offset hoff
      apply SatS.bind_sat (usub_sat hoff); intro hl hhl
      intro si h
      cases h
      have hsz : ∀ p : Nat × Nat, (p = ((fileType * 2) % 65536, 25) ∨ p = (t1, t2) ∨ p = (80, 25)) → p.1 < 65536 ∧ p.2 < 65536 := by
        rintro p (rfl | rfl | rfl)
        · exact ⟨Nat.mod_lt _ (by decide), (by decide : 25 < 65536)⟩
        · exact ⟨ht1, ht2⟩
        · exact ⟨(by decide : 80 < 65536), (by decide : 25 < 65536)⟩
      refine ⟨by show hl ≤ d.size; omega, hsz _ ?_⟩
      split
      · exact Or.inl rfl
      · split
        · exact Or.inr (Or.inl rfl)
        · split
          · exact Or.inr (Or.inl rfl)
          · exact Or.inr (Or.inr rfl)

theorem sauceInfo_spec (d : Bytes) (dateOk : Bool) :
    (sauceInfo d dateOk).SatS SauceSite (fun r => ∀ si, r = some si → si.headerLen ≤ d.size ∧ si.w < 65536 ∧ si.h < 65536) :=
  (sauceInfo_open d dateOk).weaken (fun _ h => h.1)

theorem sauceInfo_total (hs : sauceOffsetSaturating = true) (hc : sauceCommentCheckUsize = true) (d : Bytes) (dateOk : Bool) :
    (sauceInfo d dateOk).Sat (fun _ => True) :=
  ((sauceInfo_open d dateOk).toSat (fun _ h => h.2 ⟨hs, hc⟩)).mono (fun _ _ => True.intro)

theorem dispatchLen_spec (d : Bytes) (dateOk : Bool) :
    (dispatchLen d dateOk).SatS SauceSite (fun r => r.1 ≤ d.size ∧ ∀ sw sh, r.2 = some (sw, sh) → sw < 65536 ∧ sh < 65536) := by
  unfold dispatchLen
  have h := sauceInfo_spec d dateOk
  cases hs : sauceInfo d dateOk with
  | panic s => rw [hs] at h; exact h
  | err => exact ⟨Nat.le_refl _, fun _ _ h => by cases h⟩
  | ok r =>
    rw [hs] at h
    cases r with
    | none => exact ⟨Nat.le_refl _, fun _ _ h => by cases h⟩
    | some si =>
      obtain ⟨hle, hw, hh⟩ := h si rfl
      apply SatS.bind_sat (usub_sat hle); intro len hlen
      apply SatS.bind_sat (slice_sat (by omega)); intro _ _
      refine ⟨by show len ≤ d.size; omega, ?_⟩
      intro sw sh h2
      cases h2
      exact ⟨hw, hh⟩

end IcyVerif.Loaders
