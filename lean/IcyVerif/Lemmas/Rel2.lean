/-! `Rel2 R l l'` (two lists related position by position) and `mapAccM` (the list traversal that threads a state), with the
    lemmas the colour-optimiser proofs need. -/
namespace IcyVerif.ColorOpt

/-- pointwise relation of two lists of the same length (core has no `List.Forall₂`) -/
inductive Rel2 {α β : Type} (R : α → β → Prop) : List α → List β → Prop
  | nil : Rel2 R [] []
  | cons {a b as bs} : R a b → Rel2 R as bs → Rel2 R (a :: as) (b :: bs)

theorem Rel2.length {α β : Type} {R : α → β → Prop} {l : List α} {l' : List β} (h : Rel2 R l l') : l'.length = l.length := by
  induction h with
  | nil => rfl
  | cons _ _ ih => simp [ih]

theorem Rel2.mono {α β : Type} {R S : α → β → Prop} (hRS : ∀ a b, R a b → S a b) {l : List α} {l' : List β}
    (h : Rel2 R l l') : Rel2 S l l' := by
  induction h with
  | nil => exact .nil
  | cons hab _ ih => exact .cons (hRS _ _ hab) ih

theorem Rel2.map_iff {α β γ δ : Type} {R : γ → δ → Prop} (f : α → γ) (g : β → δ) {l : List α} {l' : List β} :
    Rel2 R (l.map f) (l'.map g) ↔ Rel2 (fun a b => R (f a) (g b)) l l' := by
  constructor
  · intro h
    induction l generalizing l' with
    | nil => cases l' with
      | nil => exact .nil
      | cons _ _ => cases h
    | cons a l ih => cases l' with
      | nil => cases h
      | cons b l' => cases h with
        | cons hab ht => exact .cons hab (ih ht)
  · intro h
    induction h with
    | nil => exact .nil
    | cons hab _ ih => exact .cons hab ih

theorem Rel2.all_right {α β : Type} {R : α → β → Prop} {P : α → Prop} {Q : β → Prop} (hPQ : ∀ a b, R a b → P a → Q b)
    {l : List α} {l' : List β} (h : Rel2 R l l') (hl : ∀ a ∈ l, P a) : ∀ b ∈ l', Q b := by
  induction h with
  | nil => intro b hb; cases hb
  | cons hab _ ih =>
    intro b hb
    rcases List.mem_cons.mp hb with rfl | hb
    · exact hPQ _ _ hab (hl _ List.mem_cons_self)
    · exact ih (fun a ha => hl a (List.mem_cons_of_mem _ ha)) b hb

theorem Rel2.map_eq {α β γ : Type} {R : α → β → Prop} (f : α → γ) (g : β → γ) (hfg : ∀ a b, R a b → g b = f a)
    {l : List α} {l' : List β} (h : Rel2 R l l') : l'.map g = l.map f := by
  induction h with
  | nil => rfl
  | cons hab _ ih => simp [hfg _ _ hab, ih]

theorem Rel2.append {α β : Type} {R : α → β → Prop} {a c : List α} {b d : List β} (h1 : Rel2 R a b) (h2 : Rel2 R c d) :
    Rel2 R (a ++ c) (b ++ d) := by
  induction h1 with
  | nil => exact h2
  | cons hab _ ih => exact .cons hab ih

theorem Rel2.flatten {α β : Type} {R : α → β → Prop} {l : List (List α)} {l' : List (List β)} (h : Rel2 (Rel2 R) l l') :
    Rel2 R l.flatten l'.flatten := by
  induction h with
  | nil => exact .nil
  | cons hab _ ih =>
    simp only [List.flatten_cons]
    exact Rel2.append hab ih

theorem Rel2.get {α β : Type} {R : α → β → Prop} {l : List α} {l' : List β} (h : Rel2 R l l') {i : Nat} {a : α} {b : β}
    (ha : l[i]? = some a) (hb : l'[i]? = some b) : R a b := by
  induction h generalizing i with
  | nil => simp at ha
  | cons hab _ ih =>
    cases i with
    | zero =>
      simp only [List.getElem?_cons_zero, Option.some.injEq] at ha hb
      subst ha; subst hb; exact hab
    | succ i => exact ih (by simpa using ha) (by simpa using hb)

/-- `f s a = some (b, s')` rewrites one element and hands the state on, `none` aborts.  Both loops of
    `ColorOptimizer::optimize` are this traversal, the state being the carried attribute (`optimizeRow_eq`, `optimizeRows_eq`). -/
def mapAccM {σ α β : Type} (f : σ → α → Option (β × σ)) : σ → List α → Option (List β × σ)
  | s, [] => some ([], s)
  | s, a :: as =>
    match f s a with
    | none => none
    | some (b, s') =>
      match mapAccM f s' as with
      | none => none
      | some (bs, s'') => some (b :: bs, s'')

theorem mapAccM_cons {σ α β : Type} {f : σ → α → Option (β × σ)} {s s' : σ} {a : α} {as : List α} {l' : List β} :
    mapAccM f s (a :: as) = some (l', s') ↔
      ∃ b s1 bs, f s a = some (b, s1) ∧ mapAccM f s1 as = some (bs, s') ∧ l' = b :: bs := by
  rw [mapAccM]
  constructor
  · intro h
    cases hf : f s a with
    | none => simp only [hf] at h; cases h
    | some p =>
      obtain ⟨b, s1⟩ := p
      simp only [hf] at h
      cases hr : mapAccM f s1 as with
      | none => simp only [hr] at h; cases h
      | some q => obtain ⟨bs, s2⟩ := q; simp only [hr] at h; cases h; exact ⟨b, s1, bs, rfl, hr, rfl⟩
  · rintro ⟨b, s1, bs, hf, hr, rfl⟩
    simp only [hf, hr]

/-- what holds element by element: `I` an invariant of the threaded state, `P` what the elements satisfy, `R` what one step
    establishes between an element and its image -/
theorem mapAccM_rel {σ α β : Type} {f : σ → α → Option (β × σ)} {I : σ → Prop} {P : α → Prop} {R : α → β → Prop}
    (hstep : ∀ s a b s', f s a = some (b, s') → I s → P a → R a b ∧ I s') :
    ∀ {l : List α} {s s' : σ} {l' : List β}, mapAccM f s l = some (l', s') → I s → (∀ a ∈ l, P a) → Rel2 R l l' ∧ I s' := by
  intro l
  induction l with
  | nil => intro s s' l' h hs _; cases h; exact ⟨.nil, hs⟩
  | cons a as ih =>
    intro s s' l' h hs hP
    obtain ⟨b, s1, bs, hf, hr, rfl⟩ := mapAccM_cons.mp h
    obtain ⟨hab, hs1⟩ := hstep s a b s1 hf hs (hP a List.mem_cons_self)
    obtain ⟨hrel, hs2⟩ := ih hr hs1 fun x hx => hP x (List.mem_cons_of_mem _ hx)
    exact ⟨.cons hab hrel, hs2⟩

theorem mapAccM_defined_iff {σ α β : Type} {f : σ → α → Option (β × σ)} {D : α → Prop}
    (hdef : ∀ s a, (∃ r, f s a = some r) ↔ D a) (s : σ) (l : List α) :
    (∃ p, mapAccM f s l = some p) ↔ ∀ a ∈ l, D a := by
  induction l generalizing s with
  | nil => exact Iff.intro (fun _ _ h => nomatch h) fun _ => ⟨_, rfl⟩
  | cons a as ih =>
    constructor
    · rintro ⟨⟨l', s'⟩, h⟩ x hx
      obtain ⟨b, s1, bs, hf, hr, _⟩ := mapAccM_cons.mp h
      rcases List.mem_cons.mp hx with rfl | hx
      · exact (hdef s x).mp ⟨_, hf⟩
      · exact (ih s1).mp ⟨_, hr⟩ x hx
    · intro h
      obtain ⟨⟨b, s1⟩, hf⟩ := (hdef s a).mpr (h a List.mem_cons_self)
      obtain ⟨⟨bs, s2⟩, hr⟩ := (ih s1).mpr fun x hx => h x (List.mem_cons_of_mem _ hx)
      exact ⟨_, mapAccM_cons.mpr ⟨b, s1, bs, hf, hr, rfl⟩⟩

end IcyVerif.ColorOpt
