import IcyVerif.Model.Font
import IcyVerif.Lemmas.UnicodeSites
import IcyVerif.Lemmas.Basics
/-! C17, bitmap fonts: the glyph rows of a table, concatenated (`flat`), tables whose glyphs all have `h` rows (`AllRows`), the
glyph loop `glyphs_from_u8_data` (`glyphLoop_spec`: every complete chunk becomes a glyph, a shorter rest is ignored; cutting
is unique, `flat_inj`, so the loop undoes `flat`), and the arithmetic of the `u32` / `i32` header fields. -/
namespace IcyVerif.Font
open IcyVerif.Uni

/-- the glyph rows of a complete table, concatenated -/
def flat : List (Option Glyph) → List Nat
  | [] => []
  | some r :: gs => r ++ flat gs
  | none :: gs => flat gs

/-- every entry present with exactly `h` rows of byte values -/
def AllRows (h : Nat) (gs : List (Option Glyph)) : Prop :=
  ∀ g ∈ gs, ∃ r, g = some r ∧ r.length = h

theorem AllRows.tail {h : Nat} {g : Option Glyph} {gs : List (Option Glyph)} (hr : AllRows h (g :: gs)) : AllRows h gs :=
  fun x hx => hr x (List.mem_cons_of_mem _ hx)

theorem flat_length (h : Nat) (gs : List (Option Glyph)) (hr : AllRows h gs) : (flat gs).length = gs.length * h := by
  induction gs with
  | nil => simp [flat]
  | cons g gs ih =>
    obtain ⟨r, rfl, hl⟩ := hr g (List.mem_cons_self ..)
    simp only [flat, List.length_append, List.length_cons, ih hr.tail, hl, Nat.add_mul, Nat.one_mul]
    omega

theorem flat_map_some {α : Type} (r : α → Glyph) (l : List α) : flat (l.map fun a => some (r a)) = l.flatMap r := by
  induction l with
  | nil => rfl
  | cons a l ih => simp only [List.map_cons, flat, ih, List.flatMap_cons]

theorem flat_replicate (n : Nat) (g : Glyph) : flat (List.replicate n (some g)) = (List.replicate n g).flatten := by
  induction n with
  | zero => rfl
  | succ n ih => simp only [List.replicate_succ, flat, ih, List.flatten_cons]

theorem lookups_self (gs : List (Option Glyph)) : lookups gs.length gs = gs := by
  induction gs with
  | nil => rfl
  | cons g gs ih => simp [lookups, ih]

theorem allGlyphs_flat (h : Nat) (gs : List (Option Glyph)) (hr : AllRows h gs) : allGlyphs gs = some (flat gs) := by
  induction gs with
  | nil => rfl
  | cons g gs ih =>
    obtain ⟨r, rfl, _⟩ := hr g (List.mem_cons_self ..)
    simp [allGlyphs, flat, ih hr.tail]

theorem convertAux_flat (h : Nat) (hh : Int) (gs : List (Option Glyph)) (hr : AllRows h gs) :
    convertAux hh gs = .ok (flat gs) := by
  induction gs with
  | nil => rfl
  | cons g gs ih =>
    obtain ⟨r, rfl, _⟩ := hr g (List.mem_cons_self ..)
    simp [convertAux, flat, ih hr.tail]

theorem splitExact_append (r rest : List Nat) : splitExact r.length (r ++ rest) = some (r, rest) := by
  induction r with
  | nil => simp [splitExact]
  | cons x xs ih => simp [splitExact, ih]

theorem splitExact_nil (h : Nat) (hh : 1 ≤ h) : splitExact h [] = none := by
  cases h with
  | zero => omega
  | succ n => rfl

theorem splitExact_some : ∀ (n : Nat) (l g rest : List Nat), splitExact n l = some (g, rest) →
    g.length = n ∧ l = g ++ rest := by
  intro n
  induction n with
  | zero => intro l g rest h; simp [splitExact] at h; obtain ⟨rfl, rfl⟩ := h; simp
  | succ n ih =>
    intro l g rest h
    cases l with
    | nil => simp [splitExact] at h
    | cons x l =>
      simp only [splitExact, Option.map_eq_some_iff] at h
      obtain ⟨⟨g', r'⟩, hs, he⟩ := h
      simp only [Prod.mk.injEq] at he
      obtain ⟨rfl, rfl⟩ := he
      obtain ⟨h1, h2⟩ := ih l g' r' hs
      simp [h1, h2]

theorem splitExact_none : ∀ (n : Nat) (l : List Nat), splitExact n l = none → l.length < n := by
  intro n
  induction n with
  | zero => intro l h; simp [splitExact] at h
  | succ n ih =>
    intro l h
    cases l with
    | nil => simp
    | cons x l =>
      simp only [splitExact, Option.map_eq_none_iff] at h
      have := ih l h
      simp; omega

theorem glyphLoop_rows (h fuel ch : Nat) (data : List Nat) (r : Glyph) (hm : some r ∈ glyphLoop h fuel ch data) :
    r.length = h := by
  fun_induction glyphLoop h fuel ch data with
  | case1 => cases hm
  | case2 => cases hm
  | case3 fuel ch data g rest hs ih =>
    rcases List.mem_cons.mp hm with e | hm
    · split at e
      · cases e; exact (splitExact_some h data _ rest hs).1
      · cases e
    · exact ih hm

theorem glyphsFromU8_rows (h : Nat) (data : List Nat) (r : Glyph) (hm : some r ∈ glyphsFromU8 h data) : r.length = h := by
  unfold glyphsFromU8 at hm
  split at hm
  · cases hm
  · exact glyphLoop_rows h _ _ _ r hm

/-- 55296 = 0xD800 is the first surrogate: from there on `char::from_u32` fails and the loop no longer keys the glyphs it cuts, so
    the table is complete only below it -/
theorem glyphLoop_spec (h : Nat) (hh : 1 ≤ h) : ∀ (fuel ch : Nat) (data : List Nat), data.length ≤ fuel →
    ch + data.length / h ≤ 55296 →
    AllRows h (glyphLoop h fuel ch data) ∧ ∃ t, data = flat (glyphLoop h fuel ch data) ++ t ∧ t.length < h := by
  intro fuel
  induction fuel with
  | zero =>
    intro ch data hf _
    have : data = [] := List.eq_nil_of_length_eq_zero (by omega)
    subst this
    exact ⟨(fun g hg => nomatch hg), [], rfl, by simp; omega⟩
  | succ fuel ih =>
    intro ch data hf hch
    unfold glyphLoop
    cases hs : splitExact h data with
    | none => exact ⟨(fun g hg => nomatch hg), data, rfl, splitExact_none h data hs⟩
    | some p =>
      obtain ⟨g, rest⟩ := p
      obtain ⟨hg, hd⟩ := splitExact_some h data g rest hs
      have hlen : data.length / h = rest.length / h + 1 := by
        rw [hd, List.length_append, hg, Nat.add_comm, Nat.add_div_right _ (by omega)]
      have hfuel : rest.length ≤ fuel := by rw [hd] at hf; simp at hf; omega
      generalize data.length / h = n at hch hlen
      generalize hm : rest.length / h = m at hlen
      have hsc : isScalar ch = true := by rw [isScalar_iff]; omega
      obtain ⟨hr, t, he, ht⟩ := ih (ch + 1) rest hfuel (by rw [hm]; omega)
      simp only [hsc, if_true]
      refine ⟨fun x hx => ?_, t, ?_, ht⟩
      · rcases List.mem_cons.mp hx with rfl | hx
        · exact ⟨g, rfl, hg⟩
        · exact hr x hx
      · rw [flat, List.append_assoc, ← he, hd]

theorem flat_inj (h : Nat) : ∀ (a b : List (Option Glyph)) (t t' : List Nat), AllRows h a → AllRows h b →
    t.length < h → t'.length < h → flat a ++ t = flat b ++ t' → a = b := by
  intro a
  induction a with
  | nil =>
    intro b t t' _ hb ht _ he
    cases b with
    | nil => rfl
    | cons g b =>
      obtain ⟨r, rfl, hl⟩ := hb g (List.mem_cons_self ..)
      have := congrArg List.length he
      simp [flat] at this; omega
  | cons g a ih =>
    intro b t t' ha hb ht ht' he
    obtain ⟨r, rfl, hl⟩ := ha g (List.mem_cons_self ..)
    cases b with
    | nil =>
      have := congrArg List.length he
      simp [flat] at this; omega
    | cons g' b =>
      obtain ⟨r', rfl, hl'⟩ := hb g' (List.mem_cons_self ..)
      simp only [flat, List.append_assoc] at he
      obtain ⟨e1, e2⟩ := List.append_inj he (by omega)
      rw [e1, ih b t t' ha.tail hb.tail ht ht' e2]

theorem glyphsFromU8_spec (h : Nat) (hh : 1 ≤ h) (data : List Nat) (hn : data.length / h ≤ 55296) :
    AllRows h (glyphsFromU8 h data) ∧ ∃ t, data = flat (glyphsFromU8 h data) ++ t ∧ t.length < h := by
  unfold glyphsFromU8
  rw [if_neg (by omega)]
  exact glyphLoop_spec h hh _ 0 data (Nat.le_refl _) (by omega)

theorem glyphsFromU8_flat_tail (h : Nat) (hh : 1 ≤ h) (gs : List (Option Glyph)) (hr : AllRows h gs)
    (hn : gs.length ≤ 55296) (t : List Nat) (ht : t.length < h) : glyphsFromU8 h (flat gs ++ t) = gs := by
  have hl : (flat gs ++ t).length / h = gs.length := by
    rw [List.length_append, flat_length h gs hr, Nat.mul_comm, Nat.mul_add_div (by omega), Nat.div_eq_of_lt ht, Nat.add_zero]
  obtain ⟨hr', t', he, ht'⟩ := glyphsFromU8_spec h hh (flat gs ++ t) (by omega)
  exact (flat_inj h _ _ _ _ hr hr' ht ht' he).symm

theorem glyphsFromU8_flat (h : Nat) (hh : 1 ≤ h) (gs : List (Option Glyph)) (hr : AllRows h gs)
    (hn : gs.length ≤ 55296) : glyphsFromU8 h (flat gs) = gs := by
  have := glyphsFromU8_flat_tail h hh gs hr hn [] (by simp; omega)
  rwa [List.append_nil] at this

theorem glyphsFromU8_length (h : Nat) (hh : 1 ≤ h) (data : List Nat) (hn : data.length / h ≤ 55296) :
    (glyphsFromU8 h data).length = data.length / h := by
  obtain ⟨hr, t, he, ht⟩ := glyphsFromU8_spec h hh data hn
  have := congrArg List.length he
  rw [List.length_append, flat_length h _ hr] at this
  rw [this, Nat.mul_comm, Nat.mul_add_div (by omega), Nat.div_eq_of_lt ht, Nat.add_zero]

theorem le32_u32le (n : Nat) : le32 (n % 256) (n / 256 % 256) (n / 65536 % 256) (n / 16777216 % 256) = n % 4294967296 := by
  unfold le32; omega

theorem asI32_small (n : Nat) (h : n < 2147483648) : asI32 n = n := by
  unfold asI32
  have : n % 4294967296 = n := Nat.mod_eq_of_lt (by omega)
  simp only [this]
  rw [if_pos h]

end IcyVerif.Font
