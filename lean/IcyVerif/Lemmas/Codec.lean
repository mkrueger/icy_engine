import IcyVerif.Model.Codec
/-! C18: the reverse maps of the code pages are last-occurrence lookups, so a table without repeated entries is inverted
    exactly; that the generated tables have none, and where the typed characters sit in them, is checked in one pass per
    table against bit sets.  The attribute byte is swept over all 3 × 256 bytes. -/
namespace IcyVerif.Codec
open IcyVerif.Gen.Codec

/-- no entry of the list is in the bit set `seen` or occurs twice (one pass, the set as a natural number) -/
def freshBits : Nat → List Nat → Bool
  | _, [] => true
  | seen, x :: xs => !seen.testBit x && freshBits (seen ||| 1 <<< x) xs

theorem freshBits_spec (l : List Nat) (seen : Nat) (h : freshBits seen l = true) :
    l.Nodup ∧ ∀ x ∈ l, seen.testBit x = false := by
  induction l generalizing seen with
  | nil => exact ⟨List.nodup_nil, fun _ hx => absurd hx List.not_mem_nil⟩
  | cons x xs ih =>
    simp only [freshBits, Bool.and_eq_true, Bool.not_eq_true'] at h
    obtain ⟨hn, hs⟩ := ih _ h.2
    have key : ∀ y ∈ xs, seen.testBit y = false ∧ x ≠ y := fun y hy => by
      simpa [Nat.testBit_or, Nat.one_shiftLeft, Nat.testBit_two_pow] using hs y hy
    refine ⟨List.nodup_cons.mpr ⟨fun hx => (key x hx).2 rfl, hn⟩, fun y hy => ?_⟩
    rcases List.mem_cons.mp hy with rfl | hy
    · exact h.1
    · exact (key y hy).1

theorem nodup_of_freshBits {l : List Nat} (h : freshBits 0 l = true) : l.Nodup := (freshBits_spec l 0 h).1

/-- the list as a bit set -/
def bitsOf (l : List Nat) : Nat := l.foldl (fun s x => s ||| 1 <<< x) 0

theorem testBit_foldl (l : List Nat) (s x : Nat) :
    (l.foldl (fun s x => s ||| 1 <<< x) s).testBit x = (s.testBit x || decide (x ∈ l)) := by
  induction l generalizing s with
  | nil => simp
  | cons y ys ih =>
    rw [List.foldl_cons, ih, Nat.testBit_or, Nat.one_shiftLeft, Nat.testBit_two_pow]
    simp only [List.mem_cons, Bool.or_assoc, Bool.decide_or]
    congr 2
    exact decide_eq_decide.mpr eq_comm

theorem mem_iff_of_masked (k v m : List Nat) (h : (bitsOf k ^^^ bitsOf v) &&& bitsOf m = 0) (x : Nat) (hx : x ∈ m) :
    x ∈ k ↔ x ∈ v := by
  have := congrArg (·.testBit x) h
  simp only [Nat.testBit_and, Nat.testBit_xor, bitsOf, testBit_foldl, Nat.zero_testBit, Bool.false_or, hx, decide_true,
    Bool.and_true, bne_eq_false_iff_eq, decide_eq_decide] at this
  exact this

/-- the positions `i + j` at which the list holds its own position, `l[j] = i + j`, as a bit set -/
def fixedBits : Nat → List Nat → Nat
  | _, [] => 0
  | i, v :: vs => (if v = i then 1 <<< i else 0) ||| fixedBits (i + 1) vs

theorem testBit_fixedBits (l : List Nat) (i x : Nat) (h : (fixedBits i l).testBit x = true) : i ≤ x ∧ l[x - i]? = some x := by
  induction l generalizing i with
  | nil => simp [fixedBits] at h
  | cons v vs ih =>
    rw [fixedBits, Nat.testBit_or, Bool.or_eq_true] at h
    rcases h with h | h
    · by_cases hv : v = i
      · rw [if_pos hv, Nat.one_shiftLeft, Nat.testBit_two_pow, decide_eq_true_eq] at h
        subst h; subst hv
        simp
      · rw [if_neg hv] at h; simp at h
    · obtain ⟨h1, h2⟩ := ih _ h
      refine ⟨by omega, ?_⟩
      rw [show x - i = (x - (i + 1)) + 1 by omega, List.getElem?_cons_succ, h2]

theorem fixed_of_masked (tbl m : List Nat) (h : bitsOf m &&& fixedBits 0 tbl = bitsOf m) (x : Nat) (hx : x ∈ m) :
    tbl[x]? = some x := by
  have hb : (bitsOf m).testBit x = true := by simp [bitsOf, testBit_foldl, hx]
  rw [← h, Nat.testBit_and, Bool.and_eq_true] at hb
  exact (testBit_fixedBits tbl 0 x hb.2).2

theorem lastIdxFrom_absent (ch : Nat) (l : List Nat) (i : Nat) (acc : Option Nat) (h : ch ∉ l) :
    lastIdxFrom ch i l acc = acc := by
  induction l generalizing i acc with
  | nil => rfl
  | cons v vs ih =>
    rw [lastIdxFrom, ih _ _ (fun hm => h (List.mem_cons_of_mem _ hm)), if_neg (fun e : v = ch => h (e ▸ List.mem_cons_self))]

theorem lastIdxFrom_nodup (l : List Nat) (hn : l.Nodup) (i k : Nat) (acc : Option Nat) (hk : k < l.length) :
    lastIdxFrom l[k] i l acc = some (i + k) := by
  induction l generalizing i k acc with
  | nil => simp at hk
  | cons v vs ih =>
    obtain ⟨hv, hn⟩ := List.nodup_cons.mp hn
    rw [lastIdxFrom]
    cases k with
    | zero => rw [List.getElem_cons_zero, lastIdxFrom_absent _ _ _ _ hv, if_pos rfl]; rfl
    | succ k => rw [List.getElem_cons_succ, ih hn, Nat.add_assoc, Nat.add_comm 1 k]

theorem lastIdxFrom_append (ch : Nat) (l₁ l₂ : List Nat) (i : Nat) (acc : Option Nat) :
    lastIdxFrom ch i (l₁ ++ l₂) acc = lastIdxFrom ch (i + l₁.length) l₂ (lastIdxFrom ch i l₁ acc) := by
  induction l₁ generalizing i acc with
  | nil => rfl
  | cons v vs ih => rw [List.cons_append, lastIdxFrom, lastIdxFrom, ih, List.length_cons, Nat.add_assoc, Nat.add_comm 1]

/-- a code that sits at its own position inside a stretch `[a, b)` without repetition and does not occur behind it is its own
    last occurrence -/
theorem lastIdx_fixed (t : List Nat) (a b ch : Nat) (hseg : ((t.drop a).take (b - a)).Nodup) (htail : ch ∉ t.drop b)
    (ha : a ≤ ch) (hb : ch < b) (hbt : b ≤ t.length) (hfix : t[ch]'(Nat.lt_of_lt_of_le hb hbt) = ch) :
    lastIdxFrom ch 0 t none = some ch := by
  have hd : (t.drop a).drop (b - a) = t.drop b := by rw [List.drop_drop]; congr 1; omega
  have e : t = t.take a ++ ((t.drop a).take (b - a) ++ t.drop b) := by
    rw [← hd, List.take_append_drop, List.take_append_drop]
  have hl : (t.take a).length = a := by rw [List.length_take]; omega
  have hk : ch - a < ((t.drop a).take (b - a)).length := by rw [List.length_take, List.length_drop]; omega
  have hget : ((t.drop a).take (b - a))[ch - a] = ch := by
    rw [List.getElem_take, List.getElem_drop]
    simp only [Nat.add_sub_cancel' ha, hfix]
  rw [e, lastIdxFrom_append, lastIdxFrom_append, lastIdxFrom_absent _ _ _ _ htail, hl, Nat.zero_add]
  conv => lhs; rw [← hget]
  rw [lastIdxFrom_nodup _ hseg a (ch - a) _ hk, Nat.add_sub_cancel' ha]

theorem table_rt (tbl : List Nat) (n : Nat) (hn : (tbl.take n).Nodup) (hl : n ≤ tbl.length) (c : Nat) (hc : c < n) :
    tableFromUni tbl n (tableToUni tbl c) = c := by
  have hk : c < (tbl.take n).length := by rw [List.length_take]; omega
  have e : tableToUni tbl c = (tbl.take n)[c] := by
    rw [tableToUni, List.getD_eq_getElem?_getD, List.getElem?_eq_getElem (by omega), List.getElem_take]; rfl
  rw [tableFromUni, lastIdx, e, lastIdxFrom_nodup _ hn 0 c none hk, Nat.zero_add, Option.getD_some]

theorem lastAssoc_absent (k : Nat) (l : List (Nat × Nat)) (acc : Option Nat) (h : k ∉ l.map Prod.fst) :
    lastAssoc k l acc = acc := by
  induction l generalizing acc with
  | nil => rfl
  | cons p ps ih =>
    rw [List.map_cons, List.mem_cons, not_or] at h
    rw [lastAssoc, ih _ h.2, if_neg (Ne.symm h.1)]

theorem lastAssoc_nodup (l : List (Nat × Nat)) (hn : (l.map Prod.fst).Nodup) (p : Nat × Nat) (hp : p ∈ l)
    (acc : Option Nat) : lastAssoc p.1 l acc = some p.2 := by
  induction l generalizing acc with
  | nil => simp at hp
  | cons q qs ih =>
    obtain ⟨hq, hn⟩ := List.nodup_cons.mp hn
    rw [lastAssoc]
    rcases List.mem_cons.mp hp with rfl | hp
    · rw [lastAssoc_absent _ _ _ hq, if_pos rfl]
    · exact ih hn hp _

theorem cp437_length : cp437.length = 256 := by decide +kernel
theorem cp437_nodup : cp437.Nodup := nodup_of_freshBits (by decide +kernel)
theorem cp437_base_nodup : (cp437.take cp437Rev).Nodup := nodup_of_freshBits (by decide +kernel)

theorem atari_length : atari.length = 256 ∧ atariRev = 128 := by decide +kernel
/-- only the `atariRev` (= 128) base codes are in the reverse map -/
theorem atari_base_nodup : (atari.take atariRev).Nodup := nodup_of_freshBits (by decide +kernel)

theorem petscii_nodup : (petscii.map Prod.fst).Nodup ∧ ((petscii.map fun p => (p.2, p.1)).map Prod.fst).Nodup :=
  ⟨nodup_of_freshBits (by decide +kernel), nodup_of_freshBits (by decide +kernel)⟩
theorem petscii_bytes : ∀ p ∈ petscii, p.1 < 256 ∧ p.2 < 256 := by decide +kernel

theorem IceMode.mem_all (m : IceMode) : m ∈ IceMode.all := by cases m <;> decide
theorem Conv.mem_all (c : Conv) : c ∈ Conv.all := by cases c <;> decide

theorem enc_dec_core : ∀ m ∈ IceMode.all, ∀ fg, fg < 16 → ∀ bg, bg < 16 → ∀ blink : Bool,
    ExpressibleT m fg bg false blink →
      (fromU8 m (encByte m fg bg false blink)).fg = fg ∧ (fromU8 m (encByte m fg bg false blink)).bg = bg ∧
      (fromU8 m (encByte m fg bg false blink)).isBlink = blink := by decide +kernel

/-- bold only ORs bit 3 into the foreground nibble, so on a bright foreground it changes nothing -/
theorem encByte_bold_bright (m : IceMode) (fg bg : Nat) (blink : Bool) (hfg : fg < 16) (hbright : 8 ≤ fg) :
    encByte m fg bg true blink = encByte m fg bg false blink := by
  have : ∀ fg, fg < 16 → 8 ≤ fg → (fg &&& encFgMask) ||| encBoldBit = fg &&& encFgMask := by decide
  simp only [encByte, if_true, this fg hfg hbright, Bool.false_eq_true, if_false]

theorem dec_core : ∀ m ∈ IceMode.all, ∀ b, b < 256 →
    asU8 m (fromU8 m b) = b ∧ Expressible m (fromU8 m b) ∧
    (asU8Pinned m (fromU8 m b) = b ↔ ¬ (m = .unlimited ∧ 128 ≤ b)) := by decide +kernel

theorem encByte_lt (m : IceMode) (fg bg : Nat) (bold blink : Bool) : encByte m fg bg bold blink < 256 := by
  unfold encByte
  exact Nat.mod_lt _ (by decide)

theorem fromU8_fg (m : IceMode) (x : Nat) : (fromU8 m x).fg = x &&& 15 := by
  unfold fromU8 Attr.setBlink
  cases m <;> simp only [] <;> split <;> rfl

theorem fromU8_bg_lt (m : IceMode) (x : Nat) (hx : x < 256) : (fromU8 m x).bg < 16 := by
  have h := (dec_core m (IceMode.mem_all m) x hx).2.1
  unfold Expressible ExpressibleT at h
  cases m <;> simp only [] at h <;> omega

theorem mem_typedChars (ch : Nat) : ch ∈ typedChars ↔ IsTyped ch := by
  simp only [typedChars, IsTyped, List.mem_cons, List.mem_append, List.mem_map, List.mem_range]
  constructor
  · rintro (rfl | (⟨a, ha, rfl⟩ | ⟨a, ha, rfl⟩) | ⟨a, ha, rfl⟩) <;> omega
  · rintro (h | h | h | h)
    · exact .inl h
    · exact .inr (.inl (.inl ⟨ch - 48, by omega, by omega⟩))
    · exact .inr (.inl (.inr ⟨ch - 65, by omega, by omega⟩))
    · exact .inr (.inr ⟨ch - 97, by omega, by omega⟩)

/-- the round trip, and "the emulation's code": where code `ch` displays as character `ch`, that is the code the key sends -/
def TypedOk (c : Conv) (ch : Nat) : Prop := toUni c (fromUni c ch) = ch ∧ (toUni c ch = ch → fromUni c ch = ch)

theorem typedOk_of_fixed (tbl : List Nat) (n : Nat) (hn : (tbl.take n).Nodup) (hl : n ≤ tbl.length) (ch : Nat) (hc : ch < n)
    (hfix : tableToUni tbl ch = ch) :
    tableToUni tbl (tableFromUni tbl n ch) = ch ∧ (tableToUni tbl ch = ch → tableFromUni tbl n ch = ch) := by
  have hrt := table_rt tbl n hn hl ch hc
  rw [hfix] at hrt
  exact ⟨by rw [hrt, hfix], fun _ => hrt⟩

theorem typed_fixed (ch : Nat) (h : ch ∈ typedChars) :
    ch < 123 ∧ cp437[ch]? = some ch ∧ atari[ch]? = some ch ∧ viewdata[ch]? = some ch :=
  ⟨by have := (mem_typedChars ch).mp h; unfold IsTyped at this; omega,
    fixed_of_masked _ _ (by decide +kernel) ch h, fixed_of_masked _ _ (by decide +kernel) ch h,
    fixed_of_masked _ _ (by decide +kernel) ch h⟩

theorem tableToUni_fixed {tbl : List Nat} {ch : Nat} (h : tbl[ch]? = some ch) : tableToUni tbl ch = ch := by
  rw [tableToUni, List.getD_eq_getElem?_getD, h]; rfl

theorem mode7_eq_viewdata : mode7 = viewdata ∧ mode7Rev = viewdataRev ∧ mode7Special = viewdataSpecial := by decide +kernel

/-- Viewdata: codes 36 … 122 hold no character twice (the stretch starts behind code 35, which displays a second `f`),
    and no value in 36 … 122 — so no typed character but the blank — occurs behind code 122; the blank is handled by
    `convert_from_unicode` itself -/
theorem viewdata_facts :
    viewdata.take viewdataRev = viewdata ∧ ((viewdata.drop 36).take (123 - 36)).Nodup ∧
    (∀ v ∈ viewdata.drop 123, v < 36 ∨ 123 ≤ v) ∧ 123 ≤ viewdata.length ∧ viewdataSpecial = (32, 32) :=
  ⟨by decide +kernel, nodup_of_freshBits (by decide +kernel), by decide +kernel, by decide +kernel, by decide +kernel⟩

theorem petscii_ok (ch : Nat) (h : ch ∈ typedChars) : TypedOk .petscii ch := by
  -- a typed character is a code on the left of `CHAR_TABLE` exactly when it is one on the right
  have hkv := mem_iff_of_masked (petscii.map Prod.fst) ((petscii.map fun p => (p.2, p.1)).map Prod.fst) typedChars
    (by decide +kernel) ch h
  have hlt : ch < 256 := Nat.lt_trans (typed_fixed ch h).1 (by decide)
  simp only [TypedOk, toUni, fromUni, Nat.mod_eq_of_lt hlt]
  by_cases hk : ch ∈ petscii.map Prod.fst
  · -- both a left and a right code: `(ch, v)` and `(k, ch)` are in the table
    obtain ⟨p, hp, rfl⟩ := List.mem_map.mp hk
    obtain ⟨q', hq', hq2⟩ := List.mem_map.mp (hkv.mp hk)
    obtain ⟨q, hq, rfl⟩ := List.mem_map.mp hq'
    have hps : (p.2, p.1) ∈ petscii.map fun p => (p.2, p.1) := List.mem_map_of_mem hp
    rw [lastAssoc_nodup _ petscii_nodup.1 p hp, Option.getD_some, Nat.mod_eq_of_lt (petscii_bytes p hp).2,
      lastAssoc_nodup _ petscii_nodup.2 _ hps]
    refine ⟨rfl, fun hto => ?_⟩
    simp only [] at hq2
    rw [← hq2, lastAssoc_nodup _ petscii_nodup.2 _ hq'] at hto
    -- `k = ch`, so the two pairs have the same left code and are the same pair
    have e := lastAssoc_nodup _ petscii_nodup.1 q hq none
    simp only [Option.getD_some] at hto
    rw [hto, hq2, lastAssoc_nodup _ petscii_nodup.1 p hp] at e
    exact Option.some.inj e
  · have hv : ch ∉ (petscii.map fun p => (p.2, p.1)).map Prod.fst := fun hv => hk (hkv.mpr hv)
    rw [lastAssoc_absent _ _ _ hk, Option.getD_none, Nat.mod_eq_of_lt hlt, lastAssoc_absent _ _ _ hv]
    exact ⟨rfl, fun _ => rfl⟩

theorem typed_core (c : Conv) (ch : Nat) (h : ch ∈ typedChars) : TypedOk c ch := by
  obtain ⟨hlt, hcp, hat, hvd⟩ := typed_fixed ch h
  have viewdata_ok : TypedOk .viewdata ch := by
    obtain ⟨htake, hseg, htail, hlen, hsp⟩ := viewdata_facts
    have hto := tableToUni_fixed hvd
    simp only [TypedOk, toUni, fromUni, hsp]
    by_cases h32 : ch = 32
    · rw [if_pos h32, ← h32, hto]; exact ⟨rfl, fun _ => rfl⟩
    · have h36 : 36 ≤ ch := by have := (mem_typedChars ch).mp h; unfold IsTyped at this; omega
      have hcl : ch < viewdata.length := by omega
      have hfix : viewdata[ch] = ch := by rw [List.getElem?_eq_getElem hcl] at hvd; exact Option.some.inj hvd
      have hfrom : tableFromUni viewdata viewdataRev ch = ch := by
        rw [tableFromUni, lastIdx, htake,
          lastIdx_fixed viewdata 36 123 ch hseg (fun hm => by have := htail ch hm; omega) h36 hlt hlen hfix]; rfl
      rw [if_neg h32, hfrom, hto]
      exact ⟨rfl, fun _ => rfl⟩
  cases c with
  | cp437 =>
    exact typedOk_of_fixed cp437 cp437Rev cp437_base_nodup (by decide +kernel) ch (Nat.lt_trans hlt (by decide)) (tableToUni_fixed hcp)
  | atascii =>
    exact typedOk_of_fixed atari atariRev atari_base_nodup (by rw [atari_length.1, atari_length.2]; decide) ch (Nat.lt_trans hlt (by decide)) (tableToUni_fixed hat)
  | petscii => exact petscii_ok ch h
  | viewdata => exact viewdata_ok
  | mode7 =>
    simp only [TypedOk, toUni, fromUni, mode7_eq_viewdata.1, mode7_eq_viewdata.2.1, mode7_eq_viewdata.2.2] at viewdata_ok ⊢
    exact viewdata_ok

end IcyVerif.Codec
