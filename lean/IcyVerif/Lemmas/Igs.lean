import IcyVerif.Model.Igs
/-! The IGS lexer: the invariant `IGood`, the loop sub-machine (its only panic is the explicit `i += step` overflow of the loop), the
iteration of a loop.  The step theorems themselves are `C20.igs_lex_total_partial`, `C20.igs_next_action_total_partial`. -/
namespace IcyVerif.Igs

/-- `saturating_*`: non-negative values stay non-negative, and a value is only lowered to `i32::MAX` -/
theorem sat_nonneg (v : Int) (hv : 0 ≤ v) : 0 ≤ sat v := by
  unfold sat
  split
  · simp only [i32Max]; omega
  · split
    · rename_i h; simp only [i32Min] at h; omega
    · exact hv

theorem le_sat (v : Int) : v ≤ sat v ∨ sat v = i32Max := by
  unfold sat
  split
  · exact .inr rfl
  · split
    · rename_i h; simp only [i32Min] at h; left; simp only [i32Min]; omega
    · exact .inl (Int.le_refl _)

def idxLoop : Nat := Gen.Igs.idxLoopCommand

theorem loop_ne_writeText : Gen.Igs.idxLoopCommand ≠ Gen.Igs.idxWriteText := by decide

theorem fromChar_ne_loop : ∀ ch c, fromChar ch = some c → c ≠ Gen.Igs.idxLoopCommand := by
  have h : Gen.Igs.fromChar.all (fun p => decide (p.2 ≠ Gen.Igs.idxLoopCommand)) = true := by decide
  intro ch c hc
  unfold fromChar at hc
  cases hf : Gen.Igs.fromChar.find? (fun p => p.1 = ch) with
  | none => simp [hf] at hc
  | some p =>
    simp [hf] at hc
    have hm := List.mem_of_find?_eq_some hf
    rw [List.all_eq_true] at h
    have := h p hm
    simp at this
    rw [← hc]; exact this

/-- invariant of the loop sub-machine while `ReadCommand(LoopCommand)` is the lexer state: it starts with the fourth number; number 3
is the delay, whose digits the sub-machine skips, so it stays 0 (`sleep(0)`); from `ReadCount` on there is a fifth number (the
parameter count `parsed_numbers[4]` that `ReadParameter` indexes); in `ReadParameter` the last group exists and has a string to
extend (`last_mut().unwrap()` twice) -/
def LoopInv (s : Igs) : Prop :=
  (s.nums.length < 4 → s.loopSt = .start) ∧
  (4 ≤ s.nums.length → s.nums[3]? = some 0) ∧
  ((s.loopSt = .readCount ∨ s.loopSt = .readParameter) → 5 ≤ s.nums.length) ∧
  (s.loopSt = .readParameter → ∃ g, s.loopParams.getLast? = some g ∧ g ≠ [])

def IGood (s : Igs) : Prop :=
  (s.st = .readCommand Gen.Igs.idxLoopCommand → LoopInv s) ∧ (∀ l, s.cur = some l → l.delay = 0)

theorem igood_init : IGood Igs.init := by
  constructor
  · intro h; simp [Igs.init] at h
  · intro l h; simp [Igs.init] at h

theorem igood_of_not_loop {s : Igs} (h1 : s.st ≠ .readCommand Gen.Igs.idxLoopCommand) (h2 : ∀ l, s.cur = some l → l.delay = 0) : IGood s :=
  ⟨fun h => absurd h h1, h2⟩

theorem advance_some {l l' : Loop} (h : l.advance = some l') : l' = { l with i := l.nextI } := by
  unfold Loop.advance at h
  by_cases hc : i32Min ≤ l.nextI ∧ l.nextI ≤ i32Max
  · simp [hc] at h; exact h.symm
  · simp [hc] at h

/-- the only panic `step` can produce -/
def overflowSite : String := "Loop::next_step: i += step"

/-- what the right-hand outcome of the totality lemmas says: the panic is the counter overflow of the loop that
starts here -/
def Overflows (s : Igs) (r : StepRes) : Prop := r = .panic overflowSite ∧ ∃ c, (mkLoop s c).advance = none

theorem startLoop_good (s : Igs) (hcur : ∀ l, s.cur = some l → l.delay = 0) (h3 : s.nums[3]? = some 0) (hp : s.loopParams ≠ []) :
    (∃ s' o, startLoop s = .ok s' o ∧ IGood s') ∨ Overflows s (startLoop s) := by
  unfold startLoop
  cases hf : fromChar s.loopCmd with
  | none =>
    left
    exact ⟨_, _, rfl, igood_of_not_loop (by simp) hcur⟩
  | some c =>
    simp only []
    by_cases hr : (mkLoop s c).running = true
    · simp only [hr, if_true]
      have : s.loopParams.isEmpty = false := by
        cases hl : s.loopParams with
        | nil => exact absurd hl hp
        | cons a b => rfl
      simp only [this]
      cases ha : (mkLoop s c).advance with
      | none => right; exact ⟨by simp [overflowSite], c, ha⟩
      | some l' =>
        left
        simp only []
        refine ⟨_, _, rfl, igood_of_not_loop (by simp) ?_⟩
        intro l hl
        simp at hl
        subst hl
        rw [advance_some ha]
        simp [mkLoop, List.getD, h3]
    · left
      simp only [hr]
      exact ⟨_, _, rfl, igood_of_not_loop (by simp) hcur⟩

theorem loopChar_good (s : Igs) (ch : Nat) (hst : s.st = .readCommand Gen.Igs.idxLoopCommand) (hlen : 4 ≤ s.nums.length)
    (hg : IGood s) :
    (∃ s' o, loopChar s ch = .ok s' o ∧ IGood s') ∨ Overflows s (loopChar s ch) := by
  obtain ⟨hinv, hcur⟩ := hg
  obtain ⟨_, h3, h5, hrp⟩ := hinv hst
  have h3' := h3 hlen
  -- an answer that leaves the numbers and the running loop alone: what is left to show is the part of `LoopInv` about the new `loop_state`
  have keep : ∀ (s' : Igs) (o : Out), s'.nums = s.nums → s'.cur = s.cur →
      ((s'.loopSt = .readCount ∨ s'.loopSt = .readParameter) → 5 ≤ s.nums.length) →
      (s'.loopSt = .readParameter → ∃ g, s'.loopParams.getLast? = some g ∧ g ≠ []) →
      (∃ s'' o', StepRes.ok s' o = .ok s'' o' ∧ IGood s'') ∨ Overflows s (StepRes.ok s' o) :=
    fun s' o hn hc a b => .inl ⟨s', o, rfl, fun _ => ⟨fun h => by rw [hn] at h; omega, fun _ => hn ▸ h3', fun h => hn ▸ a h, b⟩,
      fun l hl => hcur l (hc ▸ hl)⟩
  fun_cases loopChar s ch
  -- Start
  · rename_i hls
    split
    · exact keep _ _ rfl rfl (fun h => h.elim nofun nofun) nofun
    · exact keep _ _ rfl rfl (fun h => by rw [hls] at h; exact h.elim nofun nofun) (fun h => by rw [hls] at h; cases h)
  -- ReadCommand
  · refine .inl ⟨_, _, rfl, fun _ => ⟨fun h => ?_, fun _ => ?_, fun _ => ?_, nofun⟩, hcur⟩
    · have h' : (s.nums ++ [0]).length < 4 := h
      rw [List.length_append, List.length_singleton] at h'
      omega
    · show (s.nums ++ [0])[3]? = some 0
      rw [List.getElem?_append_left (by omega)]
      exact h3'
    · show 5 ≤ (s.nums ++ [0]).length
      rw [List.length_append, List.length_singleton]
      omega
  · rename_i hls _
    exact keep _ _ rfl rfl (fun h => by rw [show _ = s.loopSt from rfl, hls] at h; exact h.elim nofun nofun)
      (fun h => by rw [show _ = s.loopSt from rfl, hls] at h; cases h)
  -- ReadCount
  · rename_i hls _ _
    have hl5 := h5 (Or.inl hls)
    have hlen' : (s.nums.dropLast ++ [parseNextNumber (s.nums.getLast?.getD 0) ch]).length = s.nums.length := by
      simp [List.length_dropLast]; omega
    refine .inl ⟨_, _, rfl, fun _ => ⟨fun h => ?_, fun _ => ?_, fun _ => ?_, fun h => ?_⟩, hcur⟩
    · have h' : (s.nums.dropLast ++ [parseNextNumber (s.nums.getLast?.getD 0) ch]).length < 4 := h
      omega
    · show (s.nums.dropLast ++ [parseNextNumber (s.nums.getLast?.getD 0) ch])[3]? = some 0
      rw [List.getElem?_append_left (by simp [List.length_dropLast]; omega), List.getElem?_dropLast]
      have : 3 < s.nums.length - 1 := by omega
      simp [this, h3']
    · show 5 ≤ (s.nums.dropLast ++ [parseNextNumber (s.nums.getLast?.getD 0) ch]).length
      omega
    · rw [show _ = s.loopSt from rfl, hls] at h; cases h
  · rename_i hls _ _
    exact keep _ _ rfl rfl (fun _ => h5 (Or.inl hls)) (fun _ => ⟨[[]], by simp, by simp⟩)
  · exact .inl ⟨_, _, rfl, igood_of_not_loop nofun hcur⟩
  -- ReadParameter
  · rename_i hls _
    exact keep _ _ rfl rfl (fun _ => h5 (Or.inr hls)) (fun _ => hrp hls)
  · rename_i hls _ _ h4
    have hl5 := h5 (Or.inr hls)
    have : s.nums[4]? = some (s.nums[4]'(by omega)) := by simp
    rw [this] at h4; cases h4
  · rename_i hls _ _ _ _ _
    obtain ⟨g, hg1, hg2⟩ := hrp hls
    exact startLoop_good s hcur h3' (fun h => by rw [h] at hg1; simp at hg1)
  · rename_i hls _ _ _ _ _ _ ps hps
    obtain ⟨g, hg1, hg2⟩ := hrp hls
    simp only [pushLast, hg1, Option.some.injEq] at hps
    subst hps
    exact keep _ _ rfl rfl (fun _ => h5 (Or.inr hls)) (fun _ => ⟨g ++ [[]], by simp, by simp⟩)
  · rename_i hls _ _ _ _ _ _ hps
    obtain ⟨g, hg1, hg2⟩ := hrp hls
    simp [pushLast, hg1] at hps
  · rename_i hls _ _ _ _ _ _
    exact keep _ _ rfl rfl (fun _ => h5 (Or.inr hls)) (fun _ => ⟨[[]], by simp, by simp⟩)
  · rename_i hls _ _ hnone
    obtain ⟨g, hg1, hg2⟩ := hrp hls
    rw [hg1] at hnone; cases hnone
  · rename_i hls _ _ g' hg' hnone
    obtain ⟨g, hg1, hg2⟩ := hrp hls
    rw [hg1] at hg'; cases hg'
    exact absurd (List.getLast?_eq_none_iff.mp hnone) hg2
  · rename_i hls _ _ g' hg' p hp
    exact keep _ _ rfl rfl (fun _ => h5 (Or.inr hls)) (fun _ => ⟨g'.dropLast ++ [p ++ [ch]], by simp, by simp⟩)

/-- the loop after `n` further calls of `next_step` (overflow aside) -/
def Loop.iter (l : Loop) : Nat → Loop
  | 0 => l
  | n + 1 => if l.running then Loop.iter { l with i := l.nextI } n else l

/-- `get_next_action` eventually answers `None` -/
def Loop.Terminates (l : Loop) : Prop := ∃ n, (l.iter n).running = false

theorem running_iff (l : Loop) : l.running = true ↔ ((if l.from_ < l.to then l.i < l.to else l.i > l.to) ∧ l.step ≠ 0) := by
  unfold Loop.running
  split <;> simp

theorem iter_stops (m : Nat) : ∀ l : Loop, 0 < l.step →
    (l.from_ < l.to → l.to - l.i ≤ m) → (¬ l.from_ < l.to → l.i - l.to ≤ m) → (l.iter m).running = false := by
  induction m with
  | zero =>
    intro l hs h1 h2
    simp only [Loop.iter]
    cases hr : l.running with
    | false => rfl
    | true =>
      rw [running_iff] at hr
      by_cases hf : l.from_ < l.to
      · simp only [hf, if_true] at hr; have := h1 hf; omega
      · simp only [hf, if_false] at hr; have := h2 hf; omega
  | succ k ih =>
    intro l hs h1 h2
    simp only [Loop.iter]
    cases hr : l.running with
    | false => simp [hr]
    | true =>
      simp only [if_true]
      rw [running_iff] at hr
      apply ih
      · exact hs
      · intro hf
        have := h1 hf
        simp only [Loop.nextI, hf, if_true]
        omega
      · intro hf
        have := h2 hf
        have hf' : ¬ l.from_ < l.to := hf
        simp only [Loop.nextI, hf', if_false]
        omega

theorem iter_runs_forever (n : Nat) : ∀ l : Loop, l.step ≤ 0 → l.running = true → (l.iter n).running = true := by
  induction n with
  | zero => intro l _ hr; exact hr
  | succ k ih =>
    intro l hs hr
    simp only [Loop.iter, hr, if_true]
    apply ih
    · exact hs
    · rw [running_iff] at hr ⊢
      by_cases hf : l.from_ < l.to
      · simp only [hf, if_true] at hr ⊢
        simp only [Loop.nextI, hf, if_true]
        omega
      · simp only [hf, if_false] at hr ⊢
        simp only [Loop.nextI, hf, if_false]
        omega

end IcyVerif.Igs
