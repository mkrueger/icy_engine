import IcyVerif.Model.SixelLoad
import IcyVerif.Lemmas.SixelQueue
/-! The file-loading path of sixel images: the conversion of delivered sixels to image layers, cell sizes, the covering
    rule, the join loop under any completion schedule (`joinLoop_ok`), the DCS hand-off and clear-screens in the text. -/
namespace IcyVerif.SixelLoad
open IcyVerif.SixelQueue

theorem convLoop_eq (fw fh : Int) (stack : List Img) (num : Nat) (acc : List ImgLayer) :
    convLoop fw fh stack num acc = acc ++ (stack.zipIdx (num + 1)).map (fun p => mkLayer fw fh p.2 p.1) := by
  induction stack generalizing num acc with
  | nil => simp [convLoop]
  | cons i st ih => simp [convLoop, ih, List.zipIdx_cons, List.append_assoc]

theorem toLayers_eq (fw fh : Int) (sixels : List Img) :
    toLayers fw fh sixels = (sixels.reverse.zipIdx 1).map (fun p => mkLayer fw fh p.2 p.1) := by
  simp [toLayers, convLoop_eq]

theorem toLayers_length (fw fh : Int) (sixels : List Img) : (toLayers fw fh sixels).length = sixels.length := by
  simp [toLayers_eq]

theorem toLayers_getElem? (fw fh : Int) (sixels : List Img) (k : Nat) :
    (toLayers fw fh sixels)[k]? = (sixels.reverse[k]?).map (fun i => mkLayer fw fh (k + 1) i) := by
  rw [toLayers_eq, List.getElem?_map, List.getElem?_zipIdx]
  cases sixels.reverse[k]? <;> simp [Nat.add_comm]

theorem toLayers_ids (fw fh : Int) (sixels : List Img) :
    (toLayers fw fh sixels).map (·.id) = (sixels.map (·.id)).reverse := by
  rw [toLayers_eq, List.map_map]
  have : ((fun l : ImgLayer => l.id) ∘ fun p : Img × Nat => mkLayer fw fh p.2 p.1) = (fun i : Img => i.id) ∘ Prod.fst := by
    funext p; rfl
  rw [this, ← List.map_map, List.zipIdx_map_fst, List.map_reverse]

theorem toLayers_nums (fw fh : Int) (sixels : List Img) :
    (toLayers fw fh sixels).map (·.num) = List.range' 1 sixels.length := by
  rw [toLayers_eq, List.map_map]
  have : ((fun l : ImgLayer => l.num) ∘ fun p : Img × Nat => mkLayer fw fh p.2 p.1) = Prod.snd := by
    funext p; rfl
  rw [this, List.zipIdx_map_snd, List.length_reverse]

theorem cells_ceil (p f : Int) (hf : 0 < f) (hp : 0 ≤ p) :
    0 ≤ cells p f ∧ (cells p f - 1) * f < p ∧ p ≤ cells p f * f := by
  unfold cells
  have hnn : 0 ≤ p + f - 1 := by omega
  rw [Int.tdiv_eq_ediv_of_nonneg hnn]
  have h1 : (p + f - 1) / f * f ≤ p + f - 1 := Int.ediv_mul_le _ (by omega)
  have h2 : p + f - 1 < ((p + f - 1) / f + 1) * f := Int.lt_ediv_add_one_mul_self _ hf
  have h0 : 0 ≤ (p + f - 1) / f := Int.ediv_nonneg hnn (by omega)
  rw [Int.add_mul] at h2
  rw [Int.sub_mul]
  refine ⟨h0, by omega, by omega⟩

theorem cells_zero (f : Int) (hf : 0 < f) : cells 0 f = 0 := by
  have := cells_ceil 0 f hf (by omega)
  obtain ⟨h0, h1, h2⟩ := this
  rw [Int.sub_mul] at h1
  by_cases h : cells 0 f = 0
  · exact h
  · have hpos : 1 ≤ cells 0 f := by omega
    have : 1 * f ≤ cells 0 f * f := Int.mul_le_mul_of_nonneg_right hpos (by omega)
    omega

def covers (cfg : Cfg) (new old : Img) : Bool :=
  containsRect (screenRect cfg.fw cfg.fh new) (screenRect cfg.fw cfg.fh old)

theorem removeShadowed_eq_filter (cfg : Cfg) (new : Img) (l : List Img) :
    removeShadowed cfg new l = l.filter fun o => !covers cfg new o := by
  induction l with
  | nil => rfl
  | cons o l ih =>
    unfold removeShadowed covers
    by_cases h : containsRect (screenRect cfg.fw cfg.fh new) (screenRect cfg.fw cfg.fh o) = true
    · rw [if_pos h, List.filter_cons_of_neg (by simp [h]), ih]; rfl
    · rw [if_neg h, List.filter_cons_of_pos (by simpa [covers] using h), ih]; rfl

theorem foldl_place_keeps (cfg : Cfg) (post : List Img) (L : List Img) (i : Img) (hi : i ∈ L) :
    i ∈ post.foldl (place cfg) L ∨ ∃ j ∈ post, covers cfg j i = true := by
  induction post generalizing L with
  | nil => exact Or.inl hi
  | cons j post ih =>
    simp only [List.foldl_cons]
    by_cases hc : covers cfg j i = true
    · exact Or.inr ⟨j, by simp, hc⟩
    · have hm : i ∈ place cfg L j := by
        unfold place
        rw [removeShadowed_eq_filter]
        exact List.mem_append_left _ (List.mem_filter.2 ⟨hi, by simpa using hc⟩)
      rcases ih (place cfg L j) hm with h | ⟨k, hk, hck⟩
      · exact Or.inl h
      · exact Or.inr ⟨k, List.mem_cons_of_mem _ hk, hck⟩

theorem placeAll_lost_only_if_covered (cfg : Cfg) (pre post : List Img) (i : Img) :
    i ∈ placeAll cfg (pre ++ i :: post) ∨ ∃ j ∈ post, covers cfg j i = true := by
  unfold placeAll
  rw [List.foldl_append, List.foldl_cons]
  apply foldl_place_keeps
  unfold place
  simp

theorem foldl_place_sublist (cfg : Cfg) (imgs : List Img) (L : List Img) :
    (imgs.foldl (place cfg) L).Sublist (L ++ imgs) := by
  induction imgs generalizing L with
  | nil => simp
  | cons i imgs ih =>
    simp only [List.foldl_cons]
    have h1 := ih (place cfg L i)
    have h2 : (place cfg L i ++ imgs).Sublist ((L ++ [i]) ++ imgs) := by
      unfold place
      rw [removeShadowed_eq_filter]
      exact (List.filter_sublist.append (List.Sublist.refl _)).append (List.Sublist.refl _)
    simpa [List.append_assoc] using h1.trans h2

theorem placeAll_sublist (cfg : Cfg) (imgs : List Img) : (placeAll cfg imgs).Sublist imgs := by
  have := foldl_place_sublist cfg imgs []
  simpa [placeAll] using this

theorem placeAll_newest (cfg : Cfg) (imgs : List Img) (i : Img) :
    (placeAll cfg (imgs ++ [i])).getLast? = some i := by
  rw [placeAll_snoc]; unfold place; simp

def NoErr (cfg : Cfg) (l : List Nat) : Prop := ∀ id ∈ l, cfg.res id ≠ .err

theorem NoErr.any_false {cfg : Cfg} {l : List Nat} (h : NoErr cfg l) : (l.any fun id => cfg.res id == .err) = false := by
  rw [List.any_eq_false]; intro id hid; simpa using h id hid

theorem finishAll_good {cfg : Cfg} {arr popped : List Nat} (fin : List Nat) {s : St} (g : Good cfg arr popped s) :
    Good cfg arr popped (finishAll cfg s fin) :=
  List.foldlRecOn fin _ g fun _ g id _ => finish_good g id

theorem finishAll_running (cfg : Cfg) (fin : List Nat) (s : St) :
    ∀ e ∈ (finishAll cfg s fin).queue, e.2 = none → e ∈ s.queue ∧ e.1 ∉ fin := by
  unfold finishAll
  induction fin generalizing s with
  | nil => intro e he _; exact ⟨he, by simp⟩
  | cons a fin ih =>
    intro e he hn
    simp only [List.foldl_cons] at he
    obtain ⟨h1, h2⟩ := ih (step cfg s (.finish a)) e he hn
    simp only [step] at h1
    obtain ⟨e0, h0, h0e⟩ := List.mem_map.1 h1
    by_cases ha : e0.1 = a
    · simp only [ha, if_true] at h0e
      rw [← h0e] at hn; simp at hn
    · simp only [ha, if_false] at h0e
      subst h0e
      exact ⟨h0, by simp [ha, h2]⟩

/-- outcome of the join loop from a reachable state; `covered`: every decode still running completes somewhere in the
    schedule — which is what makes the loop end with `done` instead of `waiting` -/
def JoinOK (cfg : Cfg) (arr : List Nat) (covered : Prop) : St × JoinRet → Prop
  | (s, .done) => s.queue = [] ∧ ∃ popped, Good cfg arr popped s ∧ NoErr cfg popped
  | (_, .err) => ∃ id ∈ arr, cfg.res id = .err
  | (_, .blocked) => False
  | (_, .waiting) => ¬ covered

/-- invariant of the loop: the queue state is `Good`, no popped decode failed, the queue is empty or starts with a running
    handle (the last poll stopped there), and under `covered` every running handle completes in the remaining schedule -/
theorem joinLoop_ok (cfg : Cfg) (arr : List Nat) {covered : Prop} (sched : List (List Nat)) (popped : List Nat) (s : St)
    (good : Good cfg arr popped s) (noErr : NoErr cfg popped)
    (head : s.queue = [] ∨ ∃ id rest, s.queue = (id, none) :: rest)
    (cover : covered → ∀ e ∈ s.queue, e.2 = none → e.1 ∈ sched.flatten) :
    JoinOK cfg arr covered (joinLoop cfg sched s) := by
  induction sched generalizing popped s with
  | nil =>
    simp only [joinLoop]
    rcases head with h | ⟨id, rest, h⟩
    · simp only [h, List.isEmpty_nil, if_true]; exact ⟨h, popped, good, noErr⟩
    · simp only [h, List.isEmpty_cons, Bool.false_eq_true, if_false]
      exact fun hc => by simpa using cover hc (id, none) (by simp [h]) rfl
  | cons fin rest ih =>
    simp only [joinLoop]
    rcases head with h | ⟨id0, rest0, h⟩
    · simp only [h, List.isEmpty_nil, if_true]; exact ⟨h, popped, good, noErr⟩
    · simp only [h, List.isEmpty_cons, Bool.false_eq_true, if_false]
      obtain ⟨p, hp⟩ := poll_good (finishAll_good fin good)
      cases hret : (poll cfg (finishAll cfg s fin)).2 with
      | blocked => exact absurd hret hp.notBlocked
      | err =>
        obtain ⟨x, hx, hxe⟩ := hp.err hret
        exact ⟨x, by rw [hp.good.split, List.append_assoc]; exact List.mem_append_right _ (List.mem_append_left _ hx), hxe⟩
      | ok b =>
        refine ih (popped ++ p) _ hp.good (fun x hx => (List.mem_append.1 hx).elim (noErr x) ((hp.ok b hret).1 x))
          (hp.ok b hret).2 fun hc e he hn => ?_
        obtain ⟨h1, h2⟩ := finishAll_running cfg fin s e (hp.suffix e he) hn
        have := cover hc e h1 hn
        simp only [List.flatten_cons, List.mem_append] at this
        exact this.resolve_left h2

theorem foldl_arrive (cfg : Cfg) (l : List Nat) (s : St) :
    l.foldl (fun s id => step cfg s (.arrive id)) s = { s with queue := s.queue ++ l.map fun id => (id, none) } := by
  induction l generalizing s with
  | nil => simp
  | cons a l ih => rw [List.foldl_cons, ih]; simp [step]

theorem arrived_eq (cfg : Cfg) (l : List Nat) : arrived cfg l = ⟨l.map fun id => (id, none), [], []⟩ := by
  simp [arrived, foldl_arrive]

theorem arrived_good (cfg : Cfg) (l : List Nat) : Good cfg l [] (arrived cfg l) := by
  rw [arrived_eq]
  refine ⟨by simp [ids, Function.comp_def], rfl, rfl, fun e he => ?_⟩
  obtain ⟨id, _, rfl⟩ := List.mem_map.1 he; exact Or.inl rfl

theorem arrived_joinLoop (cfg : Cfg) (l : List Nat) (sched : List (List Nat)) {covered : Prop}
    (hc : covered → ∀ id ∈ l, id ∈ sched.flatten) : JoinOK cfg l covered (joinLoop cfg sched (arrived cfg l)) := by
  refine joinLoop_ok cfg l sched [] _ (arrived_good cfg l) nofun ?_ fun h e he _ => ?_
  · rw [arrived_eq]
    cases l with
    | nil => exact Or.inl rfl
    | cons a l => exact Or.inr ⟨a, _, rfl⟩
  · rw [arrived_eq] at he
    obtain ⟨id, hid, rfl⟩ := List.mem_map.1 he; exact hc h id hid

/-- a character of the numeric parameters of a DCS string -/
def IsParam (c : Char) : Prop := c.isDigit = true ∨ c = ';'

theorem dcsNumbers_append (nums : List Nat) (params : List Char) (c0 : Char) (rest : List Char)
    (hp : ∀ c ∈ params, IsParam c) (h0 : c0.isDigit = false) (h1 : c0 ≠ ';') :
    dcsNumbers nums (params ++ c0 :: rest) = ((dcsNumbers nums params).1, c0 :: rest) := by
  induction params generalizing nums with
  | nil => simp [dcsNumbers, h0, h1]
  | cons c cs ih =>
    have hcs : ∀ c ∈ cs, IsParam c := fun c h => hp c (List.mem_cons_of_mem _ h)
    rcases hp c (by simp) with hd | hs
    · simp only [List.cons_append, dcsNumbers, hd, if_true]; exact ih _ hcs
    · subst hs
      have : (';' : Char).isDigit = false := by decide
      simp only [List.cons_append, dcsNumbers, this, Bool.false_eq_true, if_false, if_true]; exact ih _ hcs

theorem not_fontPrefix (params : List Char) (c0 : Char) (rest : List Char)
    (hp : ∀ c ∈ params, IsParam c) (h0 : c0 ≠ 'C') :
    fontPrefix.isPrefixOf (params ++ c0 :: rest) = false := by
  cases params with
  | nil =>
    simp only [List.nil_append, fontPrefix, List.isPrefixOf]
    have : ('C' == c0) = false := by simp; exact fun h => h0 h.symm
    simp [this]
  | cons c cs =>
    have hc : c ≠ 'C' := by
      intro h; subst h
      rcases hp 'C' (by simp) with h | h
      · revert h; decide
      · revert h; decide
    simp only [List.cons_append, fontPrefix, List.isPrefixOf]
    have : ('C' == c) = false := by simp; exact fun h => hc h.symm
    simp [this]

theorem classify_sixel (params payload : List Char) (hp : ∀ c ∈ params, IsParam c) :
    classify (params ++ 'q' :: payload) =
      .sixel (vscaleOf (dcsNumbers [] params).1) ((dcsNumbers [] params).1[1]? == some 1) payload := by
  unfold classify
  rw [not_fontPrefix params 'q' payload hp (by decide)]
  simp only [Bool.false_eq_true, if_false]
  rw [dcsNumbers_append [] params 'q' payload hp (by decide) (by decide)]
  simp

theorem vscaleOf_range (nums : List Nat) : vscaleOf nums = 1 ∨ vscaleOf nums = 2 ∨ vscaleOf nums = 3 ∨ vscaleOf nums = 5 := by
  unfold vscaleOf; split <;> simp

/-- the events that happen while the text of a file is parsed -/
def TextEv (e : Ev) : Prop := (∃ id, e = .arrive id) ∨ e = .clear

theorem foldl_text (cfg : Cfg) (evs : List Ev) (a : List Nat) (h : ∀ e ∈ evs, TextEv e) :
    evs.foldl (step cfg) (arrived cfg a) = arrived cfg (evs.foldl arrStep a) := by
  induction evs generalizing a with
  | nil => rfl
  | cons e evs ih =>
    have he := h e (by simp)
    have hrest : ∀ e ∈ evs, TextEv e := fun e' h' => h e' (List.mem_cons_of_mem _ h')
    simp only [List.foldl_cons]
    rcases he with ⟨id, rfl⟩ | rfl
    · rw [show step cfg (arrived cfg a) (.arrive id) = arrived cfg (a ++ [id]) by simp [arrived, List.foldl_append]]
      exact ih _ hrest
    · have : step cfg (arrived cfg a) .clear = arrived cfg [] := rfl
      rw [this]; exact ih _ hrest

theorem run_text (cfg : Cfg) (evs : List Ev) (h : ∀ e ∈ evs, TextEv e) : run cfg evs = arrived cfg (arrivals evs) := by
  have := foldl_text cfg evs [] h
  simpa [run, arrivals, arrived] using this

end IcyVerif.SixelLoad
