import IcyVerif.Model.SixelQueue
/-! The decode queue.  Invariant `Good`: the layer is the arrival-order placement of the popped prefix.  One poll in
    closed form (`pollLoop_spec`): the finished, not failed handles at the front (`takeWhile passes`) are popped, then the
    head of what is left decides how the loop ends. -/
namespace IcyVerif.SixelQueue

def ids (q : List (Nat × Option Res)) : List Nat := q.map (·.1)

theorem ids_append (a b : List (Nat × Option Res)) : ids (a ++ b) = ids a ++ ids b := List.map_append

/-- every handle in the queue is either still running or holds exactly the result of its payload -/
def Entries (cfg : Cfg) (q : List (Nat × Option Res)) : Prop := ∀ e ∈ q, e.2 = none ∨ e.2 = some (cfg.res e.1)

/-- `arr` = ids arrived so far; `popped` of them were popped, the rest is the queue (same order) -/
structure Good (cfg : Cfg) (arr popped : List Nat) (s : St) : Prop where
  split : arr = popped ++ ids s.queue
  log : s.log = okIds cfg popped
  layer : s.layer = placeAll cfg (okImgs cfg popped)
  entries : Entries cfg s.queue

theorem pollLoop_nil (cfg : Cfg) (layer : List Img) (log : List Nat) (upd : Bool) :
    pollLoop cfg [] layer log upd = (⟨[], layer, log⟩, .ok upd) := rfl
theorem pollLoop_none (cfg : Cfg) (id : Nat) (q : List (Nat × Option Res)) (layer : List Img) (log : List Nat) (upd : Bool) :
    pollLoop cfg ((id, none) :: q) layer log upd = (⟨(id, none) :: q, layer, log⟩, .ok false) := rfl
theorem pollLoop_panicked (cfg : Cfg) (id : Nat) (q : List (Nat × Option Res)) (layer : List Img) (log : List Nat) (upd : Bool) :
    pollLoop cfg ((id, some .panicked) :: q) layer log upd = pollLoop cfg q layer log upd := rfl
theorem pollLoop_err (cfg : Cfg) (id : Nat) (q : List (Nat × Option Res)) (layer : List Img) (log : List Nat) (upd : Bool) :
    pollLoop cfg ((id, some .err) :: q) layer log upd = (⟨q, layer, log⟩, .err) := rfl
theorem pollLoop_ok (cfg : Cfg) (id : Nat) (img : Img) (q : List (Nat × Option Res)) (layer : List Img) (log : List Nat) (upd : Bool) :
    pollLoop cfg ((id, some (.ok img)) :: q) layer log upd = pollLoop cfg q (place cfg layer img) (log ++ [id]) true := rfl

theorem okImgs_append (cfg : Cfg) (a b : List Nat) : okImgs cfg (a ++ b) = okImgs cfg a ++ okImgs cfg b := by
  induction a with
  | nil => rfl
  | cons x xs ih => simp only [List.cons_append, okImgs]; split <;> simp [ih]

theorem okIds_eq_filter (cfg : Cfg) (l : List Nat) : okIds cfg l = l.filter fun id => cfg.res id matches .ok _ := by
  induction l with
  | nil => rfl
  | cons x xs ih => simp only [okIds, List.filter_cons]; cases cfg.res x <;> simp [ih]

theorem okIds_append (cfg : Cfg) (a b : List Nat) : okIds cfg (a ++ b) = okIds cfg a ++ okIds cfg b := by
  simp only [okIds_eq_filter, List.filter_append]

theorem okIds_sublist (cfg : Cfg) (l : List Nat) : (okIds cfg l).Sublist l :=
  okIds_eq_filter cfg l ▸ List.filter_sublist

theorem mem_okIds {cfg : Cfg} {l : List Nat} {id : Nat} {img : Img} (hm : id ∈ l) (hr : cfg.res id = .ok img) :
    id ∈ okIds cfg l := by
  rw [okIds_eq_filter]; exact List.mem_filter.2 ⟨hm, by rw [hr]⟩

theorem placeAll_append (cfg : Cfg) (a b : List Img) : placeAll cfg (a ++ b) = b.foldl (place cfg) (placeAll cfg a) := by
  simp [placeAll, List.foldl_append]

theorem placeAll_snoc (cfg : Cfg) (imgs : List Img) (img : Img) :
    placeAll cfg (imgs ++ [img]) = place cfg (placeAll cfg imgs) img :=
  placeAll_append cfg imgs [img]

theorem pollLoop_suffix (cfg : Cfg) (q : List (Nat × Option Res)) (layer : List Img) (log : List Nat) (upd : Bool) :
    (pollLoop cfg q layer log upd).1.queue <:+ q := by
  induction q generalizing layer log upd with
  | nil => exact List.suffix_refl _
  | cons e q ih =>
    obtain ⟨id, h⟩ := e
    match h with
    | none => exact List.suffix_refl _
    | some .err => exact List.suffix_cons _ _
    | some .panicked => exact (ih layer log upd).trans (List.suffix_cons _ _)
    | some (.ok img) => exact (ih _ _ _).trans (List.suffix_cons _ _)

/-- a handle the loop pops and goes on from: its thread has finished and its decode did not fail -/
def passes (e : Nat × Option Res) : Bool := e.2.isSome && e.2 != some .err

/-- the state a poll leaves that popped the handles `pre` (ids) and left `rest` -/
def popTo (cfg : Cfg) (layer : List Img) (log : List Nat) (pre : List Nat) (rest : List (Nat × Option Res)) : St :=
  ⟨rest, (okImgs cfg pre).foldl (place cfg) layer, log ++ okIds cfg pre⟩

theorem popTo_snoc_err {cfg : Cfg} (layer : List Img) (log : List Nat) (pre : List Nat) (rest : List (Nat × Option Res))
    {id : Nat} (h : cfg.res id = .err) : popTo cfg layer log (pre ++ [id]) rest = popTo cfg layer log pre rest := by
  simp [popTo, okImgs_append, okIds_append, okImgs, okIds, h]

/-- the one induction over the loop -/
theorem pollLoop_pass (cfg : Cfg) {pre : List (Nat × Option Res)} (rest : List (Nat × Option Res)) (layer : List Img)
    (log : List Nat) (upd : Bool) (hp : ∀ e ∈ pre, passes e = true) (he : Entries cfg pre) :
    ∃ upd', pollLoop cfg (pre ++ rest) layer log upd =
      pollLoop cfg rest (popTo cfg layer log (ids pre) rest).layer (popTo cfg layer log (ids pre) rest).log upd' := by
  induction pre generalizing layer log upd with
  | nil => exact ⟨upd, by simp [popTo, ids, okImgs, okIds]⟩
  | cons e pre ih =>
    obtain ⟨id, h⟩ := e
    have hr := he (id, h) List.mem_cons_self
    have hp' := fun e h => hp e (List.mem_cons_of_mem _ h)
    have he' : Entries cfg pre := fun e h => he e (List.mem_cons_of_mem _ h)
    match h, hp _ List.mem_cons_self with
    | some .panicked, _ =>
      obtain ⟨u, hu⟩ := ih layer log upd hp' he'
      have hr : cfg.res id = .panicked := by simpa [eq_comm] using hr
      exact ⟨u, by rw [List.cons_append, pollLoop_panicked, hu]; simp [popTo, ids, okImgs, okIds, hr]⟩
    | some (.ok img), _ =>
      obtain ⟨u, hu⟩ := ih (place cfg layer img) (log ++ [id]) true hp' he'
      have hr : cfg.res id = .ok img := by simpa [eq_comm] using hr
      exact ⟨u, by rw [List.cons_append, pollLoop_ok, hu]; simp [popTo, ids, okImgs, okIds, hr]⟩

theorem head_dropWhile {α : Type} {p : α → Bool} {l r : List α} {a : α} (h : l.dropWhile p = a :: r) : p a = false := by
  have := List.head_dropWhile_not p (l := l) (by simp [h])
  simpa [h] using this

theorem pollLoop_spec (cfg : Cfg) (q : List (Nat × Option Res)) (layer : List Img) (log : List Nat) (upd : Bool)
    (he : Entries cfg q) :
    (q.dropWhile passes = [] ∧
      ∃ b, pollLoop cfg q layer log upd = (popTo cfg layer log (ids (q.takeWhile passes)) [], .ok b)) ∨
    (∃ id r, q.dropWhile passes = (id, none) :: r ∧
      pollLoop cfg q layer log upd = (popTo cfg layer log (ids (q.takeWhile passes)) ((id, none) :: r), .ok false)) ∨
    (∃ id r, q.dropWhile passes = (id, some .err) :: r ∧
      pollLoop cfg q layer log upd = (popTo cfg layer log (ids (q.takeWhile passes)) r, .err)) := by
  obtain ⟨u, hu⟩ := pollLoop_pass cfg (q.dropWhile passes) layer log upd
    (fun e h => List.all_eq_true.1 List.all_takeWhile e h) (fun e h => he e ((List.takeWhile_prefix _).subset h))
  rw [List.takeWhile_append_dropWhile] at hu
  rw [hu]
  match hd : q.dropWhile passes with
  | [] => exact Or.inl ⟨rfl, u, rfl⟩
  | (id, none) :: r => exact Or.inr (Or.inl ⟨id, r, rfl, rfl⟩)
  | (id, some .err) :: r => exact Or.inr (Or.inr ⟨id, r, rfl, rfl⟩)
  | (id, some .panicked) :: r => exact absurd (head_dropWhile hd) (by simp [passes])
  | (id, some (.ok _)) :: r => exact absurd (head_dropWhile hd) (by simp [passes])

theorem Good.popped {cfg : Cfg} {arr popped : List Nat} {s : St} (g : Good cfg arr popped s) {p : List Nat}
    {rest : List (Nat × Option Res)} (hs : ids s.queue = p ++ ids rest) (hr : ∀ e ∈ rest, e ∈ s.queue) :
    Good cfg arr (popped ++ p) (popTo cfg s.layer s.log p rest) :=
  ⟨by rw [g.split, hs, List.append_assoc]; rfl, by rw [okIds_append, ← g.log]; rfl,
    by rw [okImgs_append, placeAll_append, ← g.layer]; rfl, fun e he => g.entries e (hr e he)⟩

theorem passes_noErr {cfg : Cfg} {q : List (Nat × Option Res)} (he : Entries cfg q) :
    ∀ id ∈ ids (q.takeWhile passes), cfg.res id ≠ .err := by
  intro id hid
  obtain ⟨e, hm, rfl⟩ := List.mem_map.1 hid
  have hp : passes e = true := List.all_eq_true.1 List.all_takeWhile e hm
  rcases he e ((List.takeWhile_prefix _).subset hm) with h | h <;> simp [passes, h] at hp
  exact hp

/-- what the callers of a poll `r` of a reachable state use; `p`: the ids it popped -/
structure Polled (cfg : Cfg) (arr popped : List Nat) (q : List (Nat × Option Res)) (r : St × Ret) (p : List Nat) : Prop where
  good : Good cfg arr (popped ++ p) r.1
  suffix : ∀ e ∈ r.1.queue, e ∈ q
  notBlocked : r.2 ≠ .blocked
  err : r.2 = .err → ∃ id ∈ p, cfg.res id = .err
  ok : ∀ b, r.2 = .ok b →
    (∀ id ∈ p, cfg.res id ≠ .err) ∧ (r.1.queue = [] ∨ ∃ id rest, r.1.queue = (id, none) :: rest)

theorem poll_good {cfg : Cfg} {arr popped : List Nat} {s : St} (g : Good cfg arr popped s) :
    ∃ p, Polled cfg arr popped s.queue (poll cfg s) p := by
  have hsuf := List.dropWhile_suffix (l := s.queue) passes
  have hids : ids s.queue = ids (s.queue.takeWhile passes) ++ ids (s.queue.dropWhile passes) := by
    rw [← ids_append, List.takeWhile_append_dropWhile]
  have hne := passes_noErr g.entries
  have hr : ∀ e ∈ (poll cfg s).1.queue, e ∈ s.queue := fun e h => (pollLoop_suffix cfg _ _ _ _).subset h
  unfold poll at hr ⊢
  rcases pollLoop_spec cfg s.queue s.layer s.log false g.entries with ⟨hd, _, e⟩ | ⟨id, r, hd, e⟩ | ⟨id, r, hd, e⟩ <;>
    rw [e] at hr ⊢ <;> rw [hd] at hsuf hids
  · exact ⟨_, g.popped hids hr, hr, nofun, nofun, fun _ _ => ⟨hne, Or.inl rfl⟩⟩
  · exact ⟨_, g.popped hids hr, hr, nofun, nofun, fun _ _ => ⟨hne, Or.inr ⟨id, r, rfl⟩⟩⟩
  · have hbad : cfg.res id = .err := by simpa [eq_comm] using g.entries _ (hsuf.subset List.mem_cons_self)
    refine ⟨ids (s.queue.takeWhile passes) ++ [id], ?_, hr, nofun, fun _ => ⟨id, by simp, hbad⟩, nofun⟩
    rw [← popTo_snoc_err _ _ _ _ hbad]
    exact g.popped (by rw [hids, List.append_assoc]; rfl) hr

theorem ids_map_finish (cfg : Cfg) (id : Nat) (q : List (Nat × Option Res)) :
    ids (q.map fun e => if e.1 = id then (e.1, some (cfg.res id)) else e) = ids q := by
  induction q with
  | nil => rfl
  | cons e q ih =>
    simp only [ids, List.map_cons] at ih ⊢
    rw [ih]; split <;> rfl

theorem finish_good {cfg : Cfg} {arr popped : List Nat} {s : St} (g : Good cfg arr popped s) (id : Nat) :
    Good cfg arr popped (step cfg s (.finish id)) := by
  refine ⟨by simp only [step]; rw [ids_map_finish]; exact g.split, g.log, g.layer, ?_⟩
  intro e he
  obtain ⟨e0, h0, rfl⟩ := List.mem_map.1 he
  split
  · rename_i hid; right; simp [hid]
  · exact g.entries e0 h0

theorem step_good {cfg : Cfg} {arr popped : List Nat} {s : St} (g : Good cfg arr popped s) (e : Ev) :
    ∃ popped', Good cfg (arrStep arr e) popped' (step cfg s e) := by
  cases e with
  | arrive id =>
    refine ⟨popped, ?_⟩
    simp only [step, arrStep]
    refine ⟨by simp only [ids, List.map_append, List.map_cons, List.map_nil]; rw [g.split]; simp [ids], g.log, g.layer, ?_⟩
    intro e he
    rcases List.mem_append.1 he with h | h
    · exact g.entries e h
    · simp at h; subst h; exact Or.inl rfl
  | finish id => exact ⟨popped, finish_good g id⟩
  | poll =>
    obtain ⟨p, hp⟩ := poll_good g
    exact ⟨popped ++ p, hp.good⟩
  | clear =>
    exact ⟨[], ⟨rfl, rfl, rfl, fun e h => by simp [step] at h⟩⟩

theorem arrivals_append (a b : List Ev) : arrivals (a ++ b) = b.foldl arrStep (arrivals a) := by
  simp [arrivals, List.foldl_append]

theorem foldl_good {cfg : Cfg} (evs : List Ev) {arr popped : List Nat} {s : St} (g : Good cfg arr popped s) :
    ∃ popped', Good cfg (evs.foldl arrStep arr) popped' (evs.foldl (step cfg) s) := by
  induction evs generalizing arr popped s with
  | nil => exact ⟨popped, g⟩
  | cons e evs ih =>
    obtain ⟨p1, g1⟩ := step_good g e
    exact ih g1

theorem good_init (cfg : Cfg) : Good cfg [] [] {} :=
  ⟨rfl, rfl, rfl, fun e h => by simp at h⟩

theorem run_good (cfg : Cfg) (evs : List Ev) : ∃ popped, Good cfg (arrivals evs) popped (run cfg evs) :=
  foldl_good evs (good_init cfg)

theorem run_snoc_poll (cfg : Cfg) (evs : List Ev) : run cfg (evs ++ [Ev.poll]) = (poll cfg (run cfg evs)).1 := by
  simp [run, List.foldl_append, step]

def AllFinished (q : List (Nat × Option Res)) : Prop := ∀ e ∈ q, e.2.isSome = true

theorem pollLoop_progress (cfg : Cfg) (q : List (Nat × Option Res)) (layer : List Img) (log : List Nat) (upd : Bool)
    (he : Entries cfg q) (hf : AllFinished q) :
    AllFinished (pollLoop cfg q layer log upd).1.queue ∧
      (pollLoop cfg q layer log upd).1.queue.length ≤ q.length - 1 := by
  have hsuf := List.dropWhile_suffix (l := q) passes
  rcases pollLoop_spec cfg q layer log upd he with ⟨_, _, e⟩ | ⟨id, r, hd, _⟩ | ⟨id, r, hd, e⟩
  · rw [e]; exact ⟨fun _ h => absurd h List.not_mem_nil, Nat.zero_le _⟩
  · exact absurd (hf (id, none) (hsuf.subset (hd ▸ List.mem_cons_self))) (by simp)
  · rw [e]; rw [hd] at hsuf
    exact ⟨fun e h => hf e (hsuf.subset (List.mem_cons_of_mem _ h)), Nat.le_sub_one_of_lt hsuf.length_le⟩

theorem pollN_drains {cfg : Cfg} {arr popped : List Nat} (n : Nat) {s : St} (g : Good cfg arr popped s)
    (hf : AllFinished s.queue) (hn : s.queue.length ≤ n) : (pollN cfg n s).queue = [] := by
  induction n generalizing popped s with
  | zero => exact List.eq_nil_of_length_eq_zero (Nat.le_zero.1 hn)
  | succ n ih =>
    obtain ⟨p, hp⟩ := poll_good g
    have := pollLoop_progress cfg s.queue s.layer s.log false g.entries hf
    exact ih hp.good this.1 (Nat.le_trans this.2 (Nat.sub_le_of_le_add hn))

theorem pollN_eq_run (cfg : Cfg) (n : Nat) (s : St) :
    pollN cfg n s = (List.replicate n Ev.poll).foldl (step cfg) s := by
  induction n generalizing s with
  | zero => rfl
  | succ n ih => simp only [pollN, List.replicate_succ, List.foldl_cons, step]; exact ih _

theorem err_of_not_passes {e : Nat × Option Res} (hn : passes e = false) (hf : e.2.isSome = true) : e.2 = some .err := by
  obtain ⟨id, o⟩ := e
  match o, hf with
  | some .err, _ => rfl
  | some (.ok _), _ => simp [passes] at hn
  | some .panicked, _ => simp [passes] at hn

theorem finished_block {pre : List (Nat × Option Res)} (hf : AllFinished pre) :
    (∀ e ∈ pre, passes e = true) ∨
      ∃ a id b, pre = a ++ (id, some .err) :: b ∧ ∀ e ∈ a, passes e = true := by
  have hsplit := List.takeWhile_append_dropWhile (p := passes) (l := pre)
  have ha : ∀ e ∈ pre.takeWhile passes, passes e = true := fun e h => List.all_eq_true.1 List.all_takeWhile e h
  match hd : pre.dropWhile passes with
  | [] => rw [hd, List.append_nil] at hsplit; exact Or.inl (hsplit ▸ ha)
  | (id, o) :: b =>
    rw [hd] at hsplit
    obtain rfl : o = some .err :=
      err_of_not_passes (e := (id, o)) (head_dropWhile hd) (hf _ (hsplit ▸ List.mem_append_right _ List.mem_cons_self))
    exact Or.inr ⟨_, id, b, hsplit.symm, ha⟩

/-- the loop never looks at or behind the first unfinished handle -/
theorem pollLoop_stops_at_unfinished (cfg : Cfg) (pre post : List (Nat × Option Res)) (id : Nat) (layer : List Img)
    (log : List Nat) (upd : Bool) :
    ∃ k, (pollLoop cfg (pre ++ (id, none) :: post) layer log upd).1.queue = pre.drop k ++ (id, none) :: post := by
  induction pre generalizing layer log upd with
  | nil => exact ⟨0, by simp [pollLoop_none]⟩
  | cons e pre ih =>
    obtain ⟨i, h⟩ := e
    match h with
    | none => exact ⟨0, by simp [pollLoop_none]⟩
    | some .panicked => obtain ⟨k, hk⟩ := ih layer log upd; exact ⟨k + 1, by simpa [pollLoop_panicked] using hk⟩
    | some .err => exact ⟨1, by simp [pollLoop_err]⟩
    | some (.ok img) =>
      obtain ⟨k, hk⟩ := ih (place cfg layer img) (log ++ [i]) true; exact ⟨k + 1, by simpa [pollLoop_ok] using hk⟩

theorem poll_delivers {cfg : Cfg} {arr popped : List Nat} {s : St} (g : Good cfg arr popped s)
    {pre post : List (Nat × Option Res)} {b : Bool} (hq : s.queue = pre ++ post) (hf : AllFinished pre)
    (hr : (poll cfg s).2 = .ok b) {id : Nat} {img : Img} (hid : id ∈ ids pre) (hres : cfg.res id = .ok img) :
    id ∈ (poll cfg s).1.log := by
  unfold poll at hr ⊢
  have spec := pollLoop_spec cfg s.queue s.layer s.log false g.entries
  rcases finished_block hf with hp | ⟨a, bad, c, rfl, ha⟩
  · have hin : id ∈ ids (s.queue.takeWhile passes) := by
      rw [hq, List.takeWhile_append_of_pos hp, ids_append]; exact List.mem_append_left _ hid
    rcases spec with ⟨_, _, e⟩ | ⟨_, _, _, e⟩ | ⟨_, _, _, e⟩ <;> rw [e] at hr ⊢
    · exact List.mem_append_right _ (mem_okIds hin hres)
    · exact List.mem_append_right _ (mem_okIds hin hres)
    · cases hr
  · have hd : s.queue.dropWhile passes = (bad, some .err) :: (c ++ post) := by
      rw [hq, List.append_assoc, List.dropWhile_append_of_pos ha]; rfl
    rcases spec with ⟨h, _⟩ | ⟨_, _, h, _⟩ | ⟨_, _, _, e⟩
    · rw [hd] at h; cases h
    · rw [hd] at h; cases h
    · rw [e] at hr; cases hr

theorem poll_at_error {cfg : Cfg} {arr popped : List Nat} {s : St} (g : Good cfg arr popped s)
    {pre post : List (Nat × Option Res)} {bad : Nat} (hq : s.queue = pre ++ (bad, some .err) :: post)
    (hf : AllFinished pre) (hne : ∀ e ∈ pre, e.2 ≠ some .err) :
    (poll cfg s).2 = .err ∧ (poll cfg s).1.queue = post ∧ Good cfg arr (popped ++ (ids pre ++ [bad])) (poll cfg s).1 := by
  have hp : ∀ e ∈ pre, passes e = true := fun e h => by simp [passes, hf e h, hne e h]
  have hbad : cfg.res bad = .err := by simpa [eq_comm] using g.entries (bad, some .err) (by simp [hq])
  have ht : s.queue.takeWhile passes = pre := by rw [hq, List.takeWhile_append_of_pos hp]; simp [passes]
  have hd : s.queue.dropWhile passes = (bad, some .err) :: post := by rw [hq, List.dropWhile_append_of_pos hp]; rfl
  unfold poll
  rcases pollLoop_spec cfg s.queue s.layer s.log false g.entries with ⟨h, _⟩ | ⟨_, _, h, _⟩ | ⟨_, _, h, e⟩ <;>
    rw [hd] at h <;> cases h
  rw [e, ht, ← popTo_snoc_err _ _ _ _ hbad]
  exact ⟨rfl, rfl, g.popped (by rw [hq, ids_append, List.append_assoc]; rfl) fun e h => by simp [hq, h]⟩

end IcyVerif.SixelQueue
