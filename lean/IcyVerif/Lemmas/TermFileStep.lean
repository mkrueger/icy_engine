import IcyVerif.Lemmas.TermFile
import IcyVerif.Lemmas.TermStep
/-! # Every character, and so the whole character loop, keeps the file-buffer invariant and never panics (music off)
Each proof rewrites the panic tests to `False` from the invariant, takes the `if` / `match` cascade apart (`arms`) and closes every
arm by `simp only [fgood, h]`, `h` being the invariant of the old state in atoms.  An arm (1) returns an updated record: a field it
does not touch is an atom of `h`, a new screen, column or row table is good by a tagged lemma; (2) clamps whatever cursor it computed
(`limitF` repairs any); (3) runs a primitive or a step function that has a specification of its own; (4) is an error behind a
panic test and is gone before the walk. -/
namespace IcyVerif.TermFile
open IcyVerif.Term

macro "arms" : tactic => `(tactic| repeat' (first | with_reducible apply Holds.ite' | split))
/-- with one more rule, tried before a `match` is split: for the arm whose `match` is on the result of a call that has a
    specification (after `split` the equation linking the two would be anonymous).  Matchers unfold at instance transparency;
    anything more and the rule fails on the other `match`es only after unfolding the model. -/
macro "arms" "with" t:tacticSeq : tactic =>
  `(tactic| repeat' (first | with_reducible apply Holds.ite' | with_reducible_and_instances ($t) | split))

@[fgood] theorem fret_good_iff (st : FSt) (o : Out) : Holds NoErr (fret st o) FGoodR ↔ FGood st := Iff.rfl

@[fgood] theorem fsetSt_s (st : FSt) (ps : PSt) : (fsetSt st ps).s = st.s := rfl
@[fgood] theorem fsetSt_c (st : FSt) (ps : PSt) : (fsetSt st ps).c = st.c := rfl
@[fgood] theorem fsetSt_r (st : FSt) (ps : PSt) : (fsetSt st ps).r = st.r := rfl
@[fgood] theorem fsetSt_hl (st : FSt) (ps : PSt) : (fsetSt st ps).hl = st.hl := rfl
@[fgood] theorem fsetSt_st (st : FSt) (ps : PSt) : (fsetSt st ps).p.st = ps := rfl
attribute [fgood] fdflt ffF clearScreenF

@[fgood] theorem fliftC_limitF_good (d : FSt) (s : Scr) (c : Car) (o : Out) (hs : ScrF s) (hd : FGood d) :
    Holds NoErr (fliftC d (limitF s c) o) FGoodR := by
  obtain ⟨c', hlc, hl⟩ := Holds.isOk (limitF_spec s c hs)
  rw [hlc]
  exact ⟨hd.1, hl.1, hd.2.2⟩

@[fgood] theorem fliftCR_good (d : FSt) (r : Res (Car × Rows)) (o : Out) (hd : FGood d) (hr : Holds NoErr r CRGood) :
    Holds NoErr (fliftCR d r o) FGoodR := by
  cases r with
  | error e => exact hr.elim
  | ok p => exact ⟨hd.1, hr.1, hr.2, hd.2.2.2⟩

theorem invoke_good {r : Res FSt} (h : Holds NoErr r FGood) :
    Holds NoErr (match r with | .ok st' => fret st' .ok | .error e => .error e) FGoodR := by
  cases r with
  | error e => exact h.elim
  | ok st' => exact h

theorem lineOpPanics_false (s : Scr) (y : Int) (hk : ScrF s) (hy : 0 ≤ y) : LineOpPanics s y = False :=
  eq_false (not_lineOpPanics s y hk.mtb hy)

theorem musicSafe_of_noMusic (ps : PSt) (mus : Mus) (ch : Char) (h : NoMusic ps) : MusicSafe ps mus ch := by
  unfold MusicSafe
  split
  · rename_i x; exact absurd rfl (h (.pause x))
  · trivial

@[fgood] theorem csiFinalF_good (cfg : Cfg) (o : Orc) (st : FSt) (isStart : Bool) (ch : Char) (hm : cfg.musicOpt = 0) (h : FGood st) :
    Holds NoErr (csiFinalF cfg o st isStart ch) FGoodR := by
  have := capY_hi
  have ⟨hs, ⟨x0, _, y0, _⟩, _⟩ := h
  simp only [fgood] at h
  have hm1 : ¬ (cfg.musicOpt = 1 ∨ cfg.musicOpt = 3) := by omega
  have hm2 : ¬ (cfg.musicOpt = 2 ∨ cfg.musicOpt = 3) := by omega
  have hm3 : ¬ (cfg.musicOpt ≠ 0) := by omega
  unfold csiFinalF
  simp only [leftF, rightF, upF, downF, hm1, hm2, hm3, if_false, and_false, add1_ok _ st.c.x (by omega), add1_ok _ st.c.y (by omega),
    eq_false (not_echPanics _ _ _ x0), lineOpPanics_false _ _ hs y0]
  arms
  -- all four kinds of arm; the cursor moves end in `limitF`, the one primitive is `printNF` (REP)
  all_goals simp only [fgood, h]

@[fgood] theorem dfltCharF_good (cfg : Cfg) (st : FSt) (ch : Char) (h : FGood st) : Holds NoErr (dfltCharF cfg st ch) FGoodR := by
  simp only [fgood] at h
  unfold dfltCharF
  arms
  -- updated records, and `lfF` / `printCharF`
  all_goals simp only [fgood, h]

@[fgood] theorem escCharF_good (st : FSt) (ch : Char) (h : FGood st) : Holds NoErr (escCharF st ch) FGoodR := by
  simp only [fgood] at h
  unfold escCharF
  arms
  -- updated records, `limitF` (DECRC), `indexF` / `reverseIndexF` / `nextLineF` / `printCharF`
  all_goals simp only [fgood, h]

theorem endCsiF_good (o : Orc) (inv : Int → FSt → Res FSt) (st : FSt) (f ch : Char)
    (hinv : ∀ id st, FGood st → Holds NoErr (inv id st) FGood) (h : FGood st) :
    Holds NoErr (endCsiF o inv st f ch) FGoodR := by
  have ⟨hs, hc, hr, hl, _⟩ := h
  have hd : FGood (fdflt st) := ⟨hs, hc, hr, hl, nofun⟩
  simp only [fgood] at h
  unfold endCsiF
  arms with exact invoke_good (hinv _ _ hd)
  -- updated records: rectangles and sideways scrolls keep the layer width
  all_goals simp only [fgood, h]

@[fgood] theorem executeDcsF_good (st : FSt) (o : Orc) (h : FGood st) : Holds NoErr (executeDcsF st o) FGoodR := by
  simp only [fgood] at h
  unfold executeDcsF
  have hx := (executeDcs_parStep { st.p with st := .dflt } o).2.1
  generalize executeDcs { st.p with st := .dflt } o = r at hx
  obtain ⟨p, out⟩ := r
  simp only at hx
  simp only [fgood, h, hx]

@[fgood] theorem parseOscF_good (st : FSt) (o : Orc) (h : FGood st) : Holds NoErr (parseOscF st o) FGoodR := by
  have hs := h.1
  simp only [fgood] at h
  unfold parseOscF
  cases hhl : st.hl with
  | nil => simp only [fgood, h]
  | cons p rest =>
    simp only [hhl, fgood] at h
    simp only [fgood, h, hyperLen_eq _ _ _ _ _ hs.tw1 hs.tw2]

/-- what `csiCmd`, `csiReq`, `devAttr` of `TermAnsi` (which know no file buffer) keep -/
def StF (t : St) : Prop := ScrF t.s ∧ CarF t.c ∧ NoMusic t.p.st
abbrev StFR (r : St × Out) : Prop := StF r.1

@[fgood] theorem stF_iff (t : St) : StF t ↔ ScrF t.s ∧ CarF t.c ∧ NoMusic t.p.st := Iff.rfl

theorem _root_.IcyVerif.Term.Retouch.scrF {s s' : Scr} (h : Retouch s s') (hk : ScrF s) : ScrF s' := by
  cases h with
  | same => exact hk
  | lr a b => exact setMarginsLR_F s a b hk
  | tb a b => exact setMarginsTB_F s a b hk
  | tblr a b l r => exact setMarginsLR_F _ l r (setMarginsTB_F s a b hk)
  | modes aw dm tabs => exact scrF_modes s aw dm tabs hk
  | nolr aw dm tabs => exact scrF_nolr s aw dm tabs hk
  | nomargins aw dm tabs => exact scrF_nomargins s aw dm tabs hk
  | reset => exact resetTerminal_F s hk

/-- `csiCmd`, `csiReq`, `devAttr` are not walked here: their arms are `Upd` arms -/
theorem _root_.IcyVerif.Term.Upd.stF {st : St} {r : R} (h : Upd st r) (hg : StF st) : Holds NoErr r StFR := by
  cases h with
  | mk s' p' o hs hp hst =>
    refine ⟨hs.scrF hg.1, hg.2.1, fun m hm => ?_⟩
    rcases hst with e | e <;> rw [e] at hm
    · cases hm
    · exact hg.2.2 m hm

@[fgood] theorem csiCmd_F (st : St) (ch : Char) (h : StF st) : Holds NoErr (csiCmd st ch) StFR := (csiCmd_upd st ch).stF h
@[fgood] theorem csiReq_F (st : St) (ch : Char) (h : StF st) : Holds NoErr (csiReq st ch) StFR := (csiReq_upd st ch).stF h
@[fgood] theorem devAttr_F (st : St) (ch : Char) (h : StF st) : Holds NoErr (devAttr st ch) StFR := (devAttr_upd st ch).stF h

@[fgood] theorem viaSt_good (st : FSt) (r : R) (h : FGood st) (hr : Holds NoErr r StFR) : Holds NoErr (viaSt st r) FGoodR := by
  cases r with
  | error e => exact hr.elim
  | ok q =>
    obtain ⟨_, _, rows, hl, _⟩ := h
    obtain ⟨s, c, ps⟩ := hr
    exact ⟨s, c, rows, hl, ps⟩

attribute [fgood] faddStr toSt

theorem stepCoreF_good (cfg : Cfg) (o : Orc) (inv : Int → FSt → Res FSt) (st : FSt) (ch : Char) (hm : cfg.musicOpt = 0)
    (hinv : ∀ id st, FGood st → Holds NoErr (inv id st) FGood) (h : FGood st) :
    Holds NoErr (stepCoreF cfg o inv st ch) FGoodR := by
  have ⟨_, _, _, _, noMus⟩ := h
  unfold stepCoreF
  rw [if_neg (not_not_intro (musicSafe_of_noMusic _ _ _ noMus))]
  cases hps : st.p.st with
  | music m => exact absurd hps (noMus m)
  | dcsMacro i =>
    simp only [fgood] at h
    simp only []
    arms with exact invoke_good (hinv _ _ (by simp only [fgood, h]))
    all_goals simp only [fgood, h]
  | _ =>
    -- every other state dispatches to one function; its `@[fgood]`-tagged `*_good` theorem closes the goal
    simp only [fgood] at h
    simp only [fgood, h, hm, endCsiF_good _ _ _ _ _ hinv]

theorem replayF_good (stepf : FSt → Char → FR) (hstep : ∀ st ch, FGood st → Holds NoErr (stepf st ch) FGoodR) :
    ∀ (body : List Char) (st : FSt), FGood st → Holds NoErr (replayF stepf body st) FGood := by
  intro body
  induction body with
  | nil => intro st h; exact h
  | cons ch rest ih =>
    intro st h
    unfold replayF
    refine Holds.ite' h ?_
    obtain ⟨r, hs, h2⟩ := Holds.isOk (hstep { st with p := { st.p with budget := st.p.budget - 1 } } ch h)
    simp only [hs]
    exact ih r.1 h2

theorem invokerF_good (stepf : FSt → Char → FR) (top : Bool) (hstep : ∀ st ch, FGood st → Holds NoErr (stepf st ch) FGoodR)
    (id : Int) (st : FSt) (h : FGood st) : Holds NoErr (invokerF stepf top id st) FGood := by
  unfold invokerF
  split
  · exact h
  · apply replayF_good stepf hstep
    split <;> exact h

theorem stepDF_good : ∀ (d : Nat) (cfg : Cfg) (o : Nat → Orc) (st : FSt) (ch : Char), cfg.musicOpt = 0 →
    FGood st → Holds NoErr (stepDF d cfg o st ch) FGoodR := by
  intro d
  induction d with
  | zero =>
    intro cfg o st ch hm h
    unfold stepDF
    exact stepCoreF_good cfg _ _ _ ch hm (fun _ st hs => hs) h
  | succ d ih =>
    intro cfg o st ch hm h
    unfold stepDF
    exact stepCoreF_good cfg _ _ _ ch hm (invokerF_good _ _ (fun st ch hs => ih cfg o st ch hm hs)) h

theorem stepF_good (cfg : Cfg) (o : Nat → Orc) (st : FSt) (ch : Char) (hm : cfg.musicOpt = 0) (h : FGood st) :
    Holds NoErr (stepF cfg o st ch) FGoodR := stepDF_good _ cfg o st ch hm h

theorem runFI_good (cfg : Cfg) (o : Nat → Orc) (hm : cfg.musicOpt = 0) :
    ∀ (cs : List Char) (i : Nat) (st : FSt), FGood st → Holds NoErr (runFI cfg o i st cs) FGood := by
  intro cs
  induction cs with
  | nil => intro i st h; exact h
  | cons ch rest ih =>
    intro i st h
    unfold runFI
    obtain ⟨r, hs, h2⟩ := Holds.isOk (stepF_good cfg (fun _ => o i) st ch hm h)
    rw [hs]
    exact ih (i + 1) r.1 h2

theorem runF_good (cfg : Cfg) (o : Nat → Orc) (hm : cfg.musicOpt = 0) (cs : List Char) (st : FSt) (h : FGood st) :
    Holds NoErr (runF cfg o st cs) FGood := runFI_good cfg o hm cs 0 st h

theorem initScrF_F (w h tabW : Int) (hw1 : 1 ≤ w) (hw2 : w ≤ 1000) (hh0 : 0 ≤ h) (hh2 : h ≤ 65535) : ScrF (initScrF w h tabW) :=
  ⟨hw1, hw2, hh0, hh2, fun _ _ hh => (nomatch hh), fun _ _ hh => (nomatch hh)⟩
theorem carF_home (b : Bool) : CarF { x := 0, y := 0, ins := b } := ⟨Int.le_refl 0, by show (0 : Int) ≤ 1000; omega, Int.le_refl 0, capY_lo⟩

/-- the state a loader starts from: `Buffer::new` + `set_sauce` with a width 1..=1000 and a height 0..=65535 -/
theorem initF_good (w h tabW : Int) (rows : Array Nat) (hw1 : 1 ≤ w) (hw2 : w ≤ 1000) (hh0 : 0 ≤ h) (hh2 : h ≤ 65535) :
    FGood (initF w h tabW rows) :=
  ⟨initScrF_F w h tabW hw1 hw2 hh0 hh2, carF_home _, hw2, hlF_nil, fun _ hm => (nomatch hm)⟩

end IcyVerif.TermFile
