import IcyVerif.Lemmas.ArtAnsiSplit
import IcyVerif.Lemmas.ArtAnsiComp
/-! # The pieces the ANSI writer hands to `push_result` are `ChunkOk` (C04, `output_line_length`)

Control sequences `ESC [ params final` (any numbers — the parser's state, not the values, matters here), the iCE switch
`ESC [ ? 33 h/l`, the font switch `ESC [ 0 ; n SP D`, the cell characters (raw or with the `ESC` prefix), space, CR LF:
each keeps the two runs related (`run_cong`: no byte is `u`; a printed `u` goes through `cellChar_read`) and leaves the
parser in its ground state unless it left the modelled sub-language (`stuck`, on both sides alike). -/
namespace IcyVerif.ArtIO
open IcyVerif.Gen.Art

/-- read from the ground state (not stuck), the bytes end in the ground state unless the reader got stuck -/
def EndsGround (k : List Nat) : Prop :=
  ∀ (p : AnsiP) (c : Core), p.st = .ground → c.stuck = false → (ansiRun p c k).2.stuck = false → (ansiRun p c k).1.st = .ground

theorem chunkOk_of {k : List Nat} (hk : ∀ b ∈ k, b ≠ 117) (he : EndsGround k) : ChunkOk k := by
  intro p p0 c c0 h hg
  refine ⟨run_cong k hk p p0 c c0 h, ?_⟩
  cases hs : c.stuck with
  | true => rw [ansiRun_stuck k p c hs]; intro e; rw [hs] at e; cases e
  | false => exact he p c (hg hs) hs

theorem digitsAux_bytes : ∀ (fuel n : Nat) (acc : List Nat), (∀ b ∈ acc, isDigit b = true) → ∀ b ∈ digitsAux fuel n acc, isDigit b = true := by
  intro fuel
  induction fuel with
  | zero => intro n acc h b hb; exact h b hb
  | succ f ih =>
    intro n acc h b hb
    unfold digitsAux at hb
    by_cases hn : n < 10
    · rw [if_pos hn] at hb
      rcases List.mem_cons.1 hb with e | e
      · rw [e]; simp [isDigit]; omega
      · exact h b e
    · rw [if_neg hn] at hb
      refine ih (n / 10) _ ?_ b hb
      intro x hx
      rcases List.mem_cons.1 hx with e | e
      · rw [e]; simp [isDigit]; omega
      · exact h x e

theorem digits_bytes (n : Nat) : ∀ b ∈ digits n, isDigit b = true := by
  intro b hb
  unfold digits at hb
  by_cases h1 : n < 10
  · rw [if_pos h1] at hb; simp at hb; rw [hb]; simp [isDigit]; omega
  · rw [if_neg h1] at hb
    by_cases h2 : n < 100
    · rw [if_pos h2] at hb; simp at hb
      rcases hb with e | e <;> rw [e] <;> simp [isDigit] <;> omega
    · rw [if_neg h2] at hb
      by_cases h3 : n < 1000
      · rw [if_pos h3] at hb; simp at hb
        rcases hb with e | e | e <;> rw [e] <;> simp [isDigit] <;> omega
      · rw [if_neg h3] at hb
        exact digitsAux_bytes _ _ [] (fun _ h => by simp at h) b hb

theorem params_bytes : ∀ (ps : List Nat), ∀ b ∈ params ps, isDigit b = true ∨ b = 59 := by
  intro ps
  induction ps with
  | nil => intro b hb; simp [params] at hb
  | cons n rest ih =>
    intro b hb
    cases rest with
    | nil => exact Or.inl (digits_bytes n b hb)
    | cons m rest2 =>
      have : params (n :: m :: rest2) = digits n ++ [59] ++ params (m :: rest2) := rfl
      rw [this] at hb
      simp only [List.mem_append, List.mem_singleton] at hb
      rcases hb with (h | h) | h
      · exact Or.inl (digits_bytes n b h)
      · exact Or.inr h
      · exact ih b h

theorem csi_body_run (body : List Nat) (hb : ∀ b ∈ body, isDigit b = true ∨ b = 59) : ∀ (p : AnsiP) (c : Core) (nums : List Nat) (st : Bool),
    p.st = .csi nums st → c.stuck = false →
    ∃ nums' st', (ansiRun p c body).1.st = .csi nums' st' ∧ (ansiRun p c body).2 = c := by
  induction body with
  | nil => intro p c nums st hp _; exact ⟨nums, st, hp, rfl⟩
  | cons b bs ih =>
    intro p c nums st hp hs
    have hb' : ∀ x ∈ bs, isDigit x = true ∨ x = 59 := fun x hx => hb x (List.mem_cons_of_mem _ hx)
    rw [ansiRun_cons]
    rcases hb b List.mem_cons_self with hd | h59
    · rw [ansiStep_csi_digit p c nums st b hd hs hp]
      exact ih hb' _ c _ false rfl hs
    · subst h59
      rw [ansiStep_csi_semi p c nums st hs hp]
      exact ih hb' _ c _ false rfl hs

theorem csiQ_body_run (body : List Nat) (hb : ∀ b ∈ body, isDigit b = true) : ∀ (p : AnsiP) (c : Core) (nums : List Nat),
    p.st = .csiQ nums → c.stuck = false →
    ∃ nums', (ansiRun p c body).1.st = .csiQ nums' ∧ (ansiRun p c body).2 = c := by
  induction body with
  | nil => intro p c nums hp _; exact ⟨nums, hp, rfl⟩
  | cons b bs ih =>
    intro p c nums hp hs
    have hb' : ∀ x ∈ bs, isDigit x = true := fun x hx => hb x (List.mem_cons_of_mem _ hx)
    rw [ansiRun_cons]
    have hd := hb b List.mem_cons_self
    rw [ansiStep_csiQ_digit p c nums hs hp b hd]
    exact ih hb' _ c _ rfl hs

/-- the final bytes of the sequences the writer emits -/
def WriterFinal (f : Nat) : Prop := f = 109 ∨ f = 72 ∨ f = 67 ∨ f = 98 ∨ f = 116 ∨ f = 74

theorem csi_final_ground (p : AnsiP) (c : Core) (nums : List Nat) (st : Bool) (f : Nat) (hp : p.st = .csi nums st)
    (hs : c.stuck = false) (hf : WriterFinal f) : (ansiStep p c f).2.stuck = false → (ansiStep p c f).1.st = .ground := by
  rcases hf with e | e | e | e | e | e <;> subst e
  · rw [ansiStep_sgr p c nums st hs hp]; exact fun _ => rfl
  · rw [ansiStep_cup p c nums st hs hp]; exact fun _ => rfl
  · rw [ansiStep_cuf p c nums st hs hp]; exact fun _ => rfl
  · rw [ansiStep_rep p c nums st hs hp]; exact fun _ => rfl
  · unfold ansiStep
    simp only [hs, hp]
    by_cases h4 : nums.length = 4
    · simp [h4]
    · by_cases h3 : nums.length = 3
      · simp [h3, Core.stick]
      · simp [h4, h3]
  · unfold ansiStep
    simp only [hs, hp]
    cases hh : nums.head? with
    | none => simp [Core.stick]
    | some k =>
      by_cases h2 : k = 2
      · simp [h2]
      · by_cases h3 : k = 3
        · simp [h3]
        · simp [h2, h3, Core.stick]

theorem csi_open_run (body : List Nat) (hb : ∀ b ∈ body, isDigit b = true ∨ b = 59) (p : AnsiP) (c : Core) (hg : p.st = .ground)
    (hs : c.stuck = false) : ∃ q nums' st', ansiRun p c ([27, 91] ++ body) = (q, c) ∧ q.st = .csi nums' st' := by
  obtain ⟨nums', st', q1, q2⟩ := csi_body_run body hb { p with st := .csi [] true } c [] true rfl hs
  exact ⟨_, nums', st', by rw [ansiRun_append_of_eq (ansiRun_csi_intro p c hs hg)]; exact Prod.ext rfl q2, q1⟩

theorem endsGround_csi (ps : List Nat) (f : Nat) (hf : WriterFinal f) : EndsGround (csi ps f) := by
  intro p c hg hs
  obtain ⟨q, nums', st', e, q1⟩ := csi_open_run (params ps) (params_bytes ps) p c hg hs
  unfold csi
  rw [ansiRun_append_of_eq e, ansiRun_cons, ansiRun_nil]
  exact csi_final_ground q c nums' st' f q1 hs hf

theorem csi_no_u (ps : List Nat) (f : Nat) (hf : WriterFinal f) : ∀ b ∈ csi ps f, b ≠ 117 := by
  intro b hb
  unfold csi at hb
  simp only [List.mem_append, List.mem_cons, List.not_mem_nil, or_false] at hb
  rcases hb with ((h | h) | h) | h
  · omega
  · omega
  · rcases params_bytes ps b h with d | d
    · have := isDigit_bounds d; omega
    · omega
  · rcases hf with e | e | e | e | e | e <;> omega

theorem chunkOk_csi (ps : List Nat) (f : Nat) (hf : WriterFinal f) : ChunkOk (csi ps f) :=
  chunkOk_of (csi_no_u ps f hf) (endsGround_csi ps f hf)

theorem chunkOk_iceOn : ChunkOk [27, 91, 63, 51, 51, 104] :=
  chunkOk_of (by decide) fun p c hg hs _ => by rw [ansiRun_iceOn p c hs hg]

theorem chunkOk_iceOff : ChunkOk [27, 91, 63, 51, 51, 108] :=
  chunkOk_of (by decide) fun p c hg hs _ => by rw [ansiRun_iceOff p c hs hg]

theorem csiSp_final (q : AnsiP) (c : Core) (nums : List Nat) (hq : q.st = .csiSp nums) (hs : c.stuck = false) :
    (ansiStep q c 68).2.stuck = false → (ansiStep q c 68).1.st = .ground := by
  unfold ansiStep
  have hs' : ¬ c.stuck = true := by rw [hs]; simp
  rw [if_neg hs', hq]
  simp only [if_true]
  split
  · intro _; rfl
  · intro e; simp [Core.stick] at e

theorem fontSeq_eq (n : Nat) : fontSeq n = [27, 91] ++ ([48, 59] ++ digits n) ++ [32, 68] := by
  unfold fontSeq
  have h1 : ansiFontSeqHead = [27, 91, 48, 59] := by decide
  have h2 : ansiFontSeqTail = [32, 68] := by decide
  rw [h1, h2]; simp

theorem fontSeq_csi (n : Nat) : fontSeq n = csi [0, n] 32 ++ [68] := by
  rw [fontSeq_eq]; simp [csi, params, digits]

theorem chunkOk_fontSeq (n : Nat) : ChunkOk (fontSeq n) := by
  have hbody : ∀ b ∈ ([48, 59] ++ digits n : List Nat), isDigit b = true ∨ b = 59 := by
    intro b hb
    simp only [List.mem_append, List.mem_cons, List.not_mem_nil, or_false] at hb
    rcases hb with (h | h) | h
    · left; rw [h]; decide
    · right; exact h
    · left; exact digits_bytes n b h
  apply chunkOk_of
  · intro b hb
    rw [fontSeq_eq] at hb
    simp only [List.mem_append, List.mem_cons, List.not_mem_nil, or_false] at hb
    rcases hb with ((h | h) | (h | h) | h) | (h | h)
    · omega
    · omega
    · omega
    · omega
    · have := isDigit_bounds (digits_bytes n b h); omega
    · omega
    · omega
  · intro p c hg hs
    obtain ⟨q, nums', st', e, q1⟩ := csi_open_run _ hbody p c hg hs
    rw [fontSeq_eq, ansiRun_append_of_eq e, ansiRun_cons, ansiRun_cons, ansiRun_nil, ansiStep_csi_sp q c nums' st' hs q1]
    exact csiSp_final _ c nums' rfl hs

theorem chunkOk_cellChar (o : AnsiOpts) (ch : Nat) (hd : EncDom o ch) : ChunkOk (cellChar o ch) := by
  intro p p0 c c0 h hg
  cases hs : c.stuck with
  | true =>
    have hs0 : c0.stuck = true := by rw [← h.core.stuck]; exact hs
    rw [ansiRun_stuck _ p c hs, ansiRun_stuck _ p0 c0 hs0]
    exact ⟨h, fun e => by rw [hs] at e; cases e⟩
  | false =>
    have hs0 : c0.stuck = false := by rw [← h.core.stuck]; exact hs
    have hg' := hg hs
    have hg0 : p0.st = .ground := by rw [← h.st]; exact hg'
    rw [cellChar_read o p c ch hs hg' hd, cellChar_read o p0 c0 ch hs0 hg0 hd]
    exact ⟨⟨h.st, rfl, h.core.printAnsi ch⟩, fun _ => hg'⟩

theorem chunkOk_space : ChunkOk [32] :=
  chunkOk_of (by decide) fun p c hg hs _ => by
    rw [ansiRun_cons, ansiStep_print p c 32 hs hg (by unfold AnsiPrintable; decide), ansiRun_nil]; exact hg

theorem chunkOk_crlf : ChunkOk [13, 10] :=
  chunkOk_of (by decide) fun p c hg hs _ => by rw [ansiRun_crlf p c hs hg]; exact hg

end IcyVerif.ArtIO
