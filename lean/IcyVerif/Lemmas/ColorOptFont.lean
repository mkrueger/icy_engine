import IcyVerif.Lemmas.ColorOptDoc
/-! C12: `FontOk` for fonts of any width.

`get_shape` compares the bit count of `height` bytes (at most 8 each) with `width·height`: wider than 8 columns no glyph is
`Block`; at 8 columns the count forces every byte to 0xFF; narrower the same under `NoStray` (clear padding bits) — without it
bits are counted that are never rendered (`stray_bits_changes_picture`). -/
namespace IcyVerif.ColorOpt
open IcyVerif.Comp IcyVerif.Gen.Fonts

/-! ### everything the optimiser and the renderer read of a data byte is in its low 8 bits -/

theorem popcount8_mod (b : Nat) : popcount8 (b % 256) = popcount8 b := by
  unfold popcount8
  congr 1
  apply List.filter_congr
  intro i hi
  have hi8 : i < 8 := List.mem_range.mp hi
  have : (256 : Nat) = 2 ^ 8 := rfl
  rw [this, Nat.testBit_mod_two_pow]
  simp [hi8]

theorem bitSet_mod (b : Nat) {cx : Nat} (hcx : cx < 8) : bitSet (b % 256) cx = bitSet b cx := by
  rw [bitSet_eq_testBit _ hcx, bitSet_eq_testBit _ hcx]
  have : (256 : Nat) = 2 ^ 8 := rfl
  rw [this, Nat.testBit_mod_two_pow]
  have : 7 - cx < 8 := by omega
  simp [this]

/-- no set bit among the `8 - w` rightmost of the 8 counted bits (the columns a `w`-wide font never renders) -/
def noStrayByte (w b : Nat) : Bool := (List.range (8 - w)).all fun i => !b.testBit i

theorem noStrayByte_iff (w b : Nat) : noStrayByte w b = true ↔ ∀ i, i < 8 - w → b.testBit i = false := by
  simp [noStrayByte, List.all_eq_true]

theorem noStrayByte_mod (w b : Nat) : noStrayByte w (b % 256) = noStrayByte w b := by
  rw [Bool.eq_iff_iff, noStrayByte_iff, noStrayByte_iff, show (256 : Nat) = 2 ^ 8 from rfl]
  refine forall_congr' fun i => imp_congr_right fun hi => ?_
  rw [Nat.testBit_mod_two_pow, decide_eq_true (by omega : i < 8), Bool.true_and]

theorem noStrayByte_eight (b : Nat) : noStrayByte 8 b = true := rfl

theorem popcount8_le (b : Nat) : popcount8 b ≤ 8 :=
  Nat.le_trans (List.length_filter_le _ _) (by simp)

/-- with the `8 - w` low bits clear only the `w` high bits are counted: at most `w` of them, and `w` only if all are
    set — which are the bits the renderer tests for the columns `cx < w` -/
theorem noStray_byte {w b : Nat} (hw : w ≤ 8) (hs : noStrayByte w b = true) :
    popcount8 b ≤ w ∧ (popcount8 b = w → ∀ cx < w, bitSet b cx = true) := by
  have hsplit : List.range 8 = List.range (8 - w) ++ List.range' (8 - w) w := by
    have h := @List.range'_append_1 0 (8 - w) w
    rw [Nat.zero_add, Nat.sub_add_cancel hw] at h
    rw [List.range_eq_range', List.range_eq_range', h]
  have hlow : (List.range (8 - w)).filter (fun i => b.testBit i) = [] := by
    rw [List.filter_eq_nil_iff]
    intro i hi
    simpa using (noStrayByte_iff w b).mp hs i (List.mem_range.mp hi)
  unfold popcount8
  rw [hsplit, List.filter_append, hlow, List.nil_append]
  refine ⟨Nat.le_trans (List.length_filter_le _ _) (by simp), fun he cx hcx => ?_⟩
  have hall := List.length_filter_eq_length_iff.mp (he.trans List.length_range'.symm)
  rw [bitSet_eq_testBit b (by omega)]
  exact hall (7 - cx) (List.mem_range'_1.mpr (by omega))

theorem ones_le (rows : List Nat) : ones rows ≤ 8 * rows.length := by
  unfold ones
  induction rows with
  | nil => simp
  | cons a rows ih =>
    simp only [List.map_cons, List.sum_cons, List.length_cons]
    have := popcount8_le a
    omega

def NoStray (w : Nat) (rows : List Nat) : Prop := ∀ b ∈ rows, noStrayByte w b = true

theorem ones_le_of_noStray {w : Nat} (hw : w ≤ 8) {rows : List Nat} (hs : NoStray w rows) :
    ones rows ≤ w * rows.length ∧ (ones rows = w * rows.length → ∀ b ∈ rows, popcount8 b = w) := by
  unfold ones
  induction rows with
  | nil => simp
  | cons a rows ih =>
    have ha := (noStray_byte hw (hs a (List.mem_cons_self))).1
    obtain ⟨h1, h2⟩ := ih (fun b hb => hs b (List.mem_cons_of_mem _ hb))
    simp only [List.map_cons, List.sum_cons, List.length_cons, Nat.mul_succ]
    refine ⟨by omega, ?_⟩
    intro he b hb
    rcases List.mem_cons.mp hb with rfl | hb
    · omega
    · exact h2 (by omega) b hb

theorem full_of_noStray {w h : Nat} (hw : w ≤ 8) {rows : List Nat} (hl : rows.length = h) (hs : NoStray w rows)
    (ho : ones rows = w * h) : isFull w h rows = true := by
  obtain ⟨_, hall⟩ := ones_le_of_noStray hw hs
  have hp := hall (by rw [hl]; exact ho)
  unfold isFull
  apply List.all_eq_true.mpr
  intro cy hcy
  have hcy := List.mem_range.mp hcy
  have hlt : cy < rows.length := by omega
  rw [List.getElem?_eq_getElem hlt]
  simp only
  apply List.all_eq_true.mpr
  intro cx hcx
  have hmem : rows[cy] ∈ rows := List.getElem_mem hlt
  exact (noStray_byte hw (hs _ hmem)).2 (hp _ hmem) cx (List.mem_range.mp hcx)

/-- `get_shape` never answers `Block` in a font wider than 8 columns -/
theorem wide_never_block {w h : Nat} (hw : 8 < w) {rows : List Nat} (hl : rows.length = h) (hne : ones rows ≠ 0) :
    ones rows ≠ w * h := by
  have h1 := ones_le rows
  rw [hl] at h1
  intro he
  have hh : h ≠ 0 := by
    intro h0; subst h0
    have : ones rows = 0 := by omega
    exact hne this
  have : 8 * h < w * h := Nat.mul_lt_mul_of_pos_right hw (Nat.pos_of_ne_zero hh)
  omega

/-- every glyph has `height` data bytes (what `glyphs_from_u8_data(height, …)` produces): the clause `rows_len` of `FontOk`,
    as a predicate of its own -/
def RowsLen (f : Font) : Prop := ∀ ch rows, f.glyph ch = some rows → rows.length = f.h
/-- when the font has a blank glyph, the glyph of `' '` (if there is one) is blank too: the clause `space_blank` of `FontOk` -/
def SpaceBlank (f : Font) : Prop :=
  ∀ ch rows rows', f.glyph ch = some rows → ones rows = 0 → f.glyph spaceCh = some rows' → ones rows' = 0
def FontNoStray (f : Font) : Prop := ∀ ch rows, f.glyph ch = some rows → NoStray f.w rows

end IcyVerif.ColorOpt
