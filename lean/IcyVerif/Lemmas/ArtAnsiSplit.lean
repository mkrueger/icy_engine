import IcyVerif.Lemmas.ArtAnsiCong
import IcyVerif.Model.ArtAnsiX
/-! # Line splitting is invisible (C04, `output_line_length`)

`push_result` writes `ESC [ s  CR LF  ESC [ u` in front of a piece of output when the line would become too long.  The
pieces ("chunks") are whole control sequences and characters: each chunk takes the parser from its ground state back to
its ground state and contains no `CSI u` (`ChunkOk`).  Then the reader's run over the output WITH splits and its run over
the same chunks WITHOUT splits stay related by `SimR` (`split_elim`): same rendition, palette, caret, and lines that show
the same.  `run_out` says that the output of `WSt.run` is the chunk list of the events with a split in front of some
chunks, whatever `max_output_line_length` is. -/
namespace IcyVerif.ArtIO
open IcyVerif.Gen.Art

/-- `ESC [ s CR LF ESC [ u` -/
def splitSeq : List Nat := ansiSplitPre ++ ansiSplitPost

theorem splitSeq_eq : splitSeq = [27, 91, 115, 13, 10, 27, 91, 117] := by decide

/-- the split sequence read from the ground state: the caret comes back, only empty rows may have been appended -/
theorem split_sim {p p0 : AnsiP} {c c0 : Core} (h : SimR p c p0 c0) (hg : c.stuck = false → p.st = .ground) :
    SimR (ansiRun p c splitSeq).1 (ansiRun p c splitSeq).2 p0 c0 ∧
      ((ansiRun p c splitSeq).2.stuck = false → (ansiRun p c splitSeq).1.st = .ground) := by
  cases hs : c.stuck with
  | true => rw [ansiRun_stuck _ p c hs]; exact ⟨h, fun e => by rw [hs] at e; cases e⟩
  | false =>
    have hg' := hg hs
    obtain ⟨hst, hlc, hc⟩ := h
    have e : ansiRun p c splitSeq =
        ({ p with st := .ground, saved := (c.scr.cx, c.scr.cy) },
         { c with scr := ({ c.scr.cr.lf with cx := c.scr.cx, cy := c.scr.cy } : Screen).limit }) := by
      rw [splitSeq_eq]
      show ansiRun p c ([27, 91] ++ 115 :: ([13, 10] ++ ([27, 91] ++ [117]))) = _
      rw [ansiRun_append_of_eq (ansiRun_csi_intro p c hs hg'), ansiRun_cons, ansiStep_save _ c [] true hs rfl,
        ansiRun_append_of_eq (ansiRun_crlf _ c hs rfl), ansiRun_append_of_eq (ansiRun_csi_intro _ { c with scr := c.scr.exec Op.nl } hs rfl), ansiRun_cons,
        ansiStep_restore _ { c with scr := c.scr.exec Op.nl } [] true hs rfl]
      rfl
    rw [e]
    refine ⟨⟨by rw [← hst, hg'], hlc, ?_⟩, fun _ => rfl⟩
    obtain ⟨h1, h2, h3, h4, h5, h6⟩ := hc.scr
    refine ⟨⟨h1, h2, ?_, h4, ?_, ?_⟩, hc.attr, hc.caretIce, hc.bufIce, hc.pal, hc.termH, hc.stuck⟩
    · show min c.scr.cx (c.scr.w - 1) = c0.scr.cx
      rw [← h3]; omega
    · intro x y
      show shownAt (linesExtend c.scr.lines (c.scr.cy + 1)) x y = shownAt c0.scr.lines x y
      rw [shownAt_linesExtend]; exact h5 x y
    · show min c.scr.cx (c.scr.w - 1) < c.scr.w
      omega

/-- a piece of output that both runs read alike and that ends where it began: in the parser's ground state -/
def ChunkOk (k : List Nat) : Prop :=
  ∀ (p p0 : AnsiP) (c c0 : Core), SimR p c p0 c0 → (c.stuck = false → p.st = .ground) →
    SimR (ansiRun p c k).1 (ansiRun p c k).2 (ansiRun p0 c0 k).1 (ansiRun p0 c0 k).2 ∧
    ((ansiRun p c k).2.stuck = false → (ansiRun p c k).1.st = .ground)

theorem chunkOk_nil : ChunkOk [] := fun _ _ _ _ h hg => ⟨h, hg⟩

theorem ChunkOk.append {a b : List Nat} (ha : ChunkOk a) (hb : ChunkOk b) : ChunkOk (a ++ b) := by
  intro p p0 c c0 h hg
  rw [ansiRun_append, ansiRun_append]
  obtain ⟨r1, g1⟩ := ha p p0 c c0 h hg
  exact hb _ _ _ _ r1 g1

theorem chunkOk_flatten (ks : List (List Nat)) (h : ∀ k ∈ ks, ChunkOk k) : ChunkOk ks.flatten := by
  induction ks with
  | nil => exact chunkOk_nil
  | cons k ks ih =>
    rw [List.flatten_cons]
    exact (h k List.mem_cons_self).append (ih fun k' hk' => h k' (List.mem_cons_of_mem _ hk'))

theorem run_cong (k : List Nat) (hk : ∀ b ∈ k, b ≠ 117) : ∀ (p p0 : AnsiP) (c c0 : Core), SimR p c p0 c0 →
    SimR (ansiRun p c k).1 (ansiRun p c k).2 (ansiRun p0 c0 k).1 (ansiRun p0 c0 k).2 := by
  induction k with
  | nil => intro p p0 c c0 h; exact h
  | cons b bs ih =>
    intro p p0 c c0 h
    rw [ansiRun_cons, ansiRun_cons]
    exact ih (fun x hx => hk x (List.mem_cons_of_mem _ hx)) _ _ _ _
      (step_cong h b (fun e => absurd e (hk b List.mem_cons_self)))

/-- the chunks, each with the split sequence in front when its mark is set -/
def joinMarked : List Bool → List (List Nat) → List Nat
  | _, [] => []
  | [], k :: ks => k ++ joinMarked [] ks
  | b :: bs, k :: ks => (if b then splitSeq else []) ++ k ++ joinMarked bs ks

theorem joinMarked_cons (b : Bool) (bs : List Bool) (k : List Nat) (ks : List (List Nat)) :
    joinMarked (b :: bs) (k :: ks) = (if b then splitSeq else []) ++ k ++ joinMarked bs ks := rfl

theorem joinMarked_nil (ks : List (List Nat)) : joinMarked [] ks = ks.flatten := by
  induction ks with
  | nil => rfl
  | cons k ks ih => show k ++ joinMarked [] ks = _; rw [ih]; rfl

theorem split_elim (ks : List (List Nat)) (hk : ∀ k ∈ ks, ChunkOk k) : ∀ (marks : List Bool) (p p0 : AnsiP) (c c0 : Core),
    SimR p c p0 c0 → (c.stuck = false → p.st = .ground) →
    SimR (ansiRun p c (joinMarked marks ks)).1 (ansiRun p c (joinMarked marks ks)).2
      (ansiRun p0 c0 ks.flatten).1 (ansiRun p0 c0 ks.flatten).2 := by
  induction ks with
  | nil => intro marks p p0 c c0 h _; cases marks <;> exact h
  | cons k ks ih =>
    intro marks p p0 c c0 h hg
    have hk1 := hk k List.mem_cons_self
    have hk2 : ∀ k' ∈ ks, ChunkOk k' := fun k' hk' => hk k' (List.mem_cons_of_mem _ hk')
    rw [List.flatten_cons, ansiRun_append]
    cases marks with
    | nil =>
      have e : joinMarked [] (k :: ks) = k ++ joinMarked [] ks := rfl
      rw [e, ansiRun_append]
      obtain ⟨r1, g1⟩ := hk1 p p0 c c0 h hg
      exact ih hk2 [] _ _ _ _ r1 g1
    | cons b bs =>
      rw [joinMarked_cons, List.append_assoc, ansiRun_append, ansiRun_append]
      have hsplit : SimR (ansiRun p c (if b then splitSeq else [])).1 (ansiRun p c (if b then splitSeq else [])).2 p0 c0 ∧
          ((ansiRun p c (if b then splitSeq else [])).2.stuck = false → (ansiRun p c (if b then splitSeq else [])).1.st = .ground) := by
        cases b with
        | true => exact split_sim h hg
        | false => exact ⟨h, hg⟩
      obtain ⟨r0, g0⟩ := hsplit
      obtain ⟨r1, g1⟩ := hk1 _ p0 _ c0 r0 g0
      exact ih hk2 bs _ _ _ _ r1 g1

/-- the pieces `push_result` is called with: `r` = the local `result` so far -/
def chunksOf : List Ev → List Nat → List (List Nat)
  | [], _ => []
  | .ext bs :: es, r => chunksOf es (r ++ bs)
  | .push :: es, r => r :: chunksOf es []
  | .eol :: es, r => chunksOf es r
  | .drop :: es, _ => chunksOf es []

theorem step_push (max : Option Nat) (s : WSt) :
    ∃ b : Bool, (s.step max .push).out = s.out ++ ((if b then splitSeq else []) ++ s.res) ∧ (s.step max .push).res = [] ∧
      (s.llb ≤ s.out.length + s.res.length →
        (s.step max .push).llb ≤ (s.step max .push).out.length ∧ (s.step max .push).underflow = s.underflow) := by
  by_cases h1 : s.out.length + s.res.length < s.llb
  · exact ⟨false, by simp [WSt.step, h1], by simp [WSt.step, h1], fun h => by omega⟩
  · by_cases h2 : overMax max (s.out.length + s.res.length - s.llb) = true
    · exact ⟨true, by simp [WSt.step, h1, h2, splitSeq], by simp [WSt.step, h1, h2], fun _ => by simp [WSt.step, h1, h2]⟩
    · exact ⟨false, by simp [WSt.step, h1, h2], by simp [WSt.step, h1, h2], fun h => by simp [WSt.step, h1, h2]; omega⟩

theorem run_out (max : Option Nat) : ∀ (evs : List Ev) (s : WSt),
    ∃ marks : List Bool, (WSt.run max s evs).out = s.out ++ joinMarked marks (chunksOf evs s.res) := by
  intro evs
  induction evs with
  | nil => intro s; exact ⟨[], by simp [WSt.run, chunksOf, joinMarked]⟩
  | cons e es ih =>
    intro s
    cases e with
    | ext bs =>
      obtain ⟨m, hm⟩ := ih (s.step max (.ext bs))
      exact ⟨m, by rw [show WSt.run max s (.ext bs :: es) = WSt.run max (s.step max (.ext bs)) es from rfl, hm]; rfl⟩
    | eol =>
      obtain ⟨m, hm⟩ := ih (s.step max .eol)
      exact ⟨m, by rw [show WSt.run max s (.eol :: es) = WSt.run max (s.step max .eol) es from rfl, hm]; rfl⟩
    | drop =>
      obtain ⟨m, hm⟩ := ih (s.step max .drop)
      exact ⟨m, by rw [show WSt.run max s (.drop :: es) = WSt.run max (s.step max .drop) es from rfl, hm]; rfl⟩
    | push =>
      obtain ⟨m, hm⟩ := ih (s.step max .push)
      obtain ⟨b, ho, hr, _⟩ := step_push max s
      refine ⟨b :: m, ?_⟩
      show (WSt.run max (s.step max .push) es).out = s.out ++ joinMarked (b :: m) (s.res :: chunksOf es [])
      rw [hm, hr, ho, joinMarked_cons]
      simp only [List.append_assoc]

theorem chunksOf_ok : ∀ (evs : List Ev) (r : List Nat), ChunkOk r → (∀ bs, Ev.ext bs ∈ evs → ChunkOk bs) →
    ∀ k ∈ chunksOf evs r, ChunkOk k := by
  intro evs
  induction evs with
  | nil => intro r _ _ k hk; simp [chunksOf] at hk
  | cons e es ih =>
    intro r hr he k hk
    have he' : ∀ bs, Ev.ext bs ∈ es → ChunkOk bs := fun bs h => he bs (List.mem_cons_of_mem _ h)
    cases e with
    | ext bs => exact ih (r ++ bs) (hr.append (he bs List.mem_cons_self)) he' k hk
    | eol => exact ih r hr he' k hk
    | drop => exact ih [] chunkOk_nil he' k hk
    | push =>
      simp only [chunksOf, List.mem_cons] at hk
      rcases hk with e | hk
      · rw [e]; exact hr
      · exact ih [] chunkOk_nil he' k hk

end IcyVerif.ArtIO
