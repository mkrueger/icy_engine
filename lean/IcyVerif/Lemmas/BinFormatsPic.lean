import IcyVerif.Lemmas.BinFormatsPlace
import IcyVerif.Lemmas.BinFormatsBasic
/-!
# "The same picture" (C05) and the cell every attribute-byte format loads

`shownCell c` is what the attribute-byte formats (XBin, BIN, ADF, IDF) load for a cell `c`: bold folded into the foreground index the
cell is DISPLAYED with.  `shownBuf` is the buffer all four build from the file of a representable picture; that it shows the picture
is proved once (`samePicture_shown`).
-/
namespace IcyVerif.BinFormats
open IcyVerif.XbCompress IcyVerif.Gen

theorem allCells_mem {p : Pic} {f : Cell → Bool} (h : allCells p f = true) {r : List Cell} (hr : r ∈ p.rows) {c : Cell} (hc : c ∈ r) :
    f c = true :=
  List.all_eq_true.mp (List.all_eq_true.mp h r hr) c hc

/-- the property for one picture: size, no allocated rows outside the picture, mode, every cell (character, displayed
    colours through the two palettes, blink, font page), and — where the format embeds them — fonts and palette -/
structure SamePicture (f : Fmt) (p : Pic) (g : LBuf) : Prop where
  width : g.bw = p.w
  height : g.bh = (p.h : Int)
  rows_alloc : (g.lines.length : Int) ≤ g.bh
  mode : isIce g.ice = isIce p.ice
  cells : ∀ y x, y < p.h → x < p.w →
    cellSame p.pal g.pal (p.cell x y) (g.getCell x y) = true ∧ (g.getCell x y).attr.page = (p.cell x y).attr.page
  fonts : f.embeds = true → fontsSame p g = true
  palette : f.embeds = true → palSame p g = true

def shownCell (c : Cell) : Cell :=
  ⟨c.ch, ⟨shownFg c.attr.fg (isBold c.attr), c.attr.bg, if isBlink c.attr then Xb.attrBlink else 0, c.attr.page⟩⟩

theorem isBold_of_flags (fl : Nat) (fg bg pg : Nat) (h : fl = 0 ∨ fl = Xb.attrBlink) : isBold ⟨fg, bg, fl, pg⟩ = false := by
  cases h with
  | inl h => subst h; show (0 &&& Xb.attrBold == Xb.attrBold) = false; decide
  | inr h => subst h; show (Xb.attrBlink &&& Xb.attrBold == Xb.attrBold) = false; decide

theorem isBlink_flags (b : Bool) (fg bg pg : Nat) : isBlink ⟨fg, bg, if b then Xb.attrBlink else 0, pg⟩ = b := by
  cases b
  · show (0 &&& Xb.attrBlink == Xb.attrBlink) = false; decide
  · show (Xb.attrBlink &&& Xb.attrBlink == Xb.attrBlink) = true; decide

theorem dispFg_shown (pal : List Rgb) (c : Cell) : dispFg pal (shownCell c) = dispFg pal c := by
  unfold dispFg shownCell
  have hb := isBold_of_flags (if isBlink c.attr then Xb.attrBlink else 0) (shownFg c.attr.fg (isBold c.attr)) c.attr.bg c.attr.page
    (by cases isBlink c.attr; exact Or.inl rfl; exact Or.inr rfl)
  simp only [hb, Bool.false_eq_true, false_and, if_false]
  rfl

theorem cellSame_shown (pal : List Rgb) (c : Cell) : cellSame pal pal c (shownCell c) = true := by
  unfold cellSame
  rw [dispFg_shown]
  have hk : isBlink (shownCell c).attr = isBlink c.attr := isBlink_flags _ _ _ _
  have hbg : dispBg pal (shownCell c) = dispBg pal c := rfl
  have hch : (shownCell c).ch = c.ch := rfl
  simp [hk, hbg, hch]

theorem shownCell_visible (c : Cell) : isVisible (shownCell c) = true := by
  unfold isVisible shownCell
  by_cases h : isBlink c.attr = true
  · simp only [h, if_true]; show (Xb.attrBlink &&& Xb.attrInvisible != Xb.attrInvisible) = true; decide
  · have h' : isBlink c.attr = false := by simpa using h
    simp only [h', Bool.false_eq_true, if_false]; show (0 &&& Xb.attrInvisible != Xb.attrInvisible) = true; decide

theorem row_length_of_wf (p : Pic) (hwf : wellFormed p = true) (y : Nat) (hy : y < p.h) :
    (p.rows.getD y []).length = p.w ∧ y < p.rows.length := by
  unfold wellFormed at hwf
  simp only [Bool.and_eq_true, beq_iff_eq, List.all_eq_true, decide_eq_true_eq] at hwf
  obtain ⟨⟨h1, h2⟩, _⟩ := hwf
  have hy' : y < p.rows.length := by omega
  refine ⟨?_, hy'⟩
  exact h2 _ (Basics.getD_mem hy')

theorem getCell_rows (g : LBuf) (rows' : List (List Cell)) (hlines : g.lines = rows'.map (partRow g.lw)) (x y : Nat)
    (hy : y < rows'.length) (hx : x < (rows'.getD y []).length) (hxl : x < g.lw) (hyl : (y : Int) < g.lh)
    (hv : isVisible ((rows'.getD y []).getD x Cell.invisible) = true) :
    g.getCell x y = (rows'.getD y []).getD x Cell.invisible := by
  unfold LBuf.getCell
  simp only [hxl, hyl, and_self, if_true]
  rw [hlines, getD_map_partRow _ _ _ hy, getD_partRow _ _ _ hx]
  simp only [hv, if_true]

theorem cells_of_rows (p : Pic) (g : LBuf) (hwf : wellFormed p = true) (hlw : p.w ≤ g.lw) (hlh : g.lh = (p.h : Int))
    (hpal : g.pal = p.pal) (hlines : g.lines = (p.rows.map (fun r => r.map shownCell)).map (partRow g.lw)) :
    ∀ y x, y < p.h → x < p.w →
      cellSame p.pal g.pal (p.cell x y) (g.getCell x y) = true ∧ (g.getCell x y).attr.page = (p.cell x y).attr.page := by
  intro y x hy hx
  obtain ⟨hrl, hyr⟩ := row_length_of_wf p hwf y hy
  have hd : ((p.rows.map fun r => r.map shownCell).getD y []).getD x Cell.invisible = shownCell (p.cell x y) := by
    rw [Basics.getD_map (fun r => r.map shownCell) p.rows y [] [] hyr,
      Basics.getD_map shownCell _ x Cell.invisible Cell.invisible (by rw [hrl]; exact hx)]
    rfl
  rw [getCell_rows g _ hlines x y (by simpa using hyr)
    (by rw [Basics.getD_map (fun r => r.map shownCell) p.rows y [] [] hyr, List.length_map, hrl]; exact hx) (by omega)
    (by rw [hlh]; omega) (by rw [hd]; exact shownCell_visible _), hd, hpal]
  exact ⟨cellSame_shown _ _, rfl⟩

theorem partRow_self (w : Nat) (row : List Cell) (h : row.length = w) : partRow w row = row := by
  unfold partRow; simp [h]

theorem rows_nonempty (p : Pic) (hwf : wellFormed p = true) : p.rows ≠ [] ∧ p.rows.length = p.h ∧ (∀ r ∈ p.rows, r.length = p.w) := by
  unfold wellFormed at hwf
  simp only [Bool.and_eq_true, beq_iff_eq, List.all_eq_true, decide_eq_true_eq] at hwf
  obtain ⟨⟨h1, h2⟩, h3⟩ := hwf
  refine ⟨?_, h1, h2⟩
  intro he; rw [he] at h1; simp at h1; omega

theorem dropEmptyRev_suffix : ∀ r : List (List Cell), ∃ pre, r = pre ++ popEmpty.dropEmptyRev r
  | [] => ⟨[], rfl⟩
  | [l] => ⟨[], rfl⟩
  | l :: l2 :: r => by
    unfold popEmpty.dropEmptyRev
    split
    · obtain ⟨pre, h⟩ := dropEmptyRev_suffix (l2 :: r)
      exact ⟨l :: pre, by rw [List.cons_append, ← h]⟩
    · exact ⟨[], rfl⟩

theorem dropEmptyRev_head (l : List Cell) (t : List (List Cell)) (h : l ≠ []) : popEmpty.dropEmptyRev (l :: t) = l :: t := by
  cases t with
  | nil => rfl
  | cons l2 r =>
    unfold popEmpty.dropEmptyRev
    rw [if_neg (by cases l with | nil => exact absurd rfl h | cons _ _ => simp)]

theorem popEmpty_prefix (ls : List (List Cell)) : ∃ t, ls = popEmpty ls ++ t := by
  unfold popEmpty
  cases hr : ls.reverse with
  | nil => exact ⟨ls, rfl⟩
  | cons last before =>
    obtain ⟨pre, h⟩ := dropEmptyRev_suffix (last :: before)
    exact ⟨pre.reverse, by rw [← List.reverse_append, ← h, ← hr, List.reverse_reverse]⟩

theorem mem_popEmpty (ls : List (List Cell)) (l : List Cell) (h : l ∈ popEmpty ls) : l ∈ ls := by
  obtain ⟨t, ht⟩ := popEmpty_prefix ls
  rw [ht]; exact List.mem_append_left _ h

theorem popEmpty_length (ls : List (List Cell)) : (popEmpty ls).length ≤ ls.length := by
  obtain ⟨t, ht⟩ := popEmpty_prefix ls
  conv => rhs; rw [ht]
  simp

theorem popEmpty_nonempty (ls : List (List Cell)) (h : ∀ r ∈ ls, r ≠ []) : popEmpty ls = ls := by
  unfold popEmpty
  cases hr : ls.reverse with
  | nil => simpa using hr.symm
  | cons last before =>
    have hlast : last ≠ [] := h last (by
      have : last ∈ ls.reverse := by rw [hr]; simp
      simpa using this)
    simp only [dropEmptyRev_head last before hlast]
    rw [← hr, List.reverse_reverse]

theorem partRow_nonempty (lw : Nat) (row : List Cell) (h : row ≠ []) : partRow lw row ≠ [] := by
  unfold partRow
  cases row with
  | nil => exact absurd rfl h
  | cons _ _ => simp

theorem palSame_of_eq (p : Pic) (g : LBuf) (h : g.pal = p.pal) : palSame p g = true := by
  unfold palSame
  simp [h]

theorem fits8_of_cells (p : Pic) (ice : Bool) (h : allCells p (attrCell ice) = true) : fits8 p.rows = true := by
  unfold fits8
  apply List.all_eq_true.mpr
  intro r hr
  apply List.all_eq_true.mpr
  intro c hc
  have := allCells_mem h hr hc
  unfold attrCell at this
  simp only [Bool.and_eq_true, decide_eq_true_eq] at this
  simpa using this.1.1

theorem placeAll_shown (gl gb : Bool) (p : Pic) (hwf : wellFormed p = true) (hw1 : 1 ≤ p.w) (b : LBuf) (hl : b.lines = [])
    (hw : p.w ≤ b.lw) (hg : gl = true ∨ (p.h : Int) ≤ b.lh) :
    (placeAll gl gb 0 (p.w - 1) b 0 0 (p.rows.map fun r => r.map shownCell).flatten).1 =
      { b with lines := (p.rows.map fun r => r.map shownCell).map (partRow b.lw),
               lh := if gl then (p.h : Int) else b.lh, bh := if gb then (p.h : Int) else b.bh } := by
  obtain ⟨hne, hrows, hwid⟩ := rows_nonempty p hwf
  have := placeAll_rows gl gb p.w hw1 (p.rows.map fun r => r.map shownCell) b
    (by intro r hr; obtain ⟨r0, hr0, rfl⟩ := List.mem_map.mp hr; rw [List.length_map]; exact hwid r0 hr0) hw
    (by rw [hl, List.length_map, hrows]; simpa using hg)
  rw [hl] at this
  simp only [List.length_nil, List.nil_append, List.length_map, hrows, ne_eq, List.map_eq_nil_iff, hne, not_false_eq_true, and_true,
    Int.natCast_zero, Int.zero_add] at this
  rw [this]

theorem crop_shown (p : Pic) (hwf : wellFormed p = true) (hw1 : 1 ≤ p.w) (lw : Nat) (b : LBuf)
    (hb : b.lines = (p.rows.map fun r => r.map shownCell).map (partRow lw)) : b.crop = { b with lh := (p.h : Int), bh := (p.h : Int) } := by
  obtain ⟨_, hrows, hwid⟩ := rows_nonempty p hwf
  have : popEmpty b.lines = b.lines := by
    apply popEmpty_nonempty
    intro r hr
    rw [hb] at hr
    obtain ⟨r1, hr1, rfl⟩ := List.mem_map.mp hr
    obtain ⟨r0, hr0, rfl⟩ := List.mem_map.mp hr1
    apply partRow_nonempty
    intro he
    have := hwid r0 hr0
    rw [← List.length_map (f := shownCell), he] at this
    simp at this; omega
  unfold LBuf.crop
  simp only [this]
  rw [hb, List.length_map, List.length_map, hrows]

/-- the buffer every attribute-byte loader (XBin, BIN, ADF, IDF) builds from the file of a representable picture `p`, in a layer
    `lw` columns wide -/
def shownBuf (p : Pic) (lw : Nat) (im : IceMode) (pal : List Rgb) (fonts : List (Nat × Font)) (m : Option Sauce.Meta) : LBuf :=
  { bw := p.w, bh := (p.h : Int), lw := lw, lh := (p.h : Int), lines := (p.rows.map fun r => r.map shownCell).map (partRow lw),
    ice := im, pal := pal, fonts := fonts, sauce := m }

theorem samePicture_shown (f : Fmt) (p : Pic) (lw : Nat) (im : IceMode) (fonts : List (Nat × Font)) (m : Option Sauce.Meta)
    (hwf : wellFormed p = true) (hlw : p.w ≤ lw) (hice : isIce im = isIce p.ice)
    (hfonts : f.embeds = true → fontsSame p (shownBuf p lw im p.pal fonts m) = true) :
    SamePicture f p (shownBuf p lw im p.pal fonts m) := by
  obtain ⟨_, hrows, _⟩ := rows_nonempty p hwf
  refine ⟨rfl, rfl, ?_, hice, cells_of_rows p _ hwf hlw rfl rfl rfl, hfonts, fun _ => palSame_of_eq p _ rfl⟩
  show (((p.rows.map fun r => r.map shownCell).map (partRow lw)).length : Int) ≤ (p.h : Int)
  simp [hrows]

theorem map_dec_enc {β : Type} (rows : List (List Cell)) (enc : Cell → β) (dec : β → Cell)
    (h : ∀ r ∈ rows, ∀ c ∈ r, dec (enc c) = shownCell c) :
    (rows.flatten.map enc).map dec = (rows.map fun r => r.map shownCell).flatten := by
  rw [List.map_map, ← List.map_flatten]
  exact List.map_congr_left fun c hc => by
    obtain ⟨r, hr, hcr⟩ := List.mem_flatten.mp hc
    exact h r hr c hcr

theorem fontOk_parts (f : Font) (h : fontOk f = true) :
    1 ≤ f.height ∧ f.height ≤ 32 ∧ f.data.length = 256 * f.height := by
  unfold fontOk at h
  simp only [Bool.and_eq_true, decide_eq_true_eq, beq_iff_eq] at h
  exact ⟨h.1.1, h.1.2, h.2⟩

/-- `is_default` compares name, height and glyphs -/
theorem Font.eq_default (f : Font) (hd : f.isDefault = true) : f = defaultFont := by
  unfold Font.isDefault at hd
  simp only [Bool.and_eq_true, beq_iff_eq] at hd
  obtain ⟨⟨hn, hh⟩, hdt⟩ := hd
  cases f
  simp only [defaultFont] at *
  subst hn hh hdt
  rfl

theorem lookupFont_single (f : Font) : lookupFont [(0, f)] 0 = some f := by
  unfold lookupFont; simp [List.lookup]

theorem lookupFont_two0 (a b : Font) : lookupFont [(0, a), (1, b)] 0 = some a := rfl
theorem lookupFont_two1 (a b : Font) : lookupFont [(0, a), (1, b)] 1 = some b := rfl

theorem font16_parts (f : Font) (h : font16 f = true) : f.height = 16 ∧ f.data.length = 4096 := by
  unfold font16 at h
  simpa using h

theorem fontsSame_font16 (p : Pic) (g : LBuf) (f0 : Font) (hpages : analyzeFontUsage p.rows.flatten = [0])
    (hf : lookupFont p.fonts 0 = some f0) (hf16 : f0.height = 16) (hg : g.fonts = [(0, mkFont 16 f0.data)]) : fontsSame p g = true := by
  unfold fontsSame
  rw [hpages, hg]
  simp only [List.all_cons, List.all_nil, Bool.and_true, hf, lookupFont_single]
  simp [mkFont, hf16]

end IcyVerif.BinFormats
