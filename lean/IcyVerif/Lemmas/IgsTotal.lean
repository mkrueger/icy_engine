import IcyVerif.Lemmas.IgsFlood
import IcyVerif.Lemmas.IgsBlit
/-! `execute_command` of the IGS `DrawExecutor` model as a whole: one walk over its arms (`exec_post`), each painting arm closed by
the contract (`Paints`) of its primitive. -/
namespace IcyVerif.IgsPaint

/-- neither `panic` nor `stall` -/
def XOut.Safe : XOut → Prop
  | .panic => False
  | .stall => False
  | _ => True

/-- the part of the executor state the painting arithmetic reads besides `Good`: the current position within ±2^20 (`Bd`; written by
DrawLine / LineDrawTo / PolyLine from parameter values only), a fill pattern with at least one row (`fill_pixel` takes
`y % fill_pattern.len()`; every pattern table has 8 or 16 rows), the recorded size of the saved block within ±2^21 (`Bd2` of
`Lemmas/IgsBlit.lean`: what `blit_memory_to_screen` iterates over), a polymarker type of the stroke tables -/
structure Aux (p : Paint) : Prop where
  curx : Bd p.cur.1
  cury : Bd p.cur.2
  pat : p.fillPattern.length ≠ 0
  mw : Bd2 p.memSize.1
  mh : Bd2 p.memSize.2
  pm : p.polymarkerType < 6

/-- within ±(2^20 - 64): room for the stroke offsets of the polymarker tables -/
def BdM (v : Int) : Prop := -1048512 ≤ v ∧ v ≤ 1048512

theorem BdM.bd {v : Int} (h : BdM v) : Bd v := by unfold BdM at h; unfold Bd; omega

/-- every parameter within ±(2^20 - 64): the property's range -50..=99999 and everything the `&` loop arithmetic (`x`, `y`,
`+n`, `-n`, `!n` with loop bounds in that range) makes of it -/
def ParamsOk (ps : List Int) : Prop := ∀ v, v ∈ ps → BdM v

theorem getD_bdm {ps : List Int} (h : ParamsOk ps) (i : Nat) : BdM (ps.getD i 0) := by
  rw [List.getD_eq_getElem?_getD]
  cases hi : ps[i]? with
  | none => simp [BdM]
  | some v => exact h v (List.mem_of_getElem? hi)

theorem getD_bd {ps : List Int} (h : ParamsOk ps) (i : Nat) : Bd (ps.getD i 0) := (getD_bdm h i).bd

theorem bd_min {a b : Int} (ha : Bd a) (hb : Bd b) : Bd (min a b) := by unfold Bd at *; omega
theorem bd_max {a b : Int} (ha : Bd a) (hb : Bd b) : Bd (max a b) := by unfold Bd at *; omega

def strokeOk (tab : Array Int) (i1 : Nat) : List Nat → Bool
  | [] => true
  | x :: xs =>
    (match tab[i1 + x * 2]?, tab[i1 + x * 2 + 1]? with
     | some a, some b => decide (-64 ≤ a ∧ a ≤ 64 ∧ -64 ≤ b ∧ b ≤ 64)
     | _, _ => false) && strokeOk tab i1 xs

def markerOk (tab : Array Int) : Nat → Nat → Bool
  | 0, _ => true
  | n + 1, i =>
    match tab[i]? with
    | none => false
    | some np => decide (0 ≤ np ∧ np ≤ 16) && strokeOk tab (i + 1) (List.range np.toNat) && markerOk tab n (i + 1 + np.toNat * 2)

theorem stroke_total (tab : Array Int) (i1 : Nat) (x0 y0 : Int) (hx : BdM x0) (hy : BdM y0) :
    ∀ (xs : List Nat) (acc : List Int), strokeOk tab i1 xs = true → (∀ v, v ∈ acc → Bd v) →
    (xs.foldlM (fun (acc : List Int) x => (do
      let a ← ofOpt tab[i1 + x * 2]?
      let b ← ofOpt tab[i1 + x * 2 + 1]?
      let ax ← chk (a + x0)
      let by' ← chk (b + y0)
      pure (acc ++ [ax, by']) : Res (List Int))) acc).Tot fun pts => pts.length = acc.length + 2 * xs.length ∧ ∀ v, v ∈ pts → Bd v
  | [], acc, _, hb => .ok ⟨by simp, hb⟩
  | x :: xs, acc, hs, hb => by
    unfold BdM at hx hy
    unfold strokeOk at hs
    simp only [Bool.and_eq_true] at hs
    obtain ⟨h1, h2⟩ := hs
    split at h1
    · rename_i a b ea eb
      simp only [decide_eq_true_eq] at h1
      rw [List.foldlM_cons]
      refine Res.Tot.bind (P := (· = acc ++ [a + x0, b + y0])) (.ofOpt ea <| .ofOpt eb <| .chk (by omega) <| .chk (by omega) <| .ok rfl)
        fun _ e => ?_
      subst e
      refine (stroke_total tab i1 x0 y0 hx hy xs _ h2 fun v hv => ?_).mono fun pts h => ⟨by rw [h.1]; simp; omega, h.2⟩
      simp only [List.mem_append, List.mem_cons, List.mem_nil_iff, or_false] at hv
      rcases hv with hv | hv | hv
      · exact hb v hv
      · subst hv; unfold Bd; omega
      · subst hv; unfold Bd; omega
    · cases h1

theorem markerLines_paints (tab : Array Int) (x0 y0 : Int) : ∀ (n i : Nat) (p : Paint),
    Paints p (BdM x0 ∧ BdM y0 ∧ markerOk tab n i = true) (markerLines tab x0 y0 n i p)
  | 0, _, p => Paints.ok.weaken fun _ _ => trivial
  | n + 1, i, p => by
    refine ⟨markerLines_step _ _ _ _ _ _, fun hr ⟨hx, hy, hm⟩ => Res.Tot.returns (P := fun _ => True) ?_⟩
    unfold markerOk at hm
    split at hm
    · cases hm
    · rename_i np enp
      simp only [Bool.and_eq_true, decide_eq_true_eq] at hm
      obtain ⟨⟨hnp, hs⟩, hrest⟩ := hm
      have hu : usize np = np.toNat := by
        unfold usize
        rw [if_neg (by omega)]
      unfold markerLines
      refine .ofOpt enp ?_
      simp only [hu]
      refine (stroke_total tab (i + 1) x0 y0 hx hy (List.range np.toNat) [x0, y0] hs ?_).bind fun pts hp => ?_
      · intro v hv
        simp only [List.mem_cons, List.mem_nil_iff, or_false] at hv
        rcases hv with hv | hv <;> subst hv
        · exact hx.bd
        · exact hy.bd
      · refine ((drawPolyline_paints p pts).tot hr ⟨⟨np.toNat, by rw [hp.1]; simp; omega⟩, hp.2⟩).bind fun p1 s1 => ?_
        obtain ⟨p', e⟩ := (markerLines_paints tab x0 y0 n _ p1).total (s1.1.res ▸ hr) ⟨hx, hy, hrest⟩
        exact ⟨p', e, trivial⟩

theorem markerTables_ok : ∀ t : Fin 6, ∃ nl, ((Gen.IgsPaint.markerTables.getD t.val []).toArray)[0]? = some nl ∧
    markerOk (Gen.IgsPaint.markerTables.getD t.val []).toArray nl.toNat 1 = true := by
  decide

theorem drawPolyMarker_paints (p : Paint) (x0 y0 : Int) : Paints p (p.polymarkerType < 6 ∧ BdM x0 ∧ BdM y0) (drawPolyMarker p x0 y0) where
  sat := drawPolyMarker_step
  total hr := fun ⟨ht, hx, hy⟩ => by
    obtain ⟨nl, e0, hm⟩ := markerTables_ok ⟨p.polymarkerType, ht⟩
    unfold drawPolyMarker
    refine Res.Tot.returns (P := fun _ => True) (.ofOpt e0 ?_)
    exact ((markerLines_paints _ x0 y0 nl.toNat 1 { p with lineType := 0, fillColor := p.lineColor }).tot hr ⟨hx, hy, hm⟩).bind
      fun _ _ => .ok trivial

/-- the arms whose totality is not proved (scan conversion of `fill_poly`, the corner arithmetic of `round_rect`, the ellipse and
circle loops): `Post.safe` leaves them out; whether they can panic is not decided -/
def hardArms : List String := ["RoundedRectangles", "Circle", "Ellipse", "PolyFill"]

theorem registerToPen_lt : Gen.IgsPaint.registerToPen.all (fun v => decide (v < 16)) = true := by decide

/-- the PolyFill / PolyLine test for a point count below 2^30 (where `points * 2 + 1` cannot overflow) -/
theorem polyReject_cons (v : Int) (t : List Int) (hv : v < 1073741824) :
    polyReject (v :: t) = some (decide (v < 1 ∨ v * 2 + 1 ≠ ((v :: t).length : Int))) := by
  unfold polyReject
  simp only []
  split
  · rename_i h; simp [h]
  · rename_i h
    rw [if_neg (by simp only [i32Max]; omega), if_neg (by simp only [i32Max]; omega)]
    simp [h]

theorem polyReject_bd {ps : List Int} (h : ParamsOk ps) : polyReject ps ≠ none := by
  cases ps with
  | nil => simp [polyReject]
  | cons v t =>
    have hv := h v (by simp)
    unfold BdM at hv
    rw [polyReject_cons v t (by omega)]
    simp

theorem polyReject_false {ps : List Int} (h : polyReject ps = some false) : ∃ n : Nat, ps.tail.length = 2 * n + 2 := by
  cases ps with
  | nil => simp [polyReject] at h
  | cons v t =>
    by_cases hv : v < 1073741824
    · rw [polyReject_cons v t hv] at h
      simp only [Option.some.injEq, decide_eq_false_iff_not, not_or, Decidable.not_not] at h
      refine ⟨v.toNat - 1, ?_⟩
      have := h.2
      simp only [List.length_cons, List.tail_cons] at this ⊢
      omega
    · unfold polyReject at h
      simp only [] at h
      rw [if_neg (by omega), if_pos (by simp only [i32Max]; omega)] at h
      cases h

theorem mem_replicate_one {n v : Nat} (h : v ∈ (Array.replicate n 1).toList) : v < 16 := by
  rw [Array.toList_replicate] at h
  have := List.eq_of_mem_replicate h
  omega

theorem resetScreen_good {p : Paint} (hg : Good p) (pens : List Nat) (hp : pens.length = 16) : Good { resetScreen p with pens := pens } := by
  refine ⟨hg.res, ?_, ?_, hp, hg.line, hg.fill, hg.mem⟩
  · show (Array.replicate (resW p * resH p).toNat 1).size = _
    simp
    rfl
  · intro v hv
    exact mem_replicate_one hv

theorem resizeScreen_size (p : Paint) : (resizeScreen p).screen.size = (resW p * resH p).toNat := by
  unfold resizeScreen
  simp only []
  split
  · simp only [Array.size_extract]; omega
  · simp only [Array.size_append, Array.size_replicate]; omega

theorem resizeScreen_good {p : Paint} (hg : Good p) (r : Nat) (hr : r < 3) (pens : List Nat) (hp : pens.length = 16) :
    Good { resizeScreen { p with res := r } with pens := pens } := by
  refine ⟨hr, resizeScreen_size _, ?_, hp, hg.line, hg.fill, hg.mem⟩
  intro v hv
  unfold resizeScreen at hv
  simp only [] at hv
  split at hv
  · have : v ∈ p.screen.toList := by
      rw [Array.toList_extract] at hv
      exact List.mem_of_mem_drop (List.mem_of_mem_take hv)
    exact hg.pix v this
  · rw [Array.toList_append] at hv
    rcases List.mem_append.mp hv with h1 | h1
    · exact hg.pix v h1
    · exact mem_replicate_one h1

theorem systemPalette_len : Gen.IgsPaint.systemPalette.length = 16 := by decide
theorem igsPalette_len : Gen.IgsPaint.igsPalette.length = 16 := by decide

def XOut.All (P : Paint → Prop) : XOut → Prop
  | .ok p _ => P p
  | .err p => P p
  | _ => True

/-- the executor state after a command that returned (`Ok` or `Err`) -/
def XOut.state? : XOut → Option Paint
  | .ok p _ => some p
  | .err p => some p
  | _ => none

theorem XOut.All.of_state {P : Paint → Prop} {o : XOut} {p' : Paint} (h : o.All P) (hs : o.state? = some p') : P p' := by
  cases o <;> cases hs <;> exact h

/-- `Good` reads six fields of the state -/
theorem Good.of_eq {p q : Paint} (hg : Good p)
    (h : (q.res, q.screen, q.pens, q.lineColor, q.fillColor, q.mem) = (p.res, p.screen, p.pens, p.lineColor, p.fillColor, p.mem)) : Good q := by
  simp only [Prod.mk.injEq] at h
  obtain ⟨h1, h2, h3, h4, h5, h6⟩ := h
  exact ⟨h1 ▸ hg.res, by unfold resW resH; rw [h1, h2]; exact hg.size, h2 ▸ hg.pix, h3 ▸ hg.pens, h4 ▸ hg.line, h5 ▸ hg.fill, h6 ▸ hg.mem⟩

/-- `Aux` reads four fields of the state (six facts about them) -/
theorem Aux.of_eq {p q : Paint} (ha : Aux p)
    (h : (q.cur, q.fillPattern, q.memSize, q.polymarkerType) = (p.cur, p.fillPattern, p.memSize, p.polymarkerType)) : Aux q := by
  simp only [Prod.mk.injEq] at h
  obtain ⟨h1, h2, h3, h4⟩ := h
  exact ⟨h1 ▸ ha.curx, h1 ▸ ha.cury, h2 ▸ ha.pat, h3 ▸ ha.mw, h3 ▸ ha.mh, h4 ▸ ha.pm⟩

theorem Aux.of_kept {p p' : Paint} (ha : Aux p) (k : Kept p p') : Aux p' := ha.of_eq (by rw [k.1])

/-- what one arm of `execute_command` does in a `Good` state: the three invariants of C20Igs / C20IgsTotal as one statement -/
structure Post (p : Paint) (name : String) (ps : List Int) (o : XOut) : Prop where
  good : o.All Good
  aux : Aux p → ParamsOk ps → o.All Aux
  safe : Aux p → ParamsOk ps → name ∉ hardArms → o.Safe

variable {p : Paint} {name : String} {ps : List Int}

theorem Post.ok {q : Paint} {c : Char} (hG : Good q) (hA : Aux p → ParamsOk ps → Aux q) : Post p name ps (.ok q c) :=
  ⟨hG, hA, fun _ _ _ => trivial⟩

theorem Post.err {q : Paint} (hG : Good q) (hA : Aux p → ParamsOk ps → Aux q) : Post p name ps (.err q) :=
  ⟨hG, hA, fun _ _ _ => trivial⟩

theorem Post.unmodelled : Post p name ps .unmodelled := ⟨trivial, fun _ _ => trivial, fun _ _ _ => trivial⟩

theorem Post.panic (h : Aux p → ParamsOk ps → False) : Post p name ps .panic :=
  ⟨trivial, fun _ _ => trivial, fun ha hps _ => h ha hps⟩

theorem Post.prim {r : Res Paint} {c : Char} (hk : ∀ p', r = .ok p' → Good p' ∧ (Aux p → ParamsOk ps → Aux p'))
    (ht : Aux p → ParamsOk ps → name ∉ hardArms → ∃ p', r = .ok p') : Post p name ps (lift r c) := by
  cases r with
  | ok a => exact ⟨(hk a rfl).1, (hk a rfl).2, fun _ _ _ => trivial⟩
  | panic => exact ⟨trivial, fun _ _ => trivial, fun ha hps hn => by obtain ⟨_, h⟩ := ht ha hps hn; cases h⟩
  | stall => exact ⟨trivial, fun _ _ => trivial, fun ha hps hn => by obtain ⟨_, h⟩ := ht ha hps hn; cases h⟩

theorem Post.same {c : Char} (hg : Good p) : Post p name ps (.ok p c) := .ok hg fun ha _ => ha

theorem Post.refused (hg : Good p) : Post p name ps (.err p) := .err hg fun ha _ => ha

theorem Post.paints {r : Res Paint} {c : Char} {C : Prop} (hg : Good p) (h : Paints p C r)
    (hc : Aux p → ParamsOk ps → name ∉ hardArms → C) : Post p name ps (lift r c) :=
  .prim (fun p' e => ⟨hg.of_step (h.sat p' e), fun ha _ => ha.of_kept (h.sat p' e).1⟩) fun ha hps hn => h.total hg.res (hc ha hps hn)

theorem Post.paintsTo {r : Res Paint} {c : Char} {a b : Int} {C : Prop} (hg : Good p) (h : Paints p C r)
    (hb : ParamsOk ps → Bd a ∧ Bd b) (hc : Aux p → ParamsOk ps → name ∉ hardArms → C) :
    Post p name ps (lift (r.bind fun p' => .ok { p' with cur := (a, b) }) c) := by
  refine .prim (fun p' e => ?_) (fun ha hps hn => ?_)
  · obtain ⟨p1, h1, h2⟩ := bind_ok e
    cases h2
    have g1 := hg.of_step (h.sat p1 h1)
    refine ⟨g1.of_eq rfl, fun ha hps => ?_⟩
    have a1 := ha.of_kept (h.sat p1 h1).1
    exact ⟨(hb hps).1, (hb hps).2, a1.pat, a1.mw, a1.mh, a1.pm⟩
  · obtain ⟨p1, h1⟩ := h.total hg.res (hc ha hps hn)
    rw [h1]; exact ⟨_, rfl⟩

theorem border_step {p : Paint} {r : Res Paint} {g : Paint → Res Paint} (h1 : r.Sat (Step p)) (h2 : ∀ p1, (g p1).Sat (Step p1)) :
    Paints p False (r >>= fun p1 => if p1.drawBorder then g p1 else pure p1) :=
  .of_sat (Step.seq h1 fun p1 _ => .ite (fun _ => h2 p1) fun _ => .ok (.refl p1))

theorem typeLen : Gen.IgsPaint.typePatternFlat.length = 192 := by decide +kernel
theorem hatchLen : Gen.IgsPaint.hatchPatternFlat.length = 48 := by decide +kernel
theorem hatchWideLen : Gen.IgsPaint.hatchWidePatternFlat.length = 96 := by decide +kernel

theorem forall_mem_some {α : Type} {P : α → Prop} {a : α} (h : P a) : ∀ x ∈ some a, P x := fun x hx => by cases hx; exact h

/-- every pattern AttributeForFills selects has a row: the tables hold 24 x 8, 6 x 8 and 6 x 16 rows -/
theorem fillPattern_rows (a b : Int) : ∀ pt ∈
    (if a = 0 then some Gen.IgsPaint.hollowPattern
      else if a = 1 then some Gen.IgsPaint.solidPattern
      else if a = 2 then
        if b = 0 then some Gen.IgsPaint.randomPattern
        else if 1 ≤ b ∧ b ≤ 24 then some ((Gen.IgsPaint.typePatternFlat.drop ((b.toNat - 1) * 8)).take 8)
        else some Gen.IgsPaint.solidPattern
      else if a = 3 then
        if 1 ≤ b ∧ b ≤ 12 then
          if b ≤ 6 then some ((Gen.IgsPaint.hatchPatternFlat.drop ((b.toNat - 1) * 8)).take 8)
          else some ((Gen.IgsPaint.hatchWidePatternFlat.drop ((b.toNat - 7) * 16)).take 16)
        else some Gen.IgsPaint.solidPattern
      else if a = 4 then some Gen.IgsPaint.solidPattern
      else none), pt.length ≠ 0 := by
  have solid : ∀ pt ∈ some Gen.IgsPaint.solidPattern, pt.length ≠ 0 := forall_mem_some (by decide)
  have forall_mem_ite {c : Prop} [Decidable c] {a b : Option (List Nat)} :=
    @iteInduction _ c _ (fun o : Option (List Nat) => ∀ pt ∈ o, pt.length ≠ 0) a b
  refine forall_mem_ite (fun _ => forall_mem_some (by decide)) fun _ => ?_
  refine forall_mem_ite (fun _ => solid) fun _ => ?_
  refine forall_mem_ite (fun _ => ?_) fun _ => ?_
  · refine forall_mem_ite (fun _ => forall_mem_some (by decide)) fun _ => ?_
    refine forall_mem_ite (fun h => forall_mem_some ?_) fun _ => solid
    rw [List.length_take, List.length_drop, typeLen]; omega
  refine forall_mem_ite (fun _ => ?_) fun _ => ?_
  · refine forall_mem_ite (fun h => ?_) fun _ => solid
    refine forall_mem_ite (fun h6 => forall_mem_some ?_) fun h6 => forall_mem_some ?_
    · rw [List.length_take, List.length_drop, hatchLen]; omega
    · rw [List.length_take, List.length_drop, hatchWideLen]; omega
  exact forall_mem_ite (fun _ => solid) fun _ _ h => nomatch h

theorem exec_post (hg : Good p) : Post p name ps (exec p name ps) := by
  -- for an arm of `hardArms` the totality part of `Post` asks nothing
  have hard : ∀ {α : Prop} {n : String}, n ∈ hardArms → Aux p → ParamsOk ps → n ∉ hardArms → α := fun h _ _ hn => absurd h hn
  -- one leaf per path through the guards of an arm, in the order of the source
  fun_cases exec p name ps
  -- a wrong number of parameters
  · exact .refused hg
  -- Initialize
  · exact .ok (resetScreen_good hg _ systemPalette_len) fun ha _ => ha.of_eq rfl
  · exact .same hg
  · exact .ok (resetScreen_good hg _ igsPalette_len) fun ha _ => ha.of_eq rfl
  · exact .refused hg
  -- AskIG
  · exact .same hg
  · exact .refused hg
  -- Cursor
  · exact .same hg
  · exact .refused hg
  -- ColorSet
  · exact .refused hg
  · exact .ok (hg.of_eq rfl) fun ha _ => ha.of_eq rfl
  · exact .ok ⟨hg.res, hg.size, hg.pix, hg.pens, by show Int.toNat _ < 16; omega, hg.fill, hg.mem⟩ fun ha _ => ha.of_eq rfl
  · exact .ok ⟨hg.res, hg.size, hg.pix, hg.pens, hg.line, by show Int.toNat _ < 16; omega, hg.mem⟩ fun ha _ => ha.of_eq rfl
  · exact .ok (hg.of_eq rfl) fun ha _ => ha.of_eq rfl
  · exact .refused hg
  -- SetPenColor
  · exact .refused hg
  · exact .ok ⟨hg.res, hg.size, hg.pix, by rw [List.length_set]; exact hg.pens, hg.line, hg.fill, hg.mem⟩ fun ha _ => ha.of_eq rfl
  · rename_i h15 h _
    exact .panic fun _ _ => by rw [hg.pens] at h; omega
  -- DrawLine
  · exact .paintsTo hg (drawLine_paints p _ _ _ _ _ fun h => h.line) (fun hps => ⟨getD_bd hps 2, getD_bd hps 3⟩) fun _ hps _ =>
      ⟨getD_bd hps 0, getD_bd hps 1, getD_bd hps 2, getD_bd hps 3⟩
  -- LineDrawTo
  · exact .paintsTo hg (drawLine_paints p _ _ _ _ _ fun h => h.line) (fun hps => ⟨getD_bd hps 0, getD_bd hps 1⟩) fun ha hps _ =>
      ⟨ha.curx, ha.cury, getD_bd hps 0, getD_bd hps 1⟩
  -- Box
  · refine .paints hg (.seq (fillRect_paints ..) fun p1 _ => .either (fun _ =>
      .seq (drawLine_paints p1 _ _ _ _ 0 fun h => h.fill) fun p2 k2 =>
      .seq (drawLine_paints p2 _ _ _ _ 0 fun h => k2.fillColor ▸ h.fill) fun p3 k3 =>
      .seq (drawLine_paints p3 _ _ _ _ 0 fun h => (k2.trans k3).fillColor ▸ h.fill) fun p4 k4 =>
      drawLine_paints p4 _ _ _ _ 0 fun h => ((k2.trans k3).trans k4).fillColor ▸ h.fill) fun _ => Paints.ok) fun ha hps _ => ?_
    have B := getD_bd hps
    have x0 := bd_min (B 0) (B 2); have y0 := bd_min (B 1) (B 3); have x1 := bd_max (B 0) (B 2); have y1 := bd_max (B 1) (B 3)
    exact ⟨ha.pat, ⟨⟨x0, y0, x0, y1⟩, ⟨x1, y0, x1, y1⟩, ⟨x0, y0, x1, y0⟩, x0, y1, x1, y1⟩, trivial⟩
  -- RoundedRectangles
  · exact .paints hg (.of_sat roundRect_step) (hard (by decide))
  -- HollowSet
  · exact .same hg
  · exact .refused hg
  -- Pieslice
  · exact .same hg
  -- Circle
  · exact .paints hg (border_step ellipse_step fun _ => drawCircle_step) (hard (by decide))
  -- Ellipse
  · exact .paints hg (border_step ellipse_step fun _ => ellipse_step) (hard (by decide))
  -- EllipticalArc
  · exact .same hg
  -- QuickPause
  · exact .ok (hg.of_eq rfl) fun ha _ => ha.of_eq rfl
  · exact .ok (hg.of_eq rfl) fun ha _ => ha.of_eq rfl
  · exact .same hg
  · exact .refused hg
  -- AttributeForFills
  · exact .refused hg
  · rename_i hpt _ _ _
    exact .ok (hg.of_eq rfl) fun ha _ => ⟨ha.curx, ha.cury, fillPattern_rows _ _ _ hpt, ha.mw, ha.mh, ha.pm⟩
  · rename_i hpt _ _ _ _
    exact .ok (hg.of_eq rfl) fun ha _ => ⟨ha.curx, ha.cury, fillPattern_rows _ _ _ hpt, ha.mw, ha.mh, ha.pm⟩
  · rename_i hpt _ _ _ _
    exact .err (hg.of_eq rfl) fun ha _ => ⟨ha.curx, ha.cury, fillPattern_rows _ _ _ hpt, ha.mw, ha.mh, ha.pm⟩
  -- FilledRectangle
  · exact .paints hg (fillRect_paints ..) fun ha _ _ => ha.pat
  -- TimeAPause
  · exact .same hg
  -- PolymarkerPlot
  · exact .paints hg (drawPolyMarker_paints ..) fun ha hps _ => ⟨ha.pm, getD_bdm hps 0, getD_bdm hps 1⟩
  -- TextEffects
  · exact .refused hg
  · exact .refused hg
  · exact .refused hg
  · exact .same hg
  -- LineMarkerTypes
  · exact .ok (hg.of_eq rfl) fun ha _ => ⟨ha.curx, ha.cury, ha.pat, ha.mw, ha.mh, by show _ - 1 < 6; omega⟩
  · exact .refused hg
  · exact .ok (hg.of_eq rfl) fun ha _ => ha.of_eq rfl
  · exact .refused hg
  · exact .refused hg
  -- DrawingMode
  · exact .same hg
  · exact .refused hg
  -- SetResolution
  · exact .ok (resizeScreen_good hg _ (by omega) _ hg.pens) fun ha _ => ha.of_eq rfl
  · exact .ok (resizeScreen_good hg _ (by omega) _ systemPalette_len) fun ha _ => ha.of_eq rfl
  · exact .ok (resizeScreen_good hg _ (by omega) _ igsPalette_len) fun ha _ => ha.of_eq rfl
  · exact .err (resizeScreen_good hg _ (by omega) _ hg.pens) fun ha _ => ha.of_eq rfl
  · exact .refused hg
  -- WriteText
  · exact .unmodelled
  -- FloodFill
  · exact .paints hg (floodFill_paints ..) fun _ _ _ => hg.size
  -- VTColor: every entry of REGISTER_TO_PEN is a pen number
  · exact .same hg
  · exact .refused hg
  · rename_i pen hpen h _
    refine .panic fun _ _ => h ?_
    have := List.all_eq_true.mp registerToPen_lt pen (List.mem_of_getElem? hpen)
    rw [hg.pens]
    simpa using this
  · exact .refused hg
  -- VTPosition
  · exact .same hg
  -- a name of the argument-count table without an arm of its own (the inner default `| _ => .unmodelled`)
  · exact .unmodelled
  -- ScreenClear
  · exact .ok (resetScreen_good hg _ hg.pens) fun ha _ => ha.of_eq rfl
  -- PolyFill
  · rename_i h _
    exact .panic fun _ hps => polyReject_bd hps h
  · exact .refused hg
  · exact .paints hg (border_step fillPoly_step fun _ => drawPoly_step) (hard (by decide))
  -- PolyLine
  · rename_i h _
    exact .panic fun _ hps => polyReject_bd hps h
  · exact .refused hg
  · rename_i h _
    exact .paintsTo hg (drawPolyline_paints ..) (fun hps => ⟨getD_bd hps _, getD_bd hps _⟩) fun _ hps _ =>
      ⟨polyReject_false h, fun v hv => (hps v (List.mem_of_mem_tail hv)).bd⟩
  -- GrabScreen
  · exact .refused hg
  · exact .refused hg
  · exact .paints hg (blitScreenToScreen_paints ..) fun _ hps _ =>
      ⟨getD_bd hps 2, getD_bd hps 3, getD_bd hps 4, getD_bd hps 5, getD_bd hps 6, getD_bd hps 7⟩
  · exact .refused hg
  · refine .prim (fun p' h => ⟨blitScreenToMemory_sat hg p' h, fun ha hps => ?_⟩) fun _ hps _ => ?_
    all_goals obtain ⟨q, hq, c1, c2, c3, c4, c5⟩ :=
      blitScreenToMemory_total p hg.res _ _ _ _ (getD_bd hps 2) (getD_bd hps 3) (getD_bd hps 4) (getD_bd hps 5)
    · rw [hq] at h; cases h
      exact ⟨c1 ▸ ha.curx, c1 ▸ ha.cury, c2 ▸ ha.pat, c3.1, c4.1, c5 ▸ ha.pm⟩
    · exact ⟨q, hq⟩
  · exact .refused hg
  · exact .paints hg (blitMemoryToScreen_paints ..) fun ha hps _ =>
      ⟨by unfold Bd2; omega, by unfold Bd2; omega, ha.mw, ha.mh, getD_bd hps 2, getD_bd hps 3⟩
  · exact .refused hg
  · exact .paints hg (blitMemoryToScreen_paints ..) fun _ hps _ =>
      ⟨(getD_bd hps 2).bd2, (getD_bd hps 3).bd2, (getD_bd hps 4).bd2, (getD_bd hps 5).bd2, getD_bd hps 6, getD_bd hps 7⟩
  · exact .refused hg
  -- `Unimplemented IGS command`
  · exact .refused hg

end IcyVerif.IgsPaint
