import IcyVerif.Lemmas.TermStep
/-! # ANSI music: the parser's music fields stay in range, so the arithmetic of `sound.rs` cannot overflow
`cur_tempo` is always within 32..=255 (initially 120, later `x.clamp(32, 255)`), `cur_octave` within 0..=6,
`cur_length` within 1..=64.  Hence `self.cur_tempo * pause` (the only plain `i32` multiplication; `pause` is clamped
to 1..=64) stays below 2^31, and the note index `min(n + 12 * octave, 83)` is inside `FREQ`. -/
namespace IcyVerif.Term

structure MusOk (m : Mus) : Prop where
  t1 : 32 ≤ m.tempo
  t2 : m.tempo ≤ 255
  o : m.oct ≤ 6
  l1 : 1 ≤ m.mlen
  l2 : m.mlen ≤ 64

theorem musOk_init : MusOk ({} : Mus) := ⟨by decide, by decide, by decide, by decide, by decide⟩

theorem freqIdx_lt (n oct : Nat) : freqIdx n oct < FREQ_LEN := by
  unfold freqIdx FREQ_LEN; omega

theorem musicSafe_of_ok (ps : PSt) (mus : Mus) (ch : Char) (h : MusOk mus) : MusicSafe ps mus ch := by
  unfold MusicSafe
  split
  · rename_i x
    refine Or.inr (Or.inr ?_)
    have h1 := h.t1; have h2 := h.t2
    have c1 : 1 ≤ clampI x 1 64 := by unfold clampI; omega
    have c2 : clampI x 1 64 ≤ 64 := by unfold clampI; omega
    have lo : 0 ≤ mus.tempo * clampI x 1 64 := Int.mul_nonneg (by omega) (by omega)
    have hi : mus.tempo * clampI x 1 64 ≤ 255 * 64 := Int.mul_le_mul h2 c2 (by omega) (by omega)
    unfold InI32; omega
  · trivial

/-- the motives for `iteInduction` below: the music fields of the pair, of the triple, are in range -/
abbrev Ok2 (r : PSt × Mus) : Prop := MusOk r.2
abbrev Ok3 (r : PSt × Mus × Out) : Prop := MusOk r.2.1

/-- the terminator resets the octave to 3, `<` and `>` move it inside 0..=6, every other letter leaves the fields alone -/
theorem musicDefault_ok (cur : MusicSt) (mus : Mus) (ch : Char) (h : MusOk mus) : MusOk (musicDefault cur mus ch).2 := by
  have ho := h.o
  have hoct : ∀ k : Nat, k ≤ 6 → MusOk { mus with oct := k } := fun k hk => ⟨h.t1, h.t2, hk, h.l1, h.l2⟩
  unfold musicDefault
  refine iteInduction (motive := Ok2) (fun _ => ⟨h.t1, h.t2, by show (3 : Nat) ≤ 6; omega, h.l1, h.l2⟩) fun _ => ?_
  -- `T L O C D E F G A B M`
  iterate 11 refine iteInduction (motive := Ok2) (fun _ => h) fun _ => ?_
  refine iteInduction (motive := Ok2) (fun _ => hoct _ (by omega)) fun _ => ?_
  refine iteInduction (motive := Ok2) (fun _ => hoct _ ?_) fun _ =>
    iteInduction (motive := Ok2) (fun _ => h) fun _ => h
  by_cases hh : mus.oct < 6
  · rw [if_pos hh]; omega
  · rw [if_neg hh]; omega

theorem musOk_acts (mus : Mus) (a : List MAct) (d : Bool) (h : MusOk mus) : MusOk { mus with acts := a, dotted := d } :=
  ⟨h.t1, h.t2, h.o, h.l1, h.l2⟩

theorem musicStep_ok (m : MusicSt) (mus : Mus) (ch : Char) (h : MusOk mus) : MusOk (musicStep m mus ch).2.1 := by
  have hd := fun cur => musicDefault_ok cur mus ch h
  have ha := fun a d => musOk_acts mus a d h
  cases m with
  | style =>
    unfold musicStep
    -- `F B N L S` append a style action
    iterate 5 refine iteInduction (motive := Ok3) (fun _ => ha _ _) fun _ => ?_
    exact hd _
  | tempo x =>
    refine iteInduction (motive := Ok3) (fun _ => h) fun _ => ?_
    apply musicDefault_ok
    exact ⟨by show 32 ≤ clampI _ 32 255; unfold clampI; omega, by show clampI _ 32 255 ≤ 255; unfold clampI; omega, h.o, h.l1, h.l2⟩
  | octave =>
    refine iteInduction (motive := Ok3) (fun hc => ⟨h.t1, h.t2, ?_, h.l1, h.l2⟩) fun _ => h
    show ch.toNat - 48 ≤ 6
    have : ch.toNat ≤ 54 := hc.2
    omega
  | note n len =>
    unfold musicStep
    refine iteInduction (motive := Ok3) (fun _ => h) fun _ => ?_
    refine iteInduction (motive := Ok3) (fun _ => h) fun _ => ?_
    refine iteInduction (motive := Ok3) (fun _ => h) fun _ => ?_
    exact iteInduction (motive := Ok3) (fun _ => ha _ _) fun _ => musicDefault_ok _ _ _ (ha _ _)
  | length x =>
    unfold musicStep
    refine iteInduction (motive := Ok3) (fun _ => h) fun _ => ?_
    refine iteInduction (motive := Ok3) (fun _ => h) fun _ => ?_
    apply musicDefault_ok
    exact ⟨h.t1, h.t2, h.o, by show 1 ≤ clampI _ 1 64; unfold clampI; omega, by show clampI _ 1 64 ≤ 64; unfold clampI; omega⟩
  | pause x =>
    unfold musicStep
    refine iteInduction (motive := Ok3) (fun _ => h) fun _ => ?_
    exact iteInduction (motive := Ok3) (fun _ => h) fun _ => musicDefault_ok _ _ _ (ha _ _)
  | dflt => exact hd _

theorem MusNext.ok {m m' : Mus} (h : MusNext m m') (hm : MusOk m) : MusOk m' := by
  cases h with
  | same => exact hm
  | enter => exact musOk_acts m _ _ hm
  | tune k ch => exact musicStep_ok k m ch hm

end IcyVerif.Term
