import IcyVerif.Props.C01
import IcyVerif.Props.C01Rows
import IcyVerif.Props.C02
import IcyVerif.Props.C02Text
import IcyVerif.Props.C03
import IcyVerif.Props.C03Loaders
import IcyVerif.Props.C03Macro
import IcyVerif.Props.C03Sixel
import IcyVerif.Props.C04
import IcyVerif.Props.C04X
import IcyVerif.Props.C05
import IcyVerif.Props.C06
import IcyVerif.Props.C07
import IcyVerif.Props.C07Font
import IcyVerif.Props.C08
import IcyVerif.Props.C08Calls
import IcyVerif.Props.C08Laws
import IcyVerif.Props.C09
import IcyVerif.Props.C10
import IcyVerif.Props.C10Macro
import IcyVerif.Props.C11
import IcyVerif.Props.C11Load
import IcyVerif.Props.C11Uni
import IcyVerif.Props.C12
import IcyVerif.Props.C12Fonts
import IcyVerif.Props.C12Sixel
import IcyVerif.Props.C12Src
import IcyVerif.Props.C12Writers
import IcyVerif.Props.C13
import IcyVerif.Props.C14
import IcyVerif.Props.C15
import IcyVerif.Props.C16
import IcyVerif.Props.C16b
import IcyVerif.Props.C17
import IcyVerif.Props.C17Dcs
import IcyVerif.Props.C17Page
import IcyVerif.Props.C17Psf
import IcyVerif.Props.C17Tdf
import IcyVerif.Props.C18
import IcyVerif.Props.C19
import IcyVerif.Props.C20
import IcyVerif.Props.C20Canvas
import IcyVerif.Props.C20Igs
import IcyVerif.Props.C20IgsCost
import IcyVerif.Props.C20IgsTotal
import IcyVerif.Props.C20Text
import IcyVerif.Drv.ArtIO
import IcyVerif.Drv.Bgi
import IcyVerif.Drv.BinFormats
import IcyVerif.Drv.BinLayers
import IcyVerif.Drv.Codec
import IcyVerif.Drv.ColorOpt
import IcyVerif.Drv.Comp
import IcyVerif.Drv.Crc
import IcyVerif.Drv.Font
import IcyVerif.Drv.FontBox
import IcyVerif.Drv.FontDcs
import IcyVerif.Drv.FontLoad
import IcyVerif.Drv.IcyDraw
import IcyVerif.Drv.Igs
import IcyVerif.Drv.Igsx
import IcyVerif.Drv.LoaderCost
import IcyVerif.Drv.Loaders
import IcyVerif.Drv.PalStream
import IcyVerif.Drv.Palette
import IcyVerif.Drv.Rect
import IcyVerif.Drv.Rip
import IcyVerif.Drv.Ripc
import IcyVerif.Drv.Ript
import IcyVerif.Drv.Rows
import IcyVerif.Drv.Sauce
import IcyVerif.Drv.SauceLoad
import IcyVerif.Drv.SauceUni
import IcyVerif.Drv.Sixel
import IcyVerif.Drv.SixelLoad
import IcyVerif.Drv.SixelQueue
import IcyVerif.Drv.Tdf
import IcyVerif.Drv.Term
import IcyVerif.Drv.TextLoad
import IcyVerif.Drv.Undo
import IcyVerif.Drv.Uni
import IcyVerif.Drv.UniMacro
import IcyVerif.Drv.XbCompress
